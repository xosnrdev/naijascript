/-
For `Props/C18.lean`: saturating folds, `Iterator::max`, the reference formulation `firstOf` of the staged
check and its equality with `List.find?`, monotonicity of the counting pass.
-/
import NaijaVerif.Model.Limits
import NaijaVerif.Model.CfgCount
import NaijaVerif.Lemmas.AstInduction

namespace NaijaVerif.Limits
open NaijaVerif NaijaVerif.CfgCount

theorem satMul_le (a b : Nat) : satMul a b ≤ u64Max := Nat.min_le_right _ _

theorem satAdd_le (a b : Nat) : satAdd a b ≤ u64Max := Nat.min_le_right _ _

theorem satMul_eq {a b : Nat} (h : a * b ≤ u64Max) : satMul a b = a * b := Nat.min_eq_left h

theorem satMul_two {a : Nat} (h : a < 2 ^ 63) : satMul a 2 = 2 * a := by
  rw [satMul_eq (by unfold u64Max; omega), Nat.mul_comm]

theorem satMul_min (a b : Nat) : satMul a (min b u64Max) = satMul a b := by
  unfold satMul
  rcases Nat.le_total b u64Max with h | h
  · rw [Nat.min_eq_left h]
  · rw [Nat.min_eq_right h]
    rcases Nat.eq_zero_or_pos a with rfl | ha
    · rw [Nat.zero_mul, Nat.zero_mul]
    · have h1 : u64Max ≤ a * u64Max := Nat.le_mul_of_pos_left _ ha
      rw [Nat.min_eq_right h1, Nat.min_eq_right (Nat.le_trans h1 (Nat.mul_le_mul_left a h))]

theorem min_add_min (x s M : Nat) : min (min x M + s) M = min (x + s) M := by
  rcases Nat.le_total x M with h | h
  · rw [Nat.min_eq_left h]
  · rw [Nat.min_eq_right h, Nat.min_eq_right (Nat.le_add_right M s),
      Nat.min_eq_right (Nat.le_trans h (Nat.le_add_right x s))]

theorem foldl_satAdd (fs : List FnCount) (a : Nat) (ha : a ≤ u64Max) :
    fs.foldl (fun ev f => satAdd ev (fnEvents f)) a = min (a + (fs.map fnEvents).sum) u64Max := by
  induction fs generalizing a with
  | nil => simp [Nat.min_eq_left ha]
  | cons f fs ih =>
    simp only [List.foldl_cons, List.map_cons, List.sum_cons]
    rw [ih _ (satAdd_le _ _)]
    unfold satAdd
    rw [min_add_min, Nat.add_assoc]

theorem foldl_max_ge (xs : List Nat) (a : Nat) : a ≤ xs.foldl max a ∧ ∀ x ∈ xs, x ≤ xs.foldl max a := by
  induction xs generalizing a with
  | nil => simp
  | cons y ys ih =>
    simp only [List.foldl_cons, List.mem_cons]
    have h := ih (max a y)
    refine ⟨Nat.le_trans (Nat.le_max_left a y) h.1, ?_⟩
    rintro x (rfl | hx)
    · exact Nat.le_trans (Nat.le_max_right a x) h.1
    · exact h.2 x hx

theorem foldl_max_mem (xs : List Nat) (a : Nat) : xs.foldl max a = a ∨ xs.foldl max a ∈ xs := by
  induction xs generalizing a with
  | nil => simp
  | cons y ys ih =>
    simp only [List.foldl_cons, List.mem_cons]
    rcases ih (max a y) with h | h
    · rw [h]
      rcases Nat.le_total a y with hay | hay
      · right; left; exact Nat.max_eq_right hay
      · left; exact Nat.max_eq_left hay
    · right; right; exact h

theorem maxList_spec (xs : List Nat) (v : Nat) (h : maxList xs = some v) :
    v ∈ xs ∧ ∀ x ∈ xs, x ≤ v := by
  cases xs with
  | nil => simp [maxList] at h
  | cons y ys =>
    simp only [maxList, Option.some.injEq] at h
    subst h
    have hge := foldl_max_ge ys y
    refine ⟨?_, ?_⟩
    · rcases foldl_max_mem ys y with h | h
      · rw [h]; simp
      · exact List.mem_cons_of_mem _ h
    · intro x hx
      rcases List.mem_cons.mp hx with rfl | hx
      · exact hge.1
      · exact hge.2 x hx

theorem maxList_none_iff (xs : List Nat) : maxList xs = none ↔ xs = [] := by
  cases xs <;> simp [maxList]

theorem maxList_getD_le_iff (xs : List Nat) (cap : Nat) :
    (maxList xs).getD 0 ≤ cap ↔ ∀ x ∈ xs, x ≤ cap := by
  cases h : maxList xs with
  | none => simp [(maxList_none_iff xs).mp h]
  | some v =>
    have hs := maxList_spec xs v h
    simp only [Option.getD_some]
    exact ⟨fun hv x hx => Nat.le_trans (hs.2 x hx) hv, fun hall => hall v hs.1⟩

theorem maxList_map_getD_le_iff {α : Type} (f : α → Nat) (xs : List α) (cap : Nat) :
    (maxList (xs.map f)).getD 0 ≤ cap ↔ ∀ x ∈ xs, f x ≤ cap := by
  rw [maxList_getD_le_iff, List.forall_mem_map]

theorem Metric.forall_iff {P : Metric → Prop} :
    (∀ m, P m) ↔ P .functions ∧ P .locals ∧ P .scopes ∧ P .statements ∧ P .cfgOps ∧
      P .opsInOneFunction ∧ P .cfgBlocks ∧ P .blocksInOneFunction ∧ P .directUserCalls ∧
      P .summaryEvents ∧ P .livenessEvents :=
  ⟨fun h => ⟨h _, h _, h _, h _, h _, h _, h _, h _, h _, h _, h _⟩,
   fun ⟨h1, h2, h3, h4, h5, h6, h7, h8, h9, h10, h11⟩ m => by cases m <;> assumption⟩

theorem checkMax_eq (m : Metric) (xs : List Nat) (cap : Nat) :
    checkMax m xs cap = check m ((maxList xs).getD 0) cap := by
  unfold checkMax
  cases maxList xs <;> simp [check]

def firstOf (caps : Caps) (c : Counts) : List Metric → Option Limit
  | [] => none
  | m :: ms => check m (observed c m) (caps.get m) <|> firstOf caps c ms

/-- `firstExceeded_eq_firstOf` below does not need it: both sides nest `<|>` to the right. -/

theorem orElse_assoc {α : Type} (a b c : Option α) : ((a <|> b) <|> c) = (a <|> (b <|> c)) := by
  cases a <;> simp

theorem firstExceeded_eq_firstOf (caps : Caps) (c : Counts) :
    firstExceeded caps c = firstOf caps c stages := by
  simp only [firstExceeded, checkMax_eq, firstOf, stages, observed, Caps.get, Option.orElse_eq_orElse,
    Option.orElse_eq_or, Option.or_none]

theorem firstOf_eq_find (caps : Caps) (c : Counts) (ms : List Metric) :
    firstOf caps c ms =
      (ms.find? (fun m => decide (observed c m > caps.get m))).map
        (fun m => ⟨m, observed c m, caps.get m⟩) := by
  induction ms with
  | nil => rfl
  | cons m ms ih =>
    simp only [firstOf, List.find?_cons, check]
    by_cases h : observed c m > caps.get m
    · simp [h]
    · simp [h, ih]

/-- The decision of `emit_analysis_warnings` as one `if`. -/
theorem emitAnalysis_eq {Plan : Type} (caps : Caps) (c : Counts) (sp : Span) (planOf : Plan)
    (ws : List Diag) :
    emitAnalysis caps c sp planOf ws =
      if (firstExceeded caps c).isSome then { plan := none, warnings := [limitWarning sp] }
      else { plan := some planOf, warnings := ws } := by
  unfold emitAnalysis
  cases firstExceeded caps c <;> rfl

theorem ensure_live (fb : FB) : ensure fb true = fb := rfl

theorem countStmts_cons (s : Stmt) (ss : List Stmt) (fb : FB) (cur : Bool) :
    countStmts (s :: ss) fb cur = countStmts ss (countStmt s fb cur).1 (countStmt s fb cur).2 := rfl

theorem ensure_blocks_ge (fb : FB) (cur : Bool) : fb.blocks ≤ (ensure fb cur).blocks := by
  unfold ensure; split <;> simp

theorem join_blocks_ge (c : Bool) (fb : FB) :
    fb.blocks ≤ (if c then ({ fb with blocks := fb.blocks + 1 }, true) else (fb, false)).1.blocks := by
  cases c
  · exact Nat.le_refl _
  · exact Nat.le_succ _

theorem blocks_mono_all :
    (∀ (s : Stmt) (fb : FB) (cur : Bool), fb.blocks ≤ (countStmt s fb cur).1.blocks) ∧
    (∀ (ss : List Stmt) (fb : FB) (cur : Bool), fb.blocks ≤ (countStmts ss fb cur).1.blocks) ∧
    (∀ (b : Block) (fb : FB) (cur : Bool), fb.blocks ≤ (countBlock b fb cur).1.blocks) ∧
    (∀ (e : Option Block) (fb : FB), fb.blocks ≤ (countElse e fb).1.blocks) := by
  have op : ∀ (fb : FB) (cur : Bool), fb.blocks ≤ (ensure { fb with ops := fb.ops + 1 } cur).blocks :=
    fun fb cur => ensure_blocks_ge { fb with ops := fb.ops + 1 } cur
  apply Stmt.walk
  case fnDef | assign | assignExisting | assignIndex | ret | brk | cont | expr =>
    intros
    exact op _ _
  case block =>
    intro b _ _ ih fb cur
    exact Nat.le_trans (op fb cur) (ih _ true)
  case ifS =>
    intro _ t e _ _ iht ihe fb cur
    have ht := iht { ensure { fb with ops := fb.ops + 1 } cur with
      blocks := (ensure { fb with ops := fb.ops + 1 } cur).blocks + 2 } true
    have h : fb.blocks ≤ _ := Nat.le_trans (op fb cur)
      (Nat.le_trans (Nat.le_add_right _ 2) (Nat.le_trans ht (ihe _)))
    exact Nat.le_trans h (join_blocks_ge _ _)
  case loop =>
    intro _ b _ _ ih fb cur
    exact Nat.le_trans (op fb cur) (Nat.le_trans (Nat.le_add_right _ 3)
      (ih { ensure { fb with ops := fb.ops + 1 } cur with
        blocks := (ensure { fb with ops := fb.ops + 1 } cur).blocks + 3 } true))
  case mk => intro ss _ ih fb cur; exact ih fb cur
  case none => intro fb; exact Nat.le_refl _
  case some => intro b ih fb; exact ih fb true
  case nil => intro fb cur; exact Nat.le_refl _
  case cons => intro s ss ihs ihss fb cur; exact Nat.le_trans (ihs fb cur) (ihss _ _)

theorem countStmt_blocks_mono : ∀ (s : Stmt) (fb : FB) (cur : Bool),
    fb.blocks ≤ (countStmt s fb cur).1.blocks := blocks_mono_all.1

theorem countElse_blocks_mono : ∀ (e : Option Block) (fb : FB),
    fb.blocks ≤ (countElse e fb).1.blocks := blocks_mono_all.2.2.2

theorem countStmts_blocks_mono : ∀ (ss : List Stmt) (fb : FB) (cur : Bool),
    fb.blocks ≤ (countStmts ss fb cur).1.blocks := blocks_mono_all.2.1

theorem countBlock_blocks_mono : ∀ (b : Block) (fb : FB) (cur : Bool),
    fb.blocks ≤ (countBlock b fb cur).1.blocks := blocks_mono_all.2.2.1

end NaijaVerif.Limits
