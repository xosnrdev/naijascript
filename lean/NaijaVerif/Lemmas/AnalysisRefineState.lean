import NaijaVerif.Lemmas.AnalysisRefineOk
import NaijaVerif.Lemmas.AnalysisEvalEq
import NaijaVerif.Lemmas.ListFacts
/-
BRIDGE: the relation between a state of `Model/Eval.lean` (scopes with slots, hoisted functions and `decls` merged,
output oldest first) and a state of `Model/AnalysisEval.lean` (tagged variable scopes, a parallel stack of function
scopes, output newest first), and how the environment operations of the two models correspond under it.
-/
namespace NaijaVerif.C03
open NaijaVerif NaijaVerif.Analysis

variable {N : Type}

abbrev VE (N : Type) := Eval.Value N

/-- Most recently pushed slot first. -/
def slotValE (sc : Eval.Scope N) (l : Nat) : Option (VE N) :=
  (sc.slots.find? (fun sl => sl.id == some l)).map (·.val)

def ORel2 {α β : Type} (r : α → β → Prop) : Option α → Option β → Prop
  | some a, some b => r a b
  | none, none => True
  | _, _ => False

/-- `ORel2` is `ORel` (`Lemmas/ListFacts.lean`) under the name the statements of this family are written with. -/
theorem ORel2.iff {α β : Type} {r : α → β → Prop} {a : Option α} {b : Option β} : ORel2 r a b ↔ ORel r a b := by
  cases a <;> cases b <;> exact Iff.rfl

theorem ORel2.cases {α β : Type} {r : α → β → Prop} {a : Option α} {b : Option β} (h : ORel2 r a b) :
    (a = none ∧ b = none) ∨ ∃ x y, a = some x ∧ b = some y ∧ r x y :=
  (ORel2.iff.mp h).cases

/-- What a call needs in order to go on inside the function: `okp` gives `OrcOk.par` for the parameter scope, `okb` lets the
induction re-enter the body. -/
structure FnRel (o : Orc) (fe : Eval.FnEntry) (fa : AEval.FnDef) : Prop where
  id : fe.id = some fa.id
  params : fe.params = fa.params
  body : fe.body.stmts = fa.body
  okp : o.par fa.params = true
  okb : okBlock o fe.body = true

/-- `drop` is the plan's set of removed functions: `Eval.hoist` does not register a removed definition, the fragment
registers every definition and filters at the lookup (`AEval.findFnC`), so a function scope of the fragment is compared
through that filter (`fns`). -/
structure ScopeSim (o : Orc) (ds : Nat → Option Nat) (drop : Nat → Bool) (se : Eval.Scope N) (ta : AEval.Scope (VE N))
    (fa : List AEval.FnDef) : Prop where
  slots : ∀ l, slotValE se l = AEval.findSlot l ta.slots
  tag : TagOk ds ta.tag se.decls
  fns : ∀ g, ORel2 (FnRel o) (se.fns.find? (fun fd => fd.id == some g))
    (if drop g then none else fa.find? (fun f => f.id == g))

def EnvSim (o : Orc) (ds : Nat → Option Nat) (drop : Nat → Bool) :
    List (Eval.Scope N) → List (AEval.Scope (VE N)) → List (List AEval.FnDef) → Prop
  | [], [], [] => True
  | se :: es, ta :: ts, fa :: fs => ScopeSim o ds drop se ta fa ∧ EnvSim o ds drop es ts fs
  | _, _, _ => False

/-- `input` is carried along, not established: the run starts without input (`cfg.input = []`, a hypothesis of the bridge
because the fragment has no `read_line` input: head of `Lemmas/AnalysisBridge.lean`) and no step adds any.  It is read once,
in the `read_line` arm of `bis_global`. -/
structure StSim (o : Orc) (ds : Nat → Option Nat) (drop : Nat → Bool) (s : Eval.State N) (t : AEval.St (VE N)) : Prop where
  env : EnvSim o ds drop s.env t.env t.fns
  out : s.out = t.out.reverse
  input : s.input = []

section lemmas
variable {o : Orc} {ds : Nat → Option Nat} {drop : Nat → Bool}

theorem EnvSim.nil_inv {ts : List (AEval.Scope (VE N))} {fs : List (List AEval.FnDef)}
    (h : EnvSim o ds drop ([] : List (Eval.Scope N)) ts fs) : ts = [] ∧ fs = [] := by
  cases ts <;> cases fs <;> first | exact ⟨rfl, rfl⟩ | cases h

theorem EnvSim.cons_inv {se : Eval.Scope N} {es : List (Eval.Scope N)} {ts : List (AEval.Scope (VE N))}
    {fs : List (List AEval.FnDef)} (h : EnvSim o ds drop (se :: es) ts fs) :
    ∃ ta ts' fa fs', ts = ta :: ts' ∧ fs = fa :: fs' ∧ ScopeSim o ds drop se ta fa ∧ EnvSim o ds drop es ts' fs' := by
  cases ts <;> cases fs <;> first | exact ⟨_, _, _, _, rfl, rfl, h.1, h.2⟩ | cases h

theorem getAt_succ (se : Eval.Scope N) (rest : List (Eval.Scope N)) (q : Nat × Nat) :
    Eval.getAt (se :: rest) (q.1 + 1, q.2) = Eval.getAt rest q := by
  simp [Eval.getAt]

theorem updateAt_zero (se : Eval.Scope N) (rest : List (Eval.Scope N)) (j : Nat) (f : VE N → VE N) :
    Eval.updateAt (se :: rest) (0, j) f =
      { se with slots := se.slots.modify j (fun sl => { sl with val := f sl.val }) } :: rest := by
  simp [Eval.updateAt]

theorem updateAt_succ (se : Eval.Scope N) (rest : List (Eval.Scope N)) (q : Nat × Nat) (f : VE N → VE N) :
    Eval.updateAt (se :: rest) (q.1 + 1, q.2) f = se :: Eval.updateAt rest q f := by
  simp [Eval.updateAt]

theorem getElem?_of_findIdx? {α : Type} {p : α → Bool} {xs : List α} {j : Nat} (h : xs.findIdx? p = some j) :
    ∃ x, xs[j]? = some x :=
  ⟨_, List.getElem?_eq_getElem (List.findIdx?_eq_some_iff_getElem.mp h).1⟩

theorem getAt_zero (se : Eval.Scope N) (rest : List (Eval.Scope N)) (j : Nat) :
    Eval.getAt (se :: rest) (0, j) = (se.slots[j]?).map (·.val) := by
  simp [Eval.getAt]

theorem find_modify {l : Nat} (f : VE N → VE N) {old : VE N} : ∀ (slots : List (Eval.Slot N)) (j : Nat),
    slots.findIdx? (fun sl => sl.id == some l) = some j → (slots[j]?).map (·.val) = some old → ∀ l',
    ((slots.modify j (fun sl => { sl with val := f sl.val })).find? (fun sl => sl.id == some l')).map (·.val) =
      if l' = l then some (f old) else (slots.find? (fun sl => sl.id == some l')).map (·.val)
  | [], _, h, _, _ => by simp at h
  | x :: xs, j, h, ho, l' => by
      simp only [List.findIdx?_cons] at h
      cases hx : x.id == some l with
      | true =>
        simp only [hx, ↓reduceIte, Option.some.injEq] at h
        subst h
        have hxl : x.id = some l := by simpa using hx
        simp only [List.getElem?_cons_zero, Option.map_some, Option.some.injEq] at ho
        simp only [List.modify_zero_cons, List.find?_cons, ho]
        by_cases hl : l' = l
        · subst hl; simp [hxl]
        · have : (x.id == some l') = false := by rw [hxl]; simpa using fun e => hl e.symm
          simp [this, hl]
      | false =>
        simp only [hx, Bool.false_eq_true, ↓reduceIte] at h
        cases hj : xs.findIdx? (fun sl => sl.id == some l) with
        | none => simp [hj] at h
        | some j' =>
          simp only [hj, Option.map_some, Option.some.injEq] at h
          subst h
          have ih := find_modify f xs j' hj (by simpa using ho) l'
          simp only [List.modify_succ_cons, List.find?_cons]
          by_cases hl : l' = l
          · subst hl
            simp only [hx, ↓reduceIte] at ih ⊢
            exact ih
          · cases hx' : x.id == some l' with
            | true => simp [hl]
            | false =>
              simp only [↓reduceIte, hl] at ih ⊢
              exact ih

/-- The search for the slot of a bound local in related environments.  Everything the walk needs of `lookup_local_env`,
`assign_bound_local` and the writes through an l-value is read off this. -/
theorem owned_sim (l : Nat) {es : List (Eval.Scope N)} {ts : List (AEval.Scope (VE N))} {fs : List (List AEval.FnDef)}
    (h : EnvSim o ds drop es ts fs) :
    (Eval.findOwned l es = none ∧ AEval.lookupEnv ds l ts = none ∧ ∀ w, AEval.assignEnv ds l w ts = none) ∨
    ∃ pos old, Eval.findOwned l es = some pos ∧ Eval.getAt es pos = some old ∧ AEval.lookupEnv ds l ts = some old ∧
      ∀ g : VE N → VE N, ∃ ts', AEval.assignEnv ds l (g old) ts = some ts' ∧
        EnvSim o ds drop (Eval.updateAt es pos g) ts' fs := by
  induction es generalizing ts fs with
  | nil =>
    obtain ⟨rfl, rfl⟩ := h.nil_inv
    refine Or.inl ⟨rfl, ?_, fun w => ?_⟩ <;> simp only [AEval.lookupEnv, AEval.assignEnv] <;> cases ds l <;> rfl
  | cons se es ih =>
    obtain ⟨ta, ts, fa, fs, rfl, rfl, hs, hrest⟩ := h.cons_inv
    simp only [Eval.findOwned]
    cases hc : se.decls.contains l with
    | true =>
      obtain ⟨tg, htg, htag⟩ := (hs.tag l).mp hc
      have hsl := hs.slots l
      simp only [↓reduceIte, AEval.lookupEnv, AEval.assignEnv, htg, AEval.findScope, AEval.setIn, htag, beq_self_eq_true]
      simp only [slotValE, List.find?_eq_bind_findIdx?_getElem?] at hsl
      cases hj : se.slots.findIdx? (fun sl => sl.id == some l) with
      | none =>
        rw [hj] at hsl
        have hset : ∀ w, AEval.setSlot l w ta.slots = none := fun w => by
          have := AEval.setSlot_isSome (v := w) (x := l) ta.slots
          rw [← hsl] at this
          simpa using this
        exact Or.inl ⟨rfl, hsl.symm, fun w => by rw [hset]; rfl⟩
      | some j =>
        rw [hj] at hsl
        simp only [Option.bind_some] at hsl
        obtain ⟨sl, hslj⟩ := getElem?_of_findIdx? hj
        have hold : (se.slots[j]?).map (·.val) = some sl.val := by rw [hslj]; rfl
        rw [hold] at hsl
        refine Or.inr ⟨(0, j), sl.val, rfl, by rw [getAt_zero, hold], hsl.symm, fun g => ?_⟩
        obtain ⟨s', hset⟩ : ∃ s', AEval.setSlot l (g sl.val) ta.slots = some s' := by
          have := AEval.setSlot_isSome (v := g sl.val) (x := l) ta.slots
          rw [← hsl] at this
          exact Option.isSome_iff_exists.mp this
        refine ⟨_, by rw [hset]; rfl, ?_⟩
        rw [updateAt_zero]
        refine ⟨⟨fun l' => ?_, fun l' => by rw [← htag]; exact hs.tag l', hs.fns⟩, hrest⟩
        simp only [slotValE]
        rw [find_modify g se.slots j hj hold l']
        by_cases hl : l' = l
        · subst hl
          simp only [↓reduceIte]
          exact (AEval.findSlot_setSlot_eq _ _ hset).symm
        · simp only [hl, ↓reduceIte]
          rw [AEval.findSlot_setSlot_ne hl _ _ hset]
          exact hs.slots l'
    | false =>
      have e1 : AEval.lookupEnv ds l (ta :: ts) = AEval.lookupEnv ds l ts ∧
          ∀ w, AEval.assignEnv ds l w (ta :: ts) = (AEval.assignEnv ds l w ts).map (ta :: ·) := by
        simp only [AEval.lookupEnv, AEval.assignEnv]
        cases hd : ds l with
        | none => exact ⟨rfl, fun _ => rfl⟩
        | some tg =>
          have hne : (ta.tag == some tg) = false := by
            cases hb : ta.tag == some tg with
            | false => rfl
            | true =>
              have := (hs.tag l).mpr ⟨tg, hd, by simpa using hb⟩
              rw [this] at hc; cases hc
          simp only [AEval.findScope, AEval.setIn, hne, Bool.false_eq_true, ↓reduceIte]
          exact ⟨trivial, fun _ => trivial⟩
      simp only [Bool.false_eq_true, ↓reduceIte, e1.1, e1.2]
      rcases ih hrest with ⟨h1, h2, h3⟩ | ⟨pos, old, h1, h2, h3, h4⟩
      · exact Or.inl ⟨by rw [h1]; rfl, h2, fun w => by rw [h3]; rfl⟩
      · refine Or.inr ⟨(pos.1 + 1, pos.2), old, by rw [h1]; rfl, by rw [getAt_succ]; exact h2, h3, fun g => ?_⟩
        obtain ⟨ts', ha, hsim⟩ := h4 g
        exact ⟨ta :: ts', by rw [ha]; rfl, by rw [updateAt_succ]; exact ⟨hs, hsim⟩⟩

/-- `define_bound_local` (overwrite or push in the innermost scope) against the fragment's push. -/
theorem define_scope_sim (l : Nat) (name : Bytes) (v : VE N) {se : Eval.Scope N} {ta : AEval.Scope (VE N)}
    {fa : List AEval.FnDef} (hs : ScopeSim o ds drop se ta fa) :
    ScopeSim o ds drop
      (match se.slots.findIdx? (Eval.Slot.matches (some l) name) with
       | some j => { se with slots := se.slots.modify j (fun sl => { sl with val := v }) }
       | none => { se with slots := { id := some l, name := name, val := v } :: se.slots })
      { ta with slots := ⟨l, v⟩ :: ta.slots } fa := by
  have hslots : ∀ (newSlots : List (Eval.Slot N)),
      (∀ l', (newSlots.find? (fun sl => sl.id == some l')).map (·.val) =
        if l' = l then some v else (se.slots.find? (fun sl => sl.id == some l')).map (·.val)) →
      ScopeSim o ds drop { se with slots := newSlots } { ta with slots := ⟨l, v⟩ :: ta.slots } fa := by
    intro ns hns
    refine ⟨?_, hs.tag, hs.fns⟩
    intro l'
    simp only [slotValE, hns l', AEval.findSlot]
    by_cases hl : l' = l
    · subst hl; simp
    · have : (l == l') = false := by simpa using fun e => hl e.symm
      simp only [hl, ↓reduceIte, this, Bool.false_eq_true]
      exact hs.slots l'
  have hm : Eval.Slot.matches (N := N) (some l) name = fun sl => sl.id == some l := by
    funext sl; simp [Eval.Slot.matches]
  rw [hm]
  cases hj : se.slots.findIdx? (fun sl => sl.id == some l) with
  | some j =>
    obtain ⟨sl, hslj⟩ := getElem?_of_findIdx? hj
    exact hslots _ (find_modify (fun _ => v) se.slots j hj (old := sl.val) (by rw [hslj]; rfl))
  | none =>
    refine hslots _ ?_
    intro l'
    simp only [List.find?_cons]
    by_cases hl : l' = l
    · subst hl; simp
    · have : (some l == some l') = false := by simpa using fun e => hl e.symm
      simp [this, hl]

theorem define_sim (l : Nat) (name : Bytes) (v : VE N) {s : Eval.State N} {t : AEval.St (VE N)}
    (h : StSim o ds drop s t) :
    StSim o ds drop (Eval.define s (some l) name v) { t with env := AEval.defineEnv l v t.env } := by
  obtain ⟨henv, hout, hin⟩ := h
  cases hse : s.env with
  | nil =>
    rw [hse] at henv
    obtain ⟨hte, htf⟩ := henv.nil_inv
    exact ⟨by simp [Eval.define, hse, AEval.defineEnv, hte, htf, EnvSim], by simpa [Eval.define, hse] using hout,
      by simpa [Eval.define, hse] using hin⟩
  | cons se es =>
    rw [hse] at henv
    obtain ⟨ta, ts, fa, fs, hte, htf, hs, hrest⟩ := henv.cons_inv
    have hsc := define_scope_sim l name v hs
    simp only [Eval.define, hse, hte, AEval.defineEnv]
    cases hj : se.slots.findIdx? (Eval.Slot.matches (some l) name) <;> rw [hj] at hsc <;>
      exact ⟨by simpa only [htf, EnvSim] using And.intro hsc hrest, hout, hin⟩

theorem findFn_sim (g : Nat) {es : List (Eval.Scope N)} {ts : List (AEval.Scope (VE N))}
    {fs : List (List AEval.FnDef)} (h : EnvSim o ds drop es ts fs) :
    ORel2 (FnRel o) (Eval.findFn (fun _ => true) (fun fd => fd.id == some g) es)
      (if drop g then none else AEval.findFn g fs) := by
  induction es generalizing ts fs with
  | nil =>
    obtain ⟨rfl, rfl⟩ := h.nil_inv
    simp [Eval.findFn, AEval.findFn, ORel2]
  | cons se es ih =>
      obtain ⟨ta, ts, fa, fs, rfl, rfl, hs, hrest⟩ := h.cons_inv
      have ih := ih hrest
      have hf := hs.fns g
      simp only [Eval.findFn, ↓reduceIte, AEval.findFn]
      cases hd : drop g with
      | true =>
        simp only [hd, ↓reduceIte] at hf ih ⊢
        rcases hf.cases with ⟨he, _⟩ | ⟨_, _, _, ha, _⟩
        · simpa [he] using ih
        · cases ha
      | false =>
        simp only [hd, Bool.false_eq_true, ↓reduceIte] at hf ih ⊢
        rcases hf.cases with ⟨he, ha⟩ | ⟨fe, f, he, ha, hf⟩
        · simpa [he, ha] using ih
        · simpa [he, ha, ORel2] using hf

end lemmas

end NaijaVerif.C03
