import NaijaVerif.Model.LexMem
import NaijaVerif.Lemmas.LexInv
/-
The string buffer of `scan_string` (`Model/LexMem.lean`), one token at a time: `Vec` growth arithmetic,
and the geometry of the reservation `hintFixed` — it ends before the first quote / line end after the
escape, and a scan that does not run into the end of input gets at least that far.
-/
namespace NaijaVerif.Lex

theorem Buf.push_len (b : Buf) (n : Nat) : (b.push n).len = b.len + n := by
  simp only [Buf.push, Buf.reserve]; split <;> rfl

/-- `Vec`'s amortised growth -/
theorem Buf.push_cap (b : Buf) (n : Nat) :
    (b.push n).cap = if b.cap - b.len < n then max 8 (max (2 * b.cap) (b.len + n)) else b.cap := by
  simp only [Buf.push, Buf.reserve]; split <;> rfl

theorem Buf.push_zero (b : Buf) : b.push 0 = b := by
  simp [Buf.push, Buf.reserve]

/-- the test `self.pos < pos` in front of a `push_str` changes nothing -/
theorem Buf.push_of_pos (b : Buf) (n : Nat) : (if 0 < n then b.push n else b) = b.push n := by
  split
  · rfl
  · rw [show n = 0 by omega, Buf.push_zero]

theorem Buf.push_cap_ge (b : Buf) (n : Nat) : b.cap ≤ (b.push n).cap := by
  rw [Buf.push_cap]; split
  · exact Nat.le_trans (Nat.le_trans (by omega) (Nat.le_max_left (2 * b.cap) _)) (Nat.le_max_right 8 _)
  · exact Nat.le_refl _

/-- A push that grows gives `max 8 (max (2·cap) (len + n))`; `2·cap < 2·(len + n)` since it did not fit, and
`8 ≤ 2·(len + n) + 4` needs `len + n ≥ 2`, which `h` gives (an empty, unallocated buffer pushed one byte gets 8 > 2·1 + 4). -/
theorem Buf.push_cap_le (b : Buf) (n : Nat) (h : 1 ≤ b.cap ∨ 1 ≤ b.len) :
    (b.push n).cap ≤ max b.cap (2 * (b.len + n) + 4) := by
  rw [Buf.push_cap]; split
  · exact Nat.le_trans (Nat.max_le.2 ⟨by omega, Nat.max_le.2 ⟨by omega, by omega⟩⟩) (Nat.le_max_right ..)
  · exact Nat.le_max_left ..

theorem Buf.push_fits (b : Buf) (n : Nat) (h : b.len ≤ b.cap) : (b.push n).len ≤ (b.push n).cap := by
  rw [Buf.push_len, Buf.push_cap]; split
  · exact Nat.le_trans (Nat.le_max_right (2 * b.cap) _) (Nat.le_max_right 8 _)
  · omega

theorem Buf.push_nogrow (b : Buf) (n : Nat) (h : b.len + n ≤ b.cap) : (b.push n).cap = b.cap := by
  rw [Buf.push_cap, if_neg (by omega)]

theorem Buf.push_empty {c n : Nat} (h : n ≤ c) : Buf.push ⟨c, 0⟩ n = ⟨c, n⟩ := by
  simp only [Buf.push, Buf.reserve]; rw [if_neg (by omega)]; simp

theorem Buf.reserveExact_empty (n : Nat) : (Buf.reserveExact ⟨0, 0⟩ n) = ⟨n, 0⟩ := by
  simp only [Buf.reserveExact]; split
  · simp
  · have : n = 0 := by omega
    subst this; rfl

theorem Buf.reserveExact_len (b : Buf) (n : Nat) : (b.reserveExact n).len = b.len := by
  simp only [Buf.reserveExact]; split <;> rfl

theorem Buf.reserveExact_fits (b : Buf) (n : Nat) (h : b.len ≤ b.cap) :
    (b.reserveExact n).len ≤ (b.reserveExact n).cap := by
  simp only [Buf.reserveExact]; split <;> (try dsimp only) <;> omega

/-- two steps of the bound of `Buf.push_cap_le` in a row, below a common `X` (stated apart so that `omega` sees no `max`
of the caller's) -/
theorem cap_chain {cap c' c l l' X : Nat} (h : cap ≤ max c' (2 * l + 4)) (h' : c' ≤ max c (2 * l' + 4)) (hl : l' ≤ l)
    (hc : c ≤ X) (hX : 2 * l + 4 ≤ X) : cap ≤ X := by
  omega

/-! The left-hand sides of `run_first`, `run_after` and the hypothesis `hb1` of `run_holds` are the text of `b1` in `bufLoop`
(`Model/LexMem.lean`: reserve and push at the first escape, push the run at later ones), so that they match the goal a
`fun_induction bufLoop` leaves. -/

theorem run_first {H n : Nat} (h : n ≤ H) :
    (if ((⟨0, 0⟩ : Buf).len == 0) = true then (Buf.reserveExact ⟨0, 0⟩ H).push (0 + n)
      else if 0 < n then Buf.push ⟨0, 0⟩ n else ⟨0, 0⟩) = ⟨H, n⟩ := by
  rw [if_pos (show ((⟨0, 0⟩ : Buf).len == 0) = true from rfl), Nat.zero_add, Buf.reserveExact_empty, Buf.push_empty h]

theorem run_after {b : Buf} (hb : 1 ≤ b.len) (H m n : Nat) :
    (if (b.len == 0) = true then (b.reserveExact H).push m else if 0 < n then b.push n else b) = b.push n := by
  rw [if_neg (by simp; omega), Buf.push_of_pos]

theorem run_holds {buf : Bytes} {esc : Bool} {off H n : Nat} {b b1 : Buf}
    (h1 : esc = false → off = 0 ∧ b.len = 0 ∧ buf = []) (h2 : esc = true → b.len = buf.length ∧ 1 ≤ b.len)
    (hfit : b.len ≤ b.cap)
    (hb1 : b1 = if b.len == 0 then (b.reserveExact H).push (off + n) else if 0 < n then b.push n else b) :
    b1.len = buf.length + n ∧ b1.len ≤ b1.cap := by
  subst hb1
  cases esc with
  | false =>
    obtain ⟨rfl, hl, rfl⟩ := h1 rfl
    rw [if_pos (by simp [hl])]
    exact ⟨by rw [Buf.push_len, Buf.reserveExact_len, hl]; simp, Buf.push_fits _ _ (Buf.reserveExact_fits _ _ hfit)⟩
  | true =>
    rw [run_after (h2 rfl).2]
    exact ⟨by rw [Buf.push_len, (h2 rfl).1], Buf.push_fits _ _ hfit⟩

/-- a byte the reservation may run over: not the quote, not a line end.  (`x != 10` follows from `notNl x`; the body is
spelt as the conjunction of the test of `memchr2From q 10` and `notNl`, the two runs whose minimum `hintFixed` takes, so
that `min_takeWhile_le` applies to it as it stands, `h4` of `hintFixed_le`.) -/
def free (q : Nat) (x : Nat) : Bool := (x != q && x != 10) && notNl x

def freeRun (q : Nat) (l : Bytes) : Nat := (l.takeWhile (free q)).length

theorem freeRun_le_add_drop (q : Nat) (l : Bytes) (m : Nat) : freeRun q l ≤ m + freeRun q (l.drop m) :=
  takeWhile_length_le_add_drop _ l m

theorem freeRun_le_length (q : Nat) (l : Bytes) : freeRun q l ≤ l.length :=
  (List.takeWhile_prefix _).length_le

theorem freeRun_le_nl (q : Nat) (l : Bytes) : freeRun q l ≤ (l.takeWhile notNl).length :=
  takeWhile_length_mono (by intro x h; simp only [free, Bool.and_eq_true] at h; exact h.2) l

theorem freeRun_le_quote (q : Nat) (l : Bytes) (n : Nat) (t : Bytes) (h : l.drop n = q :: t) : freeRun q l ≤ n := by
  have := takeWhile_length_le_add_drop (free q) l n
  rw [h, List.takeWhile_cons, show free q q = false by simp [free]] at this
  exact this

theorem memchr2From_le (a b : Nat) (hay : Bytes) (s : Nat) : memchr2From a b hay s ≤ hay.length := by
  have := (List.takeWhile_prefix (l := hay.drop s) fun x => x != a && x != b).length_le
  simp only [List.length_drop] at this
  simp only [memchr2From]; omega

theorem memchr2From_ge (a b : Nat) (hay : Bytes) (s : Nat) : min s hay.length ≤ memchr2From a b hay s := by
  simp only [memchr2From]; omega

theorem hintFixed_le_length (q : Nat) (body : Bytes) (qe nl : Nat) : hintFixed q body qe nl ≤ body.length := by
  have := memchr2From_le q 10 body (qe + 2)
  simp only [hintFixed]; omega

/-- `m`: the reservation seen from any point behind the escape -/
theorem hintFixed_le (q : Nat) (body : Bytes) (qe : Nat) {m : Nat} (hm : 2 ≤ m) :
    hintFixed q body qe (body.takeWhile notNl).length ≤ qe + m + freeRun q (body.drop (qe + m)) := by
  have h5 := freeRun_le_add_drop q (body.drop (qe + 2)) (m - 2)
  rw [List.drop_drop, show qe + 2 + (m - 2) = qe + m by omega] at h5
  have h1 := takeWhile_length_le_add_drop notNl body (qe + 2)
  have h2 : memchr2From q 10 body (qe + 2) ≤
      qe + 2 + ((body.drop (qe + 2)).takeWhile (fun x => x != q && x != 10)).length := by
    simp only [memchr2From]; omega
  have h3 := min_takeWhile_le (fun x => x != q && x != 10) notNl (body.drop (qe + 2))
  have h4 : freeRun q (body.drop (qe + 2)) =
      ((body.drop (qe + 2)).takeWhile (fun x => (x != q && x != 10) && notNl x)).length := rfl
  simp only [hintFixed]
  omega

theorem stop_is_backslash {q x : Nat} {rest after : Bytes} (h : rest.dropWhile (notQuoteEsc q) = x :: after)
    (hx : (x == q) = false) : x = 92 := by
  have := dropWhile_head_not h
  simp only [notQuoteEsc, Bool.and_eq_false_iff, bne_eq_false_iff_eq] at this
  rcases this with h1 | h1
  · simp [h1] at hx
  · exact h1

theorem hintFixed_ge {q x : Nat} {body t : Bytes} (hdw : body.dropWhile (notQuoteEsc q) = x :: t) (hx : ¬ (x == q) = true)
    (hnl : ¬ (body.takeWhile notNl).length < (body.takeWhile (notQuoteEsc q)).length) :
    (body.takeWhile (notQuoteEsc q)).length + 1 ≤
      hintFixed q body (body.takeWhile (notQuoteEsc q)).length (body.takeWhile notNl).length := by
  obtain rfl := stop_is_backslash hdw (by simpa using hx)
  have hlen := dropWhile_length hdw
  have hne : (body.takeWhile (notQuoteEsc q)).length ≠ (body.takeWhile notNl).length := by
    intro he
    have h2 : body.dropWhile notNl = 92 :: t := by rw [dropWhile_eq_drop, ← he, ← dropWhile_eq_drop]; exact hdw
    have := dropWhile_head_not h2
    simp [notNl] at this
  have hm := memchr2From_ge q 10 body ((body.takeWhile (notQuoteEsc q)).length + 2)
  simp only [hintFixed]; omega

/-- the only backslash `l` may contain is its last byte (what is left of a text behind a string token that ran into the
end of input; nothing to do with `Trail` of `Lemmas/LexLayout.lean`) -/
def Tail (l : Bytes) : Prop := 92 ∉ l.dropLast

theorem Tail.of_not_mem {l : Bytes} (h : 92 ∉ l) : Tail l :=
  fun hm => h (List.dropLast_subset l hm)

theorem Tail.suffix {p l : Bytes} (h : Tail (p ++ l)) : Tail l := by
  intro hm
  apply h
  by_cases hl : l = []
  · subst hl; simp at hm
  · rw [List.dropLast_append_of_ne_nil hl]
    exact List.mem_append_right _ hm

theorem Tail.drop {l : Bytes} (h : Tail l) (k : Nat) : Tail (l.drop k) := by
  have : l = l.take k ++ l.drop k := (List.take_append_drop k l).symm
  rw [this] at h
  exact h.suffix

/-- The contract of `bufLoop` entered with `has_escape = true`: run on `rest` with a buffer `b` that already holds
something, it returns `r`.  `cap_le` is `Buf.push_cap_le` over all pushes of the run; `normal` and `eof` say how far the scan
got, which is what `First` compares the reservation with.  What is claimed of a token is `First`, below; `After` is the form
that goes through the induction from the second escape on. -/
structure After (q : Nat) (rest : Bytes) (b : Buf) (r : BufRes) : Prop where
  owned : r.owned = true
  len_ge : b.len ≤ r.len
  cap_ge : b.cap ≤ r.cap
  cap_le : r.cap ≤ max b.cap (2 * r.len + 4)
  rest_le : r.rest.length ≤ rest.length
  /-- a regular exit is a closing quote or a line end -/
  normal : r.atEof = false → r.len + r.rest.length ≤ b.len + rest.length ∧ freeRun q rest + r.rest.length ≤ rest.length
  eof : r.atEof = true → q ∉ r.rest ∧ Tail r.rest ∧ r.len ≤ b.len + rest.length

theorem notQuoteEsc_run (q : Nat) (l : Bytes) : q ∉ l.takeWhile (notQuoteEsc q) ∧ 92 ∉ l.takeWhile (notQuoteEsc q) := by
  have hall := List.all_eq_true.mp (List.all_takeWhile (p := notQuoteEsc q) (l := l))
  exact ⟨fun hm => by simpa [notQuoteEsc] using hall _ hm, fun hm => by simpa [notQuoteEsc] using hall _ hm⟩

theorem not_mem_of_dropWhile_nil {q : Nat} {rest : Bytes} (h : rest.dropWhile (notQuoteEsc q) = []) :
    q ∉ rest ∧ 92 ∉ rest := by
  have e := List.takeWhile_append_dropWhile (p := notQuoteEsc q) (l := rest)
  rw [h, List.append_nil] at e
  exact e ▸ notQuoteEsc_run q rest

theorem last_backslash {q x : Nat} {l : Bytes} (h : l.dropWhile (notQuoteEsc q) = [x]) (hx : ¬ (x == q) = true) :
    q ∉ l ∧ Tail l := by
  have hl := dropWhile_split h
  have hr := notQuoteEsc_run q l
  constructor
  · intro hm
    rw [hl] at hm
    rcases List.mem_append.mp hm with hm | hm
    · exact hr.1 hm
    · simp at hm; subst hm; simp at hx
  · intro hm
    rw [hl, List.dropLast_concat] at hm
    exact hr.2 hm

/-- the run before the backslash is pushed, then the `k` bytes behind it (fewer at the end of input) -/
theorem After.escape {q x f k : Nat} {rest t : Bytes} {b : Buf} {r : BufRes}
    (hdw : rest.dropWhile (notQuoteEsc q) = x :: t) (hb : 1 ≤ b.len) (hf : rest.length < f + 1)
    (ih : (t.drop k).length < f → 1 ≤ ((b.push (rest.takeWhile (notQuoteEsc q)).length).push (t.take k).length).len →
      After q (t.drop k) ((b.push (rest.takeWhile (notQuoteEsc q)).length).push (t.take k).length) r) :
    After q rest b r := by
  -- lengths: `rest` is the run (`qe` bytes), the backslash and `t`; of `t` the escape takes `p ≤ k` bytes
  have hlen := dropWhile_length hdw
  have hdrop := drop_of_dropWhile hdw k
  obtain ⟨hpd, hpk⟩ := take_drop_length t k
  generalize (rest.takeWhile (notQuoteEsc q)).length = qe at *
  generalize (t.take k).length = p at *
  have hl : ((b.push qe).push p).len = b.len + qe + p := by rw [Buf.push_len, Buf.push_len]
  obtain ⟨ho, a2, a3, a4, a5, a6, a7⟩ := ih (by omega) (by omega)
  rw [hl] at a2 a6 a7
  have hcap : r.cap ≤ max b.cap (2 * r.len + 4) := by
    have h2 := Buf.push_cap_le (b.push qe) p (Or.inr (by rw [Buf.push_len]; omega))
    rw [Buf.push_len] at h2
    exact cap_chain a4 (cap_chain h2 (Buf.push_cap_le b qe (Or.inr hb)) (Nat.le_add_right ..) (Nat.le_max_left ..)
      (Nat.le_max_right b.cap _)) a2 (Nat.le_max_left ..) (Nat.le_max_right ..)
  -- `hcap` and `a4` are cleared for the goals left to `omega`, which would split their `max`es
  refine ⟨ho, ?_, Nat.le_trans (Nat.le_trans (Buf.push_cap_ge b qe) (Buf.push_cap_ge _ p)) a3, hcap, ?_,
    fun hn => ?_, fun he => ?_⟩ <;> clear hcap a4
  · omega
  · omega
  · -- the free run of `rest` ends at the latest where the free run of what follows the escape ends
    have hfr := freeRun_le_add_drop q rest (qe + 1 + k)
    rw [hdrop] at hfr
    have := freeRun_le_length q rest
    have := a6 hn
    omega
  · have := a7 he; exact ⟨this.1, this.2.1, by omega⟩

theorem After.exit {q n : Nat} {rest rest' : Bytes} {b b' : Buf} {eof : Bool} (hb' : b' = b.push n) (hb : 1 ≤ b.len)
    (hn : n ≤ rest.length) (hr : rest'.length ≤ rest.length)
    (hnorm : eof = false → n + rest'.length ≤ rest.length ∧ freeRun q rest + rest'.length ≤ rest.length)
    (heof : eof = true → q ∉ rest' ∧ Tail rest') :
    After q rest b ⟨b'.cap, b'.len, true, rest', eof⟩ := by
  subst hb'
  have hl := Buf.push_len b n
  refine ⟨rfl, ?_, Buf.push_cap_ge b n, ?_, hr, fun h => ⟨?_, (hnorm h).2⟩, fun h => ⟨(heof h).1, (heof h).2, ?_⟩⟩
  · show b.len ≤ (b.push n).len; omega
  · show (b.push n).cap ≤ max b.cap (2 * (b.push n).len + 4); rw [hl]; exact Buf.push_cap_le b n (Or.inr hb)
  · show (b.push n).len + rest'.length ≤ b.len + rest.length; have := (hnorm h).1; omega
  · show (b.push n).len ≤ b.len + rest.length; omega

theorem bufLoop_after (hint : Nat → Bytes → Nat → Nat → Nat) (q f : Nat) (rest : Bytes) (off : Nat) (esc : Bool) (b : Buf)
    (hesc : esc = true) (hf : rest.length < f) (hb : 1 ≤ b.len) : After q rest b (bufLoop hint q f rest off esc b) := by
  -- cases numbered as in `scanStrLoop_ok` (`Lemmas/LexInv.lean`)
  fun_induction bufLoop hint q f rest off esc b <;> subst hesc
  case case1 => omega
  case case2 f rest off b qe nl hnl =>
    exact After.exit (n := 0) (Buf.push_zero b).symm hb (Nat.zero_le _) (List.length_drop ▸ Nat.sub_le ..)
      (fun _ => by
        -- the free run ends at or before the line end, where this exit stops
        have := freeRun_le_nl q rest
        have := (List.takeWhile_prefix (l := rest) notNl).length_le
        rw [List.length_drop]; omega)
      nofun
  case case3 f rest off b qe nl hnl hdw =>
    have hm := not_mem_of_dropWhile_nil hdw
    exact After.exit (n := 0) (Buf.push_zero b).symm hb (Nat.zero_le _) (Nat.le_refl _) nofun
      (fun _ => ⟨hm.1, Tail.of_not_mem hm.2⟩)
  case case4 f rest off b qe nl hnl x after hdw hx b' =>
    obtain rfl : x = q := by simpa using hx
    have hlen := dropWhile_length hdw
    have hfr := freeRun_le_quote x rest _ after (by rw [← dropWhile_eq_drop]; exact hdw)
    exact After.exit (by simp only [b', Bool.true_and, decide_eq_true_eq]; exact Buf.push_of_pos b qe) hb (by omega)
      (by omega) (fun _ => by omega) nofun
  case case5 f rest off b qe nl hnl x hx b1 hdw =>
    have hlen := dropWhile_length hdw
    exact After.exit (run_after hb ..) hb (by omega) (Nat.le_refl _) nofun (fun _ => last_backslash hdw hx)
  case case6 f rest off b qe nl hnl x hx b1 e tl y hy hdw ih
      | case7 f rest off b qe nl hnl x hx b1 e tl hnone k hdw ih =>
    -- an escape, valid or not: `After.escape` with the number of bytes it stands for left open
    rw [show b1 = b.push qe from run_after hb ..] at ih ⊢
    exact After.escape hdw hb hf (ih rfl)

/-- The contract of the whole run of `bufLoop` for one string token, from the empty buffer: `body` is the text after the
opening quote, `r` the result.  One turn (`bufLoop_first`: no escape and nothing allocated, or the reservation `hintFixed` at
the first escape) and then `After`; the reservation does not reach past where a regular exit stops (`hintFixed_le`), so the
bound `After.cap_le` becomes twice the extent of the token. -/
structure First (q : Nat) (body : Bytes) (r : BufRes) : Prop where
  rest_le : r.rest.length ≤ body.length
  borrowed : r.owned = false → r.cap = 0
  /-- regular exit: at most twice the extent of the token (opening quote included) -/
  normal : r.owned = true → r.atEof = false → r.cap ≤ 2 * (1 + body.length - r.rest.length)
  eof : r.owned = true → r.atEof = true → r.cap ≤ 2 * (1 + body.length) ∧ q ∉ r.rest ∧ Tail r.rest
  /-- when the only backslash is the last byte of the source, the token ends there and the buffer stays within its
  reservation, which is at most the body -/
  tail : r.owned = true → Tail body → r.atEof = true ∧ r.cap ≤ body.length

theorem First.of_borrowed {q : Nat} {body rest : Bytes} {eof : Bool} (h : rest.length ≤ body.length) :
    First q body ⟨0, 0, false, rest, eof⟩ :=
  ⟨h, fun _ => rfl, nofun, nofun, nofun⟩

theorem First.of_after {q H : Nat} {body rest : Bytes} {b : Buf} {r : BufRes} (hA : After q rest b r)
    (hlen : b.len + rest.length + 1 ≤ body.length) (hH : H ≤ body.length)
    (hfr : H + rest.length ≤ body.length + freeRun q rest) (hcap : b.cap ≤ max H (2 * b.len + 4))
    (hT : ¬ Tail body) : First q body r := by
  obtain ⟨ho, h2, -, h4, h5, h6, h7⟩ := hA
  have hc := fun X => cap_chain (X := X) h4 hcap h2
  clear h4 hcap
  refine ⟨by omega, fun h => absurd (ho ▸ h) (by decide), fun _ hn => ?_, fun _ he => ?_, fun _ ht => absurd ht hT⟩
  · have := h6 hn; exact hc _ (by omega) (by omega)
  · have := h7 he; exact ⟨hc _ (by omega) (by omega), this.1, this.2.1⟩

theorem First.escape {q x k f off : Nat} {body t : Bytes}
    (hdw : body.dropWhile (notQuoteEsc q) = x :: t) (hx : ¬ (x == q) = true)
    (hnl : ¬ (body.takeWhile notNl).length < (body.takeWhile (notQuoteEsc q)).length) (ht : t ≠ []) (hk : 1 ≤ k)
    (hf : body.length < f + 1) :
    First q body (bufLoop hintFixed q f (t.drop k) off true (Buf.push ⟨hintFixed q body
      (body.takeWhile (notQuoteEsc q)).length (body.takeWhile notNl).length, (body.takeWhile (notQuoteEsc q)).length⟩
      (t.take k).length)) := by
  have hnt : ¬ Tail body := by
    obtain rfl := stop_is_backslash hdw (by simpa using hx)
    intro hT
    apply hT
    rw [dropWhile_split hdw, List.dropLast_append_of_ne_nil (by simp), List.dropLast_cons_of_ne_nil ht]
    simp
  -- the reservation `H`: past the backslash (`hge`), within the body (`hhl`), and not past the free run of what follows the
  -- escape (`hgeo`, restated as `hfr` below); the rest (`hlen`, `hpd`, `hpk`, `ht'`) is lengths as in `After.escape`
  have hge := hintFixed_ge hdw hx hnl
  have hgeo := hintFixed_le q body (body.takeWhile (notQuoteEsc q)).length (m := 1 + k) (by omega)
  rw [← Nat.add_assoc, drop_of_dropWhile hdw] at hgeo
  have hhl := hintFixed_le_length q body (body.takeWhile (notQuoteEsc q)).length (body.takeWhile notNl).length
  have hlen := dropWhile_length hdw
  obtain ⟨hpd, hpk⟩ := take_drop_length t k
  have ht' := List.length_pos_iff.mpr ht
  generalize (body.takeWhile (notQuoteEsc q)).length = qe at *
  generalize hintFixed q body qe (body.takeWhile notNl).length = H at *
  -- the reservation, seen from where the loop goes on
  have hfr : H + (t.drop k).length ≤ body.length + freeRun q (t.drop k) := by omega
  clear hgeo
  generalize (t.take k).length = p at *
  have hpl : (Buf.push ⟨H, qe⟩ p).len = qe + p := Buf.push_len ..
  have hA := bufLoop_after hintFixed q f (t.drop k) off true _ rfl (by omega) (by rw [hpl]; omega)
  have hl : (Buf.push ⟨H, qe⟩ p).len + (t.drop k).length + 1 ≤ body.length := by omega
  have hpc : (Buf.push ⟨H, qe⟩ p).cap ≤ max H (2 * (qe + p) + 4) := Buf.push_cap_le _ p (Or.inl (by dsimp only; omega))
  rw [← hpl] at hpc
  exact First.of_after hA hl hhl hfr hpc hnt

theorem bufLoop_first (q : Nat) (f : Nat) (body : Bytes) (hf : body.length < f) :
    First q body (bufLoop hintFixed q f body 0 false ⟨0, 0⟩) := by
  suffices h : ∀ off esc b, off = 0 → esc = false → b = ⟨0, 0⟩ → First q body (bufLoop hintFixed q f body off esc b) from
    h _ _ _ rfl rfl rfl
  intro off esc b
  -- cases numbered as in `scanStrLoop_ok`; 2–4 leave before any escape, 5–7 are the first escape
  fun_cases bufLoop hintFixed q f body off esc b <;> rintro rfl rfl rfl
  case case1 => omega
  case case2 | case3 => exact .of_borrowed (by simp)
  case case4 x t hx qe nl hnl hdw b' => exact .of_borrowed (by have := dropWhile_length hdw; omega)
  case case5 f x hx qe nl hnl hdw b1 =>
    -- the first backslash is the last byte
    have hb1 : b1 = ⟨hintFixed q body qe nl, qe⟩ := run_first (Nat.le_of_succ_le (hintFixed_ge hdw hx hnl))
    have hhl := hintFixed_le_length q body qe nl
    have := last_backslash hdw hx
    rw [hb1]
    exact ⟨Nat.le_refl _, by simp, by simp, fun _ _ => ⟨by dsimp only; omega, this⟩, fun _ _ => ⟨rfl, hhl⟩⟩
  case case6 f x hx e tl y hy qe nl hnl hdw b1 =>
    have hb1 : b1 = ⟨hintFixed q body qe nl, qe⟩ := run_first (Nat.le_of_succ_le (hintFixed_ge hdw hx hnl))
    rw [hb1]
    exact First.escape hdw hx hnl (List.cons_ne_nil _ _) (Nat.le_refl 1) hf
  case case7 f x hx e tl hnone k qe nl hnl hdw b1 =>
    have hb1 : b1 = ⟨hintFixed q body qe nl, qe⟩ := run_first (Nat.le_of_succ_le (hintFixed_ge hdw hx hnl))
    rw [hb1]
    exact First.escape hdw hx hnl (List.cons_ne_nil _ _) (Utf8.charLen_pos e) hf

end NaijaVerif.Lex
