/-
`ArenaString` = `Vec<u8, &Arena>` over the bump arena (`Model/Bump.lean`, second half): what a
reservation (`strEnsure`) and a raw write through the buffer pointer (`strWrite`) leave of the
invariant and of the string, the two in sequence (`reserveWrite`), and the operations built from them.
-/
import NaijaVerif.Lemmas.BumpHistory

namespace NaijaVerif.Bump

/-- `Vec::reserve` counts `additional` from the LENGTH, not from the capacity. -/
theorem reserveCap_spec (cap len additional : Nat) :
    cap ≤ reserveCap cap len additional ∧ (len ≤ cap → len + additional ≤ reserveCap cap len additional) ∧
    (additional ≤ cap - len → reserveCap cap len additional = cap) := by
  unfold reserveCap
  split <;> omega

/-- What `vec_replace_impl` needs of its reserve request: the result fits the capacity afterwards. -/
def RuleFits (rule : Nat → Nat → Nat → Nat → Nat) : Prop :=
  ∀ cap len del srcLen, len ≤ cap → del ≤ len → len - del + srcLen ≤ reserveCap cap len (rule cap len del srcLen)

theorem good_dims (s : St) (hG : Good s) (id : Nat) : (strDims s id).2 ≤ (strDims s id).1 := by
  unfold strDims
  split
  · rename_i b hf; exact (hG.blocks b (findBlk_mem hf)).usedLe
  · exact Nat.le_refl _

theorem strEnsure_spec (s : St) (hG : Good s) (id newCap : Nat) (s1 : St)
    (h : strEnsure s id newCap = some s1) :
    Good s1 ∧ strDims s1 id = (max (strDims s id).1 newCap, (strDims s id).2) ∧
    strContent s1 id = strContent s id ∧
    (∀ b b1, findBlk s.live id = some b → findBlk s1.live id = some b1 → ∀ k, k < b.len → b1.data k = b.data k) ∧
    (findBlk s.live id = none → newCap = 0 → s1 = s) := by
  revert h
  -- the six branches of `strEnsure`: no buffer — 1 nothing asked, 2 allocated, 3 refused; a buffer —
  -- 4 large enough, 5 grown, 6 refused.  `rintro ⟨⟩` disposes of the refusals (`none = some s1`).
  fun_cases strEnsure s id newCap <;> rintro ⟨⟩
  case case1 hf h0 =>
    exact ⟨hG, by rw [strDims_none s id hf, h0]; rfl, rfl, fun b _ hb => (nomatch hf.symm.trans hb), fun _ _ => rfl⟩
  case case2 hf h0 hs =>
    obtain ⟨⟨beg, a'⟩, ha⟩ := Option.isSome_iff_exists.1 hs
    have e : s.allocBlk id newCap 1 false =
        { s with a := a', live := { id := id, beg := beg, len := newCap, align := 1,
                                    data := fun k => a'.mem (beg + k) } :: s.live } := by
      simp only [St.allocBlk, ha]; rfl
    refine ⟨good_allocBlk s hG id newCap 1 false, ?_, ?_, fun b _ hb => (nomatch hf.symm.trans hb),
      fun _ h00 => absurd h00 h0⟩
    · rw [e, strDims_of _ id _ (findBlk_cons_self _ _), strDims_none s id hf, Nat.zero_max]
    · rw [e, strContent_of _ id _ (findBlk_cons_self _ _), strContent, hf]; rfl
  case case4 b hf hle =>
    exact ⟨hG, by rw [strDims_of s id b hf, Nat.max_eq_left hle], rfl,
      fun _ _ h1 h2 _ _ => by cases h1.symm.trans h2; rfl, fun hn => (nomatch hn.symm.trans hf)⟩
  case case5 b hf hgt hs =>
    obtain ⟨⟨nb, a'⟩, hg⟩ := Option.isSome_iff_exists.1 hs
    have hlt : b.len < newCap := Nat.lt_of_not_le hgt
    have e : s.growBlk id newCap =
        { s with a := a', live := { id := id, beg := nb, len := newCap, align := b.align,
                                    data := fun k => if k < b.len then b.data k else a'.mem (nb + k),
                                    used := b.used } :: dropBlk s.live id } := by
      simp only [St.growBlk, hf, hg]; rw [if_neg (Nat.not_lt.2 (Nat.le_of_lt hlt))]
    have hdata : ∀ b0 b1, findBlk s.live id = some b0 → findBlk (s.growBlk id newCap).live id = some b1 →
        ∀ k, k < b0.len → b1.data k = b0.data k := by
      rw [e]
      intro b0 b1 h0 h1 k hk
      cases hf.symm.trans h0
      cases (findBlk_cons_self _ _).symm.trans h1
      exact if_pos hk
    refine ⟨good_growBlk s hG id newCap, ?_, ?_, hdata, fun hn => (nomatch hn.symm.trans hf)⟩
    · rw [e, strDims_of _ id _ (findBlk_cons_self _ _), strDims_of s id b hf, Nat.max_eq_right (Nat.le_of_lt hlt)]
    · rw [e, strContent_of _ id _ (findBlk_cons_self _ _), strContent_of s id b hf]
      exact content_eq_of _ _ rfl fun k hk =>
        if_pos (Nat.lt_of_lt_of_le hk (hG.blocks b (findBlk_mem hf)).usedLe)

/-- The shape of `push_str` and `vec_replace_impl`: `St.strPush` unfolds to it, and so does
`St.strReplaceWith` past its test for a replacement of nothing by nothing. -/
def reserveWrite (s : St) (id want : Nat) (w : Nat → Mem → Mem) (used' : Nat) : St :=
  match strEnsure s id want with
  | none => s
  | some s1 => strWrite s1 id w used'

/-- `hw`: the caller computes the resulting bytes `r` from `w` knowing only that the old string is at the front
of the buffer.  `hconf` confines the write to the new STRING `[beg, beg + used')`, which is more than the
invariant asks for (the block, `want ≥ used'` bytes) and what the code in fact does. -/
theorem reserveWrite_spec (s : St) (hG : Good s) (id want : Nat) (w : Nat → Mem → Mem) (used' : Nat)
    (hcap : (strDims s id).1 ≤ want) (hfit : used' ≤ want)
    (hconf : ∀ beg m i, i < beg ∨ beg + used' ≤ i → w beg m i = m i) (r : List Nat) (hr : r.length = used')
    (hw : ∀ beg m, (∀ k, k < (strContent s id).length → m (beg + k) = (strContent s id).getD k 0) →
      ∀ k, k < used' → w beg m (beg + k) = r.getD k 0) :
    Good (reserveWrite s id want w used') ∧
    ((strEnsure s id want = none ∧ reserveWrite s id want w used' = s) ∨
     (strContent (reserveWrite s id want w used') id = r ∧
      strDims (reserveWrite s id want w used') id = (want, used') ∧ used' ≤ want)) := by
  cases h : strEnsure s id want with
  | none =>
    have e : reserveWrite s id want w used' = s := by rw [reserveWrite, h]
    rw [e]; exact ⟨hG, .inl ⟨rfl, rfl⟩⟩
  | some s1 =>
    have e : reserveWrite s id want w used' = strWrite s1 id w used' := by rw [reserveWrite, h]
    rw [e]
    obtain ⟨hN, hd, hc, _⟩ := strEnsure_spec s hG id want s1 h
    rw [Nat.max_eq_right hcap] at hd
    cases hf1 : findBlk s1.live id with
    | none =>
      -- no buffer after the reservation: `want = 0`, so old and new string are empty
      rw [strWrite_none s1 id w used' hf1]
      rw [strDims_none s1 id hf1] at hd
      have hw0 : want = 0 := (congrArg Prod.fst hd).symm
      have h0 : used' = 0 := Nat.le_zero.1 (hw0 ▸ hfit)
      refine ⟨hN, .inr ⟨?_, by rw [strDims_none s1 id hf1, h0, hw0], hfit⟩⟩
      rw [strContent, hf1, List.eq_nil_of_length_eq_zero (hr.trans h0)]
    | some b1 =>
      rw [strDims_of s1 id b1 hf1] at hd
      have hlen : b1.len = want := congrArg Prod.fst hd
      have hb1 := hN.blocks b1 (findBlk_mem hf1)
      have hblk := strWrite_blk s1 id w used' b1 hf1
      refine ⟨good_strWrite s1 hN id w used' fun b hb => ?_, .inr ⟨?_, ?_, hfit⟩⟩
      · cases hf1.symm.trans hb
        exact ⟨hlen ▸ hfit, fun i hi => hconf _ _ i (hi.imp_right (Nat.le_trans (Nat.add_le_add_left (hlen ▸ hfit) _)))⟩
      · rw [strContent_of _ id _ hblk]
        refine list_eq_of_getD _ _ ((content_length _).trans hr.symm) fun k hk => ?_
        rw [content_length] at hk
        rw [content_getD _ k hk]
        refine hw b1.beg s1.a.mem (fun j hj => ?_) k hk
        rw [← hc, strContent_of s1 id b1 hf1] at hj ⊢
        rw [content_length] at hj
        rw [content_getD b1 j hj]
        exact hb1.content j (Nat.lt_of_lt_of_le hj hb1.usedLe)
      · rw [strDims_of _ id _ hblk, hlen]

/-- The write of `extend_from_slice`. -/
theorem push_bytes (c src : List Nat) (len : Nat) (hl : c.length = len) (beg : Nat) (m : Mem)
    (hm : ∀ k, k < c.length → m (beg + k) = c.getD k 0) (k : Nat) (hk : k < len + src.length) :
    m.store (beg + len) src.length (srcAt src.toArray) (beg + k) = (c ++ src).getD k 0 := by
  subst hl
  rw [getD_append, Mem.store_rel]
  by_cases h : k < c.length
  · rw [if_pos h, if_neg (fun h' => Nat.not_le_of_lt h h'.1), hm k h]
  · rw [if_neg h, if_pos ⟨Nat.le_of_not_lt h, hk⟩, srcAt_toArray]

/-- `push_str(src)` (and `push`, `push_repeat`); `strEnsure … = none` is the allocator refusing. -/
theorem strPush_spec (s : St) (hG : Good s) (id : Nat) (src : List Nat) :
    let cap := (strDims s id).1
    let len := (strDims s id).2
    let want := reserveCap cap len src.length
    let s' := s.strPush id src
    Good s' ∧
    ((strEnsure s id want = none ∧ s' = s) ∨
     (strContent s' id = strContent s id ++ src ∧ strDims s' id = (want, len + src.length) ∧
      len + src.length ≤ want)) := by
  intro cap len want s'
  have hw := reserveCap_spec cap len src.length
  have hl : (strContent s id).length = len := strContent_length s id
  exact reserveWrite_spec s hG id want (fun beg m => m.store (beg + len) src.length (srcAt src.toArray))
    (len + src.length) hw.1 (hw.2.1 (good_dims s hG id)) (fun beg m i hi => Mem.store_outside _ _ _ _ _ (by omega))
    _ (by rw [List.length_append, hl]) (push_bytes _ src len hl)

/-- The writes of `vec_replace_impl`: `ptr::copy` moves the tail behind the place of the replacement,
`copy_nonoverlapping` puts the replacement in. -/
theorem replace_bytes (c src : List Nat) (off del : Nat) (hdel : off + del ≤ c.length)
    (beg : Nat) (m : Mem) (hm : ∀ k, k < c.length → m (beg + k) = c.getD k 0) (k : Nat)
    (hk : k < c.length - del + src.length) :
    ((m.copy (beg + off + del) (beg + off + src.length) (c.length - off - del)).store (beg + off) src.length
      (srcAt src.toArray)) (beg + k) = (replaceBytes c off del src).getD k 0 := by
  rw [replaceBytes_getD c off del src hdel k, Nat.add_assoc beg off del, Nat.add_assoc beg off src.length,
    Mem.store_rel, Mem.copy_rel]
  by_cases h1 : k < off
  · have h1' : ¬ off + src.length ≤ k := fun h => Nat.not_le_of_lt h1 (Nat.le_trans (Nat.le_add_right _ _) h)
    rw [if_pos h1, if_neg (fun h => Nat.not_le_of_lt h1 h.1), if_neg (fun h => h1' h.1),
      hm k (Nat.lt_of_lt_of_le h1 (Nat.le_trans (Nat.le_add_right _ _) hdel))]
  · rw [if_neg h1]
    by_cases h2 : k < off + src.length
    · rw [if_pos h2, if_pos ⟨Nat.le_of_not_lt h1, h2⟩, srcAt_toArray]
    · rw [if_neg h2, if_neg (fun h => h2 h.2), if_pos ⟨Nat.le_of_not_lt h2, by omega⟩, hm _ (by omega)]
      congr 1; omega

/-- `vec_replace_impl` with ANY reserve request that satisfies `RuleFits` (`pinnedRule` does,
`seededRule` does not: `Props/C11.lean`). -/
theorem strReplaceWith_spec (rule : Nat → Nat → Nat → Nat → Nat) (hr : RuleFits rule) (s : St) (hG : Good s)
    (id lo hi : Nat) (src : List Nat) :
    let c := strContent s id
    let cap := (strDims s id).1
    let off := min lo c.length
    let del := min (hi - off) (c.length - off)
    let want := reserveCap cap c.length (rule cap c.length del src.length)
    let s' := s.strReplaceWith rule id lo hi src
    Good s' ∧
    (if del = 0 ∧ src.length = 0 then s' = s else
      (strEnsure s id want = none ∧ s' = s) ∨
      (strContent s' id = replaceBytes c off del src ∧
       strDims s' id = (want, c.length - del + src.length) ∧ c.length - del + src.length ≤ want)) := by
  intro c cap off del want s'
  have hl : c.length = (strDims s id).2 := strContent_length s id
  have hle : c.length ≤ cap := hl ▸ good_dims s hG id
  have hdel : off + del ≤ c.length :=
    Nat.add_le_of_le_sub' (Nat.min_le_right lo _) (Nat.min_le_right (hi - off) _)
  have hcw : cap ≤ want := (reserveCap_spec cap c.length (rule cap c.length del src.length)).1
  have hfit : c.length - del + src.length ≤ want :=
    hr cap c.length del src.length hle (Nat.le_trans (Nat.le_add_left del off) hdel)
  have hs' : s' = if del = 0 ∧ src.length = 0 then s else
      reserveWrite s id want
        (fun beg m => (m.copy (beg + off + del) (beg + off + src.length) (c.length - off - del)).store
          (beg + off) src.length (srcAt src.toArray)) (c.length - del + src.length) := by
    show St.strReplaceWith rule s id lo hi src = _
    unfold St.strReplaceWith
    simp only [← hl]
    rfl
  clear_value off del want s'
  subst hs'
  split
  · exact ⟨hG, rfl⟩
  · exact reserveWrite_spec s hG id want _ _ hcw hfit
      (fun beg m i hi => by rw [Mem.store_outside _ _ _ _ _ (by omega), Mem.copy_outside _ _ _ _ _ (by omega)])
      _ (replaceBytes_length c off del src hdel) (replace_bytes c src off del hdel)

/-- The two arms of `shrink_to_fit` that change the block: an empty string gives its block back, `n = 0`; a
block at the arena's top is cut to `n = used`. -/
theorem resized_blk (s : St) (id : Nat) (b : Block) (hf : findBlk s.live id = some b) (a' : Arena) (n : Nat)
    (rest : List Block) :
    strContent { s with a := a', live := { b with len := n } :: rest } id = strContent s id ∧
    strDims { s with a := a', live := { b with len := n } :: rest } id = (n, b.used) := by
  have hid : b.id = id := by simpa using List.find?_some hf
  have hblk : findBlk ({ b with len := n } :: rest) id = some { b with len := n } :=
    hid ▸ findBlk_cons_self _ _
  rw [strContent_of _ id _ hblk, strDims_of _ id _ hblk, strContent_of s id b hf]
  exact ⟨rfl, rfl⟩

/-- `shrink_to_fit`. -/
theorem strShrink_of (s : St) (id : Nat) (b : Block) (hf : findBlk s.live id = some b) (hu : b.used ≤ b.len) :
    s.strShrink id =
      if b.len ≤ b.used then s
      else if b.used = 0 then { s with live := { b with len := 0 } :: dropBlk s.live id }
      else if b.beg + b.len = s.a.offset then
        { s with a := (s.a.shrink b.beg b.len b.used).2
                 live := { b with len := b.used } ::
                   below (dropBlk s.live id) (s.a.shrink b.beg b.len b.used).2.offset }
      else s := by
  unfold St.strShrink St.shrinkBlk
  simp only [hf, hu, Nat.le_refl, true_and, and_true]

end NaijaVerif.Bump
