import NaijaVerif.Lemmas.SpanMapAst
import NaijaVerif.Model.Analysis
import NaijaVerif.Model.CfgCount
/-
C10, downstream of the parser: for every `φ : Span → Span`, `CfgCount.countProgram` of the `φ`-mapped
annotated program is unchanged, and `Analysis.analyse` gives the same verdicts, plan and warnings in
the same order with `φ` applied to each warning's span.  The only spans the analyses touch are the
two they copy from the statement table into a warning, and the `0..0` they report for a statement
id without a row, which `φ` has to fix.

Span erasure is the constant `φ` (namespace `SpanErase`, after the general part): `countProgram_erase` and `analyse_erase` are
what `Lemmas/SpanErasePipeline.lean` and C10 use.  Behind them the constant-map instance of each walk is recorded, function
by function; `eraseRow`, `eraseCtx`, `eraseBody`, `eraseWarn` are `mapRow`, `mapCtx`, `mapBody`, `mapWarn` at the constant map
(by unfolding, `eraseBody` up to `eraseStmts_eq_mapStmts`).
-/
namespace NaijaVerif.SpanMap
open NaijaVerif NaijaVerif.Parse

variable (φ : Span → Span)

section Count
open NaijaVerif.CfgCount

theorem count_map :
    (∀ s fb cur, countStmt (mapStmt φ s) fb cur = countStmt s fb cur) ∧
    (∀ ss fb cur, countStmts (mapStmts φ ss) fb cur = countStmts ss fb cur) ∧
    (∀ b fb cur, countBlock (mapBlock φ b) fb cur = countBlock b fb cur) ∧
    (∀ o fb, countElse (o.map (mapBlock φ)) fb = countElse o fb) := by
  apply Stmt.walk
  case ifS => intro c t e sid sp ht he fb cur; simp only [mapStmt_ifS, countStmt, ht, he]
  case loop | block => intros; rename_i hb fb cur; simp only [mapStmt, countStmt, hb]
  case ret => intros; rw [mapStmt_ret]; rfl
  case mk => intro ss sp h fb cur; exact h fb cur
  case some => intro b hb fb; exact hb fb true
  case cons => intro s ss hs hss fb cur; simp only [mapStmts, countStmts, hs, hss]
  all_goals intros; rfl

theorem enter_map (f : Nat) (b : Block) (pb : PB) : enter f (mapBlock φ b) pb = enter f b pb := by
  simp only [enter, countBody, (count_map φ).2.2.1]

theorem discover_map :
    (∀ s pb, discoverStmt (mapStmt φ s) pb = discoverStmt s pb) ∧
    (∀ ss pb, discoverStmts (mapStmts φ ss) pb = discoverStmts ss pb) ∧
    (∀ b pb, discoverBlock (mapBlock φ b) pb = discoverBlock b pb) ∧
    (∀ o pb, discoverElse (o.map (mapBlock φ)) pb = discoverElse o pb) := by
  apply Stmt.walk
  case fnDef =>
    intro _ _ _ body fn _ _ hbody pb
    cases fn with
    | none => rfl
    | some f => simp only [mapStmt, discoverStmt, enter_map, hbody]
  case ifS => intro c t e sid sp ht he pb; simp only [mapStmt_ifS, discoverStmt, ht, he]
  case loop | block | mk | some => intros; rename_i h pb; exact h pb
  case ret => intros; rw [mapStmt_ret]; rfl
  case cons => intro s ss hs hss pb; simp only [mapStmts, discoverStmts, hs, hss]
  all_goals intros; rfl

theorem countProgram_map (root : Block) (facts : Facts) :
    countProgram (mapBlock φ root) facts = countProgram root facts := by
  simp only [countProgram, countFunctions, enter_map, (discover_map φ).2.2.1]

end Count


section Ana
open NaijaVerif.Analysis

theorem literalTy_map : ∀ e : Expr, literalTy (mapExpr φ e) = literalTy e
  | .num _ _ | .str _ _ | .bool _ _ | .null _ | .index _ _ _ _ | .var _ _ _ | .call _ _ _ _ | .array _ _
  | .member _ _ _ _ => rfl
  | .unary op e _ => by simp only [mapExpr, literalTy, literalTy_map e]
  | .binary op l r _ => by simp only [mapExpr, literalTy, literalTy_map l, literalTy_map r]

theorem head?_mapExprs_ty (es : List Expr) : (mapExprs φ es).head?.bind literalTy = es.head?.bind literalTy := by
  cases es with
  | nil => rfl
  | cons e es => exact literalTy_map φ e

theorem classify_map (capt : Nat → Bool) :
    (∀ e, classify capt (mapExpr φ e) = classify capt e) ∧
    (∀ es, classifyList capt (mapExprs φ es) = classifyList capt es) := by
  apply Expr.walk
  case index => intro a i _ _ ha hi; simp only [mapExpr, classify, ha, hi]
  case str => intro p _; cases p <;> rfl
  case binary =>
    intro op l r s hl hr; simp only [mapExpr, classify, hl, hr, ← literalTy_map φ (.binary op l r s)]
  case callMember => intro o _ _ _ args _ _ ho ha; simp only [mapExpr, classify, ha, ho]
  case call =>
    intro c args _ _ hc _ ha
    cases c with
    | var => simp only [mapExpr, classify, ha, head?_mapExprs_ty]
    | member o fld fs ms => exact absurd rfl (hc o fld fs ms)
    | _ => simp only [mapExpr, classify, ha]
  case array => intro es _ h; simp only [mapExpr, classify, h]
  case unary => intro op x s hx; simp only [mapExpr, classify, hx, ← literalTy_map φ (.unary op x s)]
  case member => intro o _ _ _ ho; simp only [mapExpr, classify, ho]
  case cons => intro e es he hes; simp only [mapExprs, classifyList, he, hes]
  all_goals intros; rfl

theorem condClass_map (capt : Nat → Bool) (c : Expr) : condClass capt (mapExpr φ c) = condClass capt c := by
  simp only [condClass, (classify_map φ capt).1, literalTy_map]

/-- `unfold clsStmt`, not `simp only [clsStmt]`: the equation of the catch-all alternative has a side
condition for every pattern before it, and `simp` tries it at each statement. -/
theorem cls_map (lo : Nat → Option Nat) :
    (∀ s cur, clsStmt lo cur (mapStmt φ s) = clsStmt lo cur s) ∧
    (∀ ss cur, clsStmts lo cur (mapStmts φ ss) = clsStmts lo cur ss) := by
  apply Stmt.walkLists
  case fnDef | ifS | loop | block =>
    intros; rename_i h cur; simp only [mapStmt, mapBlock]; unfold clsStmt; simp only [stmtClass, condClass_map, h]
  case ifElse =>
    intros; rename_i ht he cur; simp only [mapStmt, mapBlock]; unfold clsStmt; simp only [stmtClass, condClass_map, ht, he]
  case ret =>
    intro e _ _ cur
    cases e <;> (simp only [mapStmt]; unfold clsStmt; simp only [Stmt.sid, stmtClass, (classify_map φ _).1])
  case nil => intros; rfl
  case cons => intro s ss hs hss cur; simp only [mapStmts, clsStmts, hs, hss]
  all_goals intros; simp only [mapStmt]; unfold clsStmt; simp only [Stmt.sid, stmtClass, (classify_map φ _).1]


def mapRow (r : Row) : Row := { r with span := φ r.span, auxSpan := φ r.auxSpan }

theorem mkRow_map {pl live : Bool} {s s' : Stmt} (h1 : s'.sid = s.sid) (h2 : stmtKind s' = stmtKind s)
    (h3 : s'.span = φ s.span) (h4 : stmtAux s' = φ (stmtAux s)) :
    mkRow pl live s' = (mkRow pl live s).map (mapRow φ) := by
  simp only [mkRow, h1, h2, h3, h4]
  cases s.sid <;> rfl

theorem after_map :
    (∀ s live, afterStmt live (mapStmt φ s) = afterStmt live s) ∧
    (∀ ss live, afterStmts live (mapStmts φ ss) = afterStmts live ss) := by
  apply Stmt.walkLists
  case ifS | block => intros; rename_i h live; simp only [mapStmt, mapBlock, afterStmt, h]
  case ifElse => intros; rename_i ht he live; simp only [mapStmt, mapBlock, afterStmt, ht, he]
  case ret => intro e _ _ _; cases e <;> rfl
  case cons => intro s ss hs hss live; simp only [mapStmts, afterStmts, hs, hss]
  all_goals intros; rfl

theorem rows_map :
    (∀ s pl live, rowsStmt pl live (mapStmt φ s) = (rowsStmt pl live s).map (mapRow φ)) ∧
    (∀ ss pl live, rowsStmts pl live (mapStmts φ ss) = (rowsStmts pl live ss).map (mapRow φ)) := by
  apply Stmt.walkLists
  case fnDef | ifS | loop | block =>
    intros; rename_i h pl live; simp only [mapStmt, mapBlock]; unfold rowsStmt; simp only [List.map_append, h]
    exact congrArg (· ++ _) (mkRow_map φ rfl rfl rfl rfl)
  case ifElse =>
    intros; rename_i ht he pl live
    simp only [mapStmt, mapBlock]; unfold rowsStmt; simp only [List.map_append, ht, he]
    exact congrArg (· ++ _ ++ _) (mkRow_map φ rfl rfl rfl rfl)
  case ret => intro e _ _ _ _; cases e <;> exact mkRow_map φ rfl rfl rfl rfl
  case nil => intros; rfl
  case cons =>
    intro s ss hs hss pl live
    simp only [mapStmts, rowsStmts, hs, (after_map φ).1, hss, List.map_append]
  all_goals intros; exact mkRow_map φ rfl rfl rfl rfl

theorem unreachable_map (root : Block) : unreachable (mapBlock φ root) = unreachable root := by
  simp only [unreachable, rows, mapBlock_stmts, (rows_map φ).2, List.filter_map, List.map_map]
  rfl


def mapCtx (c : Ctx) : Ctx := { c with rows := c.rows.map (mapRow φ) }

theorem mkCtx_map (root : Block) (facts : Facts) : mkCtx (mapBlock φ root) facts = mapCtx φ (mkCtx root facts) := by
  simp only [mkCtx, mapCtx, rows, mapBlock_stmts, (rows_map φ).2, (cls_map φ _).2]

theorem mapCtx_row? (c : Ctx) (sid : Nat) : (mapCtx φ c).row? sid = (c.row? sid).map (mapRow φ) := by
  simp only [Ctx.row?, mapCtx, List.find?_map]
  rfl

theorem mapCtx_live (c : Ctx) (sid : Nat) : (mapCtx φ c).live sid = c.live sid := by
  simp only [Ctx.live, mapCtx_row?]
  cases c.row? sid <;> rfl

theorem mapCtx_bodyClass (c : Ctx) (f : Nat) : (mapCtx φ c).bodyClass f = c.bodyClass f := by
  simp only [Ctx.bodyClass, mapCtx, List.foldl_map]
  rfl

theorem mapCtx_effClass (c : Ctx) (sid : Nat) : (mapCtx φ c).effClass sid = c.effClass sid := by
  simp only [Ctx.effClass, Ctx.transClass, mapCtx_bodyClass]
  rfl

theorem mapCtx_bodyReachStep (c : Ctx) : (mapCtx φ c).bodyReachStep = c.bodyReachStep := by
  funext s
  simp only [Ctx.bodyReachStep, mapCtx, List.foldl_map]
  rfl

theorem mapCtx_bodyReachable (c : Ctx) : (mapCtx φ c).bodyReachable = c.bodyReachable := by
  simp only [Ctx.bodyReachable, mapCtx_bodyReachStep]
  rfl

theorem mapCtx_unusedFns (c : Ctx) : (mapCtx φ c).unusedFns = c.unusedFns := by
  simp only [Ctx.unusedFns, Ctx.defReachable, mapCtx_live, mapCtx_bodyReachable]
  rfl

theorem mapCtx_usedLocals (c : Ctx) : (mapCtx φ c).usedLocals = c.usedLocals := by
  simp only [Ctx.usedLocals, mapCtx_bodyReachable]
  simp only [mapCtx, List.foldl_map]
  rfl

theorem mapCtx_unusedVars (c : Ctx) : (mapCtx φ c).unusedVars = c.unusedVars := by
  simp only [Ctx.unusedVars, mapCtx_usedLocals, mapCtx_bodyReachable, mapCtx_live]
  rfl

theorem mapCtx_maxRef (c : Ctx) (l : Nat) : (mapCtx φ c).maxRef l = c.maxRef l := by
  simp only [Ctx.maxRef, mapCtx, List.foldl_map]
  rfl

theorem mapCtx_removableAsg (c : Ctx) (ua : List Nat) : (mapCtx φ c).removableAsg ua = c.removableAsg ua := by
  simp only [Ctx.removableAsg, mapCtx_effClass, mapCtx_row?, Ctx.declRemovable, mapCtx_maxRef]
  congr 1
  funext s
  cases c.row? s <;> rfl

theorem mapCtx_removableDecls (c : Ctx) (uv : List (Nat × Nat)) :
    (mapCtx φ c).removableDecls uv = c.removableDecls uv := by
  simp only [Ctx.removableDecls, mapCtx_effClass, Ctx.declRemovable, mapCtx_maxRef]


theorem scopeLocalsOf_map (c : Ctx) (ss : List Stmt) : (mapCtx φ c).scopeLocalsOf (mapStmts φ ss) = c.scopeLocalsOf ss := by
  cases ss with
  | nil => rfl
  | cons s ss =>
    simp only [mapStmts, Ctx.scopeLocalsOf, mapStmt_sid]
    rfl

theorem lv_map (c : Ctx) (f nl : Nat) :
    (∀ s lc st, lvStmt (mapCtx φ c) f nl lc (mapStmt φ s) st = lvStmt c f nl lc s st) ∧
    (∀ ss lc st, lvStmts (mapCtx φ c) f nl lc (mapStmts φ ss) st = lvStmts c f nl lc ss st) := by
  apply Stmt.walkLists
  case assign | assignExisting =>
    intros; rename_i sid _ lc st
    cases sid with
    | none => rfl
    | some sid => simp only [mapStmt]; unfold lvStmt; simp only [mapCtx_live]; rfl
  case ifS | loop | block =>
    intros; rename_i sid _ h lc st
    cases sid with
    | none => rfl
    | some sid => simp only [mapStmt, mapBlock]; unfold lvStmt; simp only [scopeLocalsOf_map, h]; rfl
  case ifElse =>
    intros; rename_i sid _ ht he lc st
    cases sid with
    | none => rfl
    | some sid => simp only [mapStmt, mapBlock]; unfold lvStmt; simp only [scopeLocalsOf_map, ht, he]; rfl
  case ret => intro e sid _ lc st; rw [mapStmt_ret]; cases sid <;> rfl
  case nil => intros; rfl
  case cons => intro s ss hs hss lc st; simp only [mapStmts, lvStmts, hs, hss]
  case fnDef => intros; rename_i sid _ _ _ _; cases sid <;> rfl
  -- `assignIndex`, `brk`, `cont`, `expr`: the last four names of each arm are `sid sp lc st`
  all_goals intros; rename_i sid _ _ _; cases sid <;> rfl

def mapBody (fb : Nat × List Stmt) : Nat × List Stmt := (fb.1, mapStmts φ fb.2)

theorem bodies_map :
    (∀ s, bodiesStmt (mapStmt φ s) = (bodiesStmt s).map (mapBody φ)) ∧
    (∀ ss, bodiesStmts (mapStmts φ ss) = (bodiesStmts ss).map (mapBody φ)) := by
  apply Stmt.walkLists
  case fnDef =>
    intro _ _ _ _ _ fn _ _ h
    cases fn with
    | none => simp only [mapStmt, mapBlock, bodiesStmt, h]
    | some f => simp only [mapStmt, mapBlock, bodiesStmt, h, List.map_cons, mapBody]
  case ifS | loop | block => intros; rename_i h; simp only [mapStmt, mapBlock, bodiesStmt, h]
  case ifElse => intros; rename_i ht he; simp only [mapStmt, mapBlock, bodiesStmt, ht, he, List.map_append]
  case ret => intro e _ _; cases e <;> rfl
  case cons => intro s ss hs hss; simp only [mapStmts, bodiesStmts, hs, hss, List.map_append]
  all_goals intros; rfl

theorem unusedAsg_map (c : Ctx) (root : Block) : (mapCtx φ c).unusedAsg (mapBlock φ root) = c.unusedAsg root := by
  simp only [Ctx.unusedAsg, mapBlock_stmts, (bodies_map φ).2]
  show List.foldl _ [] (((0, root.stmts) :: bodiesStmts root.stmts).map (mapBody φ)) = _
  rw [List.foldl_map]
  simp only [mapBody, Ctx.deadStoresIn, (lv_map φ c _ _).2]
  rfl


def mapWarn (w : Warn) : Warn := { w with span := φ w.span }

theorem insertWarn_map (w : Warn) (ws : List Warn) :
    insertWarn (mapWarn φ w) (ws.map (mapWarn φ)) = (insertWarn w ws).map (mapWarn φ) := by
  induction ws with
  | nil => rfl
  | cons x xs ih =>
    simp only [List.map_cons, insertWarn, apply_ite (List.map (mapWarn φ)), ← ih]
    rfl

theorem foldr_insertWarn_map (ws : List Warn) :
    (ws.map (mapWarn φ)).foldr insertWarn [] = (ws.foldr insertWarn []).map (mapWarn φ) := by
  induction ws with
  | nil => rfl
  | cons w ws ih => rw [List.map_cons, List.foldr_cons, ih, insertWarn_map, List.foldr_cons]

/-- The `let spanOf` of `Analysis.analyse` on the mapped context, written out: `analyse_map` unfolds `analyse` and
rewrites with this, so the two `match`es have to stay literally those of the model. -/
theorem spanOf_map (hφ : φ ⟨0, 0⟩ = ⟨0, 0⟩) (c : Ctx) (s : Nat) (aux : Bool) :
    (match (c.row? s).map (mapRow φ) with
      | some r => if aux then r.auxSpan else r.span
      | none => (⟨0, 0⟩ : Span))
      = φ (match c.row? s with
        | some r => if aux then r.auxSpan else r.span
        | none => ⟨0, 0⟩) := by
  cases c.row? s with
  | none => exact hφ.symm
  | some r => cases aux <;> rfl

theorem analyse_map (hφ : φ ⟨0, 0⟩ = ⟨0, 0⟩) (root : Block) (facts : Facts) :
    analyse (mapBlock φ root) facts
      = { analyse root facts with warns := (analyse root facts).warns.map (mapWarn φ) } := by
  simp only [analyse, mkCtx_map, unreachable_map, unusedAsg_map, mapCtx_unusedVars, mapCtx_unusedFns,
    mapCtx_removableAsg, mapCtx_removableDecls, mapCtx_row?, ← foldr_insertWarn_map]
  congr 2
  -- the warnings are four lists appended: the unreachable rows carry their own span (mapped with the row), the other
  -- three look their span up by statement id (`spanOf_map`)
  simp only [List.map_append, List.map_map, List.filter_map, Function.comp_def, mapWarn, mapCtx]
  have sp := spanOf_map φ hφ (mkCtx root facts)
  have app {a a' b b' : List Warn} (h1 : a = a') (h2 : b = b') : a ++ b = a' ++ b' := h1 ▸ h2 ▸ rfl
  refine app (app (app rfl ?_) ?_) ?_
  · exact List.map_congr_left fun s _ => congrArg _ (sp s false)
  · exact List.map_congr_left fun x _ => congrArg _ (sp x.1 true)
  · exact List.map_congr_left fun x _ => congrArg _ (sp x.1 true)

end Ana

end NaijaVerif.SpanMap


namespace NaijaVerif.SpanErase
open NaijaVerif NaijaVerif.Parse NaijaVerif.SpanMap NaijaVerif.CfgCount NaijaVerif.Analysis

@[simp] theorem eraseBlock_span : ∀ b : Block, (eraseBlock b).span = zspan
  | .mk _ _ => rfl

theorem countProgram_erase (root : Block) (facts : Facts) :
    countProgram (eraseBlock root) facts = countProgram root facts := by
  rw [eraseBlock_eq_mapBlock]; exact countProgram_map _ root facts

def eraseWarn (w : Warn) : Warn := { w with span := zspan }

theorem analyse_erase (root : Block) (facts : Facts) :
    analyse (eraseBlock root) facts
      = { analyse root facts with warns := (analyse root facts).warns.map eraseWarn } := by
  rw [eraseBlock_eq_mapBlock]; exact analyse_map _ rfl root facts


theorem countStmt_erase : ∀ (s : Stmt) (fb : FB) (cur : Bool),
    countStmt (eraseStmt s) fb cur = countStmt s fb cur := by
  intro s; rw [eraseStmt_eq_mapStmt]; exact (count_map _).1 s

theorem countStmts_erase : ∀ (ss : List Stmt) (fb : FB) (cur : Bool),
    countStmts (eraseStmts ss) fb cur = countStmts ss fb cur := by
  intro ss; rw [eraseStmts_eq_mapStmts]; exact (count_map _).2.1 ss

theorem discoverStmt_erase : ∀ (s : Stmt) (pb : PB), discoverStmt (eraseStmt s) pb = discoverStmt s pb := by
  intro s; rw [eraseStmt_eq_mapStmt]; exact (discover_map _).1 s

theorem discoverStmts_erase : ∀ (ss : List Stmt) (pb : PB),
    discoverStmts (eraseStmts ss) pb = discoverStmts ss pb := by
  intro ss; rw [eraseStmts_eq_mapStmts]; exact (discover_map _).2.1 ss

theorem classifyList_erase (capt : Nat → Bool) :
    ∀ es : List Expr, classifyList capt (eraseExprs es) = classifyList capt es := by
  intro es; rw [eraseExpr_eq_mapExpr.eraseExprs_eq_mapExprs]; exact (classify_map _ capt).2 es

theorem clsStmt_erase (lo : Nat → Option Nat) :
    ∀ (s : Stmt) (cur : Nat), clsStmt lo cur (eraseStmt s) = clsStmt lo cur s := by
  intro s; rw [eraseStmt_eq_mapStmt]; exact (cls_map _ lo).1 s

def eraseRow (r : Row) : Row := { r with span := zspan, auxSpan := zspan }

@[simp] theorem eraseRow_sid (r : Row) : (eraseRow r).sid = r.sid := rfl
@[simp] theorem eraseRow_kind (r : Row) : (eraseRow r).kind = r.kind := rfl
@[simp] theorem eraseRow_live (r : Row) : (eraseRow r).live = r.live := rfl
@[simp] theorem eraseRow_parentLive (r : Row) : (eraseRow r).parentLive = r.parentLive := rfl
@[simp] theorem eraseRow_span (r : Row) : (eraseRow r).span = zspan := rfl
@[simp] theorem eraseRow_auxSpan (r : Row) : (eraseRow r).auxSpan = zspan := rfl

theorem afterStmts_erase : ∀ (ss : List Stmt) (live : Bool), afterStmts live (eraseStmts ss) = afterStmts live ss := by
  intro ss; rw [eraseStmts_eq_mapStmts]; exact (after_map _).2 ss

theorem rowsStmt_erase : ∀ (s : Stmt) (pl live : Bool),
    rowsStmt pl live (eraseStmt s) = (rowsStmt pl live s).map eraseRow := by
  intro s; rw [eraseStmt_eq_mapStmt]; exact (rows_map _).1 s

def eraseCtx (c : Ctx) : Ctx := { c with rows := c.rows.map eraseRow }

@[simp] theorem eraseCtx_facts (c : Ctx) : (eraseCtx c).facts = c.facts := rfl
@[simp] theorem eraseCtx_cls (c : Ctx) : (eraseCtx c).cls = c.cls := rfl
@[simp] theorem eraseCtx_rows (c : Ctx) : (eraseCtx c).rows = c.rows.map eraseRow := rfl
@[simp] theorem eraseCtx_clsOf (c : Ctx) (sid : Nat) : (eraseCtx c).clsOf sid = c.clsOf sid := rfl
@[simp] theorem eraseCtx_eff? (c : Ctx) (sid : Nat) : (eraseCtx c).eff? sid = c.eff? sid := rfl
@[simp] theorem eraseCtx_reads (c : Ctx) (sid : Nat) : (eraseCtx c).reads sid = c.reads sid := rfl
@[simp] theorem eraseCtx_writes (c : Ctx) (sid : Nat) : (eraseCtx c).writes sid = c.writes sid := rfl
@[simp] theorem eraseCtx_callees (c : Ctx) (sid : Nat) : (eraseCtx c).callees sid = c.callees sid := rfl
@[simp] theorem eraseCtx_fnOf (c : Ctx) (sid : Nat) : (eraseCtx c).fnOf sid = c.fnOf sid := rfl
@[simp] theorem eraseCtx_owner (c : Ctx) (l : Nat) : (eraseCtx c).owner l = c.owner l := rfl
@[simp] theorem eraseCtx_nFns (c : Ctx) : (eraseCtx c).nFns = c.nFns := rfl
@[simp] theorem eraseCtx_direct (c : Ctx) (f : Nat) : (eraseCtx c).direct f = c.direct f := rfl
@[simp] theorem eraseCtx_calleesStar (c : Ctx) (f : Nat) : (eraseCtx c).calleesStar f = c.calleesStar f := rfl
@[simp] theorem eraseCtx_transReads (c : Ctx) (f : Nat) : (eraseCtx c).transReads f = c.transReads f := rfl
@[simp] theorem eraseCtx_transWrites (c : Ctx) (f : Nat) : (eraseCtx c).transWrites f = c.transWrites f := rfl
@[simp] theorem eraseCtx_calleeReads (c : Ctx) (f sid : Nat) :
    (eraseCtx c).calleeReads f sid = c.calleeReads f sid := rfl
@[simp] theorem eraseCtx_transfer (c : Ctx) (f sid : Nat) (s : LS) :
    (eraseCtx c).transfer f sid s = c.transfer f sid s := rfl

theorem lvStmt_erase (c : Ctx) (f nl : Nat) : ∀ (s : Stmt) (lc : LoopCtx) (st : LS),
    lvStmt (eraseCtx c) f nl lc (eraseStmt s) st = lvStmt c f nl lc s st := by
  intro s; rw [eraseStmt_eq_mapStmt]; exact (lv_map (fun _ => zspan) c f nl).1 s

def eraseBody (fb : Nat × List Stmt) : Nat × List Stmt := (fb.1, eraseStmts fb.2)

theorem bodiesStmt_erase : ∀ s : Stmt, bodiesStmt (eraseStmt s) = (bodiesStmt s).map eraseBody := by
  have h : eraseBody = mapBody (fun _ => zspan) := funext fun fb => congrArg (Prod.mk fb.1) (eraseStmts_eq_mapStmts fb.2)
  intro s; rw [eraseStmt_eq_mapStmt, h]; exact (bodies_map _).1 s

end NaijaVerif.SpanErase
