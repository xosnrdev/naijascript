import NaijaVerif.Lemmas.AnalysisExprOk
/-
Static side of the liveness simulation: the decidable, executable conditions `lokListB` under which a plan is covered by
`c03_live`.  They say, statement by statement along the very walk the liveness model `lvStmts` makes,
* the facts of the statement cover what its expressions do (`efitList`: own variables read are in `reads` and declared by
  a scope of the lexical chain `σ`, captured variables are in the function's transitive capture reads and declared
  outside the chain, user calls are among the callees),
* `writes` is the target of a store to an own variable, nothing for a store to a captured one, and only adds read
  variables for every other statement,
* a skipped statement is unreachable, or a store whose initialiser is quiet (`q`) and whose target is not live afterwards
  (in the model's own live set) or never read at all (`D2`); a skipped declaration moreover has no reference to its
  variable in the rest of its scope (`noRefB`),
* every loop fixpoint converged (`subset (head x) x`), no scope is instantiated twice along a lexical chain and every
  scope of the chain belongs to the function,
* `storeTabB` (independent of the plan): from it the model's own plan meets the rule for skipped statements
  (`Lemmas/AnalysisLiveModel.lean`),
* `pureFnB`: what makes `safe2B` a sound test for a quiet initialiser (`Lemmas/AnalysisPureCall.lean`).
-/
namespace NaijaVerif.C03
open NaijaVerif NaijaVerif.Analysis NaijaVerif.AEval

/-- Unlike `Setup` of the relational simulation (`Lemmas/AnalysisRel.lean`) it carries the analysis context itself, since
the conditions speak of the liveness model's own sets along its own walk.  Assumed of it program-wide: `LSetupOk`
(`Lemmas/AnalysisLiveSim.lean`). -/
structure LSetup where
  c : Ctx
  T : List (Nat × Bool)
  cfg : Cfg
  /-- locals no reachable statement of a body-reachable function reads, directly or through a callee -/
  D2 : Nat → Bool
  /-- declaring scope of a local (`Prims.dscope`) -/
  ds : Nat → Option Nat
  /-- scope of a statement (`Prims.sscope`) -/
  ss : Nat → Option Nat
  /-- sound test for a quiet initialiser of a statement of function `f` -/
  q : Nat → Expr → Bool
  /-- the model's unused-assignment verdicts (`Ctx.unusedAsg`) -/
  ua : List Nat
  /-- the model's unused-variable verdicts (`Ctx.unusedVars`: declaration statement, local) -/
  uv : List (Nat × Nat)

def LSetup.nl (L : LSetup) : Nat := L.c.facts.locals.length
def LSetup.BR (L : LSetup) (g : Nat) : Bool := L.c.bodyReachable.contains g
def LSetup.deadB (L : LSetup) (i : Nat) : Bool := L.T.contains (i, false)

def LSetup.inTags (L : LSetup) (σ : List (Option Nat)) (x : Nat) : Bool :=
  match L.ds x with
  | some tg => σ.contains (some tg)
  | none => false

def LSetup.varFit (L : LSetup) (f : Nat) (σ : List (Option Nat)) (i x : Nat) : Bool :=
  if L.c.owner x == some f then (L.c.reads i).contains x && L.inTags σ x
  else (L.c.transReads f).contains x && !L.inTags σ x

def LSetup.efitList (L : LSetup) (f : Nat) (σ : List (Option Nat)) (i : Nat) (es : List Expr) : Bool :=
  eOkList (fun g => (L.c.callees i).contains g) (fun x => !L.varFit f σ i x) es

def LSetup.baseB (L : LSetup) (f : Nat) (σ : List (Option Nat)) (i : Nat) (es : List Expr) : Bool :=
  L.c.fnOf i == f && L.efitList f σ i es

def LSetup.writesOkB (L : LSetup) (i : Nat) : Bool := subset (L.c.writes i) (L.c.reads i)

/-- For a statement that is not a store to an own variable. -/
def LSetup.otherB (L : LSetup) (i : Nat) : Bool :=
  (!L.cfg.skip i || L.deadB i) && !L.ua.contains i && L.uv.all (fun p => p.1 != i)

/-- Statement `j` does not refer to local `l`, directly or through a callee.  (In `Ctx`'s namespace for the dot notation;
not part of the model `Model/Analysis.lean`; likewise `Ctx.pureB`.) -/
def _root_.NaijaVerif.Analysis.Ctx.refFreeB (c : Ctx) (l j : Nat) : Bool :=
  !(c.reads j).contains l && !(c.writes j).contains l &&
  (c.callees j).all (fun g => !(c.transReads g).contains l && !(c.transWrites g).contains l)

mutual
  /-- Nested blocks included, nested function bodies not. -/
  def noRefB (c : Ctx) (l : Nat) : Stmt → Bool
    | .ifS _ (.mk t _) none sid _ => (match sid with | some j => !c.live j || c.refFreeB l j | none => true) && noRefListB c l t
    | .ifS _ (.mk t _) (some (.mk e _)) sid _ =>
        (match sid with | some j => !c.live j || c.refFreeB l j | none => true) && noRefListB c l t && noRefListB c l e
    | .loop _ (.mk b _) sid _ => (match sid with | some j => !c.live j || c.refFreeB l j | none => true) && noRefListB c l b
    | .block (.mk b _) sid _ => (match sid with | some j => !c.live j || c.refFreeB l j | none => true) && noRefListB c l b
    | .fnDef _ _ _ _ _ sid _ | .assign _ _ _ _ sid _ | .assignExisting _ _ _ _ sid _ | .assignIndex _ _ sid _
    | .ret _ sid _ | .brk sid _ | .cont sid _ | .expr _ sid _ =>
        (match sid with | some j => !c.live j || c.refFreeB l j | none => true)
  def noRefListB (c : Ctx) (l : Nat) : List Stmt → Bool
    | [] => true
    | s :: ss => noRefB c l s && noRefListB c l ss
end

def LSetup.scopeOwner (L : LSetup) (tg : Nat) : Option Nat := (L.c.facts.scopes[tg]?).map (·.owner)

def LSetup.blockOkB (L : LSetup) (f : Nat) (σ : List (Option Nat)) (b : List Stmt) : Bool :=
  match blockTag L.ss b with
  | none => true
  | some tg => !σ.contains (some tg) && L.scopeOwner tg == some f

def _root_.NaijaVerif.Analysis.Ctx.pureB (c : Ctx) (g : Nat) : Bool := c.transClass g == .pureNoTrap

mutual
  /-- `arityOk` with user calls allowed: only calls of global builtins must have exactly one argument. -/
  def arityOk2 : Expr → Bool
    | .call (.var name _ _) args fn _ => ((fn.isSome && (globalClass name).isNone) || args.length == 1) && arityOk2List args
    | .call (.member o _ _ _) args _ _ => arityOk2 o && arityOk2List args
    | .call _ args _ _ => arityOk2List args
    | .binary _ l r _ => arityOk2 l && arityOk2 r
    | .index a i _ _ => arityOk2 a && arityOk2 i
    | .array es _ => arityOk2List es
    | .unary _ e _ => arityOk2 e
    | .member o _ _ _ => arityOk2 o
    | .str _ _ | .num _ _ | .var _ _ _ | .bool _ _ | .null _ => true
  def arityOk2List : List Expr → Bool
    | [] => true
    | e :: es => arityOk2 e && arityOk2List es
end

def safe2B (c : Ctx) (g : Nat) (e : Expr) : Bool :=
  decide (classify (fun l => c.owner l != some g) e = .pureNoTrap) && arityOk2 e &&
  eOk (fun h => c.pureB h) (fun _ => false) e

def condSafeB (c : Ctx) (g : Nat) (e : Expr) : Bool :=
  safe2B c g e && (literalTy e == some .bool || literalTy e == some .null)

mutual
  /-- The body of a function with a `PureNoTrap` summary, as the purity argument needs it: every expression is safe,
  conditions are literally boolean, stores go to the function's own variables inside the scopes of the activation
  (`σ`), no nested definitions, no index assignment. -/
  def pureStmtB (cx : Ctx) (ds sc : Nat → Option Nat) (g : Nat) (σ : List (Option Nat)) : Stmt → Bool
    | .assign _ _ e (some _) (some _) _ => safe2B cx g e
    | .assignExisting _ _ e (some l) (some _) _ => safe2B cx g e && cx.owner l == some g && (match ds l with | some tg => σ.contains (some tg) | none => false)
    | .ifS c (.mk t _) none (some _) _ => condSafeB cx g c && pureBodyB cx ds sc g (blockTag sc t :: σ) t
    | .ifS c (.mk t _) (some (.mk e _)) (some _) _ =>
        condSafeB cx g c && pureBodyB cx ds sc g (blockTag sc t :: σ) t && pureBodyB cx ds sc g (blockTag sc e :: σ) e
    | .loop c (.mk b _) (some _) _ => condSafeB cx g c && pureBodyB cx ds sc g (blockTag sc b :: σ) b
    | .block (.mk b _) (some _) _ => pureBodyB cx ds sc g (blockTag sc b :: σ) b
    | .ret (some e) (some _) _ => safe2B cx g e
    | .ret none (some _) _ | .brk (some _) _ | .cont (some _) _ => true
    | .expr e (some _) _ => safe2B cx g e
    | .assign _ _ _ none _ _ | .assign _ _ _ (some _) none _ | .assignExisting _ _ _ none _ _
    | .assignExisting _ _ _ (some _) none _ | .assignIndex _ _ _ _ | .fnDef _ _ _ _ _ _ _
    | .ifS _ (.mk _ _) none none _ | .ifS _ (.mk _ _) (some (.mk _ _)) none _ | .loop _ (.mk _ _) none _
    | .block (.mk _ _) none _ | .ret (some _) none _ | .ret none none _ | .brk none _ | .cont none _ | .expr _ none _ => false
  def pureBodyB (cx : Ctx) (ds sc : Nat → Option Nat) (g : Nat) (σ : List (Option Nat)) : List Stmt → Bool
    | [] => true
    | s :: ss => pureStmtB cx ds sc g σ s && pureBodyB cx ds sc g σ ss
end

def LSetup.pureFnB (L : LSetup) (g : Nat) (ps : List Param) (body : List Stmt) : Bool :=
  !L.c.pureB g || pureBodyB L.c L.ds L.ss g [blockTag L.ss body, paramTag L.ds ps] body

/-- The model's tables and verdicts agree with THIS occurrence of the store `i`: the row kind and the recorded class are
the statement's, the builtin arities of the initialiser are respected, an unused-assignment verdict for `i` means the
target is not live after this occurrence, an unused-variable verdict for `i` concerns this target, and a declaration
the model calls removable has no reference to its variable in the rest of its scope. -/
def LSetup.storeTabB (L : LSetup) (f i : Nat) (isDecl : Bool) (l : Nat) (e : Expr) (st : LS) (rest : List Stmt) : Bool :=
  ((L.c.row? i).map (·.kind) == some (if isDecl then Kind.assign else Kind.assignExisting)) &&
  (L.c.clsOf i == classify (fun x => L.c.owner x != some f) e) &&
  arityOk2 e &&
  (!L.ua.contains i || !st.live.contains l) &&
  L.uv.all (fun p => p.1 != i || p.2 == l) &&
  (!isDecl || !L.c.declRemovable l i || noRefListB L.c l rest)

/-- Rule for `make l get e` (`isDecl`) / `l get e` to an own variable `l`, `st` = liveness state after it. -/
def LSetup.ownStoreB (L : LSetup) (f : Nat) (σ : List (Option Nat)) (i : Nat) (isDecl : Bool) (l : Nat) (e : Expr)
    (st : LS) (rest : List Stmt) : Bool :=
  L.c.writes i == [l] &&
  (if isDecl then (match L.ds l with | some tg => σ.head? == some (some tg) | none => false) else L.inTags σ l) &&
  L.storeTabB f i isDecl l e st rest &&
  (!L.cfg.skip i || L.deadB i ||
    (L.q f e && (!st.live.contains l || L.D2 l) && (!isDecl || noRefListB L.c l rest)))

/-- One round of the loop-head iteration of `lvStmt`, whose least fixpoint is the live set before a loop (`lvStmt_loop`).
The loop arm of `lokB` (local `head`), `ResolveStruct.loopX` and `ResolveStruct.atomsOf` (field `fix`) write the same round
out in place; it unfolds to `loopHead L.c f L.nl i b st.live` in each, which is how `lstep_loop` reads `lokB`'s conjuncts. -/
def loopHead (c : Ctx) (f nl j : Nat) (b : List Stmt) (a : List Nat) (x : List Nat) : List Nat :=
  (c.transfer f j (boundary (uni
    (lvStmts c f nl { brk := some a, cont := some x, kills := c.scopeLocalsOf b } b (boundary (dif x (c.scopeLocalsOf b)))).1.live a))).live

mutual
  /-- `s` is a statement of function `f` under the lexical chain `σ` and loop context `lc`; `st` is the liveness state
  after it and `rest` the statements that follow it in its block. -/
  def lokB (L : LSetup) (f : Nat) (σ : List (Option Nat)) (lc : LoopCtx) : Stmt → LS → List Stmt → Bool
    | .assign _ _ e b (some i) _, st, rest =>
        L.baseB f σ i [e] &&
        (match b with
         | some l => L.c.owner l == some f && L.ownStoreB f σ i true l e st rest
         | none => L.otherB i)
    | .assignExisting _ _ e b (some i) _, st, rest =>
        L.baseB f σ i [e] &&
        (match b with
         | some l =>
            if L.c.owner l == some f then L.ownStoreB f σ i false l e st rest
            else (L.c.writes i).isEmpty && (L.c.transWrites f).contains l && !L.inTags σ l && L.otherB i
         | none => L.otherB i)
    | .assignIndex t e (some i) _, _, _ => L.baseB f σ i [t, e] && L.writesOkB i && L.otherB i
    | .ifS c (.mk t _) none (some i) _, st, _ =>
        L.baseB f σ i [c] && L.writesOkB i && L.otherB i && L.blockOkB f σ t &&
        lokListB L f (blockTag L.ss t :: σ) { lc with kills := uni (L.c.scopeLocalsOf t) lc.kills } t
          (boundary (dif st.live (L.c.scopeLocalsOf t)))
    | .ifS c (.mk t _) (some (.mk e _)) (some i) _, st, _ =>
        L.baseB f σ i [c] && L.writesOkB i && L.otherB i && L.blockOkB f σ t && L.blockOkB f σ e &&
        lokListB L f (blockTag L.ss t :: σ) { lc with kills := uni (L.c.scopeLocalsOf t) lc.kills } t
          (boundary (dif st.live (L.c.scopeLocalsOf t))) &&
        lokListB L f (blockTag L.ss e :: σ) { lc with kills := uni (L.c.scopeLocalsOf e) lc.kills } e
          (boundary (dif st.live (L.c.scopeLocalsOf e)))
    | .loop c (.mk b _) (some i) _, st, _ =>
        let bl := L.c.scopeLocalsOf b
        let a := st.live
        let head (x : List Nat) : List Nat :=
          (L.c.transfer f i (boundary (uni
            (lvStmts L.c f L.nl { brk := some a, cont := some x, kills := bl } b (boundary (dif x bl))).1.live a))).live
        let x := lfp head (L.nl + 1) []
        L.baseB f σ i [c] && L.writesOkB i && L.otherB i && L.blockOkB f σ b && subset (head x) x &&
        lokListB L f (blockTag L.ss b :: σ) { brk := some a, cont := some x, kills := bl } b (boundary (dif x bl))
    | .block (.mk b _) (some i) _, st, _ =>
        let sl := L.c.scopeLocalsOf b
        L.baseB f σ i [] && L.writesOkB i && L.otherB i && L.blockOkB f σ b &&
        lokListB L f (blockTag L.ss b :: σ) { lc with kills := uni sl lc.kills } b
          { live := uni (inter st.gen sl) (dif st.live sl), gen := st.gen }
    | .fnDef _ _ ps (.mk body _) (some g) (some i) _, _, _ =>
        L.baseB f σ i [] && L.writesOkB i && L.otherB i &&
        L.blockOkB g [paramTag L.ds ps] body && (match paramTag L.ds ps with | some tg => L.scopeOwner tg == some g | none => true) &&
        L.pureFnB g ps body &&
        lokListB L g [blockTag L.ss body, paramTag L.ds ps] { brk := none, cont := none, kills := [] } body (boundary [])
    | .fnDef _ _ _ (.mk _ _) none (some i) _, _, _ => L.baseB f σ i [] && L.writesOkB i && L.otherB i
    | .ret (some e) (some i) _, _, _ => L.baseB f σ i [e] && L.writesOkB i && L.otherB i
    | .ret none (some i) _, _, _ => L.baseB f σ i [] && L.writesOkB i && L.otherB i
    | .brk (some i) _, _, _ => L.baseB f σ i [] && L.writesOkB i && L.otherB i
    | .cont (some i) _, _, _ => L.baseB f σ i [] && L.writesOkB i && L.otherB i
    | .expr e (some i) _, _, _ => L.baseB f σ i [e] && L.writesOkB i && L.otherB i
    | .fnDef _ _ ps (.mk body _) (some g) none _, _, _ =>
        L.blockOkB g [paramTag L.ds ps] body && (match paramTag L.ds ps with | some tg => L.scopeOwner tg == some g | none => true) &&
        L.pureFnB g ps body &&
        lokListB L g [blockTag L.ss body, paramTag L.ds ps] { brk := none, cont := none, kills := [] } body (boundary [])
    | .assign _ _ _ _ none _, _, _ | .assignExisting _ _ _ _ none _, _, _ | .assignIndex _ _ none _, _, _
    | .ifS _ (.mk _ _) none none _, _, _ | .ifS _ (.mk _ _) (some (.mk _ _)) none _, _, _ | .loop _ (.mk _ _) none _, _, _
    | .block (.mk _ _) none _, _, _ | .fnDef _ _ _ (.mk _ _) none none _, _, _ | .ret _ none _, _, _ | .brk none _, _, _
    | .cont none _, _, _ | .expr _ none _, _, _ => true
  def lokListB (L : LSetup) (f : Nat) (σ : List (Option Nat)) (lc : LoopCtx) : List Stmt → LS → Bool
    | [], _ => true
    | s :: ss, post => lokB L f σ lc s (lvStmts L.c f L.nl lc ss post).1 ss && lokListB L f σ lc ss post
end

/-- What `lokB` asks of a function definition with its body, in either of its two `fnDef` arms (`lokB_fnDef`): the
invariant of the function scopes (`FnsOkL`).  It mentions `lokListB`, so `lokB` could only call it as a third member of the
mutual block; the arms write it out instead. -/
def fnOkB (L : LSetup) (g : Nat) (ps : List Param) (body : List Stmt) : Bool :=
  L.blockOkB g [paramTag L.ds ps] body && (match paramTag L.ds ps with | some tg => L.scopeOwner tg == some g | none => true) &&
  L.pureFnB g ps body &&
  lokListB L g [blockTag L.ss body, paramTag L.ds ps] { brk := none, cont := none, kills := [] } body (boundary [])

theorem noRefList_cons {c : Ctx} {l : Nat} {s : Stmt} {ss : List Stmt} (h : noRefListB c l (s :: ss) = true) :
    noRefB c l s = true ∧ noRefListB c l ss = true := by
  simpa [noRefListB] using h

theorem noRefB_sid {c : Ctx} {l j : Nat} {s : Stmt} (h : noRefB c l s = true) (hs : s.sid = some j) :
    (!c.live j || c.refFreeB l j) = true := by
  cases s with
  | ifS cnd t e sid sp =>
    cases hs
    obtain ⟨t, ts⟩ := t
    rcases e with _ | ⟨e, es⟩ <;> simp only [noRefB, Bool.and_eq_true] at h
    · exact h.1
    · exact h.1.1
  | loop cnd b sid sp | block b sid sp =>
    cases hs
    obtain ⟨b, bs⟩ := b
    simp only [noRefB, Bool.and_eq_true] at h
    exact h.1
  | fnDef | assign | assignExisting | assignIndex | ret | brk | cont | expr =>
    cases hs
    simpa only [noRefB] using h

theorem lokB_fnDef {L : LSetup} {f : Nat} {σ : List (Option Nat)} {lc : LoopCtx} {nm : Bytes} {ns : Span} {ps : List Param}
    {body : List Stmt} {bs : Span} {g : Nat} {sid : Option Nat} {sp : Span} {st : LS} {rest : List Stmt}
    (h : lokB L f σ lc (.fnDef nm ns ps (.mk body bs) (some g) sid sp) st rest = true) : fnOkB L g ps body = true := by
  cases sid with
  | none => exact h
  | some i =>
    simp only [lokB, Bool.and_eq_true] at h
    simp only [fnOkB, Bool.and_eq_true]
    exact ⟨⟨⟨h.1.1.1.2, h.1.1.2⟩, h.1.2⟩, h.2⟩

theorem lokListB_cons {L : LSetup} {f : Nat} {σ : List (Option Nat)} {lc : LoopCtx} {s : Stmt} {ss : List Stmt} {post : LS}
    (h : lokListB L f σ lc (s :: ss) post = true) :
    lokB L f σ lc s (lvStmts L.c f L.nl lc ss post).1 ss = true ∧ lokListB L f σ lc ss post = true := by
  simpa only [lokListB, Bool.and_eq_true] using h

theorem lvStmt_if_none (c : Ctx) (f nl : Nat) (lc : LoopCtx) (cnd : Expr) (t : List Stmt) (ts : Span) (j : Nat) (sp : Span) (st : LS) :
    (lvStmt c f nl lc (.ifS cnd (.mk t ts) none (some j) sp) st).1 =
      c.transfer f j (boundary (uni
        (lvStmts c f nl { lc with kills := uni (c.scopeLocalsOf t) lc.kills } t (boundary (dif st.live (c.scopeLocalsOf t)))).1.live
        st.live)) := by
  simp only [lvStmt]
  rfl

theorem lvStmt_if_some (c : Ctx) (f nl : Nat) (lc : LoopCtx) (cnd : Expr) (t e : List Stmt) (ts es : Span) (j : Nat) (sp : Span) (st : LS) :
    (lvStmt c f nl lc (.ifS cnd (.mk t ts) (some (.mk e es)) (some j) sp) st).1 =
      c.transfer f j (boundary (uni
        (lvStmts c f nl { lc with kills := uni (c.scopeLocalsOf t) lc.kills } t (boundary (dif st.live (c.scopeLocalsOf t)))).1.live
        (lvStmts c f nl { lc with kills := uni (c.scopeLocalsOf e) lc.kills } e (boundary (dif st.live (c.scopeLocalsOf e)))).1.live)) := by
  simp only [lvStmt]

theorem lvStmt_block (c : Ctx) (f nl : Nat) (lc : LoopCtx) (b : List Stmt) (bs : Span) (j : Nat) (sp : Span) (st : LS) :
    (lvStmt c f nl lc (.block (.mk b bs) (some j) sp) st).1 =
      c.transfer f j
        (lvStmts c f nl { lc with kills := uni (c.scopeLocalsOf b) lc.kills } b
          { live := uni (inter st.gen (c.scopeLocalsOf b)) (dif st.live (c.scopeLocalsOf b)), gen := st.gen }).1 := by
  simp only [lvStmt]

theorem lvStmt_loop (c : Ctx) (f nl : Nat) (lc : LoopCtx) (cnd : Expr) (b : List Stmt) (bs : Span) (j : Nat) (sp : Span) (st : LS) :
    (lvStmt c f nl lc (.loop cnd (.mk b bs) (some j) sp) st).1 =
      boundary (lfp (loopHead c f nl j b st.live) (nl + 1) []) := by
  simp only [lvStmt]
  rfl

theorem lvStmts_cons (c : Ctx) (f nl : Nat) (lc : LoopCtx) (s : Stmt) (ss : List Stmt) (st : LS) :
    (lvStmts c f nl lc (s :: ss) st).1 = (lvStmt c f nl lc s (lvStmts c f nl lc ss st).1).1 := by
  simp only [lvStmts]

end NaijaVerif.C03
