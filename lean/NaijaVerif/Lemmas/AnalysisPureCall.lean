import NaijaVerif.Lemmas.AnalysisLiveSim
import NaijaVerif.Lemmas.AnalysisNoTrap
/-
Interprocedural `PureNoTrap` (T2 for calls): in the plain run, an expression classified `PureNoTrap` whose user calls all
go to functions with a `PureNoTrap` summary evaluates to a value (or ends in fuel exhaustion, an unbound variable or a
panic) and restores variables, function scopes and output — the callee's activations only touch their own scopes, which
are popped on return.  This is `QuietIn` for the test `safe2B`.
-/
namespace NaijaVerif.C03
open NaijaVerif NaijaVerif.Analysis NaijaVerif.AEval

variable {V : Type}

/-- The tags of an environment (`tagsOf`, `AnalysisLive`, are those of a `SigM`). -/
def tagsE (env : List (Scope V)) : List (Option Nat) := env.map (·.tag)

def SameS (st st' : St V) : Prop := st'.env = st.env ∧ st'.out = st.out ∧ st'.fns = st.fns

theorem SameS.refl (st : St V) : SameS st st := ⟨rfl, rfl, rfl⟩
theorem SameS.trans {a b c : St V} (h1 : SameS a b) (h2 : SameS b c) : SameS a c :=
  ⟨h2.1.trans h1.1, h2.2.1.trans h1.2.1, h2.2.2.trans h1.2.2⟩

/-- Outcome of statements of a pure activation whose scopes (tags `σ`) lie above `base`: the run ends with an environment
`inner' ++ base` where `tagsE inner' = σ`, output and function scopes as in `st`. -/
def PRes (σ : List (Option Nat)) (base : List (Scope V)) (st : St V) (r : R V (Flow V)) : Prop :=
  ((∃ fl, r.1 = .ok fl) ∨ Bad r.1) ∧ (∃ inner', r.2.env = inner' ++ base ∧ tagsE inner' = σ) ∧
  r.2.out = st.out ∧ r.2.fns = st.fns

def safe2ListB (c : Ctx) (g : Nat) (es : List Expr) : Bool :=
  decide (classifyList (fun l => c.owner l != some g) es = .pureNoTrap) && arityOk2List es &&
  eOkList (fun h => c.pureB h) (fun _ => false) es

theorem safe2_iff {c : Ctx} {g : Nat} {e : Expr} : safe2B c g e = true ↔
    classify (fun l => c.owner l != some g) e = .pureNoTrap ∧ arityOk2 e = true ∧
      eOk (fun h => c.pureB h) (fun _ => false) e = true := by
  simp [safe2B, and_assoc]

theorem safe2List_iff {c : Ctx} {g : Nat} {es : List Expr} : safe2ListB c g es = true ↔
    classifyList (fun l => c.owner l != some g) es = .pureNoTrap ∧ arityOk2List es = true ∧
      eOkList (fun h => c.pureB h) (fun _ => false) es = true := by
  simp [safe2ListB, and_assoc]

theorem literal_noUserCall : ∀ (e : Expr) (t : LTy), literalTy e = some t → noUserCall e = true := by
  -- nothing is claimed of lists; the second conclusion is what `Expr.walk` asks for
  suffices h : (∀ (e : Expr) (t : LTy), literalTy e = some t → noUserCall e = true) ∧ ∀ _ : List Expr, True from h.1
  apply Expr.walk
  case unary =>
    intro op x _ ih t h
    cases hx : literalTy x with
    | none => rw [literalTy, hx] at h; cases h
    | some tx => exact ih tx hx
  case binary =>
    intro op l r _ ihl ihr t h
    rw [literalTy] at h
    cases hl : literalTy l with
    | none => rw [hl] at h; cases h
    | some tl =>
      cases hr : literalTy r with
      | none => rw [hl, hr] at h; cases h
      | some tr => exact Bool.and_eq_true_iff.mpr ⟨ihl tl hl, ihr tr hr⟩
  case str => exact fun _ _ _ _ => rfl
  case num => exact fun _ _ _ _ => rfl
  case bool => exact fun _ _ _ _ => rfl
  case null => exact fun _ _ _ => rfl
  case var => intro _ _ _ _ h; cases h
  case index => intro _ _ _ _ _ _ _ h; cases h
  case callMember => intro _ _ _ _ _ _ _ _ _ _ h; cases h
  case call => intro _ _ _ _ _ _ _ _ h; cases h
  case array => intro _ _ _ _ h; cases h
  case member => intro _ _ _ _ _ _ h; cases h
  case nil => trivial
  case cons => exact fun _ _ _ _ => trivial

/- The three tests compute on an expression of known form; they differ at the call of a name only, where `arityOk2`
excuses a user call from having one argument. -/
theorem arityOk_walk : (∀ e : Expr, noUserCall e = true → arityOk2 e = true → arityOk e = true) ∧
    (∀ es : List Expr, noUserCallList es = true → arityOk2List es = true → arityOkList es = true) := by
  apply Expr.walk
  case index => exact fun _ _ _ _ iha ihi => and_imp2 iha ihi
  case str => exact fun _ _ _ _ => rfl
  case num => exact fun _ _ _ _ => rfl
  case var => exact fun _ _ _ _ _ => rfl
  case binary => exact fun _ _ _ _ ihl ihr => and_imp2 ihl ihr
  case callMember => exact fun _ _ _ _ _ _ _ iho iha => and_imp2 iho iha
  case call =>
    intro c args fn _ hc _ iha
    cases c with
    | var name _ _ =>
      refine and_imp2 (fun hn ha => ?_) iha
      -- no user call: `fn` is `none`, so the argument count was checked
      cases fn with
      | none => exact ha
      | some _ => cases hn
    | member o fld fs ms => exact absurd rfl (hc o fld fs ms)
    | _ => exact iha
  case array => exact fun _ _ ih => ih
  case unary => exact fun _ _ _ ih => ih
  case bool => exact fun _ _ _ _ => rfl
  case member => exact fun _ _ _ _ ih => ih
  case null => exact fun _ _ _ => rfl
  case nil => exact fun _ _ => rfl
  case cons => exact fun _ _ ihe ihes => and_imp2 ihe ihes

theorem arityOk_of_2 : ∀ e : Expr, noUserCall e = true → arityOk2 e = true → arityOk e = true := arityOk_walk.1

theorem arityOkList_of_2 : ∀ es : List Expr, noUserCallList es = true → arityOk2List es = true → arityOkList es = true :=
  arityOk_walk.2

/-- By computation; `pstep_stmt` gets the same from `congrArg (defineEnv l v)`. -/
theorem defineEnv_append {l : Nat} {v : V} (sc : Scope V) (inner base : List (Scope V)) :
    defineEnv l v ((sc :: inner) ++ base) = ({ sc with slots := ⟨l, v⟩ :: sc.slots } :: inner) ++ base := rfl

theorem setIn_append {tg l : Nat} {v : V} : ∀ (inner base : List (Scope V)), some tg ∈ tagsE inner →
    setIn tg l v (inner ++ base) = (setIn tg l v inner).map (· ++ base)
  | [], _, h => by simp [tagsE] at h
  | sc :: inner, base, h => by
      simp only [List.cons_append, setIn]
      by_cases ht : sc.tag = some tg
      · simp only [ht, beq_self_eq_true, ↓reduceIte]
        cases setSlot l v sc.slots <;> simp
      · have hne : (sc.tag == some tg) = false := by simpa using ht
        simp only [hne, Bool.false_eq_true, ↓reduceIte]
        have h' : some tg ∈ tagsE inner := by
          simp only [tagsE, List.map_cons, List.mem_cons] at h
          rcases h with h | h
          · exact absurd h.symm ht
          · exact h
        rw [setIn_append inner base h']
        cases setIn tg l v inner <;> simp

theorem setIn_tags {tg l : Nat} {v : V} : ∀ (inner inner' : List (Scope V)), setIn tg l v inner = some inner' →
    tagsE inner' = tagsE inner
  | sc :: inner, inner', h => by
      rcases setIn_some h with ⟨_, s', _, rfl⟩ | ⟨_, t, ht, rfl⟩
      · rfl
      · exact congrArg (sc.tag :: ·) (setIn_tags inner t ht)

def EndsS {α : Type} (l : List Err) (T : α → Prop) (st : St V) (r : R V α) : Prop := Ends l T r.1 ∧ SameS st r.2

theorem EndsS.ok {α : Type} {l : List Err} {T : α → Prop} {v : α} (hv : T v) (st : St V) :
    EndsS l T st (.ok v, st) := ⟨hv, SameS.refl st⟩

theorem EndsS.error {α : Type} {l : List Err} {T : α → Prop} {e : Err} (he : e ∈ l) (st : St V) :
    EndsS l T st (.error e, st) := ⟨he, SameS.refl st⟩

theorem EndsS.of_same {α : Type} {l : List Err} {T : α → Prop} {st st0 : St V} {r : R V α} (hs : SameS st st0)
    (h : EndsS l T st0 r) : EndsS l T st r := ⟨h.1, hs.trans h.2⟩

theorem EndsS.andThen {α β : Type} {l : List Err} {T : α → Prop} {Q : β → Prop} {st : St V} {r : R V α}
    {k : α → St V → R V β} (h : EndsS l T st r) (hk : ∀ v s1, T v → SameS st s1 → EndsS l Q s1 (k v s1)) :
    EndsS l Q st (andThen r k) := by
  obtain ⟨x, s1⟩ := r
  cases x with
  | error e => exact h
  | ok v => exact .of_same h.2 (hk v s1 h.1 h.2)

theorem PRes.ends {σ : List (Option Nat)} {base : List (Scope V)} {st : St V} {r : R V (Flow V)} (h : PRes σ base st r) :
    Ends badErrs (fun _ => True) r.1 :=
  ends_bad.mpr (h.1.imp (fun ⟨fl, hfl⟩ => ⟨fl, hfl, trivial⟩) id)

theorem pres_of_same {σ : List (Option Nat)} {inner base : List (Scope V)} {st st1 : St V} {x : Except Err (Flow V)}
    (hs : SameS st st1) (he : st.env = inner ++ base) (ht : tagsE inner = σ) (hx : Ends badErrs (fun _ => True) x) :
    PRes σ base st ((x, st1) : R V (Flow V)) :=
  ⟨(ends_bad.mp hx).imp (fun ⟨fl, hfl, _⟩ => ⟨fl, hfl⟩) id, ⟨inner, hs.1.trans he, ht⟩, hs.2.1, hs.2.2⟩

theorem pres_trans {σ : List (Option Nat)} {base : List (Scope V)} {st st1 : St V} {r : R V (Flow V)}
    (hs : SameS st st1) (h : PRes σ base st1 r) : PRes σ base st r :=
  ⟨h.1, h.2.1, h.2.2.1.trans hs.2.1, h.2.2.2.trans hs.2.2⟩

theorem PRes.ofEnds {α : Type} {T : α → Prop} {σ : List (Option Nat)} {inner base : List (Scope V)} {st : St V}
    {r : R V α} {k : α → St V → R V (Flow V)} (h : EndsS badErrs T st r) (he : st.env = inner ++ base)
    (ht : tagsE inner = σ) (hk : ∀ v s1, T v → SameS st s1 → PRes σ base st (k v s1)) :
    PRes σ base st (andThen r k) := by
  obtain ⟨x, s1⟩ := r
  cases x with
  | error e => exact pres_of_same h.2 he ht h.1
  | ok v => exact hk v s1 h.1 h.2

theorem PRes.andThen {σ : List (Option Nat)} {base : List (Scope V)} {st : St V} {r : R V (Flow V)}
    {k : Flow V → St V → R V (Flow V)} (h : PRes σ base st r)
    (hk : ∀ fl s1 inner', s1.env = inner' ++ base → tagsE inner' = σ → s1.fns = st.fns → PRes σ base s1 (k fl s1)) :
    PRes σ base st (andThen r k) := by
  obtain ⟨x, s1⟩ := r
  obtain ⟨hres, ⟨inner', henv, htags⟩, hout, hfns⟩ := h
  cases x with
  | error e => exact ⟨hres, ⟨inner', henv, htags⟩, hout, hfns⟩
  | ok fl =>
    have h2 := hk fl s1 inner' henv htags hfns
    exact ⟨h2.1, h2.2.1, h2.2.2.1.trans hout, h2.2.2.2.trans hfns⟩

/-- T2 with calls, for the plain run: a `safe2B` expression restores the state (`EndsS`); the statements of a pure body
(`pureBodyB`) touch only the scopes of their own activation (`PRes`). -/
structure PSim (P : Prims V) (ty : V → LTy → Prop) (L : LSetup) (n : Nat) : Prop where
  expr : ∀ (e : Expr) (st : St V) (g : Nat), safe2B L.c g e = true → FnsOkL L st.fns →
    EndsS badErrs (fun v => ∀ t, literalTy e = some t → ty v t) st (evalExpr P plain n e st)
  list : ∀ (es : List Expr) (st : St V) (g : Nat), safe2ListB L.c g es = true → FnsOkL L st.fns →
    EndsS badErrs (TypedAll ty es) st (evalList P plain n es st)
  block : ∀ (ss : List Stmt) (st : St V) (g : Nat) (σ : List (Option Nat)) (inner base : List (Scope V)),
    pureBodyB L.c L.ds L.ss g (blockTag L.ss ss :: σ) ss = true → st.env = inner ++ base → tagsE inner = σ →
    FnsOkL L st.fns → PRes σ base st (execBlock P plain n ss st)
  stmts : ∀ (ss : List Stmt) (st : St V) (g : Nat) (tg : Option Nat) (σ : List (Option Nat)) (inner base : List (Scope V)),
    pureBodyB L.c L.ds L.ss g (tg :: σ) ss = true → st.env = inner ++ base → tagsE inner = tg :: σ →
    FnsOkL L st.fns → PRes (tg :: σ) base st (execStmts P plain n ss st)
  stmt : ∀ (s : Stmt) (st : St V) (g : Nat) (tg : Option Nat) (σ : List (Option Nat)) (inner base : List (Scope V)),
    pureStmtB L.c L.ds L.ss g (tg :: σ) s = true → st.env = inner ++ base → tagsE inner = tg :: σ →
    FnsOkL L st.fns → PRes (tg :: σ) base st (execStmt P plain n s st)
  loop : ∀ (c : Expr) (bd : List Stmt) (st : St V) (g : Nat) (tg : Option Nat) (σ : List (Option Nat)) (inner base : List (Scope V)),
    condSafeB L.c g c = true → pureBodyB L.c L.ds L.ss g (blockTag L.ss bd :: tg :: σ) bd = true →
    st.env = inner ++ base → tagsE inner = tg :: σ → FnsOkL L st.fns →
    PRes (tg :: σ) base st (execLoop P plain n c bd st)

theorem psim_zero (P : Prims V) (ty : V → LTy → Prop) (L : LSetup) : PSim P ty L 0 where
  expr _ st _ _ _ := .error fuel_bad st
  list _ st _ _ _ := .error fuel_bad st
  block _ st _ _ _ _ _ he ht _ := pres_of_same (.refl st) he ht fuel_bad
  stmts _ st _ _ _ _ _ _ he ht _ := pres_of_same (.refl st) he ht fuel_bad
  stmt _ st _ _ _ _ _ _ he ht _ := pres_of_same (.refl st) he ht fuel_bad
  loop _ _ st _ _ _ _ _ _ _ he ht _ := pres_of_same (.refl st) he ht fuel_bad

section pstep
variable {P : Prims V} {ty : V → LTy → Prop} {L : LSetup} {n : Nat}

theorem pexpr_nocall (Lw : Lawful P ty) (g : Nat) (e : Expr) (m : Nat) (st : St V) (h : safe2B L.c g e = true)
    (hnu : noUserCall e = true) :
    EndsS badErrs (fun v => ∀ t, literalTy e = some t → ty v t) st (evalExpr P plain m e st) := by
  obtain ⟨hc, ha, _⟩ := safe2_iff.mp h
  have hst := (pure_all P plain m).expr e st
    (effectFree_of_class Lw.toTablesAgree _ e (by rw [hc]; simp) hnu)
  refine ⟨?_, by rw [hst]; exact SameS.refl st⟩
  exact ((noTrap_all Lw _ plain m).expr e st ⟨hc, hnu, arityOk_of_2 e hnu ha⟩).mono soft_sub_bad fun _ h => h

theorem safe2List_cons {g : Nat} {e : Expr} {es : List Expr} (h : safe2ListB L.c g (e :: es) = true) :
    safe2B L.c g e = true ∧ safe2ListB L.c g es = true := by
  obtain ⟨hc, ha, hk⟩ := safe2List_iff.mp h
  have hj := join_eq_noTrap hc
  have ha' := Bool.and_eq_true_iff.mp ha
  have hk' := Bool.and_eq_true_iff.mp hk
  exact ⟨safe2_iff.mpr ⟨hj.1, ha'.1, hk'.1⟩, safe2List_iff.mpr ⟨hj.2, ha'.2, hk'.2⟩⟩

theorem pstep_list (ih : PSim P ty L n) : ∀ (es : List Expr) (st : St V) (g : Nat), safe2ListB L.c g es = true →
    FnsOkL L st.fns → EndsS badErrs (TypedAll ty es) st (evalList P plain (n + 1) es st)
  | [], st, g, _, _ => by rw [evalList_nil]; exact .ok (v := []) trivial st
  | e :: es, st, g, h, hf => by
      obtain ⟨he, hes⟩ := safe2List_cons h
      rw [evalList_cons]
      refine (ih.expr e st g he hf).andThen fun v s1 ht hs1 => ?_
      refine (ih.list es s1 g hes (by rw [hs1.2.2]; exact hf)).andThen fun vs s2 hts _ => ?_
      exact .ok ⟨ht, hts⟩ s2

theorem tagsE_cons {inner : List (Scope V)} {t : Option Nat} {σ : List (Option Nat)} (h : tagsE inner = t :: σ) :
    ∃ sc rest, inner = sc :: rest ∧ tagsE rest = σ := by
  cases inner with
  | nil => cases h
  | cons sc rest => exact ⟨sc, rest, rfl, (List.cons.inj h).2⟩

theorem tagsE_single {inner : List (Scope V)} {t : Option Nat} (h : tagsE inner = [t]) : ∃ sc, inner = [sc] := by
  obtain ⟨sc, rest, rfl, hr⟩ := tagsE_cons h
  cases rest with
  | nil => exact ⟨sc, rfl⟩
  | cons _ _ => cases hr

theorem pstep_userCall (hd : P.dscope = L.ds) (ih : PSim P ty L n) (k : Nat) (args : List Expr) (st : St V) (g : Nat)
    (hargs : safe2ListB L.c g args = true) (hpure : L.c.pureB k = true) (hf : FnsOkL L st.fns) :
    EndsS badErrs (fun _ => True) st (userCall P plain n k args st) := by
  have hs0 : SameS st { st with looked := k :: st.looked } := ⟨rfl, rfl, rfl⟩
  unfold userCall
  cases hfd : findFnC plain k st.fns with
  | none => exact ⟨panic_bad, hs0⟩
  | some fd =>
    dsimp only
    have hfd' : findFn k st.fns = some fd := hfd
    have hpf := (fnOk_parts (findFn_ok hf hfd')).2.2.1
    simp only [LSetup.pureFnB, (findFn_mem hfd').1, hpure, Bool.not_true, Bool.false_or] at hpf
    refine .of_same hs0 ((ih.list args { st with looked := k :: st.looked } g hargs hf).andThen fun vs s1 _ hs1 => ?_)
    cases bindParams fd.params vs with
    | none => exact .error panic_bad s1
    | some slots =>
      dsimp only
      rw [hd]
      have hb := ih.block fd.body (s1.push ⟨paramTag L.ds fd.params, slots⟩ []) k [paramTag L.ds fd.params]
        [⟨paramTag L.ds fd.params, slots⟩] s1.env hpf rfl rfl (FnsAll.push (by rw [hs1.2.2]; exact hf) fun _ h => nomatch h)
      have hx := hb.ends
      generalize execBlock P plain n fd.body (s1.push ⟨paramTag L.ds fd.params, slots⟩ []) = r3 at hb hx ⊢
      obtain ⟨x3, s3⟩ := r3
      obtain ⟨_, ⟨inner', henv, htags⟩, hout, hfns⟩ := hb
      obtain ⟨sc, rfl⟩ := tagsE_single htags
      refine ⟨?_, ?_, hout, ?_⟩
      · cases x3 with
        | error e => exact hx
        | ok fl =>
          cases fl with
          | normal | ret _ => trivial
          | brk | cont => exact panic_bad
      · exact (congrArg (List.drop 1) henv : _)
      · exact (congrArg (List.drop 1) hfns : _)

theorem pstep_expr (hd : P.dscope = L.ds) (Lw : Lawful P ty) (ih : PSim P ty L n) (e : Expr) (st : St V) (g : Nat)
    (h : safe2B L.c g e = true) (hf : FnsOkL L st.fns) :
    EndsS badErrs (fun v => ∀ t, literalTy e = some t → ty v t) st (evalExpr P plain (n + 1) e st) := by
  by_cases hnu : noUserCall e = true
  · exact pexpr_nocall Lw g e (n + 1) st h hnu
  -- a user call sits in an array or in the argument of a call: operators have literal operands
  obtain ⟨hc, ha, hk⟩ := safe2_iff.mp h
  cases e with
  | array es sp =>
    rw [evalExpr_node (by intro hsp; cases hsp), finishNode_eq]
    refine (ih.list es st g (safe2List_iff.mpr ⟨hc, ha, hk⟩) hf).andThen fun vs s1 _ _ => ?_
    obtain ⟨v, hv⟩ := Lw.array es sp (vs ++ [])
    have hv' : nodeValue P (.array es sp) vs s1.env = .ok v := hv
    rw [hv']
    exact .ok (fun t ht => by cases ht) s1
  | call f args fn sp =>
    cases f with
    | var name b1 s1 =>
      have ha' : ((fn.isSome = true ∧ (globalClass name).isNone = true) ∨ args.length = 1) ∧ arityOk2List args = true := by
        simpa only [arityOk2, Bool.and_eq_true, Bool.or_eq_true, beq_iff_eq] using ha
      have hk' := Bool.and_eq_true_iff.mp hk
      rw [evalExpr_callName]
      cases hg : globalClass name with
      | none =>
        have hgl : ¬ P.isGlobal name = true := by rw [Lw.global_iff, hg]; exact Bool.false_ne_true
        rw [if_neg hgl]
        simp only [classify, hg] at hc
        cases fn with
        | none => exact absurd hc (join_impure_ne _)
        | some fh =>
          have h1 := pstep_userCall hd ih fh args st g (safe2List_iff.mpr ⟨hc, ha'.2, hk'.2⟩) hk'.1 hf
          exact ⟨h1.1.mono (fun _ h => h) (fun v _ t ht => by cases ht), h1.2⟩
      | some gc =>
        obtain ⟨rfl, hca, hcmd⟩ := globalCall_noTrap hg hc
        obtain ⟨hgl, hsh⟩ := global_dispatch Lw.toTablesAgree hg
        have hlen : args.length = 1 := by
          rcases ha'.1 with h1 | h1
          · rw [hg] at h1; cases h1.2
          · exact h1
        obtain ⟨x, rfl⟩ := List.length_eq_one_iff.mp hlen
        rw [if_pos hgl]
        refine (ih.list [x] st g (safe2List_iff.mpr ⟨hca, ha'.2, hk'.2⟩) hf).andThen fun vs s1 hts _ => ?_
        obtain ⟨v, hv⟩ := global_value Lw hg hcmd hts
        rw [if_neg hsh, hv]
        exact .ok (fun t ht => by cases ht) s1
    | member o field _ _ => exact absurd hc memberCall_ne_noTrap
    | _ => exact absurd hc (join_impure_ne _)
  | binary op l r sp =>
    obtain ⟨_, _, _, _, _, _, t, _, _, _, hlt⟩ := binary_noTrap hc
    exact absurd (literal_noUserCall _ t hlt) hnu
  | unary op x sp =>
    obtain ⟨_, _, t, _, _, hlt⟩ := unary_noTrap hc
    exact absurd (literal_noUserCall _ t hlt) hnu
  | index a i _ _ => exact absurd hc (join_mayTrap_ne _)
  | member o _ _ _ => exact absurd hc (join_mayTrap_ne _)
  | var _ _ _ | str _ _ | num _ _ | bool _ _ | null _ => exact absurd rfl hnu

theorem bad_of_expr {α : Type} {x : Except Err α} {er : Err} (h : (∃ v, x = .ok v ∧ True) ∨ Bad x) (hx : x = .error er) :
    Bad (.error er : Except Err (Flow V)) := by
  subst hx
  rcases h with ⟨v, hv, _⟩ | hb
  · cases hv
  · rcases hb with hb | hb | hb <;> (cases hb)
    · exact bad_fuel
    · exact bad_unbound
    · exact bad_panic

theorem condSafe_parts {c : Ctx} {g : Nat} {e : Expr} (h : condSafeB c g e = true) :
    safe2B c g e = true ∧ (literalTy e = some .bool ∨ literalTy e = some .null) := by
  simpa [condSafeB] using h

theorem pcond_then (Lw : Lawful P ty) (ih : PSim P ty L n) {σ : List (Option Nat)} {inner base : List (Scope V)}
    (c : Expr) (st : St V) (g : Nat) (hc : condSafeB L.c g c = true) (he : st.env = inner ++ base)
    (ht : tagsE inner = σ) (hf : FnsOkL L st.fns) (k : Bool → St V → R V (Flow V))
    (hk : ∀ bv s1, SameS st s1 → PRes σ base st (k bv s1)) :
    PRes σ base st
      (andThen (evalExpr P plain n c st) fun v s1 => andThen (P.cond v, s1) k) := by
  obtain ⟨hcs, hlit⟩ := condSafe_parts hc
  refine PRes.ofEnds (ih.expr c st g hcs hf) he ht fun v s1 hty hs1 => ?_
  obtain ⟨bv, hbv⟩ := Lw.cond v (hlit.elim (fun e => Or.inl (hty _ e)) (fun e => Or.inr (hty _ e)))
  rw [hbv]
  exact hk bv s1 hs1

theorem pstep_stmt (hd : P.dscope = L.ds) (Lw : Lawful P ty) (ih : PSim P ty L n) (s : Stmt) (st : St V) (g : Nat)
    (tg : Option Nat) (σ : List (Option Nat)) (inner base : List (Scope V))
    (h : pureStmtB L.c L.ds L.ss g (tg :: σ) s = true) (he : st.env = inner ++ base) (ht : tagsE inner = tg :: σ)
    (hf : FnsOkL L st.fns) : PRes (tg :: σ) base st (execStmt P plain (n + 1) s st) := by
  revert h
  -- by the arms of `pureStmtB`: the eleven that admit the statement, then fifteen that are `false`
  fun_cases pureStmtB L.c L.ds L.ss g (tg :: σ) s <;> intro h
  case case1 _ _ e l _ _ =>
    rw [execStmt_assign]
    refine PRes.ofEnds (ih.expr e st g h hf) he ht fun v s1 _ hs1 => ?_
    -- the new slot goes into the innermost scope, which is the activation's
    obtain ⟨sc, rest, rfl, _⟩ := tagsE_cons ht
    refine ⟨Or.inl ⟨_, rfl⟩, ⟨{ sc with slots := ⟨l, v⟩ :: sc.slots } :: rest, ?_, ht⟩, hs1.2.1, hs1.2.2⟩
    exact (congrArg (defineEnv l v) (hs1.1.trans he) : _)
  case case2 _ _ e l _ _ =>
    have h' := Bool.and_eq_true_iff.mp h
    rw [execStmt_assignExisting, hd]
    refine PRes.ofEnds (ih.expr e st g (Bool.and_eq_true_iff.mp h'.1).1 hf) he ht fun v s1 _ hs1 => ?_
    rw [Option.bind_some, assignEnv]
    cases hl : L.ds l with
    | none => exact pres_of_same hs1 he ht unbound_bad
    | some t =>
      -- the target's scope is one of the activation's own
      have hin : some t ∈ tagsE inner := by
        rw [ht]
        simpa only [hl, List.contains_eq_mem, decide_eq_true_eq] using h'.2
      dsimp only
      rw [hs1.1, he, setIn_append inner base hin]
      cases hset : setIn t l v inner with
      | none => exact ⟨Or.inr bad_unbound, ⟨inner, hs1.1.trans he, ht⟩, hs1.2.1, hs1.2.2⟩
      | some inner' =>
        exact ⟨Or.inl ⟨_, rfl⟩, ⟨inner', rfl, (setIn_tags inner inner' hset).trans ht⟩, hs1.2.1, hs1.2.2⟩
  case case3 c t _ _ _ =>
    have h' := Bool.and_eq_true_iff.mp h
    rw [execStmt_ifS]
    refine pcond_then Lw ih c st g h'.1 he ht hf _ fun bv s1 hs1 => ?_
    cases bv with
    | false => exact pres_of_same hs1 he ht trivial
    | true =>
      exact pres_trans hs1 (ih.block t s1 g (tg :: σ) inner base h'.2 (hs1.1.trans he) ht (by rw [hs1.2.2]; exact hf))
  case case4 c t _ el _ _ _ =>
    have h' := Bool.and_eq_true_iff.mp h
    have h'' := Bool.and_eq_true_iff.mp h'.1
    rw [execStmt_ifS]
    refine pcond_then Lw ih c st g h''.1 he ht hf _ fun bv s1 hs1 => ?_
    cases bv with
    | false =>
      exact pres_trans hs1 (ih.block el s1 g (tg :: σ) inner base h'.2 (hs1.1.trans he) ht (by rw [hs1.2.2]; exact hf))
    | true =>
      exact pres_trans hs1 (ih.block t s1 g (tg :: σ) inner base h''.2 (hs1.1.trans he) ht (by rw [hs1.2.2]; exact hf))
  case case5 c b _ _ _ =>
    have h' := Bool.and_eq_true_iff.mp h
    rw [execStmt_loop]
    exact ih.loop c b st g tg σ inner base h'.1 h'.2 he ht hf
  case case6 b _ _ _ =>
    rw [execStmt_block]
    exact ih.block b st g (tg :: σ) inner base h he ht hf
  case case7 e _ _ =>
    rw [execStmt_ret]
    exact PRes.ofEnds (ih.expr e st g h hf) he ht fun v s1 _ hs1 => pres_of_same hs1 he ht trivial
  case case8 | case9 | case10 => exact pres_of_same (.refl st) he ht trivial
  case case11 e _ _ =>
    rw [execStmt_expr]
    exact PRes.ofEnds (ih.expr e st g h hf) he ht fun v s1 _ hs1 => pres_of_same hs1 he ht trivial
  all_goals cases h

theorem pstep_stmts (ih : PSim P ty L n) : ∀ (ss : List Stmt) (st : St V) (g : Nat) (tg : Option Nat) (σ : List (Option Nat))
    (inner base : List (Scope V)),
    pureBodyB L.c L.ds L.ss g (tg :: σ) ss = true → st.env = inner ++ base → tagsE inner = tg :: σ →
    FnsOkL L st.fns → PRes (tg :: σ) base st (execStmts P plain (n + 1) ss st)
  | [], st, g, tg, σ, inner, base, _, he, ht, _ => pres_of_same (.refl st) he ht trivial
  | s :: ss, st, g, tg, σ, inner, base, h, he, ht, hf => by
      have h' := Bool.and_eq_true_iff.mp h
      rw [execStmts_cons]
      cases hsid : s.sid with
      | none => exact pres_of_same (.refl st) he ht panic_bad
      | some i =>
        dsimp only
        rw [if_neg (show ¬ plain.skip i = true from Bool.false_ne_true)]
        have hs0 : SameS st { st with trace := i :: st.trace } := ⟨rfl, rfl, rfl⟩
        refine pres_trans hs0 (PRes.andThen (ih.stmt s _ g tg σ inner base h'.1 he ht hf)
          fun fl s1 inner' henv htags hfns => ?_)
        cases fl with
        | normal => exact ih.stmts ss s1 g tg σ inner' base h'.2 henv htags (by rw [hfns]; exact hf)
        | ret v => exact pres_of_same (.refl s1) henv htags trivial
        | brk => exact pres_of_same (.refl s1) henv htags trivial
        | cont => exact pres_of_same (.refl s1) henv htags trivial

theorem pureBody_mem {g : Nat} {σ : List (Option Nat)} : ∀ {ss : List Stmt}, pureBodyB L.c L.ds L.ss g σ ss = true →
    ∀ s ∈ ss, pureStmtB L.c L.ds L.ss g σ s = true
  | s :: ss, h, s', hm => by
      have h' := Bool.and_eq_true_iff.mp h
      rcases List.mem_cons.mp hm with rfl | hm
      · exact h'.1
      · exact pureBody_mem h'.2 s' hm

theorem pure_hoist {g : Nat} {σ : List (Option Nat)} (ss : List Stmt) (h : pureBodyB L.c L.ds L.ss g σ ss = true) :
    hoist ss = [] := by
  refine List.eq_nil_iff_forall_not_mem.mpr fun fd hfd => ?_
  obtain ⟨s, hm, nm, ns, bs, sid, sp, rfl⟩ := mem_hoist hfd
  exact absurd (pureBody_mem h _ hm) Bool.false_ne_true

theorem pstep_block (hss : P.sscope = L.ss) (ih : PSim P ty L n) (ss : List Stmt) (st : St V) (g : Nat) (σ : List (Option Nat))
    (inner base : List (Scope V))
    (h : pureBodyB L.c L.ds L.ss g (blockTag L.ss ss :: σ) ss = true) (he : st.env = inner ++ base) (ht : tagsE inner = σ)
    (hf : FnsOkL L st.fns) : PRes σ base st (execBlock P plain (n + 1) ss st) := by
  rw [execBlock_succ, hss, pure_hoist ss h]
  have h1 := ih.stmts ss (st.push ⟨blockTag L.ss ss, []⟩ []) g (blockTag L.ss ss) σ
    (⟨blockTag L.ss ss, []⟩ :: inner) base h (congrArg (_ :: ·) he) (congrArg (_ :: ·) ht) (FnsAll.push hf fun _ h => nomatch h)
  generalize execStmts P plain n ss (st.push ⟨blockTag L.ss ss, []⟩ []) = r at h1 ⊢
  obtain ⟨x, st1⟩ := r
  obtain ⟨hres, ⟨inner', henv, htags⟩, hout, hfns⟩ := h1
  -- the block's own scope is on top, and goes
  obtain ⟨sc, rest, rfl, hrest⟩ := tagsE_cons htags
  exact ⟨hres, ⟨rest, congrArg (List.drop 1) henv, hrest⟩, hout, congrArg (List.drop 1) hfns⟩

theorem pstep_loop (Lw : Lawful P ty) (ih : PSim P ty L n) (c : Expr) (bd : List Stmt) (st : St V) (g : Nat) (tg : Option Nat)
    (σ : List (Option Nat)) (inner base : List (Scope V))
    (hc : condSafeB L.c g c = true) (hb : pureBodyB L.c L.ds L.ss g (blockTag L.ss bd :: tg :: σ) bd = true)
    (he : st.env = inner ++ base) (ht : tagsE inner = tg :: σ) (hf : FnsOkL L st.fns) :
    PRes (tg :: σ) base st (execLoop P plain (n + 1) c bd st) := by
  rw [execLoop_succ]
  refine pcond_then Lw ih c st g hc he ht hf _ fun bv s1 hs1 => ?_
  cases bv with
  | false => exact pres_of_same hs1 he ht trivial
  | true =>
    have hf1 : FnsOkL L s1.fns := by rw [hs1.2.2]; exact hf
    refine pres_trans hs1 (PRes.andThen (ih.block bd s1 g (tg :: σ) inner base hb (hs1.1.trans he) ht hf1)
      fun fl s2 inner' henv htags hfns => ?_)
    have hf2 : FnsOkL L s2.fns := by rw [hfns]; exact hf1
    cases fl with
    | brk => exact pres_of_same (.refl s2) henv htags trivial
    | ret w => exact pres_of_same (.refl s2) henv htags trivial
    | normal => exact ih.loop c bd s2 g tg σ inner' base hc hb henv htags hf2
    | cont => exact ih.loop c bd s2 g tg σ inner' base hc hb henv htags hf2

end pstep

theorem psim_all {P : Prims V} {ty : V → LTy → Prop} {L : LSetup} (hd : P.dscope = L.ds) (hss : P.sscope = L.ss)
    (Lw : Lawful P ty) : ∀ n, PSim P ty L n
  | 0 => psim_zero P ty L
  | n + 1 =>
      have ih := psim_all hd hss Lw n
      { expr := pstep_expr hd Lw ih
        list := pstep_list ih
        block := pstep_block hss ih
        stmts := pstep_stmts ih
        stmt := pstep_stmt hd Lw ih
        loop := pstep_loop Lw ih }

/-- T2 for calls, in the form the liveness simulation consumes: the test `safe2B` is a sound `q`. -/
theorem quietIn_safe2 {P : Prims V} {ty : V → LTy → Prop} {L : LSetup} (hd : P.dscope = L.ds) (hss : P.sscope = L.ss)
    (Lw : Lawful P ty) (hq : ∀ f e, L.q f e = safe2B L.c f e) : QuietIn P L := by
  intro f e n st hqe hf
  rw [hq] at hqe
  obtain ⟨h1, h2⟩ := (psim_all hd hss Lw n).expr e st f hqe hf
  exact ⟨(ends_bad.mp h1).imp (fun ⟨v, hv, _⟩ => ⟨v, hv⟩) id, h2.1, h2.2.1, h2.2.2⟩

end NaijaVerif.C03
