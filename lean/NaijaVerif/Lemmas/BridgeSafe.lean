import NaijaVerif.Lemmas.EvalScopeStep
import NaijaVerif.Lemmas.BridgeOk
/-
The evaluator side of C06.  On a state with `MR` (C04's invariant), for code that is well scoped (`ws…`)
and has the static guarantees (`ok…`, `Lemmas/BridgeOk.lean`) — as has every hoisted function (`FInv`) —
an evaluation with `cfg.panics = false` (the current code; `true` is the pinned tree, where every site panics:
`Model/Eval.lean`) panics only at sites an `Allowed` set leaves open.  Fixed sites
(`PanicSite.fixed`) report a runtime error; the residual ones are excluded so: `fnById` / `fnByName` by
`Link` (`findFn_lex_some`), `callArity` and `builtinArity` by `okExpr` and `FnOK`, `paramRange` by `WSFn`, `flowEscape`
by the flow condition `V`; `numLit`, `assignIndexEmpty`, `twMaximalSuffix` by the hypotheses `Hyp.num` / `.idx` /
`.str` unless allowed.  This is the instance `safeLogic` of `Logic` (`Lemmas/EvalLogic.lean`): C04's `agLogic`
with `Safe A` beside the equality of the two runs, `FInv` beside `MR`, `ok…` beside `ws…`, and the context
carrying whether the code sits in a loop of its function; agreement of `cfg.dyn` with `cfg.lex`, safety and the
flow discipline are proved in the one induction `safe_all`.
-/
namespace NaijaVerif.Bridge
open NaijaVerif NaijaVerif.Eval

variable {N : Type}

/-- The sites a result may still panic at (`fun _ => False`: none). -/
abbrev Allowed := PanicSite → Prop

variable {A : Allowed}

def Safe {α : Type} (A : Allowed) (r : Res N α) : Prop := ∀ site st, r = .panic site st → A site

theorem Safe.ok {α : Type} {a : α} {st : State N} : Safe A (Res.ok a st) := by intro s st' h; cases h
theorem Safe.err {α : Type} {k : RtKind} {sp : Span} {st : State N} : Safe A (Res.err k sp st : Res N α) := by
  intro s st' h; cases h
theorem Safe.fuel {α : Type} : Safe A (Res.fuel : Res N α) := by intro s st' h; cases h

theorem Safe.bind {α β : Type} {r : Res N α} {k : α → State N → Res N β} (h : Safe A r)
    (hk : ∀ a st1, r = .ok a st1 → Safe A (k a st1)) : Safe A (r.bind k) := by
  cases r with
  | ok a st1 => exact hk a st1 rfl
  | err kd sp st => exact Safe.err
  | panic s st =>
    intro s' st' e
    simp only [Res.bind] at e
    cases e
    exact h s st rfl
  | fuel => exact Safe.fuel

theorem safe_trap {α : Type} {cfg : RunCfg} (hp : cfg.panics = false) {site : PanicSite} (hs : site.fixed = true)
    {sp : Span} {st : State N} : Safe A (trap cfg site sp st : Res N α) := by
  unfold trap; simp only [hp, hs, Bool.not_true, Bool.or_self, Bool.false_eq_true, if_false]
  exact Safe.err

theorem safe_trap_allowed {α : Type} {cfg : RunCfg} {site : PanicSite} (ha : A site)
    {sp : Span} {st : State N} : Safe A (trap cfg site sp st : Res N α) := by
  unfold trap
  split
  · intro s st' e; cases e; exact ha
  · exact Safe.err

/-! The static guarantees (`okBlock C`) are established for `C.plan`; the run uses `cfg.plan`.  The static plan
may "remove" functions the run hoists but no executing code looks up — those outside a call-closed set
(`Lemmas/BridgeReach.lean`): their bodies are exempt from the guarantees. -/

structure PlanExt (static run : Option Plan) : Prop where
  stmts : ∀ sid, Plan.prunesStmt static sid = Plan.prunesStmt run sid
  fns : ∀ fn, Plan.prunesFn run fn = true → Plan.prunesFn static fn = true

/-! `PlanExt` is reflexive: a run under the very plan the guarantees were established for.  The theorems of
`Props/C06Accepted.lean` use the proper extension `planExt_planK`. -/

theorem PlanExt.refl (p : Option Plan) : PlanExt p p := ⟨fun _ => rfl, fun _ h => h⟩

theorem PlanExt.of_eq {p q : Option Plan} (h : p = q) : PlanExt p q := h ▸ PlanExt.refl p

theorem PlanExt.kept {p q : Option Plan} (h : PlanExt p q) {fn : Option Nat} (hk : Plan.prunesFn p fn = false) :
    Plan.prunesFn q fn = false := by
  cases hq : Plan.prunesFn q fn with
  | false => rfl
  | true => rw [h.fns fn hq] at hk; cases hk

/-- A hoisted function has the arity the table records for its id, and its body has the static guarantees unless the
STATIC plan removes the function: then no accepted call is bound to it (`okExpr` asks `!prunesFn C.plan fn`), so the body
is never entered, although the run's plan may have hoisted it (`PlanExt.fns`). -/
def FnOK (C : SCfg) (fd : FnEntry) : Prop :=
  C.fnOk fd.id fd.params.length = true ∧ (Plan.prunesFn C.plan fd.id = false → okBlock C false fd.body = true)

def FInv (C : SCfg) (env : List (Scope N)) : Prop := ∀ S ∈ env, ∀ fd ∈ S.fns, FnOK C fd

theorem FInv.of_frame {C : SCfg} {st st' : State N} (h : FInv C st.env) (hf : Frame st st') : FInv C st'.env := by
  intro S' hS' fd hfd
  have : S'.skel ∈ st.env.map Scope.skel := by rw [← hf.skel]; exact List.mem_map_of_mem hS'
  obtain ⟨S, hS, e⟩ := List.mem_map.1 this
  have e2 : S.fns = S'.fns := congrArg Skel.fns e
  exact h S hS fd (by rw [e2]; exact hfd)

theorem FInv.tail {C : SCfg} {env : List (Scope N)} (h : FInv C env) : FInv C env.tail :=
  fun S hS => h S (List.mem_of_mem_tail hS)

theorem FInv.push {C : SCfg} {st : State N} (h : FInv C st.env) (kind : ScopeKind) (chain : List Nat)
    (slots : List (Slot N)) (decls : List Nat) : FInv C (pushScope st kind chain slots decls).env := by
  intro S hS fd hfd
  simp only [pushScope] at hS
  rcases List.mem_cons.1 hS with rfl | hS
  · cases hfd
  · exact h S hS fd hfd

theorem okStmts_tail {C : SCfg} {d : Bool} {s : Stmt} {rest : List Stmt} (h : okStmts C d (s :: rest) = true) :
    (stmtSkipped C.plan s = true ∨ okStmt C d s = true) ∧ okStmts C d rest = true := by
  simpa [okStmts] using h

theorem okStmt_of_not_pruned {C : SCfg} {cfg : RunCfg} (hpl : PlanExt C.plan cfg.plan) {d : Bool} {s : Stmt}
    (h : stmtSkipped C.plan s = true ∨ okStmt C d s = true) (hnp : ¬ Plan.prunesStmt cfg.plan s.sid = true) :
    okStmt C d s = true := by
  rcases h with a | a
  · exact absurd (by rw [← hpl.stmts]; exact stmtSkipped_prunes a) hnp
  · exact a

theorem FInv.hoist {C : SCfg} (cfg : RunCfg) {d : Bool} (ss : List Stmt) (st : State N)
    (hok : okStmts C d ss = true) (h : FInv C st.env) : FInv C (Eval.hoist cfg ss st).env := by
  fun_induction Eval.hoist cfg ss st with
  | case1 => exact h
  | case4 name nsp params body fn sid sp rest st hnp S r heq fd ih =>
    obtain ⟨hs, hrest⟩ := okStmts_tail hok
    refine ih hrest fun S' hS' fd' hfd => ?_
    rw [heq] at h
    rcases List.mem_cons.1 hS' with rfl | hS'
    · rcases List.mem_cons.1 hfd with rfl | hfd
      · have hs : okStmt C d (.fnDef name nsp params body fn sid sp) = true := hs.resolve_left nofun
        simp only [okStmt, Bool.and_eq_true, Bool.or_eq_true] at hs
        exact ⟨hs.1, hs.2.elim (fun hq hk => by rw [hq] at hk; cases hk) fun hq _ => hq⟩
      · exact h S List.mem_cons_self fd' hfd
    · exact h S' (List.mem_cons_of_mem _ hS') fd' hfd
  | _ => rename_i ih; exact ih (okStmts_tail hok).2 h

theorem lookupFn_lex_some {cfg : RunCfg} {Γ : List Binder} {st : State N} (h : MR cfg Γ st) {i : Nat}
    (hi : fnDeclared Γ i = true) (hp : Plan.prunesFn cfg.plan (some i) = false) (name : Bytes) :
    ∃ fd, lookupFn cfg.lex st (some i) name = some fd := by
  simp only [lookupFn, visible_lex_fun]
  exact (findFn_lex_some h.link hi hp).imp fun _ => And.right

theorem okExprs_mem {C : SCfg} : ∀ {es : List Expr}, okExprs C es = true → ∀ e ∈ es, okExpr C e = true
  | [], _, _, h => by cases h
  | e :: es, hok, e', h => by
    simp only [okExprs, Bool.and_eq_true] at hok
    rcases List.mem_cons.1 h with rfl | h
    · exact hok.1
    · exact okExprs_mem hok.2 e' h

structure Hyp (N : Type) [NumOps N] (A : Allowed) (C : SCfg) (cfg : RunCfg) : Prop where
  /-- fixed sites report a runtime error -/
  panics : cfg.panics = false
  plan : PlanExt C.plan cfg.plan
  /-- `NumOps.ofLit` accepts every lexeme `numOk` accepts (unless `numLit` is allowed) -/
  num : A .numLit ∨ ∀ lex, C.numOk lex = true → (NumOps.ofLit (N := N) lex).isSome = true
  /-- C13 (unless `twMaximalSuffix` is allowed) -/
  str : A .twMaximalSuffix ∨ StrTotal
  /-- the static check asked of every index assignment that its target is an index expression (`strictIdx`: what the
  parser guarantees), unless `assignIndexEmpty` is allowed -/
  idx : A .assignIndexEmpty ∨ C.strictIdx = true

section
variable [NumOps N] {C : SCfg} {cfg : RunCfg}

theorem ok_kids {e : Expr} (h : okExpr C e = true) : ∀ e' ∈ e.kids, okExpr C e' = true := by
  cases e with
  | binary op l r sp | index l r isp sp =>
    simp only [okExpr, Bool.and_eq_true] at h
    exact List.forall_mem_cons.2 ⟨h.1, List.forall_mem_cons.2 ⟨h.2, nofun⟩⟩
  | unary op x sp => exact List.forall_mem_cons.2 ⟨by simpa only [okExpr] using h, nofun⟩
  | array es sp => exact okExprs_mem (es := es) (by simpa only [okExpr] using h)
  | call callee args fn sp =>
    cases callee with
    | member obj field fsp msp =>
      simp only [okExpr, Bool.and_eq_true] at h
      exact List.forall_mem_cons.2 ⟨h.1, okExprs_mem h.2⟩
    | var name b vsp =>
      simp only [okExpr, Bool.and_eq_true] at h
      exact okExprs_mem h.1
    | _ => exact okExprs_mem (es := args) (by simpa only [okExpr] using h)
  | _ => exact nofun

theorem ok_exprs {d : Bool} {s : Stmt} (h : okStmt C d s = true) : ∀ e ∈ s.exprs, okExpr C e = true := by
  cases s with
  | assign _ _ e _ _ _ | assignExisting _ _ e _ _ _ | expr e _ _ =>
    exact List.forall_mem_cons.2 ⟨by simpa only [okStmt] using h, nofun⟩
  | assignIndex t e _ _ =>
    simp only [okStmt, Bool.and_eq_true] at h
    exact List.forall_mem_cons.2 ⟨h.1.1, List.forall_mem_cons.2 ⟨h.1.2, nofun⟩⟩
  | ifS c t e _ _ =>
    simp only [okStmt, Bool.and_eq_true] at h
    exact List.forall_mem_cons.2 ⟨h.1.1, nofun⟩
  | ret e _ _ =>
    cases e with
    | none => exact nofun
    | some e => exact List.forall_mem_cons.2 ⟨by simpa only [okStmt] using h, nofun⟩
  | _ => exact nofun

theorem ok_blocks {d : Bool} {s : Stmt} (h : okStmt C d s = true) : ∀ b ∈ s.blocks, okBlock C d b = true := by
  cases s with
  | ifS c t e _ _ =>
    simp only [okStmt, Bool.and_eq_true] at h
    cases e with
    | none => exact List.forall_mem_cons.2 ⟨h.1.2, nofun⟩
    | some eb => exact List.forall_mem_cons.2 ⟨h.1.2, List.forall_mem_cons.2 ⟨by simpa only [okOptBlock] using h.2, nofun⟩⟩
  | block b _ _ => exact List.forall_mem_cons.2 ⟨by simpa only [okStmt] using h, nofun⟩
  | _ => exact nofun

/-- The context carries `d` (inside a loop of the function body) beside the binders. -/
def safeLogic (A : Allowed) (C : SCfg) (cfg : RunCfg) : Logic N cfg.dyn cfg.lex (List Binder × Bool) where
  R := fun r r' => r = r' ∧ Safe A r
  T := fun s => s.fixed = true ∨ A s
  Inv := fun Γ st => MR cfg Γ.1 st ∧ FInv C st.env
  Fr := Frame
  E := fun Γ e => wsExpr Γ.1 e = true ∧ okExpr C e = true
  S := fun Γ s => wsStmt Γ.1 s = true ∧ okStmt C Γ.2 s = true
  Ss := fun Γ ss => wsStmts Γ.1 ss = true ∧ okStmts C Γ.2 ss = true
  B := fun Γ b => wsBlock Γ.1 b = true ∧ okBlock C Γ.2 b = true
  V := fun Γ flow => flow.isJump = true → Γ.2 = true

/-- Of the judgment of `safeLogic`, `run_safe` (`Props/C06Accepted.lean`) reads that the dynamic run is `Safe`. -/
theorem safeLogic_J {Γ : List Binder × Bool} {st0 : State N} {α : Type} {Q : α → Prop} {r r' : Res N α}
    (h : (safeLogic A C cfg).J Γ st0 Q r r') : Safe A r :=
  h.1.2

theorem safe_ref {Γ : List Binder × Bool} {bind : Option Nat} {name : Bytes} (h : (agLogic (N := N) cfg).Ref Γ.1 name bind) :
    (safeLogic (N := N) A C cfg).Ref Γ name bind :=
  h.imp fun _ hw => ⟨hw, by simp only [okExpr]⟩

theorem lift_frame {Γ : List Binder × Bool} {st st' : State N} (hm : (safeLogic A C cfg).Inv Γ st)
    (h : MR cfg Γ.1 st' ∧ Frame st st') : (safeLogic A C cfg).Inv Γ st' ∧ Frame st st' :=
  ⟨⟨h.1, hm.2.of_frame h.2⟩, h.2⟩

theorem safeLogic_laws (H : Hyp N A C cfg) : (safeLogic (N := N) A C cfg).Laws :=
  have ag := agLogic_laws (N := N) cfg
  { ok := fun _ _ => ⟨rfl, Safe.ok⟩
    err := fun _ _ _ => ⟨rfl, Safe.err⟩
    trap := fun ht _ _ => ⟨rfl, ht.elim (fun hf => safe_trap (cfg := cfg.dyn) H.panics hf) fun ha => safe_trap_allowed ha⟩
    fixedT := .inl
    bind := fun e hk => ⟨Res.bind_congr e.1 fun a st e => (hk a st e).1, e.2.bind fun a st e => (hk a st e).2⟩
    kids := fun h e' he' => ⟨ws_kids h.1 e' he', ok_kids h.2 e' he'⟩
    seg := fun h hmem => safe_ref (ag.seg h.1 hmem)
    exprs := fun h e he => ⟨ag.exprs h.1 e he, ok_exprs h.2 e he⟩
    blocks := fun h b hb => ⟨ag.blocks h.1 b hb, ok_blocks h.2 b hb⟩
    target := fun h => safe_ref (ag.target h.1)
    loop := by
      intro Γ c b sid sp h
      obtain ⟨hw, ho⟩ := h
      simp only [wsStmt, okStmt, Bool.and_eq_true] at hw ho
      exact ⟨(Γ.1, true), fun _ => Iff.rfl, ⟨hw.1, ho.1⟩, hw.2, ho.2⟩
    cons := by
      intro Γ s rest h
      obtain ⟨hs, hrest⟩ := okStmts_tail h.2
      exact ⟨fun hnp => ⟨(ag.cons h.1).1 hnp, okStmt_of_not_pruned H.plan hs hnp⟩, (ag.cons h.1).2, hrest⟩
    plain := fun h hj => by rw [h] at hj; cases hj
    jumpBrk := fun h _ => by simpa only [okStmt] using h.2
    jumpNext := fun h _ => by simpa only [okStmt] using h.2
    numLit := by
      intro Γ lex sp h hn
      refine H.num.elim .inr fun hnum => ?_
      have := hnum lex (by simpa only [okExpr] using h.2)
      rw [hn] at this; cases this
    arity := by
      intro Γ name b vsp args fn sp gb h hg
      -- what `okExpr` says of a call of a global built-in: it has one argument
      have h1 : okExprs C args = true ∧ args.length = 1 := by
        simpa only [okExpr, hg, Option.isSome_some, if_true, Bool.and_eq_true, beq_iff_eq] using h.2
      exact .inl h1.2
    index := by
      intro Γ target e sid sp h
      refine H.idx.elim (fun ha => .inl (.inr ha)) fun hs => .inr fun name bind hlv => ?_
      have h2 := h.2
      simp only [okStmt, hs, Bool.not_true, Bool.false_or, Bool.and_eq_true] at h2
      cases target with
      | index a i isp sp => exact lvOf_index_ne_nil hlv rfl
      | _ => cases h2.2
    str := H.str.imp_left .inr
    refl := Frame.refl
    trans := Frame.trans
    host := fun _ _ _ => rfl
    std := rfl
    prune := fun _ => rfl
    slot := fun hm hr => ag.slot hm.1 (hr.imp fun _ h => h.1)
    define := fun hm hs v => lift_frame hm (ag.define hm.1 hs.1 v)
    mutE := fun hm _ _ pos f => lift_frame hm (hm.1.updateAt pos f)
    mutS := fun hm _ pos f => lift_frame hm (hm.1.updateAt pos f)
    io := fun hm he hg out input => lift_frame hm (ag.io hm.1 he.1 hg out input)
    enterBlock := by
      intro Γ st b hm hb
      obtain ⟨Γ', e, hmT, hss, hpop⟩ := ag.enterBlock hm.1 hb.1
      obtain ⟨ss, sp⟩ := b
      have hFI := FInv.hoist cfg.dyn ss _ hb.2 (hm.2.push (.block sp) st.chain [] (declIds ss))
      exact ⟨(Γ', Γ.2), e, ⟨hmT, hFI⟩, ⟨hss, hb.2⟩, fun st2 hm2 hF2 =>
        have hp := hpop st2 hm2.1 hF2
        ⟨⟨hp.1, hm.2.of_frame hp.2.1⟩, hp.2.1, fun _ hv => hv⟩⟩
    callFn := by
      intro Γ st name b vsp args fn sp hm he hg
      obtain ⟨hm, hF⟩ := hm
      obtain ⟨hws, hok⟩ := he
      simp only [wsExpr, Bool.and_eq_true] at hws
      have hfb : fnBoundIn Γ.1 fn = true := by simpa [hg] using hws.2
      -- what `okExpr` says of a call of a user function: the callee has the call's arity, and the static plan keeps it
      have hcall : okExprs C args = true ∧ C.fnOk fn args.length = true ∧ Plan.prunesFn C.plan fn = false := by
        simpa only [okExpr, hg, Option.isSome_none, Bool.false_eq_true, if_false, Bool.and_eq_true, Bool.not_eq_true',
          and_assoc] using hok
      obtain ⟨_, hcall, hkeepC⟩ := hcall
      have hlk := lookupFn_agree hm hfb name
      cases fn with
      | none => simp [SCfg.fnOk] at hcall
      | some i =>
        obtain ⟨fd0, hfd0⟩ := lookupFn_lex_some hm hfb (H.plan.kept hkeepC) name
        refine ⟨hlk.symm, fun hn => ?_, fun fd hfd vs st1 hlen hm1 hF1 => ?_⟩
        · rw [hlk, hfd0] at hn; cases hn
        obtain ⟨hm1, hFI1⟩ := hm1
        rw [hlk] at hfd
        obtain ⟨T, hT, hmem⟩ := lookupFn_mem hfd
        have hid : fd.id = some i := by simpa using (findFn_found hfd).2
        have hfnok := hF T hT fd hmem
        -- the callee is `FnOK`: its arity is the call's, its body has the static guarantees
        have hbodyok : okBlock C false fd.body = true := hfnok.2 (by rw [hid]; exact hkeepC)
        have har : fd.params.length = args.length := by
          have a1 := hfnok.1
          rw [hid] at a1
          simp only [SCfg.fnOk, beq_iff_eq] at a1 hcall
          rw [a1] at hcall
          exact Option.some.inj hcall
        have hfd1 : lookupFn cfg.lex st1 (some i) name = some fd := by rw [lookupFn_frame hF1]; exact hfd
        obtain ⟨j, _, hwsfn, _⟩ := lookupFn_lex_spec hm1 hfd1
        have hids : paramIds fd = some (fd.params.map (·.bind)) := by simp only [paramIds, hid, hwsfn.1, if_true]
        refine ⟨fun hne => (hne (hlen.trans har.symm)).elim, fun hn => ?_, fun ids hids' => ?_⟩
        · rw [hids] at hn; cases hn
        obtain ⟨j', _, hmP, hbody⟩ := hm1.enterCall hfd1 hids' vs
        -- the body runs in the context `(_, false)`: outside any loop.  A `comot` / `next` flow that leaves it would need
        -- `V`, i.e. `false = true`: `flowEscape` is not reached
        refine ⟨(_, false), ⟨hmP, hFI1.push _ _ _ _⟩, ⟨hbody, hbodyok⟩, fun st3 hm3 hF3 => ?_,
          fun flow hv hj => Bool.noConfusion (hv hj)⟩
        exact lift_frame (Γ := Γ) ⟨hm1, hFI1⟩ (hm1.pop rfl (Nat.le_succ _) hF3 hm3.1.slots) }

theorem safe_all (H : Hyp N A C cfg) : ∀ f, (safeLogic (N := N) A C cfg).All f f :=
  Logic.all (safeLogic_laws H) ⟨rfl, Safe.fuel⟩

end

end NaijaVerif.Bridge
