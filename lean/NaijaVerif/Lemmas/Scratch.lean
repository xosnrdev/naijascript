/-
Helper lemmas for C14: the invariant `Inv` of a program state over the two scratch arenas and its
preservation by every operation that the decidable protocol check allows, at the three levels of
`Model/Protocol.lean`: `work_good` (one phase), `fop_good` (one step of a filled path), `path_good`.
`Lemmas.Bump` is imported for `Bump.le_alignUp` alone (`inv_allocated`).
-/
import NaijaVerif.Model.Protocol
import NaijaVerif.Lemmas.Bump
import NaijaVerif.Lemmas.ListFacts

namespace NaijaVerif.Scratch

@[simp] theorem get_set_same (s : Scratch) (i : Ix) (a : Arena) : (s.set i a).get i = a := by
  cases i <;> rfl

theorem get_set_other (s : Scratch) (i j : Ix) (a : Arena) (h : j ≠ i) : (s.set i a).get j = s.get j := by
  cases i <;> cases j
  · exact absurd rfl h
  · rfl
  · rfl
  · exact absurd rfl h

@[simp] theorem decommit_fields (a : Arena) :
    a.decommit.offset = a.offset ∧ a.decommit.borrows = a.borrows := by
  unfold Arena.decommit
  by_cases h : alignUp a.offset chunk < a.commit <;> simp [h]

theorem lookup_none_not_mem {β : Type} (l : List (Nat × β)) (v : Nat) (h : l.lookup v = none) (b : β) :
    (v, b) ∉ l :=
  fun hm => absurd (List.lookup_eq_none_iff.1 h (v, b) hm) (by simp)

theorem mem_lookup {β : Type} (l : List (Nat × β)) (hn : (l.map (·.1)).Nodup) (v : Nat) (b : β)
    (h : (v, b) ∈ l) : l.lookup v = some b := by
  cases hl : l.lookup v with
  | none => exact absurd h (lookup_none_not_mem l v hl b)
  | some b' => rw [pairs_unique hn (lookup_mem hl) h]

/-- The guards of arena `i`, newest first. -/
def stack (i : Ix) (env : List (Nat × Borrow)) : List (Nat × Borrow) := env.filter (fun e => e.2.ix = i)

theorem mem_stack (i : Ix) (env : List (Nat × Borrow)) (e : Nat × Borrow) :
    e ∈ stack i env ↔ e ∈ env ∧ e.2.ix = i := by
  unfold stack; simp [List.mem_filter]

/-- Guards of one arena: borrow numbers count down from the arena's counter, saved offsets descend
from the arena's offset, and below the oldest guard lie the origin offset and count `o`. -/
def Chain1 : List (Nat × Borrow) → Nat → Nat → Nat × Nat → Prop
  | [], hi, n, o => hi = o.1 ∧ n = o.2
  | e :: rest, hi, n, o => e.2.no = n ∧ 0 < n ∧ e.2.saved ≤ hi ∧ Chain1 rest e.2.saved (n - 1) o

theorem chain_bounds : ∀ (l : List (Nat × Borrow)) (hi n : Nat) (o : Nat × Nat), Chain1 l hi n o →
    ∀ e ∈ l, e.2.no ≤ n
  | [], _, _, _, _, _, h => by simp at h
  | e :: rest, hi, n, o, hc, x, hx => by
    obtain ⟨h1, _, _, h4⟩ := hc
    rcases List.mem_cons.mp hx with rfl | hr
    · exact Nat.le_of_eq h1
    · exact Nat.le_trans (chain_bounds rest _ _ o h4 x hr) (Nat.sub_le _ _)

theorem chain_below (e : Nat × Borrow) (rest : List (Nat × Borrow)) (hi n : Nat) (o : Nat × Nat)
    (hc : Chain1 (e :: rest) hi n o) : ∀ x ∈ rest, x.2.no < e.2.no := by
  intro x hx
  obtain ⟨h1, h2, _, h4⟩ := hc
  exact h1 ▸ Nat.lt_of_le_of_lt (chain_bounds rest _ _ o h4 x hx) (Nat.sub_lt h2 Nat.one_pos)

def shape (st : St) : Shape := st.env.map (fun e => (e.1, e.2.ix))

theorem shape_lookup : ∀ (env : List (Nat × Borrow)) (v : Nat),
    (env.map (fun e => (e.1, e.2.ix))).lookup v = (env.lookup v).map (·.ix)
  | [], _ => rfl
  | (k, b) :: r, v => by
    simp only [List.map_cons, List.lookup_cons]
    by_cases hk : v == k <;> simp [hk, shape_lookup r v]

theorem shape_topOf (env : List (Nat × Borrow)) (i : Ix) :
    topOf (env.map (fun e => (e.1, e.2.ix))) i = ((stack i env).head?).map (·.1) := by
  unfold topOf stack
  rw [List.filter_map]
  simp only [List.head?_map, Option.map_map]
  rfl

/-- `o i` = offset and borrow count of arena `i` below its oldest live guard.  The clause that
carries C14 (i) is the last one of `blocks`: a block lies below the saved offset of every NEWER guard
of its arena, so that the newest guard, resetting down to its own saved offset at most, cannot reach
a block of another guard (`Top.block_below`, `no_foreign_kill`). -/
structure Inv (o : Ix → Nat × Nat) (st : St) : Prop where
  names  : (st.env.map (·.1)).Nodup
  chain  : ∀ i, Chain1 (stack i st.env) (st.sc.get i).offset (st.sc.get i).borrows (o i)
  blocks : ∀ blk ∈ st.blocks, ∃ b, (blk.owner, b) ∈ st.env ∧ b.ix = blk.ix ∧ b.saved ≤ blk.beg ∧
             blk.beg ≤ blk.fin ∧ blk.fin ≤ (st.sc.get blk.ix).offset ∧
             ∀ e ∈ st.env, e.2.ix = blk.ix → b.no < e.2.no → blk.fin ≤ e.2.saved
  disj   : st.blocks.Pairwise (fun x y => x.ix = y.ix → y.fin ≤ x.beg)
  marks  : ∀ e ∈ st.marks, ∃ b, (e.1, b) ∈ st.env ∧ b.saved ≤ e.2
  lost   : st.lost = []

theorem Inv.blocks_nil {o st} (h : Inv o st) (he : st.env = []) : st.blocks = [] := by
  apply List.eq_nil_iff_forall_not_mem.mpr
  intro blk hb
  obtain ⟨b, hm, _⟩ := h.blocks blk hb
  rw [he] at hm; cases hm

theorem Inv.marks_nil {o st} (h : Inv o st) (he : st.env = []) : st.marks = [] := by
  apply List.eq_nil_iff_forall_not_mem.mpr
  intro e hb
  obtain ⟨b, hm, _⟩ := h.marks e hb
  rw [he] at hm; cases hm

/-- `v` holds the newest guard `b` of its arena. -/
structure Top (st : St) (v : Nat) (b : Borrow) (rest : List (Nat × Borrow)) : Prop where
  look : st.env.lookup v = some b
  stk  : stack b.ix st.env = (v, b) :: rest

theorem Top.mem {st v b rest} (t : Top st v b rest) : (v, b) ∈ st.env := lookup_mem t.look

theorem Top.head {o st v b rest} (t : Top st v b rest) (h : Inv o st) :
    b.no = (st.sc.get b.ix).borrows ∧ 0 < b.no ∧ b.saved ≤ (st.sc.get b.ix).offset ∧
      Chain1 rest b.saved (b.no - 1) (o b.ix) := by
  have hc := h.chain b.ix
  rw [t.stk] at hc
  obtain ⟨h1, h2, h3, h4⟩ := hc
  simp only at h1 h2 h3 h4
  rw [← h1] at h2 h4
  exact ⟨h1, h2, h3, h4⟩

theorem Top.others {o st v b rest} (t : Top st v b rest) (h : Inv o st) :
    ∀ e ∈ st.env, e.2.ix = b.ix → e = (v, b) ∨ e.2.no < b.no := by
  intro e he hix
  have hm : e ∈ stack b.ix st.env := (mem_stack _ _ _).mpr ⟨he, hix⟩
  rw [t.stk] at hm
  rcases List.mem_cons.mp hm with rfl | hr
  · exact Or.inl rfl
  · have hc := h.chain b.ix
    rw [t.stk] at hc
    exact Or.inr (chain_below _ _ _ _ _ hc e hr)

theorem Top.isCurrent {o st v b rest} (t : Top st v b rest) (h : Inv o st) :
    current st.sc b = true := by
  unfold current; simp [(t.head h).1]

theorem Top.rest_names {o st v b rest} (t : Top st v b rest) (h : Inv o st) : ∀ e ∈ rest, e.1 ≠ v := by
  have hsub : (stack b.ix st.env).Sublist st.env := List.filter_sublist
  have hn : ((stack b.ix st.env).map (·.1)).Nodup := List.Nodup.sublist (hsub.map _) h.names
  rw [t.stk] at hn
  simp only [List.map_cons, List.nodup_cons] at hn
  intro e he hv
  apply hn.1
  rw [← hv]
  exact List.mem_map.mpr ⟨e, he, rfl⟩

theorem Top.block_below {o st v b rest} (t : Top st v b rest) (h : Inv o st) (blk : Block)
    (hb : blk ∈ st.blocks) (hix : blk.ix = b.ix) (hown : blk.owner ≠ v) : blk.fin ≤ b.saved := by
  obtain ⟨b0, hm, hi0, _, _, _, hall⟩ := h.blocks blk hb
  rcases t.others h (blk.owner, b0) hm (by simp [hi0, hix]) with heq | hlt
  · exact absurd (Prod.mk.inj heq).1 hown
  · exact hall (v, b) t.mem (by simp [hix]) hlt

theorem top_of_isTop {o st} (h : Inv o st) (v : Nat) (ht : isTop (shape st) v = true) :
    ∃ b rest, Top st v b rest := by
  unfold isTop shape at ht
  rw [shape_lookup] at ht
  cases hl : st.env.lookup v with
  | none => simp [hl] at ht
  | some b =>
    simp only [hl, Option.map_some] at ht
    rw [shape_topOf] at ht
    cases hs : stack b.ix st.env with
    | nil => simp [hs] at ht
    | cons e rest =>
      simp only [hs, List.head?_cons, Option.map_some, beq_iff_eq, Option.some.injEq] at ht
      have he : e ∈ st.env := ((mem_stack _ _ _).mp (hs ▸ List.mem_cons_self)).1
      have hb : e.2 = b := pairs_unique h.names (by rw [← ht]; exact he) (lookup_mem hl)
      have : e = (v, b) := by rw [← ht, ← hb]
      exact ⟨b, rest, hl, by rw [hs, this]⟩

theorem init_offset (sc : Scratch) (i : Ix) : (sc.init.get i).offset = 0 := by
  cases i <;> rfl

theorem init_borrows (sc : Scratch) (i : Ix) : (sc.init.get i).borrows = (sc.get i).borrows := by
  cases i <;> rfl

theorem inv_start (sc : Scratch) : Inv (fun i => ((sc.get i).offset, (sc.get i).borrows)) (St.start sc) := by
  refine ⟨by simp [St.start], ?_, ?_, by simp [St.start], ?_, rfl⟩
  · intro i; exact ⟨rfl, rfl⟩
  · intro blk hb; simp [St.start] at hb
  · intro e he; simp [St.start] at he

theorem Inv.at_rest {o st} (h : Inv o st) (he : st.env = []) :
    st = St.start st.sc ∧ ∀ i, (st.sc.get i).offset = (o i).1 ∧ (st.sc.get i).borrows = (o i).2 := by
  constructor
  · have h1 := h.blocks_nil he
    have h2 := h.marks_nil he
    have h3 := h.lost
    cases st
    simp only at he h1 h2 h3
    simp [St.start, he, h1, h2, h3]
  · intro i
    have := h.chain i
    rw [he] at this
    exact this

/-- `arena::init` runs at rest, where the state is a start state: `inv_start` again, offsets 0. -/
theorem inv_init {o st} (h : Inv o st) (he : st.env = []) :
    Inv (fun i => (0, (o i).2)) st.doInit ∧ shape st.doInit = [] := by
  obtain ⟨hst, ho⟩ := h.at_rest he
  rw [hst]
  have hf : (fun i => ((st.sc.init.get i).offset, (st.sc.init.get i).borrows)) = fun i => (0, (o i).2) :=
    funext fun i => by rw [init_offset, init_borrows, (ho i).2]
  exact ⟨hf ▸ inv_start st.sc.init, rfl⟩

theorem stack_cons (i : Ix) (e : Nat × Borrow) (env : List (Nat × Borrow)) :
    stack i (e :: env) = if e.2.ix = i then e :: stack i env else stack i env := by
  unfold stack; rw [List.filter_cons]; simp

/-! The state after each operation, as a closed term (`pushed`, `allocated`, `marked`, `resetTo`,
`released`): `doX_top` says that the step of the model computes it when the guard is the newest of its
arena, and `inv_X` proves the invariant about the term instead of under the matches of `St.doX`. -/

/-- The state after `let v = scratch_arena(..)` landing on arena `i`. -/
def pushed (st : St) (v : Nat) (i : Ix) : St :=
  { st with sc := st.sc.set i { st.sc.get i with borrows := (st.sc.get i).borrows + 1 },
            env := (v, { ix := i, saved := (st.sc.get i).offset, no := (st.sc.get i).borrows + 1 }) :: st.env }

theorem inv_pushed {o st} (h : Inv o st) (v : Nat) (i : Ix) (hv : st.env.lookup v = none) :
    Inv o (pushed st v i) := by
  have hoff : ∀ j, ((pushed st v i).sc.get j).offset = (st.sc.get j).offset := by
    intro j
    by_cases hj : j = i
    · subst hj; simp [pushed]
    · simp [pushed, get_set_other _ _ _ _ hj]
  refine ⟨?_, ?_, ?_, ?_, ?_, ?_⟩
  · show (((v, _) :: st.env).map (·.1)).Nodup
    simp only [List.map_cons, List.nodup_cons]
    refine ⟨?_, h.names⟩
    intro hm
    obtain ⟨e, he, hev⟩ := List.mem_map.mp hm
    exact lookup_none_not_mem _ _ hv e.2 (by rw [← hev]; exact he)
  · intro j
    by_cases hj : j = i
    · subst hj
      show Chain1 (stack j ((v, _) :: st.env)) _ _ _
      rw [stack_cons, if_pos rfl]
      refine ⟨?_, ?_, ?_, ?_⟩
      · simp [pushed]
      · simp [pushed]
      · simp [pushed]
      · have := h.chain j
        simpa [pushed] using this
    · show Chain1 (stack j ((v, _) :: st.env)) _ _ _
      rw [stack_cons, if_neg (fun h' => hj h'.symm)]
      have := h.chain j
      simpa [pushed, get_set_other _ _ _ _ hj] using this
  · intro blk hb
    obtain ⟨b0, hm, h1, h2, h3, h4, h5⟩ := h.blocks blk hb
    refine ⟨b0, List.mem_cons_of_mem _ hm, h1, h2, h3, ?_, ?_⟩
    · rw [hoff]; exact h4
    · intro e he hix hlt
      rcases List.mem_cons.mp he with rfl | he'
      · simp only at hix ⊢
        rw [hix]; exact h4
      · exact h5 e he' hix hlt
  · exact h.disj
  · intro e he
    obtain ⟨b, hm, hs⟩ := h.marks e he
    exact ⟨b, List.mem_cons_of_mem _ hm, hs⟩
  · exact h.lost

/-- All that `Inv` asks of the arena record under the newest guard `b`; `commit` is free. -/
theorem Inv.setArena {o st v b rest} (h : Inv o st) (t : Top st v b rest) (a' : Arena)
    (hb : a'.borrows = (st.sc.get b.ix).borrows) (hs : b.saved ≤ a'.offset)
    (hblk : ∀ blk ∈ st.blocks, blk.ix = b.ix → blk.fin ≤ a'.offset) :
    Inv o { st with sc := st.sc.set b.ix a' } := by
  refine ⟨h.names, ?_, ?_, h.disj, h.marks, h.lost⟩
  · intro j
    show Chain1 (stack j st.env) ((st.sc.set b.ix a').get j).offset ((st.sc.set b.ix a').get j).borrows _
    by_cases hj : j = b.ix
    · subst hj
      have hc := h.chain b.ix
      rw [t.stk] at hc ⊢
      rw [get_set_same, hb]
      exact ⟨hc.1, hc.2.1, hs, hc.2.2.2⟩
    · rw [get_set_other _ _ _ _ hj]; exact h.chain j
  · intro blk hm
    obtain ⟨b0, hm0, h1, h2, h3, h4, h5⟩ := h.blocks blk hm
    refine ⟨b0, hm0, h1, h2, h3, ?_, h5⟩
    show blk.fin ≤ ((st.sc.set b.ix a').get blk.ix).offset
    by_cases hj : blk.ix = b.ix
    · rw [hj, get_set_same]; exact hblk blk hm hj
    · rw [get_set_other _ _ _ _ hj]; exact h4

def allocated (st : St) (v : Nat) (b : Borrow) (bytes align : Nat) : St :=
  { st with sc := st.sc.set b.ix ((st.sc.get b.ix).alloc bytes align).2,
            blocks := { owner := v, ix := b.ix, beg := alignUp (st.sc.get b.ix).offset align,
                        fin := alignUp (st.sc.get b.ix).offset align + bytes } :: st.blocks }

theorem doAlloc_top {o st v b rest} (t : Top st v b rest) (h : Inv o st) (bytes align : Nat) :
    st.doAlloc true v bytes align = .ok (allocated st v b bytes align) := by
  unfold St.doAlloc
  simp [t.look, t.isCurrent h, Arena.alloc, allocated]

theorem inv_allocated {o st v b rest} (t : Top st v b rest) (h : Inv o st) (bytes align : Nat)
    (ha : 0 < align) : Inv o (allocated st v b bytes align) := by
  -- the scratch layer's `alignUp` has the body of `Bump.alignUp`
  have hal : _ ≤ alignUp _ _ := Bump.le_alignUp (st.sc.get b.ix).offset align ha
  have hup : (st.sc.get b.ix).offset ≤ alignUp (st.sc.get b.ix).offset align + bytes :=
    Nat.le_trans hal (Nat.le_add_right _ _)
  have h1 := h.setArena t ((st.sc.get b.ix).alloc bytes align).2 rfl (Nat.le_trans (t.head h).2.2.1 hup)
    fun blk hb hix => by
      obtain ⟨_, _, _, _, _, h4, _⟩ := h.blocks blk hb
      exact Nat.le_trans (hix ▸ h4) hup
  refine ⟨h.names, h1.chain, ?_, ?_, h.marks, h.lost⟩
  · intro blk hb
    rcases List.mem_cons.mp hb with rfl | hb'
    · refine ⟨b, t.mem, rfl, Nat.le_trans (t.head h).2.2.1 hal, Nat.le_add_right _ _,
        Nat.le_of_eq (by simp [allocated, Arena.alloc]), ?_⟩
      intro e he hix hlt
      rcases t.others h e he hix with rfl | hlt'
      · exact absurd hlt (Nat.lt_irrefl _)
      · exact absurd hlt (Nat.lt_asymm hlt')
    · exact h1.blocks blk hb'
  · show List.Pairwise _ (_ :: st.blocks)
    refine List.Pairwise.cons ?_ h.disj
    intro y hy hix
    obtain ⟨_, _, _, _, _, h4, _⟩ := h.blocks y hy
    have hix' : b.ix = y.ix := hix
    exact Nat.le_trans (hix' ▸ h4) hal

/-- State after `let m = v.offset()`. -/
def marked (st : St) (v : Nat) (b : Borrow) : St :=
  { st with marks := st.marks ++ [(v, (st.sc.get b.ix).offset)] }

theorem doMark_top {o st v b rest} (t : Top st v b rest) (h : Inv o st) :
    st.doMark true v = .ok (marked st v b) := by
  unfold St.doMark
  simp [t.look, t.isCurrent h, marked]

theorem inv_marked {o st v b rest} (t : Top st v b rest) (h : Inv o st) : Inv o (marked st v b) := by
  refine ⟨h.names, h.chain, h.blocks, h.disj, ?_, h.lost⟩
  intro e he
  rcases List.mem_append.mp he with he' | he'
  · exact h.marks e he'
  · simp only [List.mem_singleton] at he'
    subst he'
    exact ⟨b, t.mem, (t.head h).2.2.1⟩

/-- State after `v.reset(m)`. -/
def resetTo (st : St) (b : Borrow) (m : Nat) : St :=
  { st with sc := st.sc.set b.ix ((st.sc.get b.ix).reset m),
            blocks := st.blocks.filter (fun blk => !killed b.ix m blk) }

theorem no_foreign_kill {o st v b rest} (t : Top st v b rest) (h : Inv o st) (m : Nat) (hm : b.saved ≤ m) :
    st.blocks.filter (fun blk => killed b.ix m blk && blk.owner != v) = [] := by
  apply List.filter_eq_nil_iff.mpr
  intro blk hb
  simp only [killed, Bool.and_eq_true, beq_iff_eq, decide_eq_true_eq, bne_iff_ne, ne_eq, not_and,
    Decidable.not_not]
  intro ⟨hix, hlt⟩
  apply Decidable.byContradiction
  intro hown
  have := t.block_below h blk hb hix hown
  omega

theorem doReset_top {o st v b rest} (t : Top st v b rest) (h : Inv o st) (k : Nat) :
    st.doReset true v k = .error .badMark ∨
      ∃ m, b.saved ≤ m ∧ st.doReset true v k = .ok (resetTo st b m) := by
  unfold St.doReset
  rw [t.look]
  cases hk : st.marks[k]? with
  | none => exact .inl rfl
  | some e =>
    obtain ⟨w, m⟩ := e
    by_cases hwv : w = v
    · subst hwv
      obtain ⟨b', hb', hs⟩ := h.marks (w, m) (List.mem_of_getElem? hk)
      cases pairs_unique h.names hb' t.mem
      by_cases hle : (st.sc.get b.ix).offset < m
      · exact .inl (by simp [t.isCurrent h, hle])
      · exact .inr ⟨m, hs, by simp [t.isCurrent h, resetTo, no_foreign_kill t h m hs, h.lost, hle]⟩
    · exact .inl (by simp [hwv])

theorem inv_resetTo {o st v b rest} (t : Top st v b rest) (h : Inv o st) (m : Nat) (hs : b.saved ≤ m) :
    Inv o (resetTo st b m) :=
  Inv.setArena (st := { st with blocks := st.blocks.filter fun blk => !killed b.ix m blk })
    ⟨h.names, h.chain, fun blk hb => h.blocks blk (List.mem_filter.mp hb).1, h.disj.filter _, h.marks, h.lost⟩
    ⟨t.look, t.stk⟩ ((st.sc.get b.ix).reset m) rfl hs fun blk hb hix => by
      simpa [killed, hix, Arena.reset] using (List.mem_filter.mp hb).2

def released (st : St) (v : Nat) (b : Borrow) : St :=
  { sc := st.sc.set b.ix { ((st.sc.get b.ix).reset b.saved).decommit with
                            borrows := ((st.sc.get b.ix).reset b.saved).decommit.borrows - 1 },
    env := st.env.filter (fun e => e.1 != v),
    marks := st.marks.filter (fun e => e.1 != v),
    blocks := st.blocks.filter (fun blk => !killed b.ix b.saved blk && blk.owner != v),
    lost := st.lost }

theorem doRelease_top {o st v b rest} (t : Top st v b rest) (h : Inv o st) :
    st.doRelease true v = .ok (released st v b) := by
  unfold St.doRelease
  simp [t.look, t.isCurrent h, released, no_foreign_kill t h b.saved (Nat.le_refl _), h.lost]

theorem stack_filter (i : Ix) (env : List (Nat × Borrow)) (p : Nat × Borrow → Bool) :
    stack i (env.filter p) = (stack i env).filter p := by
  unfold stack
  rw [List.filter_filter, List.filter_filter]
  congr 1
  funext e
  exact Bool.and_comm _ _

theorem inv_released {o st v b rest} (t : Top st v b rest) (h : Inv o st) : Inv o (released st v b) := by
  obtain ⟨hno, hpos, hsav, hrest⟩ := t.head h
  have hother : ∀ j, j ≠ b.ix → (released st v b).sc.get j = st.sc.get j := by
    intro j hj; simp [released, get_set_other _ _ _ _ hj]
  have hkeep : ∀ e ∈ st.env, e.1 ≠ v → e ∈ (released st v b).env := by
    intro e he hv
    exact List.mem_filter.mpr ⟨he, by simpa using hv⟩
  have hsub : ∀ e ∈ (released st v b).env, e ∈ st.env := fun e he => (List.mem_filter.mp he).1
  refine ⟨?_, ?_, ?_, ?_, ?_, h.lost⟩
  · exact List.Nodup.sublist ((List.filter_sublist (l := st.env)).map _) h.names
  · intro j
    show Chain1 (stack j (st.env.filter _)) _ _ _
    rw [stack_filter]
    by_cases hj : j = b.ix
    · subst hj
      rw [t.stk]
      have hr : (((v, b) :: rest).filter (fun e => e.1 != v)) = rest := by
        rw [List.filter_cons]
        simp only [bne_self_eq_false, Bool.false_eq_true, ↓reduceIte]
        apply List.filter_eq_self.mpr
        intro e he
        simpa using t.rest_names h e he
      rw [hr]
      simp only [released, get_set_same, decommit_fields, Arena.reset]
      rw [← hno]
      exact hrest
    · rw [hother j hj]
      have hr : (stack j st.env).filter (fun e => e.1 != v) = stack j st.env := by
        apply List.filter_eq_self.mpr
        intro e he
        have he' := (mem_stack _ _ _).mp he
        simp only [bne_iff_ne, ne_eq]
        intro hv
        have : e.2 = b := pairs_unique h.names (by rw [← hv]; exact he'.1) t.mem
        exact hj (by rw [← he'.2, this])
      rw [hr]; exact h.chain j
  · intro blk hb
    have hb2 := List.mem_filter.mp hb
    have hown : blk.owner ≠ v := by
      have := hb2.2
      simp only [Bool.and_eq_true, bne_iff_ne, ne_eq] at this
      exact this.2
    obtain ⟨b0, hm, h1, h2, h3, h4, h5⟩ := h.blocks blk hb2.1
    refine ⟨b0, hkeep _ hm hown, h1, h2, h3, ?_, fun e he => h5 e (hsub e he)⟩
    by_cases hj : blk.ix = b.ix
    · rw [hj]
      simp only [released, get_set_same, decommit_fields, Arena.reset]
      exact t.block_below h blk hb2.1 hj hown
    · rw [hother _ hj]; exact h4
  · exact List.Pairwise.filter _ h.disj
  · intro e he
    have he2 := List.mem_filter.mp he
    obtain ⟨b0, hm, hs⟩ := h.marks e he2.1
    exact ⟨b0, hkeep _ hm (by simpa using he2.2), hs⟩

theorem shape_released (st : St) (v : Nat) (b : Borrow) :
    shape (released st v b) = (shape st).filter (fun e => e.1 != v) := by
  unfold shape released
  simp only
  rw [List.filter_map]
  rfl

/-- Says what `released` does; read by no proof (`inv_released` unfolds `released` itself). -/
theorem released_arena {o st v b rest} (t : Top st v b rest) (h : Inv o st) :
    ((released st v b).sc.get b.ix).offset = b.saved ∧
      ((released st v b).sc.get b.ix).borrows = b.no - 1 := by
  simp [released, Arena.reset, (t.head h).1]

/-- What a run may end in: a state satisfying `P`, or `Fault.badMark` (the refusal of a reset request that is
not an operation of the modelled code); never one of the debug assertions (`stale`, `dropOrder`). -/
def Outcome (P : St → Prop) : Except Fault St → Prop
  | .ok st => P st
  | .error e => e = .badMark

theorem Outcome.mono {P Q : St → Prop} (hpq : ∀ st, P st → Q st) : ∀ r, Outcome P r → Outcome Q r
  | .ok st, h => hpq st h
  | .error _, h => h

theorem Outcome.and {P Q : St → Prop} : ∀ {r}, Outcome P r → Outcome Q r → Outcome (fun st => P st ∧ Q st) r
  | .ok _, h1, h2 => ⟨h1, h2⟩
  | .error _, h1, _ => h1

theorem run_append (chk : Bool) : ∀ (xs ys : List Op) (st : St),
    run chk st (xs ++ ys) = match run chk st xs with
      | .ok st' => run chk st' ys
      | .error e => .error e
  | [], _, _ => rfl
  | x :: xs, ys, st => by
    simp only [List.cons_append, run]
    cases step chk st x with
    | ok st' => exact run_append chk xs ys st'
    | error e => rfl

theorem Outcome.append {P Q : St → Prop} {st : St} {xs ys : List Op} (h : Outcome P (run true st xs))
    (hq : ∀ st', P st' → Outcome Q (run true st' ys)) : Outcome Q (run true st (xs ++ ys)) := by
  rw [run_append]
  cases hr : run true st xs with
  | ok st' => exact hq st' (hr ▸ h : Outcome P (.ok st'))
  | error e => exact (hr ▸ h : Outcome P (.error e))

/-- How an operation moves the origin `o` of `Inv`: `arena::init`, legal only when no guard is alive,
puts both offsets back to 0 and keeps the counts. -/
def originStep (o : Ix → Nat × Nat) : ProtoOp → (Ix → Nat × Nat)
  | .init => fun i => (0, (o i).2)
  | _ => o

theorem work_good {o : Ix → Nat × Nat} (uses : List Nat) : ∀ (ws : List WorkOp) (st : St), Inv o st →
    uses.all (isTop (shape st)) = true →
    ws.all (fun w => uses.contains w.var && w.wf) = true →
    Outcome (fun st' => Inv o st' ∧ shape st' = shape st) (run true st (ws.map WorkOp.toOp))
  | [], st, h, _, _ => ⟨h, rfl⟩
  | w :: ws, st, h, hu, hw => by
    simp only [List.all_cons, Bool.and_eq_true] at hw
    obtain ⟨⟨hmem, hwf⟩, hrest⟩ := hw
    obtain ⟨b, rest, t⟩ := top_of_isTop h w.var (List.all_eq_true.mp hu w.var (by simpa using hmem))
    cases w with
    | alloc v bytes align =>
      simp only [WorkOp.var] at t
      have ha : 0 < align := by simpa [WorkOp.wf] using hwf
      simp only [List.map_cons, WorkOp.toOp, run, step, doAlloc_top t h]
      exact work_good uses ws (allocated st v b bytes align) (inv_allocated t h bytes align ha) hu hrest
    | mark v =>
      simp only [WorkOp.var] at t
      simp only [List.map_cons, WorkOp.toOp, run, step, doMark_top t h]
      exact work_good uses ws (marked st v b) (inv_marked t h) hu hrest
    | reset v k =>
      simp only [WorkOp.var] at t
      simp only [List.map_cons, WorkOp.toOp, run, step]
      rcases doReset_top t h k with hbad | ⟨m, hs, hok⟩
      · rw [hbad]; rfl
      · rw [hok]
        exact work_good uses ws (resetTo st b m) (inv_resetTo t h m hs) hu hrest

theorem shape_nil {st : St} (h : (shape st).isEmpty = true) : st.env = [] := by
  unfold shape at h
  cases he : st.env with
  | nil => rfl
  | cons a r => simp [he] at h

theorem fop_good {o : Ix → Nat × Nat} {st : St} (h : Inv o st) (f : FOp) (hok : f.ok = true) (sh' : Shape)
    (ha : absStep (shape st) f.erase = some sh') :
    Outcome (fun st' => Inv (originStep o f.erase) st' ∧ shape st' = sh') (run true st f.ops) := by
  cases f with
  | init =>
    simp only [FOp.erase, absStep] at ha
    split at ha
    · next hemp =>
      cases ha
      exact inv_init h (shape_nil hemp)
    · cases ha
  | borrow v c =>
    simp only [FOp.erase, absStep] at ha
    split at ha
    · cases ha
    · next hnone =>
      rw [shape, shape_lookup, Option.map_eq_none_iff] at hnone
      cases c with
      | none =>
        simp only [Option.some.injEq] at ha
        subst ha
        have hd : st.doBorrow v none = .ok (pushed st v (scratchIndex none)) := by
          unfold St.doBorrow; simp [hnone, pushed]
        simp only [FOp.ops, run, step, hd, Outcome, FOp.erase, originStep]
        exact ⟨inv_pushed h v _ hnone, rfl⟩
      | some w =>
        simp only at ha
        split at ha
        · cases ha
        · next i hw =>
          simp only [Option.some.injEq] at ha
          subst ha
          rw [shape, shape_lookup, Option.map_eq_some_iff] at hw
          obtain ⟨bw, hbw, hix⟩ := hw
          have hd : st.doBorrow v (some w) = .ok (pushed st v (scratchIndex (some (.scratch i)))) := by
            unfold St.doBorrow; simp [hnone, hbw, pushed, hix]
          simp only [FOp.ops, run, step, hd, Outcome, FOp.erase, originStep]
          exact ⟨inv_pushed h v _ hnone, rfl⟩
  | work uses ws =>
    simp only [FOp.erase, absStep] at ha
    split at ha
    · next hu =>
      cases ha
      exact work_good uses ws st h hu hok
    · cases ha
  | release v =>
    simp only [FOp.erase, absStep] at ha
    split at ha
    · next ht =>
      cases ha
      obtain ⟨b, rest, t⟩ := top_of_isTop h v ht
      simp only [FOp.ops, run, step, doRelease_top t h, Outcome, FOp.erase, originStep]
      exact ⟨inv_released t h, shape_released st v b⟩
    · cases ha

theorem path_good : ∀ (fs : List FOp) (o : Ix → Nat × Nat) (st : St), Inv o st → (∀ f ∈ fs, f.ok = true) →
    ∀ sh', absRun (shape st) (fs.map FOp.erase) = some sh' →
    Outcome (fun st' => Inv (fs.foldl (fun o f => originStep o f.erase) o) st' ∧ shape st' = sh')
      (run true st (flatOps fs))
  | [], o, st, h, _, sh', ha => by
    simp only [List.map_nil, absRun, Option.some.injEq] at ha
    exact ⟨h, ha⟩
  | f :: fs, o, st, h, hok, sh', ha => by
    simp only [List.map_cons, absRun] at ha
    split at ha
    · next sh1 h1 =>
      exact (fop_good h f (hok f (by simp)) sh1 h1).append fun st1 ⟨hi1, hs1⟩ =>
        path_good fs _ st1 hi1 (fun g hg => hok g (by simp [hg])) sh' (hs1 ▸ ha)
    · cases ha

theorem origin_fold : ∀ (fs : List FOp) (o : Ix → Nat × Nat) (i : Ix),
    (fs.foldl (fun o f => originStep o f.erase) o) i =
      (if ∃ f ∈ fs, f.erase = .init then 0 else (o i).1, (o i).2)
  | [], _, _ => by simp
  | f :: fs, o, i => by
    rw [List.foldl_cons, origin_fold fs _ i]
    by_cases hf : f.erase = .init
    · simp [hf, originStep]
    · have : originStep o f.erase = o := by
        cases f with
        | init => exact absurd rfl hf
        | _ => rfl
      simp [this, hf]

end NaijaVerif.Scratch
