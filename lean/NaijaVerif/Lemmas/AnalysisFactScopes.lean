import NaijaVerif.Model.Analysis
/-
The two scope tables of the facts that the primitives of the C03 evaluator consult (`Prims.dscope`, `Prims.sscope`), by
themselves: the liveness theorems (`Lemmas/AnalysisLiveTop.lean`) and the oracle of the bridge
(`Lemmas/AnalysisRefineOrc.lean`) both instantiate the primitives with them and need nothing else of each other.
-/
namespace NaijaVerif.C03
open NaijaVerif NaijaVerif.Analysis

/-- `facts.locals[l].declaring_scope`. -/
def declScopeOf (facts : Facts) (x : Nat) : Option Nat := (facts.locals[x]?).map (·.declaringScope)
/-- `facts.stmt_effects[i].scope`. -/
def stmtScopeOf (facts : Facts) (i : Nat) : Option Nat := (facts.stmtEffects[i]?).map (·.scope)

theorem declScopeOf_none (facts : Facts) (l : Nat) (h : facts.locals.length ≤ l) : declScopeOf facts l = none := by
  simp [declScopeOf, List.getElem?_eq_none h]

theorem declScopeOf_congr {f g : Facts} (h : g.locals = f.locals) (l : Nat) : declScopeOf g l = declScopeOf f l := by
  simp only [declScopeOf, h]

theorem declScopeOf_lt {f : Facts} {l sc : Nat} (h : declScopeOf f l = some sc) : l < f.locals.length := by
  simp only [declScopeOf] at h
  cases hl : f.locals[l]? with
  | none => simp [hl] at h
  | some li => exact (List.getElem?_eq_some_iff.1 hl).1

end NaijaVerif.C03
