import NaijaVerif.Lemmas.AnalysisRefineConvExpr
import NaijaVerif.Lemmas.AnalysisRefineConvStmt
import NaijaVerif.Lemmas.AnalysisRefineConvCall
import NaijaVerif.Lemmas.AnalysisRefineConvMember
/-
BRIDGE, both directions: the induction that puts the forms together (`both`) and what it says of whole runs
(`bridge_conv`).
-/
namespace NaijaVerif.C03
open NaijaVerif NaijaVerif.Analysis

variable {N : Type} [NumOps N] {B : Brg}

theorem both_expr (hB : B.Ok N) {m : Nat} (IH : Both (N := N) B m) (e : Expr) (s : Eval.State N) (t : AEval.St (VE N))
    (hok : okExpr B.o e = true) (hs : B.Sim s t) :
    Bis B Eq (m + 1) (fun n => AEval.evalExpr B.P B.ac n e t) (fun f => Eval.evalExpr B.rc f e s) := by
  cases e with
  | num lex sp =>
    simp only [okExpr] at hok
    obtain ⟨x, hx⟩ := hB.orc.num lex hok
    exact bis_leaf _ s t m rfl rfl nofun (.ok (.num x) s)
      (by simp only [nodeE, hx, Option.getD_some]; exact RSim.ok rfl hs) (fun f => by simp only [Eval.evalExpr, hx])
  | str parts sp =>
    cases parts with
    | static x =>
      exact bis_leaf _ s t m rfl rfl nofun (.ok (.str x) s) (RSim.ok rfl hs)
        (fun f => by simp only [Eval.evalExpr])
    | interp segs => exact bis_interp hB segs sp s t m hok hs
  | bool b sp =>
    exact bis_leaf _ s t m rfl rfl nofun (.ok (.bool b) s) (RSim.ok rfl hs)
      (fun f => by simp only [Eval.evalExpr])
  | null sp =>
    exact bis_leaf _ s t m rfl rfl nofun (.ok .null s) (RSim.ok rfl hs)
      (fun f => by simp only [Eval.evalExpr])
  | var name b sp => exact bis_var hB name b sp s t hok hs m
  | binary op l r sp =>
    cases hop : Eval.ArithOp.ofBin op with
    | some ao => exact bis_arith hB IH hop l r sp s t hok hs
    | none =>
      cases op
      case and => exact bis_and hB IH l r sp s t hok hs
      case or => exact bis_or hB IH l r sp s t hok hs
      all_goals cases hop
  | unary op x sp => exact bis_unary hB IH op x sp s t hok hs
  | array es sp => exact bis_array IH es sp s t hok hs
  | index a i isp sp => exact bis_index hB IH a i isp sp s t hok hs
  | member o f fs sp =>
    exact bis_leaf _ s t m rfl rfl nofun (Eval.trap B.rc .bareMember sp s)
      (RSim.err (trap_sim hB hs.out .bareMember sp)) (fun f => by simp only [Eval.evalExpr])
  | call callee args fn sp =>
    by_cases hv : ∃ name b vsp, callee = .var name b vsp
    · obtain ⟨name, b, vsp, rfl⟩ := hv
      simp only [okExpr, Bool.and_eq_true, Bool.or_eq_true] at hok
      cases hg : Eval.GlobalB.ofName name with
      | some g => exact bis_global hB IH name b vsp args fn sp g hg s t hok.1 hs
      | none =>
        have hfn : fn.isSome = true := by
          rcases hok.2 with h | h
          · simp [hg] at h
          · exact h
        obtain ⟨g, rfl⟩ := Option.isSome_iff_exists.mp hfn
        exact bis_userCall hB IH name b vsp args g sp hg s t hok.1 hs
    · by_cases hm : ∃ o f fs msp, callee = .member o f fs msp
      · obtain ⟨o, f, fs, msp, rfl⟩ := hm
        simp only [okExpr, Bool.and_eq_true] at hok
        cases hmm : Eval.MutM.ofName f with
        | none => exact bis_member_pure hB IH o f fs msp args fn sp s t hok.1.2 hok.2 hs hmm
        | some mm => exact bis_member_mut hB IH o f fs msp args fn sp s t hok.1.2 hok.2 hs mm hmm
      · exact bis_calleeShape hB callee args fn sp s t m hs
          (fun name b vsp h => hv ⟨name, b, vsp, h⟩) (fun o f fs msp h => hm ⟨o, f, fs, msp, h⟩)

theorem both (hB : B.Ok N) : ∀ m, Both (N := N) B m
  | 0 => {
      expr := fun _ _ _ _ _ => Bis.zero rfl rfl
      list := fun _ _ _ _ _ => Bis.zero rfl rfl
      block := fun _ _ _ _ _ => Bis.zero rfl rfl
      stmts := fun _ _ _ _ _ => Bis.zero rfl rfl
      stmt := fun _ _ _ _ _ => Bis.zero rfl rfl
      loop := fun _ _ _ _ _ _ _ _ => Bis.zero rfl rfl }
  | m + 1 =>
    have IH := both hB m
    { expr := both_expr hB IH
      list := bis_list IH
      block := bis_block hB IH
      stmts := bis_stmts hB IH
      stmt := bis_stmt hB IH
      loop := bis_loop hB IH }

/-- How `Eval.run` reads a result. -/
def outcome : Eval.Res N (Eval.Flow N) → Eval.Outcome N
  | .ok _ st => .ok st.out
  | .err k sp st => .rt k sp st.out
  | .panic site st => .panic site st.out
  | .fuel => .fuelOut

theorem run_eq (rc : Eval.RunCfg) (f : Nat) (root : Block) :
    Eval.run (N := N) rc f root = outcome (Eval.execBlock rc f root (Eval.State.init rc)) := by
  unfold Eval.run outcome; rfl

omit [NumOps N] in
theorem RSim.obs {a : AEval.R (VE N) (AEval.Flow (VE N))} {r : Eval.Res N (Eval.Flow N)} (h : RSim B FlowSim a r) :
    evalObs (outcome r) = fragObs a ∧ fragObs a ≠ none := by
  rcases a with ⟨er | fl, t1⟩
  · have he : ErrSim er t1 r := h
    cases r with
    | ok _ _ => cases he
    | fuel => cases he
    | err k sp s1 =>
      obtain ⟨hk, hout⟩ := he
      rcases hk with rfl | ⟨rfl, rfl⟩ <;> simp [evalObs, fragObs, outcome, hout]
    | panic site s1 =>
      obtain ⟨rfl, hout⟩ := he
      simp [evalObs, fragObs, outcome, hout]
  · obtain ⟨y, s1, rfl, _, hs1⟩ := (show ∃ y s', r = .ok y s' ∧ FlowSim fl y ∧ B.Sim s' t1 from h)
    simp [evalObs, fragObs, outcome, hs1.out]

/-- As functions of their fuel the observation of the fragment's run and the observation of `Eval`'s run converge to the
same observation as soon as one of them is defined for some fuel.  The two refinement theorems (AnalysisRefineTop) are its
two projections. -/
theorem bridge_conv (hB : B.Ok N) (root : Block) (hok : okBlock B.o root = true) (hin : B.rc.input = [])
    (hl : (∃ n, fragObs (AEval.run (B.P (N := N)) B.plan n root) ≠ none) ∨
      (∃ f, evalObs (Eval.run (N := N) B.rc f root) ≠ none)) :
    ∃ ob, Lim (· ≠ none) (fun n => fragObs (AEval.run (B.P (N := N)) B.plan n root)) (some ob) ∧
      Lim (· ≠ none) (fun f => evalObs (Eval.run (N := N) B.rc f root)) (some ob) := by
  have nfA : ∀ a : AEval.R (VE N) (AEval.Flow (VE N)), fragObs a ≠ none → NF a := fun a h h' => by
    apply h; unfold fragObs; rw [h']
  have neE : ∀ r : Eval.Res N (Eval.Flow N), evalObs (outcome r) ≠ none → NE r := fun r h h' => by
    apply h; rw [h']; rfl
  simp only [run_eq] at hl ⊢
  obtain ⟨m, hlive⟩ : ∃ m, Live m (fun n => AEval.execBlock (B.P (N := N)) B.ac n root.stmts (AEval.St.init (VE N)))
      (fun f => Eval.execBlock B.rc f root (Eval.State.init B.rc)) := by
    rcases hl with ⟨n, h⟩ | ⟨f, h⟩
    · exact ⟨n, Or.inl ⟨n, Nat.le_refl n, nfA _ h⟩⟩
    · exact ⟨f, Or.inr ⟨f, Nat.le_refl f, neE _ h⟩⟩
  obtain ⟨a, r, hr, hA, hE⟩ := (both hB m).block root _ _ hok (sim_init B hin) hlive
  obtain ⟨heq, hne⟩ := hr.obs
  obtain ⟨ob, hob⟩ := Option.ne_none_iff_exists'.mp hne
  refine ⟨ob, ?_, ?_⟩
  · rw [← hob]; exact hA.map fragObs nfA
  · rw [← hob, ← heq]; exact hE.map (fun r => evalObs (outcome r)) neE

end NaijaVerif.C03
