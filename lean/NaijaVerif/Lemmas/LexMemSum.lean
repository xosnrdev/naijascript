import NaijaVerif.Lemmas.LexMem
/-
From one string token to the whole token stream: the buffer loop (`Model/LexMem.lean`) and the content
loop (`Model/Lex.lean`) walk the text in lock step (`bufLoop_sync`), and the potential argument
`lexGo_caps` — the capacities handed out from a cursor on are paid for by the bytes still to be read.
-/
namespace NaijaVerif.Lex
open NaijaVerif NaijaVerif.Utf8

/-- the two loops take the same branch in every turn: same cursor, same `has_escape`; and `buffer.len()` is the
length of the content (before the first escape nothing is held), within the capacity -/
theorem bufLoop_sync (hint : Nat → Bytes → Nat → Nat → Nat) (start q : Nat) :
    ∀ (f : Nat) (c : Cur) (buf : Bytes) (esc : Bool) (ds : List Diag) (off : Nat) (b : Buf),
      (scanStrLoop start q f c buf esc ds).cur.rest = (bufLoop hint q f c.rest off esc b).rest ∧
      (scanStrLoop start q f c buf esc ds).escaped = (bufLoop hint q f c.rest off esc b).owned ∧
      ((esc = false → off = 0 ∧ b.len = 0 ∧ buf = []) → (esc = true → b.len = buf.length ∧ 1 ≤ b.len) →
        b.len ≤ b.cap →
        ((bufLoop hint q f c.rest off esc b).owned = true →
          (bufLoop hint q f c.rest off esc b).len = (scanStrLoop start q f c buf esc ds).content.length) ∧
        (bufLoop hint q f c.rest off esc b).len ≤ (bufLoop hint q f c.rest off esc b).cap) := by
  intro f c buf esc ds
  -- cases numbered as in `scanStrLoop_ok` (`Lemmas/LexInv.lean`); in each, `bufLoop` is unfolded along the same branch
  fun_induction scanStrLoop start q f c buf esc ds <;> intro off b
  case case1 => exact ⟨rfl, rfl, fun _ h2 hfit => ⟨fun ho => (h2 ho).1, hfit⟩⟩
  case case2 hnl _ =>
    rw [bufLoop, if_pos hnl]
    exact ⟨rfl, rfl, fun _ h2 hfit => ⟨fun ho => by dsimp only at ho ⊢; rw [if_pos ho]; exact (h2 ho).1, hfit⟩⟩
  case case3 hnl hdw =>
    rw [bufLoop, if_neg hnl, hdw]
    exact ⟨rfl, rfl, fun _ h2 hfit => ⟨fun ho => by dsimp only at ho ⊢; rw [if_pos ho]; exact (h2 ho).1, hfit⟩⟩
  case case4 esc _ qe _ hnl _ _ hdw _ hx =>
    rw [bufLoop, if_neg hnl, hdw]; dsimp only; rw [if_pos hx]
    refine ⟨rfl, rfl, fun _ h2 hfit => ?_⟩
    cases esc with
    | false => exact ⟨nofun, hfit⟩
    | true =>
      simp only [Bool.true_and, decide_eq_true_eq, Buf.push_of_pos, if_true]
      exact ⟨fun _ => by rw [Buf.push_len, (h2 rfl).1, List.length_append], Buf.push_fits _ _ hfit⟩
  case case5 hnl _ hx _ hdw =>
    rw [bufLoop, if_neg hnl, hdw]; dsimp only; rw [if_neg hx]
    refine ⟨rfl, rfl, fun h1 h2 hfit => ?_⟩
    obtain ⟨hl, hft⟩ := run_holds h1 h2 hfit rfl
    exact ⟨fun _ => by rw [List.length_append]; exact hl, hft⟩
  case case6 qe _ hnl _ _ hx buf' e tl _ hy hdw ih =>
    rw [bufLoop, if_neg hnl, hdw]; dsimp only; rw [if_neg hx, hy]
    refine ⟨(ih _ _).1, (ih _ _).2.1, fun h1 h2 hfit => ?_⟩
    obtain ⟨hl, hft⟩ := run_holds h1 h2 hfit rfl
    exact (ih _ _).2.2 nofun
      (fun _ => ⟨by rw [Buf.push_len, hl]; simp only [buf', List.length_append, Nat.add_assoc]; rfl,
        by rw [Buf.push_len]; omega⟩) (Buf.push_fits _ _ hft)
  case case7 qe _ hnl _ _ hx buf' e tl hy _ hdw ih =>
    rw [bufLoop, if_neg hnl, hdw]; dsimp only; rw [if_neg hx, hy]
    refine ⟨(ih _ _).1, (ih _ _).2.1, fun h1 h2 hfit => ?_⟩
    obtain ⟨hl, hft⟩ := run_holds h1 h2 hfit rfl
    have hk : 1 ≤ charLen e := Utf8.charLen_pos e
    exact (ih _ _).2.2 nofun
      (fun _ => ⟨by rw [Buf.push_len, hl]; simp only [buf', List.length_append, Nat.add_assoc]; rfl,
        by rw [Buf.push_len]; simp only [List.length_take, List.length_cons]; omega⟩) (Buf.push_fits _ _ hft)

theorem isOwnedStr_isStr {t : SpTok} (h : isOwnedStr t = true) : t.tok.isStr = true := by
  obtain ⟨tok, sp⟩ := t
  cases tok <;> simp_all [isOwnedStr, Tok.isStr]

theorem isOwnedStr_str (content : Bytes) (esc : Bool) (sp : Span) : isOwnedStr ⟨.str content esc, sp⟩ = esc := by
  cases esc <;> rfl

theorem capsOf_cons (cap : Bytes → Nat → Nat) (src : Bytes) (t : SpTok) (ts : List SpTok) :
    capsOf cap src (t :: ts) = if isOwnedStr t then cap src t.span.lo :: capsOf cap src ts else capsOf cap src ts := by
  simp only [capsOf, List.filter_cons]
  split <;> simp

theorem isOwnedStr_eofTok (ts : List SpTok) : isOwnedStr (eofTok ts) = false := by
  rw [isOwnedStr, eofTok_tok]

theorem capsOf_lex (cap : Bytes → Nat → Nat) (src : Bytes) :
    capsOf cap src (lex src).1 = capsOf cap src (lexGo (src.length + 1) ⟨0, src⟩).1 := by
  simp [capsOf, lex, lexIter, List.filter_append, isOwnedStr_eofTok]

theorem rest_suffix {src : Bytes} {c c' : Cur} (hc : c.Ok src) (hc' : c'.Ok src) (h : c.pos ≤ c'.pos) :
    c'.rest = c.rest.drop (c'.pos - c.pos) := by
  rw [hc.1, hc'.1, List.drop_drop]
  congr 1; omega

theorem rest_sub {src : Bytes} {c c' : Cur} (hc : c.Ok src) (hc' : c'.Ok src) (h : c.pos ≤ c'.pos) :
    (∀ x, x ∈ c'.rest → x ∈ c.rest) ∧ c'.rest.length ≤ c.rest.length ∧ (Tail c.rest → Tail c'.rest) := by
  rw [rest_suffix hc hc' h]
  exact ⟨fun x hx => List.mem_of_mem_drop hx, by rw [List.length_drop]; omega, fun ht => ht.drop _⟩

/-- the share of quote character `c` (`34` is `"`, `39` is `'`): the bytes left, as long as `c` can still open a string -/
def share (c : Nat) (r : Bytes) : Nat := if c ∈ r then r.length else 0

/-- Twice the bytes left pay for the tokens that end regularly (amortised doubling: at most twice their extent) and
for the first token that runs into the end of input (at most twice what is left).  Behind that one the only backslash
left is the last byte, so reservations are exact (`potTail`), and only a token opened by the other quote character
can run into the end again: the third share, there while both `"` (34) and `'` (39) are ahead (`pot_eq`). -/
def pot (r : Bytes) : Nat :=
  r.length + r.length + (if 34 ∈ r ∧ 39 ∈ r then r.length else 0)

/-- The potential behind a token that ran into the end of input, where the only backslash left is the last byte: every
quote character still ahead pays for the rest once (no factor 2, a buffer is its reservation there, at most the body:
`First.tail`), and a token that runs into the end uses its quote character up (`potTail_eof`). -/
def potTail (r : Bytes) : Nat := share 34 r + share 39 r

theorem share_of_mem {c : Nat} {r : Bytes} (h : c ∈ r) : share c r = r.length := if_pos h
theorem share_of_not_mem {c : Nat} {r : Bytes} (h : c ∉ r) : share c r = 0 := if_neg h
theorem share_le (c : Nat) (r : Bytes) : share c r ≤ r.length := by
  unfold share; split <;> omega

theorem share_mono (c : Nat) {r r' : Bytes} (hsub : ∀ x, x ∈ r' → x ∈ r) (hlen : r'.length ≤ r.length) :
    share c r' ≤ share c r := by
  by_cases h : c ∈ r'
  · rw [share_of_mem h, share_of_mem (hsub c h)]; exact hlen
  · rw [share_of_not_mem h]; exact Nat.zero_le _

theorem pot_eq (r : Bytes) : pot r = 2 * r.length + min (share 34 r) (share 39 r) := by
  unfold pot share
  by_cases h34 : 34 ∈ r <;> by_cases h39 : 39 ∈ r <;>
    simp only [h34, h39, and_self, and_true, and_false, if_true, if_false] <;> omega

-- For a goal that has `pot` unfolded into its tests `34 ∈ r`, `39 ∈ r`.  The lemmas below do not call it: they rewrite with
-- `pot_eq` and leave shares to `omega`.
/-- case split on which quote characters are still ahead -/
macro "potcases" r:ident r':ident h34:ident h39:ident : tactic => `(tactic|
  (by_cases a : 34 ∈ $r' <;> by_cases b : 39 ∈ $r' <;> by_cases a' : 34 ∈ $r <;> by_cases b' : 39 ∈ $r <;>
    simp only [a, b, a', b', and_self, and_true, true_and, and_false, false_and, if_true, if_false] at * <;>
    first
      | omega
      | exact absurd ($h34 a) a'
      | exact absurd ($h39 b) b'
      | contradiction))

section
variable {r r' : Bytes} {q cap S : Nat}

theorem pot_mono (hsub : ∀ x, x ∈ r' → x ∈ r) (hlen : r'.length ≤ r.length) :
    pot r' ≤ pot r ∧ potTail r' ≤ potTail r := by
  have h34 := share_mono 34 hsub hlen
  have h39 := share_mono 39 hsub hlen
  rw [pot_eq, pot_eq, potTail, potTail]
  omega

theorem pot_normal (hsub : ∀ x, x ∈ r' → x ∈ r) (hlen : r'.length ≤ r.length)
    (hcap : cap + 2 * r'.length ≤ 2 * r.length) (hS : S ≤ pot r') : cap + S ≤ pot r := by
  have h34 := share_mono 34 hsub hlen
  have h39 := share_mono 39 hsub hlen
  rw [pot_eq] at hS ⊢
  omega

theorem pot_eof (hq : q = 34 ∨ q = 39) (hqr : q ∈ r) (hqr' : q ∉ r') (hsub : ∀ x, x ∈ r' → x ∈ r)
    (hlen : r'.length ≤ r.length) (hcap : cap ≤ 2 * r.length) (hS : S ≤ potTail r') : cap + S ≤ pot r := by
  have h34 := share_mono 34 hsub hlen
  have h39 := share_mono 39 hsub hlen
  have h1 := share_of_mem hqr
  have h2 := share_of_not_mem hqr'
  have := share_le 34 r'
  have := share_le 39 r'
  rw [pot_eq]; rw [potTail] at hS
  rcases hq with rfl | rfl <;> omega

theorem potTail_eof (hq : q = 34 ∨ q = 39) (hqr : q ∈ r) (hqr' : q ∉ r') (hsub : ∀ x, x ∈ r' → x ∈ r)
    (hlen : r'.length ≤ r.length) (hcap : cap + 1 ≤ r.length) (hS : S ≤ potTail r') : cap + S ≤ potTail r := by
  have h34 := share_mono 34 hsub hlen
  have h39 := share_mono 39 hsub hlen
  have h1 := share_of_mem hqr
  have h2 := share_of_not_mem hqr'
  rw [potTail] at hS ⊢
  rcases hq with rfl | rfl <;> omega

end

theorem pot_le (r : Bytes) : pot r ≤ 3 * r.length := by
  unfold pot; split <;> omega

theorem pot_one_quote {r : Bytes} (hq : 34 ∉ r ∨ 39 ∉ r) : pot r = 2 * r.length := by
  unfold pot
  rw [if_neg (by rcases hq with hq | hq <;> simp [hq])]
  omega

/-- What `lexGo_caps` needs of one turn `step c = .tok t c' _` that emits an owned string token: the token is `q :: body`
somewhere in `c.rest` (`suffix`, `room`: so its extent is paid by bytes of `c.rest`, and `Tail c.rest` passes to `body`;
`mem`: its quote character is still ahead of `c`), its buffer satisfies `First`, and the next cursor stands where the
buffer loop stopped (`rest`: so `First`'s facts about what is left are facts about `c'.rest`). -/
structure TokBuf (src : Bytes) (c c' : Cur) (t : SpTok) (q : Nat) (body : Bytes) : Prop where
  quote : q = 34 ∨ q = 39
  at_lo : src.drop t.span.lo = q :: body
  mem : q ∈ c.rest
  room : 1 + body.length ≤ c.rest.length
  suffix : ∃ k, q :: body = c.rest.drop k
  first : First q body (strBuf hintFixed src t.span.lo)
  owned : (strBuf hintFixed src t.span.lo).owned = true
  rest : c'.rest = (strBuf hintFixed src t.span.lo).rest

/-- The buffer of the owned string token a turn emits.  First part, where it comes from: `strBuf` at the opening quote is
the buffer loop run beside the content loop from the start state (`bufLoop_sync`), so it stops where the token stops and is
owned.  Second part, what it holds: `buffer.len()` is the length of the token's content, within the capacity. -/
theorem strBuf_of_step {src : Bytes} {c c' : Cur} {t : SpTok} {ds : List Diag} (hc : c.Ok src)
    (hs : step c = .tok t c' ds) (ho : isOwnedStr t = true) :
    ∃ q body content,
      ((q = 34 ∨ q = 39) ∧ (skipWs c).rest = q :: body ∧ t.span.lo = (skipWs c).pos ∧
        strBuf hintFixed src t.span.lo = bufLoop hintFixed q (body.length + 1) body 0 false ⟨0, 0⟩ ∧
        c'.rest = (strBuf hintFixed src t.span.lo).rest ∧ (strBuf hintFixed src t.span.lo).owned = true) ∧
      t.tok = .str content true ∧ (strBuf hintFixed src t.span.lo).len = content.length ∧
        content.length ≤ strCap src t.span.lo := by
  obtain ⟨q, body, hq, hr, rfl, rfl⟩ := step_str_inv hs (isOwnedStr_isStr ho)
  have hesc : (scanString (skipWs c).pos q ⟨(skipWs c).pos + 1, body⟩).escaped = true :=
    (isOwnedStr_str ..).symm.trans ho
  have hat : src.drop (skipWs c).pos = q :: body := by rw [← (skipWs_ok hc).1.1, hr]
  have hsync := bufLoop_sync hintFixed (skipWs c).pos q (body.length + 1) ⟨(skipWs c).pos + 1, body⟩ [] false [] 0 ⟨0, 0⟩
  have hbuf : strBuf hintFixed src (skipWs c).pos = bufLoop hintFixed q (body.length + 1) body 0 false ⟨0, 0⟩ := by
    simp only [strBuf, hat]
  have hlen := hsync.2.2 (fun _ => ⟨rfl, rfl, rfl⟩) nofun (Nat.le_refl _)
  have hown := hsync.2.1 ▸ hesc
  refine ⟨q, body, _, ⟨hq, hr, rfl, hbuf, ?_⟩, by rw [hesc], ?_⟩
  · dsimp only; rw [hbuf]; exact ⟨hsync.1, hown⟩
  · dsimp only [strCap]; rw [hbuf]; exact ⟨hlen.1 hown, Nat.le_trans (Nat.le_of_eq (hlen.1 hown).symm) hlen.2⟩

theorem tokBuf {src : Bytes} {c c' : Cur} {t : SpTok} {ds : List Diag} (hc : c.Ok src)
    (hs : step c = .tok t c' ds) (ho : isOwnedStr t = true) : ∃ q body, TokBuf src c c' t q body := by
  obtain ⟨q, body, _, ⟨hq, hr, hlo, hbuf, hrest, hown⟩, -⟩ := strBuf_of_step hc hs ho
  have hw := skipWs_ok hc
  have hsuf := rest_suffix hc hw.1 hw.2
  have hlen := congrArg List.length (List.take_append_drop ((skipWs c).pos - c.pos) c.rest)
  rw [← hsuf, hr, List.length_append, List.length_cons] at hlen
  refine ⟨q, body, hq, by rw [hlo, ← hw.1.1, hr], ?_, by omega, ⟨_, by rw [← hr]; exact hsuf⟩, ?_, hown, hrest⟩
  · have : q ∈ (skipWs c).rest := by rw [hr]; simp
    rw [hsuf] at this
    exact List.mem_of_mem_drop this
  · rw [hbuf]; exact bufLoop_first q _ body (Nat.lt_succ_self _)

/-- A token that ends regularly pays with its own extent (`pot_normal`), one that runs into
the end of input uses up its quote character (`pot_eof`); the second component is the same where the only backslash
left is the last byte and reservations are exact (`potTail_eof`). -/
theorem lexGo_caps {src : Bytes} : ∀ (f : Nat) (c : Cur), c.Ok src →
    (capsOf strCap src (lexGo f c).1).sum ≤ pot c.rest ∧
    (Tail c.rest → (capsOf strCap src (lexGo f c).1).sum ≤ potTail c.rest) := by
  intro f
  induction f with
  | zero => intro c _; simp [lexGo, capsOf]
  | succ f ih =>
    intro c hc
    have hok := step_ok hc
    cases hs : step c with
    | eof p => rw [lexGo_eof hs]; simp [capsOf]
    | skip c' ds =>
      rw [hs] at hok
      rw [lexGo_skip hs]; dsimp only
      obtain ⟨hsub, hlen, htl⟩ := rest_sub hc hok.1 (Nat.le_of_lt hok.2.1)
      have hm := pot_mono hsub hlen
      have := ih c' hok.1
      exact ⟨by omega, fun ht => by have := this.2 (htl ht); omega⟩
    | tok t c' ds =>
      rw [hs] at hok
      rw [lexGo_tok hs]; dsimp only; rw [capsOf_cons]
      obtain ⟨hsub, hlen, htl⟩ := rest_sub hc hok.1 (Nat.le_of_lt hok.2.1)
      have hm := pot_mono hsub hlen
      have hih := ih c' hok.1
      split
      next ho =>
        obtain ⟨q, body, tb⟩ := tokBuf hc hs ho
        have hroom := tb.room
        -- a backslash that can only be the last byte of the text is the last byte of this token's body
        have hT : Tail c.rest → Tail body := fun ht => by
          obtain ⟨k, hk⟩ := tb.suffix
          exact Tail.suffix (p := [q]) (show Tail (q :: body) from hk ▸ ht.drop k)
        simp only [List.sum_cons, show strCap src t.span.lo = (strBuf hintFixed src t.span.lo).cap from rfl]
        have hrl : c'.rest.length = (strBuf hintFixed src t.span.lo).rest.length := by rw [tb.rest]
        cases hat : (strBuf hintFixed src t.span.lo).atEof with
        | false =>
          have hn := tb.first.normal tb.owned hat
          have hrr := tb.first.rest_le
          exact ⟨pot_normal hsub hlen (by omega) hih.1, fun ht => by
            have := (tb.first.tail tb.owned (hT ht)).1; rw [hat] at this; cases this⟩
        | true =>
          have he := tb.first.eof tb.owned hat
          have hq' : q ∉ c'.rest := by rw [tb.rest]; exact he.2.1
          have hS := hih.2 (by rw [tb.rest]; exact he.2.2)
          exact ⟨pot_eof tb.quote tb.mem hq' hsub hlen (by omega) hS, fun ht => by
            have := (tb.first.tail tb.owned (hT ht)).2
            exact potTail_eof tb.quote tb.mem hq' hsub hlen (by omega) hS⟩
      next ho => exact ⟨by omega, fun ht => by have := hih.2 (htl ht); omega⟩

/-- `TokBuf` in terms of the source and the token's span alone (no cursor, no buffer loop): the statement the property
theorems of `Props/C07Mem.lean` project. -/
structure TokCap (src : Bytes) (t : SpTok) : Prop where
  span : t.span.lo < t.span.hi ∧ t.span.hi ≤ src.length
  quote : ∃ q, (q = 34 ∨ q = 39) ∧ src[t.span.lo]? = some q
  normal : strAtEof src t.span.lo = false → strCap src t.span.lo ≤ 2 * (t.span.hi - t.span.lo)
  eof : strAtEof src t.span.lo = true → strCap src t.span.lo ≤ 2 * (src.length - t.span.lo) ∧
    ∀ q, src[t.span.lo]? = some q → q ∉ src.drop t.span.hi

theorem tokCap_of_step {src : Bytes} {c c' : Cur} {t : SpTok} {ds : List Diag} (hc : c.Ok src)
    (hs : step c = .tok t c' ds) (ho : isOwnedStr t = true) : TokCap src t := by
  have hok := step_ok hc
  rw [hs] at hok
  obtain ⟨hc', _, _, _, _, hhi, _⟩ := hok
  obtain ⟨q, body, tb⟩ := tokBuf hc hs ho
  have hlen' := hc'.len
  have hrl : c'.rest.length = (strBuf hintFixed src t.span.lo).rest.length := by rw [tb.rest]
  have hdl := congrArg List.length tb.at_lo
  simp only [List.length_drop, List.length_cons] at hdl
  have hq : src[t.span.lo]? = some q := by
    have := congrArg (·[0]?) tb.at_lo
    simpa using this
  have hrr := tb.first.rest_le
  refine ⟨by omega, ⟨q, tb.quote, hq⟩, ?_, ?_⟩
  · intro hat
    have := tb.first.normal tb.owned hat
    show (strBuf hintFixed src t.span.lo).cap ≤ _
    omega
  · intro hat
    have := tb.first.eof tb.owned hat
    refine ⟨by show (strBuf hintFixed src t.span.lo).cap ≤ _; omega, ?_⟩
    intro q' hq'
    rw [hq] at hq'
    injection hq' with hq'
    subst hq'
    rw [hhi, ← hc'.1, tb.rest]
    exact this.2.1

theorem lex_owned_of_turn {src : Bytes} (h : validUtf8 src = true) {t : SpTok} (ht : t ∈ (lex src).1)
    (ho : isOwnedStr t = true) : ∃ c c' ds, c.Ok src ∧ step c = .tok t c' ds := by
  rcases lex_tok_of_turn h ht with rfl | h
  · rw [isOwnedStr_eofTok] at ho; cases ho
  · exact h

theorem lex_tokCap {src : Bytes} (h : validUtf8 src = true) : ∀ t ∈ (lex src).1, isOwnedStr t = true → TokCap src t := by
  intro t ht ho
  obtain ⟨c, c', ds, hc, hs⟩ := lex_owned_of_turn h ht ho
  exact tokCap_of_step hc hs ho

theorem lex_strBuf_holds_content {src : Bytes} (h : validUtf8 src = true) : ∀ t ∈ (lex src).1, isOwnedStr t = true →
    ∃ content, t.tok = .str content true ∧ (strBuf hintFixed src t.span.lo).len = content.length ∧
      content.length ≤ strCap src t.span.lo := by
  intro t ht ho
  obtain ⟨c, c', ds, hc, hs⟩ := lex_owned_of_turn h ht ho
  obtain ⟨_, _, content, -, hh⟩ := strBuf_of_step hc hs ho
  exact ⟨content, hh⟩

end NaijaVerif.Lex
