import NaijaVerif.Lemmas.AnalysisEvalEq
import NaijaVerif.Lemmas.ListFacts
/-
The time-varying agreement relation of the liveness simulation (T5, `c03_full`), seen from the running activation.  The
environments of the pruned and of the plain run have the same shape (same scope tags).  The activation's own scopes `σ`
are related scope by scope (`ScopeAgree`) under ONE agreement set `A` — the locals live at its current program point —
each with a set `M` of locals whose declaration the pruned run skipped in this scope instance (their slots may be
missing; nothing refers to them any more).  Only the locals declared by the resolver scope a runtime scope is an instance
of (`ds x = tag`) are ever looked for in it, so only those are constrained.  Of the scopes below, which belong to
suspended activations, only a relation `K` is known that is kept by what a callee may do to them: read the locals `R`,
store equal values into the locals `R` and `W` (`Susp`).  A callee is started with the caller's whole relation as its
`K` (`trel_susp`) and hands it back as it was (`trel_nil`).
-/
namespace NaijaVerif.C03
open NaijaVerif NaijaVerif.Analysis NaijaVerif.AEval

variable {V : Type}

/-- The scopes of an activation, innermost first: tag and the locals whose slots may be missing on the pruned side. -/
abbrev SigM := List (Option Nat × (Nat → Prop))

def tagsOf (σ : List (Option Nat × (Nat → Prop))) : List (Option Nat) := σ.map (·.1)

/-- No resolver scope is instantiated twice.  Not `List.Nodup`: the tag `none` (root scope, parameter scope of a function
without parameters, empty block) may repeat; nothing is ever looked for in such a scope. -/
def TagsNodup : List (Option Nat) → Prop
  | [] => True
  | t :: ts => (∀ tg, t = some tg → some tg ∉ ts) ∧ TagsNodup ts

/-- Two instances `sa` (pruned), `sb` (plain) of scope `t`: values agree on `A`, slots exist on both sides or on neither
outside `M`. -/
def ScopeAgree (ds : Nat → Option Nat) (t : Option Nat) (A M : Nat → Prop) (sa sb : List (Slot V)) : Prop :=
  ∀ x tg, ds x = some tg → t = some tg → ¬ M x →
    ((findSlot x sa).isSome = (findSlot x sb).isSome) ∧ (A x → findSlot x sa = findSlot x sb)

theorem scopeAgree_mono {ds : Nat → Option Nat} {t : Option Nat} {A A' M : Nat → Prop} {sa sb : List (Slot V)}
    (hA : ∀ y tg, ds y = some tg → t = some tg → A' y → A y) (hs : ScopeAgree ds t A M sa sb) :
    ScopeAgree ds t A' M sa sb :=
  fun x tg hx ht hm => ⟨(hs x tg hx ht hm).1, fun ha => (hs x tg hx ht hm).2 (hA x tg hx ht ha)⟩

theorem scopeAgree_set {ds : Nat → Option Nat} {t : Option Nat} {A M : Nat → Prop} {x tg : Nat} (v : V)
    {sa sb : List (Slot V)} (hs : ScopeAgree ds t A M sa sb) (hx : ds x = some tg) (ht : t = some tg) (hm : ¬ M x) :
    ORel (ScopeAgree ds t (fun y => A y ∨ y = x) M) (setSlot x v sa) (setSlot x v sb) := by
  have hsome := (hs x tg hx ht hm).1
  rw [← setSlot_isSome (v := v), ← setSlot_isSome (v := v)] at hsome
  cases ha : setSlot x v sa <;> cases hb : setSlot x v sb <;> rw [ha, hb] at hsome
  · trivial
  · cases hsome
  · cases hsome
  · intro y tg' hy ht' hm'
    rw [findSlot_setSlot y _ _ ha, findSlot_setSlot y _ _ hb]
    by_cases hxy : x = y
    · rw [if_pos hxy, if_pos hxy]
      exact ⟨rfl, fun _ => rfl⟩
    · rw [if_neg hxy, if_neg hxy]
      have := hs y tg' hy ht' hm'
      exact ⟨this.1, fun hA => this.2 (hA.resolve_right (Ne.symm hxy))⟩

theorem scopeAgree_set_plain {ds : Nat → Option Nat} {t : Option Nat} {A M : Nat → Prop} {x : Nat} {v : V}
    {sa sb sb' : List (Slot V)} (hs : ScopeAgree ds t A M sa sb) (hb : setSlot x v sb = some sb') :
    ScopeAgree ds t (fun y => A y ∧ y ≠ x) M sa sb' := by
  intro y tg hy ht hm
  have := hs y tg hy ht hm
  rw [findSlot_setSlot y _ _ hb]
  by_cases hxy : x = y
  · subst hxy
    have hsb : (findSlot x sb).isSome = true := by rw [← setSlot_isSome (v := v), hb]; rfl
    rw [if_pos rfl, this.1, hsb]
    exact ⟨rfl, fun hA => absurd rfl hA.2⟩
  · rw [if_neg hxy]
    exact ⟨this.1, fun hA => this.2 hA.1⟩

inductive TRel (ds : Nat → Option Nat) (A : Nat → Prop) (K : List (Scope V) → List (Scope V) → Prop) :
    SigM → List (Scope V) → List (Scope V) → Prop
  | base {a b : List (Scope V)} : K a b → TRel ds A K [] a b
  | cons {t : Option Nat} {M : Nat → Prop} {σ : SigM} {sa sb : Scope V} {a b : List (Scope V)} : sa.tag = t → sb.tag = t →
      ScopeAgree ds t A M sa.slots sb.slots → TRel ds A K σ a b → TRel ds A K ((t, M) :: σ) (sa :: a) (sb :: b)

/-- What is known of the relation `K` on the scopes below an activation.  `assign` allows a store into a local of `R` as well:
an expression stores only into the root of an l-value, and the facts record that root among the reads (`fit_assign` passes
`x ∈ transReads f`). -/
structure Susp (ds : Nat → Option Nat) (R W : Nat → Prop) (K : List (Scope V) → List (Scope V) → Prop) : Prop where
  look : ∀ {a b : List (Scope V)} {x : Nat}, K a b → R x → lookupEnv ds x a = lookupEnv ds x b
  assign : ∀ {a b : List (Scope V)} {x : Nat} (v : V), K a b → R x ∨ W x → ORel K (assignEnv ds x v a) (assignEnv ds x v b)

section trel
variable {ds : Nat → Option Nat} {A : Nat → Prop} {K : List (Scope V) → List (Scope V) → Prop}

theorem lookupEnv_cons {x tg : Nat} (hx : ds x = some tg) (sc : Scope V) (scs : List (Scope V)) :
    lookupEnv ds x (sc :: scs) = if sc.tag == some tg then findSlot x sc.slots else lookupEnv ds x scs := by
  simp only [lookupEnv, hx, findScope]
  by_cases h : (sc.tag == some tg) = true
  · rw [if_pos h, if_pos h]
  · rw [if_neg h, if_neg h]

theorem assignEnv_cons {x tg : Nat} (hx : ds x = some tg) (v : V) (sc : Scope V) (scs : List (Scope V)) :
    assignEnv ds x v (sc :: scs) =
      if sc.tag == some tg then (setSlot x v sc.slots).map (fun s => { sc with slots := s } :: scs)
      else (assignEnv ds x v scs).map (sc :: ·) := by
  simp only [assignEnv, hx, setIn]

theorem trel_weaken {A' : Nat → Prop} {σ : SigM} {a b : List (Scope V)} (h : TRel ds A K σ a b)
    (hA : ∀ y tg, ds y = some tg → some tg ∈ tagsOf σ → A' y → A y) : TRel ds A' K σ a b := by
  induction h with
  | base h => exact .base h
  | cons h1 h2 h3 _ ih =>
    exact .cons h1 h2 (scopeAgree_mono (fun y tg hy ht => hA y tg hy (List.mem_cons.mpr (Or.inl ht.symm))) h3)
      (ih fun y tg hy ht => hA y tg hy (List.mem_cons_of_mem _ ht))

theorem trel_look_own {x tg : Nat} (hx : ds x = some tg) (hA : A x) {σ : SigM} {a b : List (Scope V)}
    (h : TRel ds A K σ a b) (hin : some tg ∈ tagsOf σ) (hM : ∀ M, (some tg, M) ∈ σ → ¬ M x) :
    lookupEnv ds x a = lookupEnv ds x b := by
  induction h with
  | base _ => cases hin
  | @cons t M σ sa sb a b h1 h2 h3 _ ih =>
    rw [lookupEnv_cons hx, lookupEnv_cons hx, h1, h2]
    by_cases ht : (t == some tg) = true
    · rw [if_pos ht, if_pos ht]
      cases beq_iff_eq.mp ht
      exact (h3 x tg hx rfl (hM M List.mem_cons_self)).2 hA
    · rw [if_neg ht, if_neg ht]
      exact ih ((List.mem_cons.mp hin).resolve_left fun e => ht (beq_iff_eq.mpr e.symm))
        fun M' h => hM M' (List.mem_cons_of_mem _ h)

theorem trel_look_rest {R W : Nat → Prop} (hK : Susp ds R W K) {x : Nat} (hR : R x) {σ : SigM} {a b : List (Scope V)}
    (h : TRel ds A K σ a b) (hout : ∀ tg, ds x = some tg → some tg ∉ tagsOf σ) : lookupEnv ds x a = lookupEnv ds x b := by
  induction h with
  | base h => exact hK.look h hR
  | @cons t M σ sa sb a b h1 h2 _ _ ih =>
    cases hx : ds x with
    | none => simp only [lookupEnv, hx]
    | some tg =>
      have ht : ¬ (t == some tg) = true := fun e => hout tg hx (List.mem_cons.mpr (Or.inl (beq_iff_eq.mp e).symm))
      rw [lookupEnv_cons hx, lookupEnv_cons hx, h1, h2, if_neg ht, if_neg ht]
      exact ih fun tg' h' hm => hout tg' h' (List.mem_cons_of_mem _ hm)

theorem trel_assign_own {x tg : Nat} (v : V) (hx : ds x = some tg) {σ : SigM} {a b : List (Scope V)}
    (h : TRel ds A K σ a b) (hnd : TagsNodup (tagsOf σ)) (hin : some tg ∈ tagsOf σ) (hM : ∀ M, (some tg, M) ∈ σ → ¬ M x) :
    ORel (TRel ds (fun y => A y ∨ y = x) K σ) (assignEnv ds x v a) (assignEnv ds x v b) := by
  induction h with
  | base _ => cases hin
  | @cons t M σ sa sb a b h1 h2 h3 h4 ih =>
    rw [assignEnv_cons hx, assignEnv_cons hx, h1, h2]
    -- no other scope of the activation declares `x`
    have hx' : ∀ {y tg'}, ds y = some tg' → y = x → tg' = tg := fun hy e => by
      rw [e, hx] at hy; exact (Option.some.inj hy).symm
    by_cases ht : (t == some tg) = true
    · rw [if_pos ht, if_pos ht]
      cases beq_iff_eq.mp ht
      refine (scopeAgree_set v h3 hx rfl (hM M List.mem_cons_self)).map fun _ _ hs => .cons rfl rfl hs (trel_weaken h4 ?_)
      exact fun y tg' hy hin' hA => hA.resolve_right fun e => hnd.1 tg rfl (hx' hy e ▸ hin')
    · rw [if_neg ht, if_neg ht]
      refine (ih hnd.2 ((List.mem_cons.mp hin).resolve_left fun e => ht (beq_iff_eq.mpr e.symm))
        fun M' h => hM M' (List.mem_cons_of_mem _ h)).map fun _ _ hr => .cons h1 h2 (scopeAgree_mono ?_ h3) hr
      exact fun y tg' hy ht' hA => hA.resolve_right fun e => ht (beq_iff_eq.mpr (hx' hy e ▸ ht'))

theorem trel_assign_rest {R W : Nat → Prop} (hK : Susp ds R W K) {x : Nat} (v : V) (hW : R x ∨ W x) {σ : SigM}
    {a b : List (Scope V)} (h : TRel ds A K σ a b) (hout : ∀ tg, ds x = some tg → some tg ∉ tagsOf σ) :
    ORel (TRel ds A K σ) (assignEnv ds x v a) (assignEnv ds x v b) := by
  induction h with
  | base h => exact (hK.assign v h hW).mono fun _ _ => .base
  | @cons t M σ sa sb a b h1 h2 h3 _ ih =>
    cases hx : ds x with
    | none => simp only [assignEnv, hx]; trivial
    | some tg =>
      have ht : ¬ (t == some tg) = true := fun e => hout tg hx (List.mem_cons.mpr (Or.inl (beq_iff_eq.mp e).symm))
      rw [assignEnv_cons hx, assignEnv_cons hx, h1, h2, if_neg ht, if_neg ht]
      exact (ih fun tg' h' hm => hout tg' h' (List.mem_cons_of_mem _ hm)).map fun _ _ hr => .cons h1 h2 h3 hr

theorem trel_assign_plain {x tg : Nat} {v : V} (hx : ds x = some tg) {σ : SigM} {a b b' : List (Scope V)}
    (h : TRel ds A K σ a b) (hin : some tg ∈ tagsOf σ) (hb : assignEnv ds x v b = some b') :
    TRel ds (fun y => A y ∧ y ≠ x) K σ a b' := by
  induction h generalizing b' with
  | base _ => cases hin
  | @cons t M σ sa sb a b h1 h2 h3 h4 ih =>
    rw [assignEnv_cons hx, h2] at hb
    by_cases ht : (t == some tg) = true
    · rw [if_pos ht] at hb
      obtain ⟨s', hs', rfl⟩ := Option.map_eq_some_iff.mp hb
      exact .cons h1 rfl (scopeAgree_set_plain h3 hs') (trel_weaken h4 fun _ _ _ _ h => h.1)
    · rw [if_neg ht] at hb
      obtain ⟨t', ht', rfl⟩ := Option.map_eq_some_iff.mp hb
      exact .cons h1 h2 (scopeAgree_mono (fun _ _ _ _ h => h.1) h3)
        (ih ((List.mem_cons.mp hin).resolve_left fun e => ht (beq_iff_eq.mpr e.symm)) ht')

theorem trel_define {x tg : Nat} {v : V} {M : Nat → Prop} {σ : SigM} {a b : List (Scope V)} (hx : ds x = some tg)
    (h : TRel ds A K ((some tg, M) :: σ) a b) (hnd : TagsNodup (tagsOf ((some tg, M) :: σ))) :
    TRel ds (fun y => A y ∨ y = x) K ((some tg, M) :: σ) (defineEnv x v a) (defineEnv x v b) := by
  cases h with
  | cons h1 h2 h3 h4 =>
    refine .cons h1 h2 (fun y tg' hy ht hm => ?_) (trel_weaken h4 ?_)
    · simp only [findSlot]
      by_cases hxy : (x == y) = true
      · rw [if_pos hxy, if_pos hxy]
        exact ⟨rfl, fun _ => rfl⟩
      · rw [if_neg hxy, if_neg hxy]
        have := h3 y tg' hy ht hm
        exact ⟨this.1, fun hA => this.2 (hA.resolve_right fun e => hxy (by rw [e]; exact beq_self_eq_true x))⟩
    · rintro y tg' hy hin (hA | rfl)
      · exact hA
      · rw [hx] at hy; cases hy; exact absurd hin (hnd.1 tg rfl)

theorem trel_define_plain {x : Nat} {v : V} {t : Option Nat} {M : Nat → Prop} {σ : SigM} {a b : List (Scope V)}
    (h : TRel ds A K ((t, M) :: σ) a b) : TRel ds A K ((t, fun y => M y ∨ y = x) :: σ) a (defineEnv x v b) := by
  cases h with
  | cons h1 h2 h3 h4 =>
    refine .cons h1 h2 (fun y tg hy ht hm => ?_) h4
    have hxy : ¬ (x == y) = true := fun e => hm (Or.inr (beq_iff_eq.mp e).symm)
    simp only [findSlot, if_neg hxy]
    exact h3 y tg hy ht fun e => hm (Or.inl e)

theorem trel_nil {a b : List (Scope V)} (h : TRel ds A K [] a b) : K a b := by
  cases h with
  | base h => exact h

theorem trel_push {σ : SigM} {a b : List (Scope V)} (h : TRel ds A K σ a b) (t : Option Nat) (M : Nat → Prop)
    (sl : List (Slot V)) : TRel ds A K ((t, M) :: σ) (⟨t, sl⟩ :: a) (⟨t, sl⟩ :: b) :=
  .cons rfl rfl (fun _ _ _ _ _ => ⟨rfl, fun _ => rfl⟩) h

theorem trel_pop {p : Option Nat × (Nat → Prop)} {σ : SigM} {a b : List (Scope V)} (h : TRel ds A K (p :: σ) a b) :
    TRel ds A K σ (a.drop 1) (b.drop 1) := by
  cases h with
  | cons _ _ _ h4 => exact h4

/-- What the activation guarantees to a callee about its own scopes and the ones below: the callee's `K`.  `R'`, `W'`
are what the callee may read and write; of the locals the activation's scopes declare (`own`) it may only touch present
ones and only read agreed ones, the others are among what the activation itself may read and write below it. -/
theorem trel_susp {R W R' W' own : Nat → Prop} (hK : Susp ds R W K) {σ : SigM} (hnd : TagsNodup (tagsOf σ))
    (hin : ∀ x, own x → ∃ tg, ds x = some tg ∧ some tg ∈ tagsOf σ)
    (hout : ∀ x, ¬ own x → ∀ tg, ds x = some tg → some tg ∉ tagsOf σ)
    (hR : ∀ x, R' x → (own x → A x ∧ ∀ p ∈ σ, ¬ p.2 x) ∧ (¬ own x → R x))
    (hW : ∀ x, R' x ∨ W' x → (own x → ∀ p ∈ σ, ¬ p.2 x) ∧ (¬ own x → R x ∨ W x)) :
    Susp ds R' W' (TRel ds A K σ) where
  look := by
    intro a b x h hx
    by_cases ho : own x
    · obtain ⟨tg, hd, hm⟩ := hin x ho
      exact trel_look_own hd ((hR x hx).1 ho).1 h hm fun M hM => ((hR x hx).1 ho).2 _ hM
    · exact trel_look_rest hK ((hR x hx).2 ho) h (hout x ho)
  assign := by
    intro a b x v h hx
    by_cases ho : own x
    · obtain ⟨tg, hd, hm⟩ := hin x ho
      exact (trel_assign_own v hd h hnd hm fun M hM => (hW x hx).1 ho _ hM).mono
        fun _ _ hr => trel_weaken hr fun _ _ _ _ => Or.inl
    · exact trel_assign_rest hK v ((hW x hx).2 ho) h (hout x ho)

/-- Nothing lies below the root activation; equality is kept by everything. -/
theorem susp_eq (ds : Nat → Option Nat) (R W : Nat → Prop) : Susp (V := V) ds R W Eq where
  look := fun h _ => h ▸ rfl
  assign := fun {a b x} v h _ => by
    cases h
    cases assignEnv ds x v a
    · trivial
    · exact rfl

end trel

/- A description of a whole environment with an agreement set per runtime scope (a `Frame` each), where `TRel` has one per
activation.  No relation is stated over it: `updFrame_rest` (an update at a tag outside the activation's own scopes passes
them by) is the one fact about it, and nothing else uses the four declarations. -/

structure Frame where
  tag : Option Nat
  /-- locals whose values agree -/
  A : Nat → Prop
  /-- locals whose slots may be missing on the pruned side -/
  M : Nat → Prop

def updFrame (tg : Nat) (g : Frame → Frame) : List Frame → List Frame
  | [] => []
  | fr :: Γ => if fr.tag == some tg then g fr :: Γ else fr :: updFrame tg g Γ

def mkTop (A : Nat → Prop) (σ : List (Option Nat × (Nat → Prop))) : List Frame :=
  σ.map fun p => ⟨p.1, A, p.2⟩

theorem updFrame_rest {A : Nat → Prop} {tg : Nat} {g : Frame → Frame} : ∀ {σ : List (Option Nat × (Nat → Prop))}
    {Γr : List Frame}, some tg ∉ tagsOf σ → updFrame tg g (mkTop A σ ++ Γr) = mkTop A σ ++ updFrame tg g Γr
  | [], _, _ => rfl
  | p :: σ, Γr, h => by
      have hne : ¬ (p.1 == some tg) = true := fun e => h (List.mem_cons.mpr (Or.inl (beq_iff_eq.mp e).symm))
      simp only [mkTop, List.map_cons, List.cons_append, updFrame, if_neg hne]
      exact congrArg _ (updFrame_rest (A := A) (Γr := Γr) fun hm => h (List.mem_cons_of_mem _ hm))

end NaijaVerif.C03
