import NaijaVerif.Model.AnalysisPrims
/-
BRIDGE: the static side conditions of the refinement between `Model/Eval.lean` and the fragment `Model/AnalysisEval.lean`
instantiated with `evalPrims` (`Model/AnalysisPrims.lean`).  The two agree on ANNOTATED programs: every variable
reference, interpolated variable, assignment target and parameter carries its `LocalId`, every statement its `StmtId`,
every call of a user function its `FunctionId` (without an annotation `Eval` falls back to a search by name, the
fragment fails) — what the resolver produces for an accepted program.  Three further conditions are not syntactic and
are Boolean oracles (`Orc`) with a soundness requirement (`OrcOk`):
* `num lex`   — the number lexeme parses (the scanner's guarantee; `Eval` traps at `numLit`, the instance has no failing
                 literal because `Lawful.num` asks for a value);
* `blk stmts` — the scope tag the fragment gives the block (`blockTag`: the facts' scope of its first statement) is the
                 declaring scope of exactly the locals `Eval` records for it (`declIds`: the targets of its own `make`
                 statements), and the definitions of the block have distinct `FunctionId`s (`Eval` finds the last
                 registered, the fragment the first);
* `par ps`    — all parameters are bound, to distinct locals, and the tag of the parameter scope (`paramTag`) is the
                 declaring scope of exactly these locals.
The fourth field of `Orc`, `members`, is no condition on the program but a switch: with `false` the check rejects every
member call and index assignment, which restricts the refinement to the programs without them (the two cases are then
empty: `memberCase_of_false`, `indexCase_of_false`, `Lemmas/AnalysisRefineEv.lean`).  `orcOf` takes it as a parameter with
default `true`, and no caller in the tree passes `false`.
A bare member expression and a call whose callee is neither a name nor a member expression are accepted without a look
at their parts (the arms `=> true` of `okExpr`): both evaluators fail on them at once and evaluate nothing
(`AEval.children`; `bareMember`, `calleeShape` in `Eval.evalExpr`).
-/
namespace NaijaVerif.C03
open NaijaVerif NaijaVerif.Analysis

structure Orc where
  num : Bytes → Bool
  blk : List Stmt → Bool
  par : List Param → Bool
  /-- member calls and index assignments are admitted -/
  members : Bool

/-- `tag = declaring_scope(l)` (the fragment's test) iff `l ∈ decls` (the test of `Eval`). -/
def TagOk (ds : Nat → Option Nat) (tag : Option Nat) (decls : List Nat) : Prop :=
  ∀ l, decls.contains l = true ↔ ∃ tg, ds l = some tg ∧ tag = some tg

/-- `ds l` is the declaring scope of the local `l`, `ss i` the scope of the statement `i` (`declScopeOf`, `stmtScopeOf` when
they are read from the facts, `orcOf_ok`); they are the tables `dscope`, `sscope` of the fragment's primitives. -/
structure OrcOk (N : Type) [NumOps N] (ds ss : Nat → Option Nat) (o : Orc) : Prop where
  num : ∀ lex, o.num lex = true → ∃ n : N, NumOps.ofLit lex = some n
  blk : ∀ stmts, o.blk stmts = true →
    TagOk ds (AEval.blockTag ss stmts) (Eval.declIds stmts) ∧ (Eval.fnIdsOf stmts).Nodup
  par : ∀ ps, o.par ps = true →
    (∀ p ∈ ps, p.bind.isSome = true) ∧ (ps.filterMap (·.bind)).Nodup ∧
      TagOk ds (AEval.paramTag ds ps) (ps.filterMap (·.bind))

def okSeg : Seg → Bool
  | .lit _ => true
  | .var _ b => b.isSome

mutual
  def okExpr (o : Orc) : Expr → Bool
    | .num lex _ => o.num lex
    | .str (.static _) _ => true
    | .str (.interp segs) _ => segs.all okSeg
    | .bool _ _ => true
    | .null _ => true
    | .var _ b _ => b.isSome
    | .binary _ l r _ => okExpr o l && okExpr o r
    | .unary _ x _ => okExpr o x
    | .array es _ => okExprs o es
    | .index a i _ _ => okExpr o a && okExpr o i
    | .member _ _ _ _ => true
    | .call (.member obj _ _ _) args _ _ => o.members && okExpr o obj && okExprs o args
    | .call (.var name _ _) args fn _ => okExprs o args && ((Eval.GlobalB.ofName name).isSome || fn.isSome)
    | .call (.index _ _ _ _) _ _ _ => true
    | .call (.str _ _) _ _ _ => true
    | .call (.num _ _) _ _ _ => true
    | .call (.binary _ _ _ _) _ _ _ => true
    | .call (.call _ _ _ _) _ _ _ => true
    | .call (.array _ _) _ _ _ => true
    | .call (.unary _ _ _) _ _ _ => true
    | .call (.bool _ _) _ _ _ => true
    | .call (.null _) _ _ _ => true
  def okExprs (o : Orc) : List Expr → Bool
    | [] => true
    | e :: es => okExpr o e && okExprs o es
end

mutual
  def okStmt (o : Orc) : Stmt → Bool
    | .assign _ _ e b sid _ => okExpr o e && b.isSome && sid.isSome
    | .assignExisting _ _ e b sid _ => okExpr o e && b.isSome && sid.isSome
    | .assignIndex t e sid _ => o.members && okExpr o t && okExpr o e && sid.isSome
    | .ifS c t e sid _ => okExpr o c && okBlock o t && okOptBlock o e && sid.isSome
    | .loop c b sid _ => okExpr o c && okBlock o b && sid.isSome
    | .block b sid _ => okBlock o b && sid.isSome
    | .fnDef _ _ ps body _ sid _ => o.par ps && okBlock o body && sid.isSome
    | .ret (some e) sid _ => okExpr o e && sid.isSome
    | .ret none sid _ => sid.isSome
    | .brk sid _ => sid.isSome
    | .cont sid _ => sid.isSome
    | .expr e sid _ => okExpr o e && sid.isSome
  def okStmts (o : Orc) : List Stmt → Bool
    | [] => true
    | s :: rest => okStmt o s && okStmts o rest
  def okBlock (o : Orc) : Block → Bool
    | .mk ss _ => o.blk ss && okStmts o ss
  def okOptBlock (o : Orc) : Option Block → Bool
    | none => true
    | some b => okBlock o b
end

theorem okStmt_sid {o : Orc} : ∀ {s : Stmt}, okStmt o s = true → ∃ i, s.sid = some i := by
  intro s h
  cases s
  case ret e _ _ =>
    cases e <;> simp only [okStmt, Bool.and_eq_true] at h
    · exact Option.isSome_iff_exists.mp h
    · exact Option.isSome_iff_exists.mp h.2
  -- `sid.isSome` is the last conjunct of every arm, and the only one for `brk` and `cont`
  all_goals
    simp only [okStmt, Bool.and_eq_true] at h
    first | exact Option.isSome_iff_exists.mp h.2 | exact Option.isSome_iff_exists.mp h

theorem okExpr_index (o : Orc) (a i : Expr) (isp sp : Span) :
    okExpr o (.index a i isp sp) = (okExpr o a && okExpr o i) := by simp only [okExpr]

theorem okExprs_cons (o : Orc) (e : Expr) (es : List Expr) : okExprs o (e :: es) = (okExpr o e && okExprs o es) := by
  simp only [okExprs]

theorem okExprs_get {o : Orc} : ∀ {es : List Expr} {i : Nat} {e : Expr}, okExprs o es = true → es[i]? = some e →
    okExpr o e = true
  | [], _, _, _, h => by simp at h
  | x :: xs, 0, e, hok, h => by
      rw [okExprs_cons, Bool.and_eq_true] at hok
      simp only [List.getElem?_cons_zero, Option.some.injEq] at h
      subst h; exact hok.1
  | x :: xs, i + 1, e, hok, h => by
      rw [okExprs_cons, Bool.and_eq_true] at hok
      simp only [List.getElem?_cons_succ] at h
      exact okExprs_get hok.2 h

theorem okStmts_tail {o : Orc} {s : Stmt} {rest : List Stmt} (h : okStmts o (s :: rest) = true) : okStmts o rest = true := by
  simp only [okStmts, Bool.and_eq_true] at h
  exact h.2

end NaijaVerif.C03
