import NaijaVerif.Lemmas.ResolveFactsOwn
import NaijaVerif.Lemmas.AnalysisLiveAtoms
/-
`rootOkB` conjunct by conjunct.  `lokB L` is `lokG L (atomsOf L)`, and `lokG` of the pointwise conjunction of two atom
sets is the conjunction of the two walks (`lokG_and`, `Lemmas/AnalysisLiveAtoms.lean`).  So any way of writing every atom
of `atomsOf L` as `proved && rest` splits `rootOkB` into a proved and a remaining walk: here `ownAtoms` (the owner /
callee atoms, which `sokB` implies: `lok_own_of_sok`) and `restAtoms`.
-/
namespace NaijaVerif.ResolveStruct
open NaijaVerif NaijaVerif.Analysis NaijaVerif.AEval NaijaVerif.C03

/-- Every leaf of `eOk X D` reads exactly one of the two predicates, `X` at a user call and `D` at a variable (also an
interpolated one): so the check is the conjunction of the one that reads only `X` and the one that reads only `D`.
This is what splits the `base` atom (`atomsOf_split`). -/
theorem eOk_split_walk (X D : Nat → Bool) :
    (∀ e : Expr, eOk X D e = (eOk X (fun _ => false) e && eOk (fun _ => true) D e)) ∧
    (∀ es : List Expr, eOkList X D es = (eOkList X (fun _ => false) es && eOkList (fun _ => true) D es)) := by
  apply Expr.walk
  case var => intro _ b _; cases b <;> simp [eOk]
  case str =>
    intro p _
    cases p with
    | static => simp [eOk]
    | interp segs => simp only [eOk, ResolveFacts.segsOk_noD, Bool.true_and]
  case callMember => intro o _ _ _ args _ _ ho ha; simp only [eOk]; rw [ho, ha]; ac_rfl
  case call =>
    intro c args fn _ hne _ ha
    cases c using Resolve.Expr.callee_cases with
    | var =>
      simp only [eOk]
      rw [ha]
      cases fn <;> simp only [Bool.true_and] <;> ac_rfl
    | member o fld fs ms => exact absurd rfl (hne o fld fs ms)
    | other c ho => simp only [ResolveFacts.eOk_call_other _ _ _ _ _ _ ho]; exact ha
  case binary => intro _ l r _ hl hr; simp only [eOk]; rw [hl, hr]; ac_rfl
  case index => intro a i _ _ ha hi; simp only [eOk]; rw [ha, hi]; ac_rfl
  case array => intro es _ h; simp only [eOk]; exact h
  case unary => intro _ e _ h; simp only [eOk]; exact h
  case member => intro o _ _ _ h; simp only [eOk]; exact h
  case nil => simp [eOkList]
  case cons => intro e es he hes; simp only [eOkList]; rw [he, hes]; ac_rfl
  all_goals intros; simp [eOk]

/-! The two conjuncts under names of their own; `atomsOf_split` needs the one for lists only. -/

theorem eOk_split (X D : Nat → Bool) : ∀ e : Expr,
    eOk X D e = (eOk X (fun _ => false) e && eOk (fun _ => true) D e) :=
  (eOk_split_walk X D).1

theorem eOkList_split (X D : Nat → Bool) : ∀ es : List Expr,
    eOkList X D es = (eOkList X (fun _ => false) es && eOkList (fun _ => true) D es) :=
  (eOk_split_walk X D).2

/-- Proved atoms, named after `ownOkB`: the facts of a statement name its function and cover the user calls of its own
expressions.  The field `own` of `Atoms` (the target of a `make` belongs to the function) has nothing to do with the name
of this set and is left to the rest. -/
def ownAtoms (L : LSetup) : Atoms where
  base := fun f _ i es => L.c.fnOf i == f && eOkList (fun g => (L.c.callees i).contains g) (fun _ => false) es
  wok := fun _ => true
  other := fun _ => true
  blk := fun _ _ _ => true
  own := fun _ _ => true
  store := fun _ _ _ _ _ _ _ _ => true
  cap := fun _ _ _ _ => true
  fix := fun _ _ _ _ => true
  fnh := fun _ _ _ => true

/-- Remaining atoms: of `baseB` only the VARIABLE part of `efitList` (reads recorded, declaring scope in
the chain / capture reads in the summary), and every other atom of `lokB`. -/
def restAtoms (L : LSetup) : Atoms :=
  { atomsOf L with base := fun f σ i es => eOkList (fun _ => true) (fun x => !L.varFit f σ i x) es }

theorem atomsOf_split (L : LSetup) : atomsOf L = (ownAtoms L).and (restAtoms L) := by
  have hb : (atomsOf L).base = ((ownAtoms L).and (restAtoms L)).base := by
    funext f σ i es
    show L.baseB f σ i es = _
    simp only [LSetup.baseB, LSetup.efitList, Atoms.and, ownAtoms, restAtoms]
    rw [eOkList_split (fun g => (L.c.callees i).contains g) (fun x => !L.varFit f σ i x) es]
    ac_rfl
  cases hA : atomsOf L with
  | mk b w o k n s c x h =>
    rw [hA] at hb
    simp only [Atoms.and, ownAtoms, restAtoms, hA, Bool.true_and] at hb ⊢
    rw [hb]

theorem own_base (L : LSetup) {f i : Nat} {es : List Expr} (σ : List (Option Nat)) (ha : (L.c.fnOf i == f) = true)
    (hb : eOkList (fun g => (L.c.callees i).contains g) (fun _ => false) es = true) : (ownAtoms L).base f σ i es = true := by
  simp only [ownAtoms, ha, hb, Bool.and_self]
theorem own_wok (L : LSetup) (i : Nat) : (ownAtoms L).wok i = true := rfl
theorem own_other (L : LSetup) (i : Nat) : (ownAtoms L).other i = true := rfl
theorem own_blk (L : LSetup) (f : Nat) (σ : List (Option Nat)) (b : List Stmt) : (ownAtoms L).blk f σ b = true := rfl
theorem own_own (L : LSetup) (l f : Nat) : (ownAtoms L).own l f = true := rfl
theorem own_store (L : LSetup) (f : Nat) (σ : List (Option Nat)) (i : Nat) (d : Bool) (l : Nat) (e : Expr) (st : LS)
    (rest : List Stmt) : (ownAtoms L).store f σ i d l e st rest = true := rfl
theorem own_cap (L : LSetup) (f : Nat) (σ : List (Option Nat)) (i l : Nat) : (ownAtoms L).cap f σ i l = true := rfl
theorem own_fix (L : LSetup) (f i : Nat) (b : List Stmt) (st : LS) : (ownAtoms L).fix f i b st = true := rfl
theorem own_fnh (L : LSetup) (g : Nat) (ps : List Param) (body : List Stmt) : (ownAtoms L).fnh g ps body = true := rfl

/-- The form of `own_base` the walk uses: from `Setup.baseB` of a setting that reads the same facts. -/
theorem own_base_of (L : LSetup) {S : Setup} (h1 : S.fnOf = L.c.fnOf) (h2 : S.callees = L.c.callees)
    (h3 : S.D2 = fun _ => false) {f i : Nat} {es : List Expr} (σ : List (Option Nat)) (h : S.baseB f i es = true) :
    (ownAtoms L).base f σ i es = true := by
  rw [Setup.baseB, h1, h2, h3] at h
  exact h

/-- For any `q`: it enters `sokB` through the store rule only, and the `store` atom of `ownAtoms` is `true`.  By the recursion
of `sokB` itself: one case per arm of its text, named where the principle is applied; in the twelve arms without statement
id `lokG` is `true`. -/
theorem lok_own_of_sok (L : LSetup) {S : Setup} (q : Nat → Expr → Bool) (h1 : S.fnOf = L.c.fnOf)
    (h2 : S.callees = L.c.callees) (h3 : S.D2 = fun _ => false) :
    (∀ (f : Nat) (s : Stmt), sokB S q f s = true → ∀ (σ : List (Option Nat)) (lc : LoopCtx) (st : LS) (rest : List Stmt),
      lokG L (ownAtoms L) f σ lc s st rest = true) ∧
    (∀ (f : Nat) (ss : List Stmt), sokListB S q f ss = true → ∀ (σ : List (Option Nat)) (lc : LoopCtx) (post : LS),
      lokListG L (ownAtoms L) f σ lc ss post = true) := by
  refine sokB.mutual_induct _ _ ?assign ?assignExisting ?assignIndex ?ifS ?ifElse ?loop ?block ?fnDef ?fnDecl ?retSome
    ?retNone ?brk ?cont ?expr ?fnDefNoId ?_ ?_ ?_ ?_ ?_ ?_ ?_ ?_ ?retNoId ?_ ?_ ?_ ?_ ?cons
  case assign | assignExisting =>
    intro f _ _ e b i _ h σ lc st rest
    simp only [sokB, Bool.and_eq_true] at h
    cases b <;>
      simp only [lokG, own_base_of L h1 h2 h3 σ h.1, own_own, own_store, own_cap, own_other, Bool.and_self, ite_self]
  case ifS | loop | block | fnDef =>
    intros
    rename_i ih h σ lc st rest
    simp only [sokB, Bool.and_eq_true] at h
    simp only [lokG, own_base_of L h1 h2 h3 σ h.1.1, own_wok, own_other, own_blk, own_fix, own_fnh, ih h.2, Bool.and_self]
  case ifElse =>
    intro f c t _ e _ i _ iht ihe h σ lc st rest
    simp only [sokB, Bool.and_eq_true] at h
    simp only [lokG, own_base_of L h1 h2 h3 σ h.1.1.1, own_wok, own_other, own_blk, iht h.1.2, ihe h.2, Bool.and_self]
  case fnDefNoId => intro f _ _ _ bd _ g _ ih h σ lc st rest; simp only [lokG, own_fnh, ih h, Bool.and_self]
  case cons =>
    intro f s ss ihs ihss h σ lc post
    simp only [sokListB, Bool.and_eq_true] at h
    simp only [lokListG, ihs h.1, ihss h.2, Bool.and_self]
  case assignIndex | fnDecl | retSome | retNone | brk | cont | expr =>
    intros
    rename_i h σ lc st rest
    simp only [sokB, Bool.and_eq_true] at h
    simp only [lokG, own_base_of L h1 h2 h3 σ h.1, own_wok, own_other, Bool.and_self]
  -- the arms that ask for an id look at the returned expression first
  case retNoId => intro _ e _ _ _ _ _ _; cases e <;> rfl
  all_goals intros; rfl

/-! The two conjuncts with the context fixed; `resolveWith_ownWalk` (`Lemmas/ResolveStruct.lean`) needs the one for lists
only. -/

theorem lokG_own_of_sok (L : LSetup) {S : Setup} (q : Nat → Expr → Bool) (h1 : S.fnOf = L.c.fnOf)
    (h2 : S.callees = L.c.callees) (h3 : S.D2 = fun _ => false) (f : Nat) (σ : List (Option Nat)) (lc : LoopCtx) :
    ∀ (s : Stmt) (st : LS) (rest : List Stmt), sokB S q f s = true → lokG L (ownAtoms L) f σ lc s st rest = true :=
  fun s st rest h => (lok_own_of_sok L q h1 h2 h3).1 f s h σ lc st rest

theorem lokListG_own_of_sok (L : LSetup) {S : Setup} (q : Nat → Expr → Bool) (h1 : S.fnOf = L.c.fnOf)
    (h2 : S.callees = L.c.callees) (h3 : S.D2 = fun _ => false) (f : Nat) (σ : List (Option Nat)) (lc : LoopCtx) :
    ∀ (ss : List Stmt) (post : LS), sokListB S q f ss = true → lokListG L (ownAtoms L) f σ lc ss post = true :=
  fun ss post h => (lok_own_of_sok L q h1 h2 h3).2 f ss h σ lc post

end NaijaVerif.ResolveStruct
