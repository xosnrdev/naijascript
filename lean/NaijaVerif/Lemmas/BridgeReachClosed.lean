import NaijaVerif.Lemmas.AnalysisBase
/-
Bridge resolver → evaluator: `Ctx.bodyReachable = iter bodyReachStep nFns [0]` (diagnostics.rs
`compute_function_reachability`) has converged after its `nFns` rounds, i.e. `Ctx.brClosed`, the
second half of `FactsCoverCalls` (`Props/C06Accepted.lean`), holds for all facts with
`calleesInRange`.  A round only conses new callee ids, all below `nFns`, onto a duplicate-free list that starts as
`[0]`: its elements stay below `nFns + 1`, so it can grow at most `nFns` times, and a round that adds nothing is a
fixed point.
-/
namespace NaijaVerif.Bridge
open NaijaVerif NaijaVerif.Analysis NaijaVerif.C03

/-- The last clause of the conjunct of `Analysis.wf` on `stmtEffects` (`calleesInRange_of_wf`). -/
def calleesInRange (facts : Facts) : Bool :=
  facts.stmtEffects.all (fun e => e.directCallees.all (· < facts.functions.length))

section iteration
variable (c : Ctx)

theorem bodyReachStep_eq (s : List Nat) :
    c.bodyReachStep s = addAll (fun r => r.live && s.contains (c.fnOf r.sid)) (fun r => c.callees r.sid) c.rows s := rfl

/-- `Ctx.brClosed` as a `Prop`, for an arbitrary list `s` in place of `bodyReachable`: what a fixed point of
`bodyReachStep` satisfies. -/
def ClosedAt (s : List Nat) : Prop :=
  ∀ r ∈ c.rows, (r.live && s.contains (c.fnOf r.sid)) = true → ∀ g ∈ c.callees r.sid, g ∈ s

theorem closedAt_of_fixed {s : List Nat} (h : c.bodyReachStep s = s) : ClosedAt c s := by
  intro r hr hp g hg
  rw [← h, bodyReachStep_eq, mem_addAll]
  exact Or.inr ⟨r, hr, hp, hg⟩

/-- The converse of `closedAt_of_fixed`; nothing below needs it. -/
theorem fixed_of_closedAt {s : List Nat} (h : ClosedAt c s) : c.bodyReachStep s = s := by
  rw [bodyReachStep_eq]; exact addAll_eq_self _ _ _ _ h

variable {c} (N : Nat) (hA : ∀ sid, ∀ g ∈ c.callees sid, g < N)
include hA

theorem bodyReachStep_lt {s : List Nat} (hs : ∀ x ∈ s, x < N) : ∀ x ∈ c.bodyReachStep s, x < N := by
  intro x hx
  rw [bodyReachStep_eq, mem_addAll] at hx
  rcases hx with hx | ⟨r, _, _, hx⟩
  · exact hs x hx
  · exact hA _ x hx

theorem iter_bodyReachStep_fixed (n : Nat) (s : List Nat) (hn : s.Nodup) (hlt : ∀ x ∈ s, x < N) (hlen : N ≤ s.length + n) :
    c.bodyReachStep (iter c.bodyReachStep n s) = iter c.bodyReachStep n s :=
  iter_fixed_of_bounded (I := fun s => s.Nodup ∧ ∀ x ∈ s, x < N) (fun _ => addAll_grows _ _ _ _)
    (fun _ h => ⟨addAll_nodup _ _ _ _ h.1, bodyReachStep_lt N hA h.2⟩) (fun _ h => length_le_of_nodup_lt h.1 h.2)
    n s ⟨hn, hlt⟩ hlen

end iteration

theorem callees_lt {root : Block} {facts : Facts} (h : calleesInRange facts = true) :
    ∀ sid, ∀ g ∈ (mkCtx root facts).callees sid, g < facts.functions.length := by
  intro sid g hg
  simp only [Ctx.callees, Ctx.eff?, mkCtx] at hg
  cases he : facts.stmtEffects[sid]? with
  | none => simp [he] at hg
  | some e =>
    simp only [he] at hg
    simp only [calleesInRange, List.all_eq_true, decide_eq_true_eq] at h
    exact h e (List.mem_of_getElem? he) g hg

theorem bodyReachable_closed_of_range (root : Block) (facts : Facts) (h : calleesInRange facts = true) :
    (mkCtx root facts).brClosed = true := by
  -- ids below `nFns + 1`, so that the start `[0]` is in range whatever `nFns` is; `nFns` rounds from one element suffice
  have hcl : ClosedAt (mkCtx root facts) (mkCtx root facts).bodyReachable :=
    closedAt_of_fixed _ (iter_bodyReachStep_fixed (facts.functions.length + 1)
      (fun sid g hg => Nat.lt_succ_of_lt (callees_lt (root := root) h sid g hg)) _ [0] (by simp) (by simp)
      (Nat.le_of_eq (Nat.add_comm _ _)))
  simp only [Ctx.brClosed, List.all_eq_true, Bool.or_eq_true, Bool.not_eq_true']
  intro r hr
  cases hp : (r.live && (mkCtx root facts).bodyReachable.contains ((mkCtx root facts).fnOf r.sid)) with
  | false => exact Or.inl rfl
  | true =>
    right
    intro g hg
    simpa using hcl r hr hp g hg

theorem calleesInRange_of_wf {root : Block} {facts : Facts} (h : wf root facts = true) :
    calleesInRange facts = true := by
  simp only [wf, Bool.and_eq_true, List.all_eq_true, decide_eq_true_eq] at h
  simp only [calleesInRange, List.all_eq_true, decide_eq_true_eq]
  -- `wf` ends with the conjuncts on `stmtEffects`, `functionDirects`, `locals`, `functions`, `scopeLocals`
  obtain ⟨⟨⟨⟨⟨_, heffects⟩, _⟩, _⟩, _⟩, _⟩ := h
  intro e he g hg
  exact (heffects e he).2 g hg

/-- `Analysis.wf` is what the driver checks before anything else; the part used is `calleesInRange`.  The pipeline
theorems do not go through `wf` (`ResolveFacts.resolveWith_calleesInRange`). -/
theorem bodyReachable_closed (root : Block) (facts : Facts) (h : wf root facts = true) :
    (mkCtx root facts).brClosed = true :=
  bodyReachable_closed_of_range root facts (calleesInRange_of_wf h)

end NaijaVerif.Bridge
