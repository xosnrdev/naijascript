/-
Helper lemmas for C11 (bump arena): rounding up, the word-level mask formula, memory writes, the
list of live blocks and `Disj`, lists compared index by index, the bytes and dimensions of a string.
-/
import NaijaVerif.Model.Bump

namespace NaijaVerif.Bump

theorem dvd_alignUp (x a : Nat) : a ∣ alignUp x a := Nat.dvd_mul_left a _

theorem alignUp_bounds (x a : Nat) (h : 0 < a) : x ≤ alignUp x a ∧ alignUp x a < x + a := by
  unfold alignUp
  have h1 := Nat.div_add_mod (x + a - 1) a
  have h2 := Nat.mod_lt (x + a - 1) h
  rw [Nat.mul_comm] at h1
  generalize (x + a - 1) / a * a = q at *
  omega

theorem le_alignUp (x a : Nat) (h : 0 < a) : x ≤ alignUp x a := (alignUp_bounds x a h).1

theorem alignUp_lt (x a : Nat) (h : 0 < a) : alignUp x a < x + a := (alignUp_bounds x a h).2

theorem alignUp_le_iff (x a c : Nat) (h : 0 < a) (hc : a ∣ c) : alignUp x a ≤ c ↔ x ≤ c :=
  ⟨Nat.le_trans (le_alignUp x a h), fun hle => Nat.le_of_lt_add_of_dvd
    (Nat.lt_of_lt_of_le (alignUp_lt x a h) (Nat.add_le_add_right hle a)) (dvd_alignUp x a) hc⟩

theorem alignUp_unique (x a r : Nat) (h : 0 < a) (hd : a ∣ r) (hl : x ≤ r) (hu : r < x + a) :
    alignUp x a = r :=
  Nat.le_antisymm ((alignUp_le_iff x a r h hd).2 hl) (Nat.le_of_lt_add_of_dvd
    (Nat.lt_of_lt_of_le hu (Nat.add_le_add_right (le_alignUp x a h) a)) hd (dvd_alignUp x a))

theorem alignUp_of_dvd (x a : Nat) (h : 0 < a) (hd : a ∣ x) : alignUp x a = x :=
  alignUp_unique x a x h hd (Nat.le_refl x) (Nat.lt_add_of_pos_right h)

theorem alignUp_one (x : Nat) : alignUp x 1 = x := alignUp_of_dvd x 1 Nat.one_pos (Nat.one_dvd x)

theorem alignUp_add_of_dvd (b x a : Nat) (h : 0 < a) (hd : a ∣ b) : alignUp (b + x) a = b + alignUp x a :=
  alignUp_unique _ _ _ h ((Nat.dvd_add_right hd).2 (dvd_alignUp x a))
    (Nat.add_le_add_left (le_alignUp x a h) b)
    (by rw [Nat.add_assoc]; exact Nat.add_lt_add_left (alignUp_lt x a h) b)

/-- Holds for every `a`, also `0`. Stated for whoever builds on `alignUp`; no proof of C11 or C12 needs it. -/
theorem alignUp_mono (x y a : Nat) (h : x ≤ y) : alignUp x a ≤ alignUp y a := by
  unfold alignUp
  apply Nat.mul_le_mul_right
  apply Nat.div_le_div_right
  omega

theorem alignUp_eq_add_mod (x a : Nat) (h : 0 < a) : alignUp x a = x + (a - x % a) % a := by
  by_cases h0 : x % a = 0
  · rw [h0, Nat.sub_zero, Nat.mod_self, Nat.add_zero]
    exact alignUp_of_dvd x a h (Nat.dvd_of_mod_eq_zero h0)
  · have hm := Nat.mod_lt x h
    rw [Nat.mod_eq_of_lt (Nat.sub_lt h (Nat.pos_of_ne_zero h0))]
    refine alignUp_unique x a _ h ⟨x / a + 1, ?_⟩ (Nat.le_add_right _ _) (by omega)
    have := Nat.div_add_mod x a
    rw [Nat.mul_add]; omega

theorem testBit_hiMask (n k i : Nat) (hk : k ≤ n) :
    (2 ^ n - 2 ^ k).testBit i = (decide (k ≤ i) && decide (i < n)) := by
  have e : 2 ^ n - 2 ^ k = (2 ^ (n - k) - 1) <<< k := by
    rw [Nat.shiftLeft_eq, Nat.sub_mul, ← Nat.pow_add, Nat.sub_add_cancel hk, Nat.one_mul]
  rw [e, Nat.testBit_shiftLeft, Nat.testBit_two_pow_sub_one]
  by_cases h1 : k ≤ i <;> simp [h1]
  omega

/-- `x & !(2^k - 1)` clears the low `k` bits (on words of `n` bits). -/
theorem and_hiMask (n x k : Nat) (hk : k ≤ n) (hx : x < 2 ^ n) :
    x &&& (2 ^ n - 2 ^ k) = x / 2 ^ k * 2 ^ k := by
  apply Nat.eq_of_testBit_eq
  intro i
  rw [Nat.testBit_and, testBit_hiMask n k i hk, ← Nat.shiftRight_eq_div_pow, ← Nat.shiftLeft_eq,
    Nat.testBit_shiftLeft, Nat.testBit_shiftRight]
  by_cases h1 : k ≤ i
  · have e : k + (i - k) = i := Nat.add_sub_cancel' h1
    by_cases h2 : i < n
    · simp [h1, h2, e]
    · have : x.testBit i = false :=
        Nat.testBit_lt_two_pow (Nat.lt_of_lt_of_le hx (Nat.pow_le_pow_right (by decide) (Nat.le_of_not_lt h2)))
      simp [h1, h2, e, this]
  · simp [h1]

/-- `x - 1` as the code computes it: wrapping addition of the largest word. -/
theorem wrap_pred (w x : Nat) (h0 : 0 < x) (h : x ≤ w) : (x + (w - 1)) % w = x - 1 := by
  rw [show x + (w - 1) = x - 1 + w by omega, Nat.add_mod_right, Nat.mod_eq_of_lt (by omega)]

theorem Mem.fill_outside (m : Mem) (lo hi v i : Nat) (h : i < lo ∨ hi ≤ i) : m.fill lo hi v i = m i :=
  if_neg (by omega)

theorem Mem.fill_inside (m : Mem) (lo hi v i : Nat) (h : lo ≤ i ∧ i < hi) : m.fill lo hi v i = v :=
  if_pos h

theorem Mem.store_outside (m : Mem) (dst n : Nat) (f : Nat → Nat) (i : Nat) (h : i < dst ∨ dst + n ≤ i) :
    m.store dst n f i = m i :=
  if_neg (by omega)

theorem Mem.store_inside (m : Mem) (dst n : Nat) (f : Nat → Nat) (k : Nat) (h : k < n) :
    m.store dst n f (dst + k) = f k := by
  unfold Mem.store
  rw [if_pos (by omega), Nat.add_sub_cancel_left]

theorem Mem.copy_outside (m : Mem) (src dst n i : Nat) (h : i < dst ∨ dst + n ≤ i) :
    m.copy src dst n i = m i :=
  if_neg (by omega)

theorem Mem.copy_inside (m : Mem) (src dst n k : Nat) (h : k < n) :
    m.copy src dst n (dst + k) = m (src + k) := by
  unfold Mem.copy
  rw [if_pos (by omega), Nat.add_sub_cancel_left]

theorem Mem.store_rel (m : Mem) (beg o n : Nat) (f : Nat → Nat) (k : Nat) :
    m.store (beg + o) n f (beg + k) = if o ≤ k ∧ k < o + n then f (k - o) else m (beg + k) := by
  simp only [Mem.store, Nat.add_le_add_iff_left, Nat.add_assoc, Nat.add_lt_add_iff_left, Nat.add_sub_add_left]

theorem Mem.copy_rel (m : Mem) (beg s d n k : Nat) :
    m.copy (beg + s) (beg + d) n (beg + k) =
      if d ≤ k ∧ k < d + n then m (beg + (s + (k - d))) else m (beg + k) := by
  simp only [Mem.copy, Nat.add_le_add_iff_left, Nat.add_assoc, Nat.add_lt_add_iff_left, Nat.add_sub_add_left]

theorem findBlk_mem {live : List Block} {id : Nat} {b : Block} (h : findBlk live id = some b) :
    b ∈ live := List.mem_of_find?_eq_some h

theorem mem_below {live : List Block} {m : Nat} {c : Block} :
    c ∈ below live m ↔ c ∈ live ∧ c.beg + c.len ≤ m := by
  simp [below]

theorem rel_found_dropped {R : Block → Block → Prop} (hs : ∀ x y, R x y → R y x) :
    ∀ {live : List Block} {id : Nat} {b c : Block},
      live.Pairwise R → findBlk live id = some b → c ∈ dropBlk live id → R b c := by
  intro live
  induction live with
  | nil => intro id b c _ hf _; simp [findBlk] at hf
  | cons x xs ih =>
    intro id b c hp hf hc
    rw [List.pairwise_cons] at hp
    unfold findBlk at hf
    unfold dropBlk at hc
    rw [List.find?_cons] at hf
    rw [List.eraseP_cons] at hc
    by_cases hx : (x.id == id) = true
    · simp [hx] at hf hc
      subst hf
      exact hp.1 c hc
    · simp [hx] at hf hc
      rcases hc with rfl | hc
      · exact hs _ _ (hp.1 b (List.mem_of_find?_eq_some hf))
      · exact ih hp.2 hf hc

theorem Disj.symm (x y : Block) (h : Disj x y) : Disj y x := by
  unfold Disj at *; omega

theorem Disj.of_le {b c : Block} (h : c.beg + c.len ≤ b.beg) : Disj b c := Or.inr (Or.inr (Or.inr h))

theorem Disj.shrink {b b' c : Block} (hd : Disj b c) (hbeg : b'.beg = b.beg) (hlen : b'.len ≤ b.len) :
    Disj b' c := by
  unfold Disj at *; omega

/-- The tail block may grow without limit: a block `c` that ends at or below the end of `b` and is
disjoint from it lies below `b.beg` (or is empty), hence below any block that starts there. -/
theorem Disj.grow {b b' c : Block} (hd : Disj b c) (hbeg : b'.beg = b.beg)
    (hc : c.beg + c.len ≤ b.beg + b.len) : Disj b' c := by
  unfold Disj at *; omega

theorem list_eq_of_getD (l1 l2 : List Nat) (hl : l1.length = l2.length)
    (h : ∀ k, k < l1.length → l1.getD k 0 = l2.getD k 0) : l1 = l2 := by
  apply List.ext_getElem hl
  intro k h1 h2
  have := h k h1
  simpa [List.getD_eq_getElem?_getD, h1, h2] using this

theorem getD_append (l1 l2 : List Nat) (k : Nat) :
    (l1 ++ l2).getD k 0 = if k < l1.length then l1.getD k 0 else l2.getD (k - l1.length) 0 := by
  simp only [List.getD_eq_getElem?_getD, List.getElem?_append]
  split <;> rfl

theorem srcAt_toArray (src : List Nat) (k : Nat) : srcAt src.toArray k = src.getD k 0 := by
  simp [srcAt, List.getD_eq_getElem?_getD, Array.getD_eq_getD_getElem?]

theorem content_length (b : Block) : b.content.length = b.used := by simp [Block.content]

theorem content_getD (b : Block) (k : Nat) (hk : k < b.used) : b.content.getD k 0 = b.data k := by
  simp [Block.content, List.getD_eq_getElem?_getD, hk]

theorem replaceBytes_length (c : List Nat) (off del : Nat) (src : List Nat) (h : off + del ≤ c.length) :
    (replaceBytes c off del src).length = c.length - del + src.length := by
  unfold replaceBytes
  rw [List.length_append, List.length_append, List.length_take, List.length_drop,
    Nat.min_eq_left (Nat.le_trans (Nat.le_add_right _ _) h)]
  omega

theorem replaceBytes_getD (c : List Nat) (off del : Nat) (src : List Nat) (h : off + del ≤ c.length) (k : Nat) :
    (replaceBytes c off del src).getD k 0 =
      if k < off then c.getD k 0
      else if k < off + src.length then src.getD (k - off) 0
      else c.getD (k - src.length + del) 0 := by
  have h1 : (c.take off).length = off := by
    rw [List.length_take]; exact Nat.min_eq_left (Nat.le_trans (Nat.le_add_right _ _) h)
  unfold replaceBytes
  simp only [List.getD_eq_getElem?_getD, List.append_assoc]
  by_cases c1 : k < off
  · rw [List.getElem?_append_left (h1.symm ▸ c1), if_pos c1, List.getElem?_take_of_lt c1]
  · rw [List.getElem?_append_right (h1.symm ▸ Nat.le_of_not_lt c1), h1, if_neg c1]
    by_cases c2 : k < off + src.length
    · rw [List.getElem?_append_left (Nat.sub_lt_left_of_lt_add (Nat.le_of_not_lt c1) c2), if_pos c2]
    · rw [List.getElem?_append_right (Nat.le_sub_of_add_le' (Nat.le_of_not_lt c2)), if_neg c2,
        List.getElem?_drop]
      congr 2
      omega

theorem findBlk_cons_self (x : Block) (l : List Block) : findBlk (x :: l) x.id = some x := by
  simp [findBlk]

theorem strDims_of (s : St) (id : Nat) (b : Block) (h : findBlk s.live id = some b) :
    strDims s id = (b.len, b.used) := by simp [strDims, h]

theorem strDims_none (s : St) (id : Nat) (h : findBlk s.live id = none) : strDims s id = (0, 0) := by
  simp [strDims, h]

theorem strContent_of (s : St) (id : Nat) (b : Block) (h : findBlk s.live id = some b) :
    strContent s id = b.content := by simp [strContent, h]

theorem strContent_length (s : St) (id : Nat) : (strContent s id).length = (strDims s id).2 := by
  unfold strContent strDims
  split <;> simp [content_length]

theorem content_eq_of (b b1 : Block) (hu : b1.used = b.used) (hd : ∀ k, k < b.used → b1.data k = b.data k) :
    b1.content = b.content := by
  apply list_eq_of_getD
  · rw [content_length, content_length, hu]
  · intro k hk
    rw [content_length] at hk
    rw [content_getD b1 k hk, content_getD b k (hu ▸ hk), hd k (hu ▸ hk)]

theorem strWrite_blk (s : St) (id : Nat) (w : Nat → Mem → Mem) (used' : Nat) (b : Block)
    (hf : findBlk s.live id = some b) :
    findBlk (strWrite s id w used').live id =
      some { b with used := used', data := fun k => w b.beg s.a.mem (b.beg + k) } := by
  have hid : b.id = id := by
    have := List.find?_some hf
    simpa using this
  unfold strWrite
  rw [hf]
  simp [findBlk, hid]

theorem strWrite_none (s : St) (id : Nat) (w : Nat → Mem → Mem) (used' : Nat)
    (hf : findBlk s.live id = none) : strWrite s id w used' = s := by
  unfold strWrite; rw [hf]

end NaijaVerif.Bump
