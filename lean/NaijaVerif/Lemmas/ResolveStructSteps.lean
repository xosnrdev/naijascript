import NaijaVerif.Lemmas.ResolveFacts
/-
`Pre`, a relation along the history of the facts (`Lemmas/ResolveSteps.lean`), checked primitive by primitive: the
IMMUTABLE tables only ever grow by appending — owner and scope of a statement entry (`sImm`), the entries of `locals`
(name, owner, declaring scope, declaration statement, kind), the entries of `scopes` (parent, owner).  Of `functions`,
`scopeLocals` and `functionDirects`, whose entries are modified in place, it keeps the lengths only.
Inside this namespace `Pre` is this relation; the model's `Resolve.Pre` is the result of `predeclare`.
The other relations along the same history: `LenE` (`Lemmas/ResolveSteps.lean`: equalities, for the modify-only
primitives), `SLe` (`Lemmas/ResolveFacts.lean`: per statement entry the owner stays and the callees only grow),
`Resolve.FLe` (`Lemmas/BridgeRange.lean`: the number of locals and the parameter counts of the functions).
-/
namespace NaijaVerif.ResolveStruct
open NaijaVerif NaijaVerif.Resolve NaijaVerif.ResolveFacts

structure Pre (f g : Facts) : Prop where
  stmts : sImm f <+: sImm g
  locals : f.locals <+: g.locals
  scopes : f.scopes <+: g.scopes
  nfun : f.functions.length ≤ g.functions.length
  nsl : f.scopeLocals.length ≤ g.scopeLocals.length
  ndir : f.functionDirects.length ≤ g.functionDirects.length

theorem Pre.refl (f : Facts) : Pre f f :=
  ⟨List.prefix_refl _, List.prefix_refl _, List.prefix_refl _, Nat.le_refl _, Nat.le_refl _, Nat.le_refl _⟩

theorem Pre.trans {a b c : Facts} (h1 : Pre a b) (h2 : Pre b c) : Pre a c :=
  ⟨h1.stmts.trans h2.stmts, h1.locals.trans h2.locals, h1.scopes.trans h2.scopes, Nat.le_trans h1.nfun h2.nfun,
   Nat.le_trans h1.nsl h2.nsl, Nat.le_trans h1.ndir h2.ndir⟩

theorem Pre.of_eq {f g : Facts} (h1 : sImm g = sImm f) (h2 : g.locals = f.locals) (h3 : g.scopes = f.scopes)
    (h4 : g.functions.length = f.functions.length) (h5 : g.scopeLocals.length = f.scopeLocals.length)
    (h6 : g.functionDirects.length = f.functionDirects.length) : Pre f g :=
  ⟨h1 ▸ List.prefix_refl _, h2 ▸ List.prefix_refl _, h3 ▸ List.prefix_refl _, Nat.le_of_eq h4.symm,
   Nat.le_of_eq h5.symm, Nat.le_of_eq h6.symm⟩

theorem primS_pre {f g : Facts} (h : PrimS f g) : Pre f g := by
  cases h with
  | e he =>
    have hl := primE_lenE he
    exact Pre.of_eq (primE_keeps he).2 hl.locals hl.scopes (by rw [hl.functions]) (by rw [hl.scopeLocals]) hl.directs
  | pushStmt o s =>
    exact ⟨by simp [sImm, pushStmt], List.prefix_refl _, List.prefix_refl _, Nat.le_refl _, Nat.le_refl _, Nat.le_refl _⟩
  | pushLocal sl name o s d k =>
    exact ⟨List.prefix_refl _, List.prefix_append _ _, List.prefix_refl _, Nat.le_of_eq (modifyAt_length _ _ _).symm,
      Nat.le_of_eq (modifyAt_length _ _ _).symm, Nat.le_refl _⟩
  | pushScope p o =>
    exact ⟨List.prefix_refl _, List.prefix_refl _, List.prefix_append _ _, Nat.le_refl _,
      (List.prefix_append _ _).length_le, Nat.le_refl _⟩
  | pushFunction name np parent scope =>
    exact ⟨List.prefix_refl _, List.prefix_refl _, List.prefix_refl _, (List.prefix_append _ _).length_le, Nat.le_refl _,
      (List.prefix_append _ _).length_le⟩
  | setRootScope s =>
    exact ⟨List.prefix_refl _, List.prefix_refl _, List.prefix_refl _, Nat.le_of_eq (modifyAt_length _ _ _).symm,
      Nat.le_refl _, Nat.le_refl _⟩
  | setDefStmt fn sid =>
    exact ⟨List.prefix_refl _, List.prefix_refl _, List.prefix_refl _, Nat.le_of_eq (modifyAt_length _ _ _).symm,
      Nat.le_refl _, Nat.le_refl _⟩

theorem Steps.pre {f g : Facts} (h : Steps PrimS f g) : Pre f g :=
  Steps.rel Pre.refl (fun _ _ _ => Pre.trans) (fun _ _ => primS_pre) h

theorem Pre.local {f g : Facts} (h : Pre f g) {l : Nat} {li : LocalInfo} (hl : f.locals[l]? = some li) :
    g.locals[l]? = some li := prefix_getElem? h.locals hl

theorem Pre.scope {f g : Facts} (h : Pre f g) {s : Nat} {si : ScopeInfo} (hs : f.scopes[s]? = some si) :
    g.scopes[s]? = some si := prefix_getElem? h.scopes hs

theorem Pre.stmt {f g : Facts} (h : Pre f g) {i : Nat} {p : Nat × Nat} (hi : (sImm f)[i]? = some p) :
    (sImm g)[i]? = some p := prefix_getElem? h.stmts hi

theorem Pre.nl {f g : Facts} (h : Pre f g) : f.locals.length ≤ g.locals.length := h.locals.length_le
theorem Pre.nsc {f g : Facts} (h : Pre f g) : f.scopes.length ≤ g.scopes.length := h.scopes.length_le
theorem Pre.ns {f g : Facts} (h : Pre f g) : f.stmtEffects.length ≤ g.stmtEffects.length := by
  have := h.stmts.length_le
  simpa [sImm] using this

end NaijaVerif.ResolveStruct
