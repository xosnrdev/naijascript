/-
Every `slice?`, `sub1?` and index in `renderDiagnostic`, `computeGutterWidth` and `renderAnsi` succeeds when
the text is valid UTF-8 and every diagnostic and label span is `Safe` — and what the renderer writes is valid
UTF-8 when the file name, codes and messages are.
-/
import NaijaVerif.Lemmas.RenderUtf8

namespace NaijaVerif.Render
open NaijaVerif NaijaVerif.Utf8
open NaijaVerif.Bytes (isCont isBoundary)

/-- the `SafeSpan` of `Props/C07Lex.lean` -/
def Safe (src : Bytes) (s : Span) : Prop :=
  s.lo ≤ s.hi ∧ s.hi ≤ src.length ∧ isBoundary src s.lo = true ∧ isBoundary src s.hi = true

def RDiag.Safe (src : Bytes) (d : RDiag) : Prop :=
  Render.Safe src d.span ∧ ∀ l ∈ d.labels, Render.Safe src l.span

/-- they are Rust `&str`s -/
def RDiag.TextValid (d : RDiag) : Prop :=
  validUtf8 d.code = true ∧ validUtf8 d.msg = true ∧ ∀ l ∈ d.labels, validUtf8 l.msg = true

theorem space_lt : space < 128 := by decide
theorem nl_lt : nl < 128 := by decide

/- Validity of a concatenation: `valid_append_eq` drops a valid piece from the front, its side condition
discharged by the piece's own lemma or a fact given at the call; ASCII literals are peeled byte by byte. -/
attribute [local simp] valid_append_eq valid_padLeft valid_bold valid_reset valid_color valid_sevLabel valid_natStr
  valid_replicate valid_cons_ascii valid_nil space_lt nl_lt

theorem min_boundary {src : Bytes} {a b : Nat} (ha : isBoundary src a = true) (hb : isBoundary src b = true) :
    isBoundary src (min a b) = true := by
  rcases Nat.le_total a b with h | h
  · rw [Nat.min_eq_left h]; exact ha
  · rw [Nat.min_eq_right h]; exact hb

/-- the slice under a caret / dash run: `src[lo .. min(hi, line_end)]` -/
theorem body_slice_some {src : Bytes} {s : Span} (hs : Safe src s) {le : Nat} (hle : s.lo ≤ le)
    (hleb : isBoundary src le = true) : ∃ t, slice? src s.lo (min s.hi le) = some t :=
  ⟨_, slice?_some (Nat.le_min.mpr ⟨hs.1, hle⟩) hs.2.2.1 (min_boundary hs.2.2.2 hleb)⟩

theorem valid_renderPlainGutter (s : Sev) (w : Nat) : validUtf8 (renderPlainGutter (color s) w) = true := by
  unfold renderPlainGutter; simp

theorem valid_renderGutter (line : Nat) (s : Sev) (w : Nat) : validUtf8 (renderGutter line (color s) w) = true := by
  unfold renderGutter; simp

theorem renderLabelLine_some (col dashes : Nat) (c msg plain : Bytes) (h : 1 ≤ col) :
    ∃ t, renderLabelLine col dashes c msg plain = some t ∧
      (validUtf8 c = true → validUtf8 msg = true → validUtf8 plain = true → validUtf8 t = true) := by
  simp only [renderLabelLine, sub1?_pos h]
  refine ⟨_, rfl, ?_⟩
  intro hc hm hp; simp [hc, hm, hp]

theorem renderCaretLine_some (col len : Nat) (c plain : Bytes) (h : 1 ≤ col) :
    ∃ t, renderCaretLine col len c plain = some t ∧
      (validUtf8 c = true → validUtf8 plain = true → validUtf8 t = true) := by
  simp only [renderCaretLine, sub1?_pos h]
  refine ⟨_, rfl, ?_⟩
  intro hc hp; simp [hc, hp]

theorem sameLineLabel_some {src : Bytes} {l : RLabel} (hl : Safe src l.span)
    {ls le : Nat} (c plain : Bytes) (hls : ls ≤ l.span.lo) (hle : l.span.lo ≤ le)
    (hlsb : isBoundary src ls = true) (hleb : isBoundary src le = true) :
    ∃ t, sameLineLabel src ls le c plain l = some t ∧
      (validUtf8 c = true → validUtf8 l.msg = true → validUtf8 plain = true → validUtf8 t = true) := by
  have hpre := slice?_some hls hlsb hl.2.2.1
  obtain ⟨body, hbody⟩ := body_slice_some hl hle hleb
  simp only [sameLineLabel, hpre, hbody]
  exact renderLabelLine_some _ _ _ _ _ (Nat.le_add_left 1 _)

theorem crossLineLabel_some {src : Bytes} (hv : validUtf8 src = true) {l : RLabel} (hl : Safe src l.span)
    (width : Nat) (s : Sev) :
    ∃ t, crossLineLabel src width (color s) (renderPlainGutter (color s) width) l = some t ∧
      (validUtf8 l.msg = true → validUtf8 t = true) := by
  obtain ⟨lc, hlc, ok⟩ := lineColFromSpan_ok hv hl.2.2.1
  have hline := slice?_some (Nat.le_trans ok.ls_le ok.le_ge) ok.ls_bnd ok.le_bnd
  obtain ⟨body, hbody⟩ := body_slice_some hl ok.le_ge ok.le_bnd
  obtain ⟨ul, hul, hulv⟩ := renderLabelLine_some lc.col (max (visualCol body) 1) (color s) l.msg
    (renderPlainGutter (color s) width) ok.col_pos
  simp only [crossLineLabel, hlc, hline, hbody, hul]
  refine ⟨_, rfl, ?_⟩
  intro hm
  simp [valid_renderGutter, valid_expandTabs (valid_slice hv hline),
    hulv (valid_color s) hm (valid_renderPlainGutter s width), valid_renderPlainGutter]

theorem same_line_bounds {src : Bytes} {s t : Nat} {a b : LineCol} (ha : LineColOk src s a)
    (hb : LineColOk src t b) (h : a.line = b.line) : a.lineStart = b.lineStart ∧ a.lineEnd = b.lineEnd := by
  have h1 := ha.bounds
  have h2 := hb.bounds
  rw [h, h2] at h1
  simp at h1
  exact ⟨h1.1.symm, h1.2.symm⟩

theorem renderDiagnostic_some {src : Bytes} (hv : validUtf8 src = true) (file : Bytes) (width : Nat)
    {d : RDiag} (hd : d.Safe src) :
    ∃ out, renderDiagnostic src file width d = some out ∧
      (validUtf8 file = true → d.TextValid → validUtf8 out = true) := by
  obtain ⟨hsp, hlab⟩ := hd
  obtain ⟨lc, hlc, ok⟩ := lineColFromSpan_ok hv hsp.2.2.1
  have hline := slice?_some (Nat.le_trans ok.ls_le ok.le_ge) ok.ls_bnd ok.le_bnd
  obtain ⟨caretTxt, hcaretTxt⟩ := body_slice_some hsp ok.le_ge ok.le_bnd
  obtain ⟨caretLine, hcaretLine, hcaretV⟩ := renderCaretLine_some lc.col (max (charCount caretTxt) 1)
    (color d.sev) (renderPlainGutter (color d.sev) width) ok.col_pos
  -- a label on the diagnostic's line lies in the same `[lineStart, lineEnd]`
  obtain ⟨tagged, htagged, htag⟩ := mapOpt_some
    (fun l => (lineColFromSpan src l.span.lo).map fun llc => (l, llc.line == lc.line))
    (fun p => p.1 ∈ d.labels ∧ (p.2 = true → lc.lineStart ≤ p.1.span.lo ∧ p.1.span.lo ≤ lc.lineEnd)) d.labels
    (fun l hl => by
      obtain ⟨llc, hllc, lok⟩ := lineColFromSpan_ok hv (hlab l hl).2.2.1
      refine ⟨_, by rw [hllc]; rfl, hl, fun hsame => ?_⟩
      obtain ⟨e1, e2⟩ := same_line_bounds lok ok (beq_iff_eq.mp hsame)
      exact ⟨e1 ▸ lok.ls_le, e2 ▸ lok.le_ge⟩)
  obtain ⟨labelLines, hlabelLines, hlabelV⟩ := mapOpt_some
    (sameLineLabel src lc.lineStart lc.lineEnd (color d.sev) (renderPlainGutter (color d.sev) width))
    (fun t => d.TextValid → validUtf8 t = true)
    ((tagged.filter (·.2)).map (·.1))
    (by
      intro l hl
      obtain ⟨p, hp, rfl⟩ := List.mem_map.mp hl
      obtain ⟨hp1, hp2⟩ := List.mem_filter.mp hp
      obtain ⟨t, ht, htv⟩ := sameLineLabel_some (hlab _ (htag p hp1).1) (color d.sev)
        (renderPlainGutter (color d.sev) width) ((htag p hp1).2 hp2).1 ((htag p hp1).2 hp2).2 ok.ls_bnd ok.le_bnd
      exact ⟨t, ht, fun htx => htv (valid_color _) (htx.2.2 _ (htag p hp1).1) (valid_renderPlainGutter _ _)⟩)
  obtain ⟨crossBlocks, hcrossBlocks, hcrossV⟩ := mapOpt_some
    (crossLineLabel src width (color d.sev) (renderPlainGutter (color d.sev) width))
    (fun t => d.TextValid → validUtf8 t = true)
    ((tagged.filter (!·.2)).map (·.1))
    (by
      intro l hl
      obtain ⟨p, hp, rfl⟩ := List.mem_map.mp hl
      have hin := (htag p (List.mem_filter.mp hp).1).1
      obtain ⟨t, ht, htv⟩ := crossLineLabel_some hv (hlab _ hin) width d.sev
      exact ⟨t, ht, fun htx => htv (htx.2.2 _ hin)⟩)
  simp only [renderDiagnostic, hlc, hline, hcaretTxt, hcaretLine, htagged, hlabelLines, hcrossBlocks]
  refine ⟨_, rfl, ?_⟩
  intro hfile htx
  have g1 : validUtf8 (renderHeader d.sev d.code d.msg) = true := by
    unfold renderHeader; simp [htx.1, htx.2.1]
  have g2 : validUtf8 (renderLocation file lc.line lc.col (color d.sev)) = true := by
    unfold renderLocation; simp [hfile]
  have g3 := valid_renderPlainGutter d.sev width
  have g4 : validUtf8 crossBlocks.flatten = true := valid_flatten _ (fun x hx => hcrossV x hx htx)
  have g5 := valid_renderGutter lc.line d.sev width
  have g6 := valid_expandTabs (valid_slice hv hline)
  have g7 := hcaretV (valid_color _) g3
  have g8 : validUtf8 (labelLines.map (· ++ [nl])).flatten = true := by
    apply valid_flatten
    intro x hx
    obtain ⟨y, hy, rfl⟩ := List.mem_map.mp hx
    simp [hlabelV y hy htx]
  simp [g1, g2, g3, g4, g5, g6, g7, g8]

theorem computeGutterWidth_some {src : Bytes} (hv : validUtf8 src = true) {ds : List RDiag}
    (hd : ∀ d ∈ ds, d.Safe src) : ∃ w, computeGutterWidth src ds = some w := by
  obtain ⟨lcs, hlcs, _⟩ := mapOpt_some (lineColFromSpan src) (fun _ => True) (spanStarts ds) (by
    intro p hp
    simp only [spanStarts, List.mem_flatMap, List.mem_cons, List.mem_map] at hp
    obtain ⟨d, hdm, hp⟩ := hp
    have hsafe := hd d hdm
    have hs : ∃ s, Safe src s ∧ p = s.lo := by
      rcases hp with rfl | ⟨l, hl, rfl⟩
      · exact ⟨_, hsafe.1, rfl⟩
      · exact ⟨_, hsafe.2 l hl, rfl⟩
    obtain ⟨s, hs, rfl⟩ := hs
    obtain ⟨lc, hlc, _⟩ := lineColFromSpan_ok hv hs.2.2.1
    exact ⟨lc, hlc, trivial⟩)
  simp only [computeGutterWidth, hlcs, Option.map_some]
  exact ⟨_, rfl⟩

theorem renderAnsi_some {src : Bytes} (hv : validUtf8 src = true) (file : Bytes) {ds : List RDiag}
    (hd : ∀ d ∈ ds, d.Safe src) :
    ∃ out, renderAnsi src file ds = some out ∧
      (validUtf8 file = true → (∀ d ∈ ds, d.TextValid) → validUtf8 out = true) := by
  obtain ⟨w, hw⟩ := computeGutterWidth_some hv hd
  obtain ⟨outs, houts, hv'⟩ := mapOpt_some (renderDiagnostic src file w)
    (fun t => validUtf8 file = true → (∀ d ∈ ds, d.TextValid) → validUtf8 t = true) ds
    (fun d hdm => by
      obtain ⟨t, ht, htv⟩ := renderDiagnostic_some hv file w (hd d hdm)
      exact ⟨t, ht, fun hf hall => htv hf (hall d hdm)⟩)
  simp only [renderAnsi, hw, houts, Option.map_some]
  exact ⟨_, rfl, fun hf hall => valid_flatten _ (fun x hx => hv' x hx hf hall)⟩

end NaijaVerif.Render
