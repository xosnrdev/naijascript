import NaijaVerif.Lemmas.ResolveStructSids
import NaijaVerif.Lemmas.ResolveStructGlobal
import NaijaVerif.Lemmas.ResolveStructSumWalk
import NaijaVerif.Lemmas.ResolveStructBridge
import NaijaVerif.Lemmas.ResolveStructLok
import NaijaVerif.Lemmas.ResolveFactsRange
import NaijaVerif.Lemmas.AnalysisLiveModel
/-
The decomposition of `C03.structOkB root facts`, and what of it holds of the resolver model's output.
* `structOkB = structProvedB && structRestB`.  `structProvedB` (distinct statement ids and all of `globalOkB`) holds
  whenever the resolver reports nothing; of its conjuncts `usedOkB`, `slOkB`, `sumOkB` and `brClosed` hold for every
  input program.
* `structRestB`, the statement-by-statement conditions `rootOkB` for the empty plan, splits along the atoms of the walk
  (`Lemmas/ResolveStructLok.lean`): `structRestB = ownWalkB && structRest2B`.  `ownWalkB`, the owner / callee atoms, holds
  of every output (from `resolveWith_ownOk` of `Lemmas/ResolveFactsOwn.lean`).
* `structRest2B` (the scope condition of the top-level block and the walk over `restAtoms`) is the hypothesis that stays:
  `resolveWith_structOk2`, the form `Props/C03.lean` uses.  It is FALSE of some accepted programs
  (`structRest_fails_on_accepted` in `Props/C03.lean`); the driver evaluates `structOkB` as a whole on every case.
-/
namespace NaijaVerif.ResolveStruct
open NaijaVerif NaijaVerif.Resolve NaijaVerif.Analysis NaijaVerif.AEval NaijaVerif.C03

def structProvedB (root : Block) (facts : Facts) : Bool :=
  decide (((rows root).map (·.sid)).Nodup) &&
  globalOkB root facts

def structRestB (root : Block) (facts : Facts) : Bool :=
  rootOkB (lsetupOf root facts none (safe2B (mkCtx root facts))) root

theorem structOkB_split (root : Block) (facts : Facts) :
    structOkB root facts = (structProvedB root facts && structRestB root facts) := by
  simp only [structOkB, structProvedB, structRestB]

abbrev L0 (root : Block) (facts : Facts) : LSetup := lsetupOf root facts none (safe2B (mkCtx root facts))

def ownWalkB (root : Block) (facts : Facts) : Bool :=
  lokListG (L0 root facts) (ownAtoms (L0 root facts)) 0 [blockTag (L0 root facts).ss root.stmts, none]
    { brk := none, cont := none, kills := [] } root.stmts (boundary [])

/-- Both conjuncts are those of `rootOkB` (`Lemmas/AnalysisLiveTop.lean`) with the arguments they have there, as is the walk
of `ownWalkB`; `structRestB_split` rests on the three copies agreeing. -/
def structRest2B (root : Block) (facts : Facts) : Bool :=
  (L0 root facts).blockOkB 0 [none] root.stmts &&
  lokListG (L0 root facts) (restAtoms (L0 root facts)) 0 [blockTag (L0 root facts).ss root.stmts, none]
    { brk := none, cont := none, kills := [] } root.stmts (boundary [])

theorem structRestB_split (root : Block) (facts : Facts) :
    structRestB root facts = (ownWalkB root facts && structRest2B root facts) := by
  simp only [structRestB, rootOkB, ownWalkB, structRest2B]
  rw [lokListB_eq_lokListG, atomsOf_split, lokListG_and]
  ac_rfl

theorem resolveWith_globalOk (spanLen : Bool) (q : Block) (h : (resolveWith spanLen q).rdiags = []) :
    globalOkB (resolveWith spanLen q).root (resolveWith spanLen q).facts = true := by
  simp only [globalOkB, Bool.and_eq_true]
  exact ⟨⟨⟨⟨ResolveFacts.resolveWith_brClosed spanLen q, usedOkB_holds _⟩, resolveWith_sumOk spanLen q⟩,
    resolveWith_slOk spanLen q⟩, resolveWith_scOwn spanLen q h⟩

theorem resolveWith_structProved (spanLen : Bool) (q : Block) (h : (resolveWith spanLen q).rdiags = []) :
    structProvedB (resolveWith spanLen q).root (resolveWith spanLen q).facts = true := by
  simp only [structProvedB, Bool.and_eq_true, decide_eq_true_eq]
  exact ⟨resolveWith_sidsDistinct spanLen q h, resolveWith_globalOk spanLen q h⟩

theorem resolveWith_structOk (spanLen : Bool) (q : Block) (h : (resolveWith spanLen q).rdiags = [])
    (hrest : structRestB (resolveWith spanLen q).root (resolveWith spanLen q).facts = true) :
    structOkB (resolveWith spanLen q).root (resolveWith spanLen q).facts = true := by
  rw [structOkB_split, resolveWith_structProved spanLen q h, hrest]
  rfl

theorem resolveWith_ownWalk (spanLen : Bool) (q : Block) :
    ownWalkB (resolveWith spanLen q).root (resolveWith spanLen q).facts = true :=
  lokListG_own_of_sok _ (fun _ _ => false) rfl rfl rfl 0 _ _ _ _ (ResolveFacts.resolveWith_ownOk spanLen q)

theorem resolveWith_structOk2 (spanLen : Bool) (q : Block) (h : (resolveWith spanLen q).rdiags = [])
    (hrest : structRest2B (resolveWith spanLen q).root (resolveWith spanLen q).facts = true) :
    structOkB (resolveWith spanLen q).root (resolveWith spanLen q).facts = true := by
  apply resolveWith_structOk spanLen q h
  rw [structRestB_split, resolveWith_ownWalk, hrest]
  rfl

end NaijaVerif.ResolveStruct
