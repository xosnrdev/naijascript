/-
`line_col_from_span` against a declarative description of lines: a *line start* is position 0 or a
position right after a line terminator (`"\r\n"` counted once, `'\n'`, lone `'\r'`); the line number of
`start` is the number of line starts `≤ start`; the line of `start` begins at the last line start
`≤ start` and ends in front of the terminator that produces the next line start (or at the end).
-/
import NaijaVerif.Lemmas.Render

namespace NaijaVerif.Render
open NaijaVerif NaijaVerif.Utf8
open NaijaVerif.Bytes (isCont isBoundary)

theorem filter_range_of_lt {q : Nat → Bool} {n m : Nat} (hq : ∀ p, q p = true → p < n) (hnm : n ≤ m) :
    (List.range m).filter q = (List.range n).filter q := by
  obtain ⟨d, rfl⟩ := Nat.exists_eq_add_of_le hnm
  have h2 : (List.range' n d).filter q = [] := List.filter_eq_nil_iff.mpr fun p hp hqp =>
    Nat.lt_irrefl _ (Nat.lt_of_le_of_lt (List.mem_range'_1.mp hp).1 (hq p hqp))
  rw [List.range_eq_range', List.range_eq_range', ← List.range'_append_1, List.filter_append, Nat.zero_add, h2,
    List.append_nil]

theorem cntLE_lineStarts (src : Bytes) (t : Nat) :
    cntLE (computeLineStarts src) t = ((List.range (t + 1)).filter (isLineStart src)).length := by
  rw [cntLE, computeLineStarts_eq, List.filter_filter]
  congr 1
  -- a line start `≤ t` lies below both `t + 1` and `|src| + 1`
  have h1 : ∀ p, (decide (p ≤ t) && isLineStart src p) = true → p < min (t + 1) (src.length + 1) := by
    intro p hp
    rw [Bool.and_eq_true, decide_eq_true_eq] at hp
    have := isLineStart_le hp.2
    omega
  rw [filter_range_of_lt h1 (Nat.min_le_right _ _), ← filter_range_of_lt h1 (Nat.min_le_left _ _)]
  exact List.filter_congr fun p hp => by rw [decide_eq_true (Nat.le_of_lt_succ (List.mem_range.mp hp)), Bool.true_and]

theorem sorted_index_mono {xs : List Nat} (hp : xs.Pairwise (· < ·)) {i j a b : Nat}
    (hi : xs[i]? = some a) (hj : xs[j]? = some b) (hij : i ≤ j) : a ≤ b := by
  obtain ⟨hi1, hi2⟩ := List.getElem?_eq_some_iff.mp hi
  obtain ⟨hj1, hj2⟩ := List.getElem?_eq_some_iff.mp hj
  subst hi2 hj2
  rcases Nat.lt_or_eq_of_le hij with h | h
  · exact Nat.le_of_lt ((List.pairwise_iff_getElem.mp hp) i j hi1 hj1 h)
  · subst h; exact Nat.le_refl _

theorem LineColOk.ls_idx {src : Bytes} {start : Nat} {lc : LineCol} (ok : LineColOk src start lc) :
    (computeLineStarts src)[lc.line - 1]? = some lc.lineStart := by
  have h := ok.bounds
  -- every branch of `lineBounds` that answers `some` answers `starts[idx]` first
  unfold lineBounds at h
  split at h
  · cases h
  · next ls hls =>
    split at h
    · split at h
      · cases h
      · split at h
        · cases h
        · simp at h; rw [hls, h.1]
    · simp at h; rw [hls, h.1]

theorem LineColOk.lineStart_idx {src : Bytes} {start : Nat} {lc : LineCol} (ok : LineColOk src start lc)
    {p : Nat} (hp : isLineStart src p = true) :
    ∃ j, (computeLineStarts src)[j]? = some p ∧ (p ≤ start ↔ j < lc.line) := by
  obtain ⟨j, hj⟩ := List.getElem?_of_mem ((isLineStart_iff src p).mp hp)
  exact ⟨j, hj, ok.line_eq ▸ sorted_le_iff _ (computeLineStarts_sorted src) start j p hj⟩

theorem LineColOk.no_start_before {src : Bytes} {start : Nat} {lc : LineCol} (ok : LineColOk src start lc)
    (p : Nat) (h1 : lc.lineStart < p) (h2 : p ≤ start) : isLineStart src p = false :=
  Bool.eq_false_iff.mpr fun hc => by
    obtain ⟨j, hj, hiff⟩ := ok.lineStart_idx hc
    have hlt := hiff.mp h2
    have := sorted_index_mono (computeLineStarts_sorted src) hj ok.ls_idx (by omega)
    omega

theorem LineColOk.no_start_of_last {src : Bytes} {start : Nat} {lc : LineCol} (ok : LineColOk src start lc)
    (hlast : lc.line = (computeLineStarts src).length) (p : Nat) (h1 : start < p) :
    isLineStart src p = false :=
  Bool.eq_false_iff.mpr fun hc => by
    obtain ⟨j, hj, hiff⟩ := ok.lineStart_idx hc
    have := (List.getElem?_eq_some_iff.mp hj).1
    have := mt hiff.mpr (by omega)
    omega

theorem LineColOk.no_start_after {src : Bytes} {start : Nat} {lc : LineCol} (ok : LineColOk src start lc)
    (p : Nat) (h1 : start < p) (h2 : p ≤ lc.lineEnd) : isLineStart src p = false := by
  rcases ok.le_eq with ⟨_, hnx⟩ | ⟨hlast, _⟩
  · refine Bool.eq_false_iff.mpr fun hc => ?_
    obtain ⟨j, hj, hiff⟩ := ok.lineStart_idx hc
    have hnlt := mt hiff.mp (by omega)
    have := sorted_index_mono (computeLineStarts_sorted src) hnx hj (by omega)
    omega
  · exact ok.no_start_of_last hlast p h1

theorem LineColOk.line_end {src : Bytes} {start : Nat} {lc : LineCol} (ok : LineColOk src start lc) :
    (isLineStart src (lc.lineEnd + 1) = true) ∨
      (lc.lineEnd = src.length ∧ ∀ p, start < p → isLineStart src p = false) := by
  rcases ok.le_eq with ⟨_, hnx⟩ | ⟨hlast, hend⟩
  · exact Or.inl ((isLineStart_iff src _).mpr (List.mem_of_getElem? hnx))
  · exact Or.inr ⟨hend, ok.no_start_of_last hlast⟩

end NaijaVerif.Render
