import NaijaVerif.Model.AnalysisEval
import NaijaVerif.Lemmas.AstInduction
import NaijaVerif.Lemmas.ListFacts
/-
Behind T1 and `c03_partial`: the reachability table of the analysis (`tbl`) is consistent with the statement lists the
evaluator executes (`ConsStmts`); the invariant `Inv` that T1 keeps (`main_all`, `Lemmas/AnalysisSim.lean`); the shape of
every invariant on the function scopes (`FnsAll`).
-/
namespace NaijaVerif.C03
open NaijaVerif NaijaVerif.Analysis NaijaVerif.AEval

/-- (statement id, reachable) -/
def tbl (root : Block) : List (Nat × Bool) := (rows root).map fun r => (r.sid, r.live)

theorem mem_tbl {root : Block} {i : Nat} {l : Bool} : (i, l) ∈ tbl root ↔ ∃ r ∈ rows root, r.sid = i ∧ r.live = l := by
  simp only [tbl, List.mem_map, Prod.mk.injEq]

/-- Holds of every resolver output, which numbers statements consecutively (`ResolveStruct.resolveWith_sidsDistinct`);
the first conjunct of `structOkB` decides it. -/
def SidsDistinct (root : Block) : Prop := ((rows root).map (·.sid)).Nodup

theorem tbl_functional {root : Block} (hd : SidsDistinct root) {i : Nat} (ht : (i, true) ∈ tbl root) :
    (i, false) ∉ tbl root := by
  intro hf
  obtain ⟨r1, h1, s1, l1⟩ := mem_tbl.mp ht
  obtain ⟨r2, h2, s2, l2⟩ := mem_tbl.mp hf
  obtain rfl := eq_of_nodup_map hd r1 h1 r2 h2 (s1.trans s2.symm)
  rw [l1] at l2
  cases l2

theorem mem_unreachable {root : Block} {i : Nat} : i ∈ unreachable root ↔ (i, false) ∈ tbl root := by
  simp only [mem_tbl, unreachable, List.mem_map, List.mem_filter, Bool.not_eq_true']
  exact ⟨fun ⟨r, ⟨hr, hl⟩, hs⟩ => ⟨r, hr, hs, hl⟩, fun ⟨r, hr, hs, hl⟩ => ⟨r, ⟨hr, hl⟩, hs⟩⟩

def InTbl (T : List (Nat × Bool)) (sid : Option Nat) (live : Bool) : Prop :=
  ∀ i, sid = some i → (i, live) ∈ T

mutual
  /-- `s`, visited with reachability `live`, and everything below it is recorded in `T` with the flag the structural
  walk gives it (function bodies restart at `true`). -/
  def ConsStmt (T : List (Nat × Bool)) (live : Bool) : Stmt → Prop
    | .fnDef _ _ _ (.mk body _) _ sid _ => InTbl T sid live ∧ ConsStmts T true body
    | .ifS _ (.mk t _) none sid _ => InTbl T sid live ∧ ConsStmts T live t
    | .ifS _ (.mk t _) (some (.mk e _)) sid _ => InTbl T sid live ∧ ConsStmts T live t ∧ ConsStmts T live e
    | .loop _ (.mk b _) sid _ => InTbl T sid live ∧ ConsStmts T live b
    | .block (.mk b _) sid _ => InTbl T sid live ∧ ConsStmts T live b
    | .assign _ _ _ _ sid _ => InTbl T sid live
    | .assignExisting _ _ _ _ sid _ => InTbl T sid live
    | .assignIndex _ _ sid _ => InTbl T sid live
    | .ret _ sid _ => InTbl T sid live
    | .brk sid _ => InTbl T sid live
    | .cont sid _ => InTbl T sid live
    | .expr _ sid _ => InTbl T sid live
  def ConsStmts (T : List (Nat × Bool)) (live : Bool) : List Stmt → Prop
    | [] => True
    | s :: ss => ConsStmt T live s ∧ ConsStmts T (afterStmt live s) ss
end

theorem mkRow_in {T : List (Nat × Bool)} {pl live : Bool} {s : Stmt}
    (h : ∀ r ∈ mkRow pl live s, (r.sid, r.live) ∈ T) : InTbl T s.sid live := by
  intro i hi
  have := h { sid := i, kind := stmtKind s, span := s.span, auxSpan := stmtAux s,
              live := live, parentLive := pl } (by simp [mkRow, hi])
  simpa using this

/- `rowsStmt` lists the statement's own row, then the rows of its blocks with the flags `ConsStmt` asks for: the
hypothesis splits along `++`.  By the recursion of `rowsStmt` itself, one case per arm of its text. -/
theorem cons_of_rows_walk (T : List (Nat × Bool)) :
    (∀ pl live s, (∀ r ∈ rowsStmt pl live s, (r.sid, r.live) ∈ T) → ConsStmt T live s) ∧
    (∀ pl live ss, (∀ r ∈ rowsStmts pl live ss, (r.sid, r.live) ∈ T) → ConsStmts T live ss) := by
  refine rowsStmt.mutual_induct _ _ ?fnDef ?ifS ?ifElse ?loop ?block ?_ ?_ ?_ ?_ ?_ ?_ ?_ ?nil ?cons
  case fnDef | ifS | loop | block =>
    intros
    rename_i ih h
    exact ⟨mkRow_in fun r hr => h r (List.mem_append_left _ hr), ih fun r hr => h r (List.mem_append_right _ hr)⟩
  case ifElse =>
    intro pl live c t ts e es sid sp iht ihe h
    exact ⟨mkRow_in fun r hr => h r (List.mem_append_left _ (List.mem_append_left _ hr)),
      iht fun r hr => h r (List.mem_append_left _ (List.mem_append_right _ hr)),
      ihe fun r hr => h r (List.mem_append_right _ hr)⟩
  case nil => exact fun _ _ _ => trivial
  case cons =>
    exact fun pl live s ss ihs ihss h => ⟨ihs fun r hr => h r (List.mem_append_left _ hr),
      ihss fun r hr => h r (List.mem_append_right _ hr)⟩
  -- the seven forms without a block: the statement's own row only
  all_goals
    intros
    rename_i h
    exact mkRow_in h

theorem cons_root (root : Block) : ConsStmts (tbl root) true root.stmts := by
  apply (cons_of_rows_walk (tbl root)).2 true true
  intro r hr
  simp only [tbl, rows, List.mem_map]
  exact ⟨r, hr, rfl⟩

variable {V : Type}

/-- `FnsOk T` is `FnsAll fun fd => ConsStmts T true fd.body` written out, and is used as such.  Each simulation has its own
instance (`FnsOk`, `FnsOk2`, `FnsOkL`). -/
def FnsAll (C : FnDef → Prop) (fns : List (List FnDef)) : Prop := ∀ sc ∈ fns, ∀ fd ∈ sc, C fd

def FnsOk (T : List (Nat × Bool)) (fns : List (List FnDef)) : Prop :=
  ∀ sc ∈ fns, ∀ fd ∈ sc, ConsStmts T true fd.body

def TraceOk (T : List (Nat × Bool)) (tr : List Nat) : Prop := ∀ i ∈ tr, (i, true) ∈ T

def Inv (T : List (Nat × Bool)) (st : St V) : Prop := FnsOk T st.fns ∧ TraceOk T st.trace

/-- The run without a plan: the right-hand run of every comparison in `Lemmas/Analysis*` and `Props/C03.lean`. -/
def plain : Cfg := Cfg.ofPlan none

def Harmless (T : List (Nat × Bool)) (cfg : Cfg) : Prop :=
  (∀ i, (i, true) ∈ T → cfg.skip i = false) ∧ (∀ f, cfg.dropFn f = false)

theorem plain_harmless (T : List (Nat × Bool)) : Harmless T plain := by
  constructor <;> intros <;> rfl

theorem mem_hoist {fd : FnDef} {ss : List Stmt} (h : fd ∈ hoist ss) :
    ∃ s ∈ ss, ∃ nm ns bs sid sp, s = .fnDef nm ns fd.params (.mk fd.body bs) (some fd.id) sid sp := by
  fun_induction hoist ss with
  | case1 => cases h
  | case2 nm ns ps body bs f sid sp ss ih =>
    rcases List.mem_cons.mp h with rfl | h
    · exact ⟨_, List.mem_cons_self, nm, ns, bs, sid, sp, rfl⟩
    · exact (ih h).imp fun _ hs => ⟨List.mem_cons_of_mem _ hs.1, hs.2⟩
  | case3 s ss _ ih => exact (ih h).imp fun _ hs => ⟨List.mem_cons_of_mem _ hs.1, hs.2⟩

theorem consStmts_mem {T : List (Nat × Bool)} : ∀ {live : Bool} {ss : List Stmt}, ConsStmts T live ss →
    ∀ s ∈ ss, ∃ live', ConsStmt T live' s
  | live, s :: ss, h, s', hm => by
      rcases List.mem_cons.mp hm with rfl | hm
      · exact ⟨live, h.1⟩
      · exact consStmts_mem h.2 s' hm

theorem hoist_ok {T : List (Nat × Bool)} (live : Bool) (ss : List Stmt) (h : ConsStmts T live ss) :
    ∀ fd ∈ hoist ss, ConsStmts T true fd.body := by
  intro fd hfd
  obtain ⟨s, hm, nm, ns, bs, sid, sp, rfl⟩ := mem_hoist hfd
  obtain ⟨live', hs⟩ := consStmts_mem h _ hm
  exact hs.2

theorem findFn_mem {f : Nat} {fns : List (List FnDef)} {fd : FnDef} (h : findFn f fns = some fd) :
    fd.id = f ∧ ∃ sc ∈ fns, fd ∈ sc := by
  fun_induction findFn f fns with
  | case1 => cases h
  | case2 sc scs g hg =>
    cases h
    exact ⟨by simpa using List.find?_some hg, sc, List.mem_cons_self, List.mem_of_find?_eq_some hg⟩
  | case3 sc scs hg ih =>
    obtain ⟨hid, sc', hm, hfd⟩ := ih h
    exact ⟨hid, sc', List.mem_cons_of_mem _ hm, hfd⟩

theorem findFn_ok {C : FnDef → Prop} {f : Nat} {fns : List (List FnDef)} {fd : FnDef} (hok : FnsAll C fns)
    (h : findFn f fns = some fd) : C fd := by
  obtain ⟨_, sc, hm, hfd⟩ := findFn_mem h
  exact hok sc hm fd hfd

theorem FnsAll.drop {C : FnDef → Prop} {fns : List (List FnDef)} (h : FnsAll C fns) : FnsAll C (fns.drop 1) :=
  fun sc hsc => h sc (List.mem_of_mem_drop hsc)

theorem FnsAll.push {C : FnDef → Prop} {fns : List (List FnDef)} {sc : List FnDef} (h : FnsAll C fns)
    (hs : ∀ fd ∈ sc, C fd) : FnsAll C (sc :: fns) :=
  List.forall_mem_cons.mpr ⟨hs, h⟩

theorem FnsAll.init (C : FnDef → Prop) (V : Type) : FnsAll C (St.init V).fns := by
  intro sc hsc fd hfd
  cases List.mem_singleton.mp hsc
  cases hfd

theorem inv_init (T : List (Nat × Bool)) (V : Type) : Inv T (St.init V) :=
  ⟨FnsAll.init _ V, fun _ hi => nomatch hi⟩

end NaijaVerif.C03
