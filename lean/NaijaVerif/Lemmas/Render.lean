/-
For `Props/C07Render.lean`: the checked primitives of `Model/Render.lean`, line starts, the line index,
character boundaries, and that `line_col_from_span` succeeds (`LineColOk`).
-/
import NaijaVerif.Model.Render
import NaijaVerif.Lemmas.LexUtf8

namespace NaijaVerif.Render
open NaijaVerif NaijaVerif.Utf8
open NaijaVerif.Bytes (isCont isBoundary)

theorem sub1?_pos {x : Nat} (h : 0 < x) : sub1? x = some (x - 1) := by
  simp [sub1?]; omega

theorem sub1?_succ (x : Nat) : sub1? (x + 1) = some x := by simp [sub1?]

/-- The converse reading of `mapOpt_some`; the proofs use that one. -/
theorem mapOpt_mem {α β : Type} (f : α → Option β) :
    ∀ (l : List α) (bs : List β), mapOpt f l = some bs → ∀ b ∈ bs, ∃ a ∈ l, f a = some b := by
  intro l
  induction l with
  | nil => intro bs h; simp [mapOpt] at h; subst h; simp
  | cons a as ih =>
    intro bs h b hb
    simp only [mapOpt] at h
    split at h
    · cases h
    · next b0 hb0 =>
      split at h
      · cases h
      · next bs0 hbs0 =>
        cases h
        rcases List.mem_cons.mp hb with rfl | hb
        · exact ⟨a, by simp, hb0⟩
        · obtain ⟨a', ha', hf⟩ := ih bs0 hbs0 b hb
          exact ⟨a', by simp [ha'], hf⟩

theorem mapOpt_some {α β : Type} (f : α → Option β) (P : β → Prop) :
    ∀ (l : List α), (∀ a ∈ l, ∃ b, f a = some b ∧ P b) → ∃ bs, mapOpt f l = some bs ∧ ∀ b ∈ bs, P b
  | [], _ => ⟨[], rfl, fun _ hb => nomatch hb⟩
  | a :: as, h => by
    obtain ⟨b, hb, hP⟩ := h a List.mem_cons_self
    obtain ⟨bs, hbs, hPs⟩ := mapOpt_some f P as fun a' ha' => h a' (List.mem_cons_of_mem _ ha')
    refine ⟨b :: bs, by simp only [mapOpt, hb, hbs], fun b' hb' => ?_⟩
    rcases List.mem_cons.mp hb' with rfl | hb'
    · exact hP
    · exact hPs b' hb'

/-- no separate bound on `b`: a boundary lies inside the text -/
theorem slice?_some {src : Bytes} {a b : Nat} (hab : a ≤ b) (ha : isBoundary src a = true)
    (hb : isBoundary src b = true) : slice? src a b = some ((src.drop a).take (b - a)) := by
  simp [slice?, hab, isBoundary_le_length hb, ha, hb]

theorem slice?_eq_some {src : Bytes} {a b : Nat} {t : Bytes} (h : slice? src a b = some t) :
    a ≤ b ∧ b ≤ src.length ∧ isBoundary src a = true ∧ isBoundary src b = true ∧
      t = (src.drop a).take (b - a) := by
  unfold slice? at h
  split at h
  · next hc => cases h; exact ⟨hc.1, hc.2.1, hc.2.2.1, hc.2.2.2, rfl⟩
  · cases h

/-- a line terminator ends right before position `p`: `src[p-1]` is `'\n'`, or it is a `'\r'` and
`src[p]` is not `'\n'` (so the position between the two bytes of `"\r\n"` is NOT a line start) -/
def termEndsAt (src : Bytes) : Nat → Bool
  | 0 => false
  | k + 1 => src[k]? == some nl || (src[k]? == some cr && src[k + 1]? != some nl)

def isLineStart (src : Bytes) (p : Nat) : Bool := p == 0 || termEndsAt src p

/-- `lineStartsFrom` one byte at a time (the `'\r'` of `"\r\n"` pushes nothing, the `'\n'` does) -/
def lsGo : Nat → Bytes → List Nat
  | _, [] => []
  | i, b :: r =>
    if b = nl then (i + 1) :: lsGo (i + 1) r
    else if b = cr then (if r.head? = some nl then lsGo (i + 1) r else (i + 1) :: lsGo (i + 1) r)
    else lsGo (i + 1) r

theorem lineStartsFrom_eq_lsGo (i : Nat) (r : Bytes) : lineStartsFrom i r = lsGo i r := by
  induction i, r using lineStartsFrom.induct with
  -- the end of the text: nothing left, a last `'\r'`, a last `'\n'`, any other last byte
  | case1 => simp [lineStartsFrom, lsGo]
  | case2 => simp [lineStartsFrom, lsGo, cr, nl]
  | case3 => simp [lineStartsFrom, lsGo, cr, nl]
  | case4 i b h1 h2 => simp [lineStartsFrom, lsGo, h1, h2]
  -- two bytes in sight: `"\r\n"`, a lone `'\r'`, `'\n'`, any other byte
  | case5 i r' ih => simp [lineStartsFrom, lsGo, cr, nl] at ih ⊢; exact ih
  | case6 i c r' h ih =>
    rw [lineStartsFrom]; simp only [h, if_true, if_false]; rw [ih]
    simp [lsGo, cr, nl, h]
  | case7 i c r' h ih =>
    rw [lineStartsFrom]; simp only [h, if_true, if_false]; rw [ih]
    simp [lsGo, cr, nl]
  | case8 i b c r' h1 h2 ih =>
    rw [lineStartsFrom]; simp only [h1, h2, if_false]; rw [ih]
    simp [lsGo, h1, h2]

theorem isLineStart_succ (src : Bytes) (k : Nat) :
    isLineStart src (k + 1) = (src[k]? == some nl || (src[k]? == some cr && src[k + 1]? != some nl)) := rfl

/-- The byte at `i` decides about `i + 1`, with one byte of lookahead for `"\r\n"`. -/
theorem lsGo_eq_filter (src : Bytes) : ∀ (n i : Nat), i + n = src.length →
    lsGo i (src.drop i) = (List.range' (i + 1) n).filter (isLineStart src) := by
  intro n
  induction n with
  | zero => intro i h; rw [List.drop_eq_nil_of_le (by omega)]; rfl
  | succ n ih =>
    intro i h
    have hlt : i < src.length := by omega
    rw [List.drop_eq_getElem_cons hlt, lsGo, ih (i + 1) (by omega), List.head?_drop, List.range'_succ,
      List.filter_cons, isLineStart_succ, List.getElem?_eq_getElem hlt]
    by_cases h1 : src[i] = nl
    · simp [h1]
    · by_cases h2 : src[i] = cr
      · by_cases h3 : src[i + 1]? = some nl
        · simp [h2, h3, cr, nl]
        · simp [h2, h3, cr, nl]
      · simp [h1, h2]

theorem computeLineStarts_eq (src : Bytes) :
    computeLineStarts src = (List.range (src.length + 1)).filter (isLineStart src) := by
  have := lsGo_eq_filter src src.length 0 (Nat.zero_add _)
  rw [List.drop_zero] at this
  rw [computeLineStarts, lineStartsFrom_eq_lsGo, this, List.range_eq_range', List.range'_succ, List.filter_cons]
  rfl

theorem computeLineStarts_sorted (src : Bytes) : (computeLineStarts src).Pairwise (· < ·) := by
  rw [computeLineStarts_eq]; exact List.Pairwise.filter _ List.pairwise_lt_range

/-- a line start behind the end of the text would have a byte in front of it -/
theorem isLineStart_le {src : Bytes} {p : Nat} (h : isLineStart src p = true) : p ≤ src.length := by
  cases p with
  | zero => exact Nat.zero_le _
  | succ k =>
    rw [isLineStart_succ] at h
    by_cases hk : k < src.length
    · exact hk
    · rw [List.getElem?_eq_none (by omega)] at h; cases h

theorem isLineStart_iff (src : Bytes) (p : Nat) : isLineStart src p = true ↔ p ∈ computeLineStarts src := by
  rw [computeLineStarts_eq, List.mem_filter, List.mem_range, Nat.lt_succ_iff]
  exact ⟨fun h => ⟨isLineStart_le h, h⟩, fun h => h.2⟩

theorem isLineStart_byte {src : Bytes} {k : Nat} (h : isLineStart src (k + 1) = true) :
    src[k]? = some nl ∨ src[k]? = some cr := by
  rw [isLineStart_succ, Bool.or_eq_true, Bool.and_eq_true, beq_iff_eq, beq_iff_eq] at h
  exact h.imp_right And.left

/-! the line index: `binary_search(..).unwrap_or_else(|x| x - 1)`.  On a strictly increasing list both answers
of the search are fixed by the number `cntLE xs t` of elements `≤ t`: `found (cnt - 1)` when `t` occurs, `insertAt cnt`
when it does not (`bsearch_spec`), so the line index is `cnt - 1` either way (`lineIdx_eq`). -/

def cntLE (xs : List Nat) (t : Nat) : Nat := (xs.filter (· ≤ t)).length

theorem cntLE_cons (x : Nat) (xs : List Nat) (t : Nat) :
    cntLE (x :: xs) t = (if x ≤ t then 1 else 0) + cntLE xs t := by
  simp only [cntLE, List.filter_cons, decide_eq_true_eq]
  split <;> simp [Nat.add_comm]

theorem cntLE_le (xs : List Nat) (t : Nat) : cntLE xs t ≤ xs.length := List.length_filter_le _ _

theorem cntLE_zero_of_gt {xs : List Nat} {t : Nat} (h : ∀ x ∈ xs, t < x) : cntLE xs t = 0 := by
  simp only [cntLE, List.length_eq_zero_iff, List.filter_eq_nil_iff]
  intro a ha; have := h a ha; simp; omega

theorem bsearch_spec : ∀ (xs : List Nat) (i t : Nat), xs.Pairwise (· < ·) →
    (bsearch xs i t = .found (i + cntLE xs t - 1) ∧ 0 < cntLE xs t) ∨
      bsearch xs i t = .insertAt (i + cntLE xs t) := by
  intro xs
  induction xs with
  | nil => intro i t _; right; simp [bsearch, cntLE]
  | cons x xs ih =>
    intro i t hp
    have hp' := List.pairwise_cons.mp hp
    rw [cntLE_cons]
    by_cases h1 : x = t
    · left
      have : cntLE xs t = 0 := cntLE_zero_of_gt (fun y hy => h1 ▸ hp'.1 y hy)
      simp [bsearch, h1, this]
    · by_cases h2 : t < x
      · right
        have : cntLE xs t = 0 := cntLE_zero_of_gt (fun y hy => Nat.lt_trans h2 (hp'.1 y hy))
        have h3 : ¬ x ≤ t := Nat.not_le.2 h2
        simp [bsearch, h1, h2, h3, this]
      · have h3 : x ≤ t := Nat.le_of_not_lt h2
        simp only [bsearch, h1, h2, h3, if_true, if_false]
        rcases ih (i + 1) t hp'.2 with ⟨h, hpos⟩ | h
        · left; rw [h, Nat.add_assoc]; exact ⟨rfl, by omega⟩
        · right; rw [h, Nat.add_assoc]

theorem lineIdx_eq {xs : List Nat} (hp : xs.Pairwise (· < ·)) (t : Nat) :
    lineIdx xs t = sub1? (cntLE xs t) := by
  unfold lineIdx
  rcases bsearch_spec xs 0 t hp with ⟨h, hpos⟩ | h
  · rw [h]; simp [sub1?]; omega
  · rw [h]; simp

theorem sorted_le_iff : ∀ (xs : List Nat), xs.Pairwise (· < ·) → ∀ (t j : Nat) (x : Nat),
    xs[j]? = some x → (x ≤ t ↔ j < cntLE xs t) := by
  intro xs
  induction xs with
  | nil => intro _ t j x h; simp at h
  | cons y ys ih =>
    intro hp t j x h
    have hp' := List.pairwise_cons.mp hp
    rw [cntLE_cons]
    cases j with
    | zero =>
      simp at h; subst h
      by_cases hy : y ≤ t
      · simp [hy]; omega
      · have : cntLE ys t = 0 := cntLE_zero_of_gt (fun z hz => Nat.lt_trans (Nat.lt_of_not_le hy) (hp'.1 z hz))
        simp [hy, this]
    | succ j =>
      simp at h
      have hx : x ∈ ys := List.mem_of_getElem? h
      have hyx := hp'.1 x hx
      by_cases hy : y ≤ t
      · have := ih hp'.2 t j x h
        simp [hy]; omega
      · have : cntLE ys t = 0 := cntLE_zero_of_gt (fun z hz => Nat.lt_trans (Nat.lt_of_not_le hy) (hp'.1 z hz))
        simp [hy, this]; omega

/-- `Utf8.isBoundary_le_length` under a second name. -/
theorem isBoundary_le {src : Bytes} {p : Nat} (h : isBoundary src p = true) : p ≤ src.length :=
  isBoundary_le_length h

theorem boundary_after_ascii {src : Bytes} (hv : validUtf8 src = true) {k b : Nat}
    (h : src[k]? = some b) (hb : b < 128) : isBoundary src (k + 1) = true := by
  have hnc : isCont b = false := by rw [← Bool.not_eq_true, isCont_iff]; omega
  have hk := (valid_cut hv (isBoundary_of_not_cont h hnc)).2
  obtain ⟨hlt, rfl⟩ := List.getElem?_eq_some_iff.mp h
  rw [List.drop_eq_getElem_cons hlt] at hk
  exact isBoundary_of_valid_drop hlt (valid_tail_ascii hk hb)

theorem valid_slice {src : Bytes} (hv : validUtf8 src = true) {a b : Nat} {t : Bytes}
    (h : slice? src a b = some t) : validUtf8 t = true := by
  obtain ⟨hab, hb, ha', hb', rfl⟩ := slice?_eq_some h
  -- `b - a` is a boundary of `src.drop a`: what is left behind it is `src.drop b`
  have hbd : isBoundary (src.drop a) (b - a) = true :=
    isBoundary_of_valid_drop (by rw [List.length_drop]; omega)
      (by rw [List.drop_drop, Nat.add_sub_cancel' hab]; exact (valid_cut hv hb').2)
  exact (valid_cut (valid_cut hv ha').2 hbd).1

theorem isLineStart_boundary {src : Bytes} (hv : validUtf8 src = true) {p : Nat}
    (h : isLineStart src p = true) : isBoundary src p = true := by
  cases p with
  | zero => rfl
  | succ k =>
    rcases isLineStart_byte h with hb | hb
    · exact boundary_after_ascii hv hb (by decide)
    · exact boundary_after_ascii hv hb (by decide)

/-- What `line_col_from_span` returns for a position on a boundary. In the field names `ls` is `lineStart`
and a leading `le` is `lineEnd`, not `≤`. -/
structure LineColOk (src : Bytes) (start : Nat) (lc : LineCol) : Prop where
  line_pos : 1 ≤ lc.line
  col_pos : 1 ≤ lc.col
  ls_le : lc.lineStart ≤ start
  le_ge : start ≤ lc.lineEnd
  le_len : lc.lineEnd ≤ src.length
  ls_bnd : isBoundary src lc.lineStart = true
  le_bnd : isBoundary src lc.lineEnd = true
  bounds : lineBounds src (computeLineStarts src) (lc.line - 1) = some (lc.lineStart, lc.lineEnd)
  line_eq : lc.line = cntLE (computeLineStarts src) start
  ls_mem : lc.lineStart ∈ computeLineStarts src
  col_eq : lc.col = visualCol ((src.drop lc.lineStart).take (start - lc.lineStart)) + 1
  le_eq : (lc.line < (computeLineStarts src).length ∧
            (computeLineStarts src)[lc.line]? = some (lc.lineEnd + 1)) ∨
          (lc.line = (computeLineStarts src).length ∧ lc.lineEnd = src.length)

theorem lineBounds_next {src : Bytes} {starts : List Nat} {idx ls q : Nat} (hls : starts[idx]? = some ls)
    (hnx : starts[idx + 1]? = some (q + 1)) : lineBounds src starts idx = some (ls, q) := by
  rw [lineBounds, hls]
  simp only [hnx, if_pos (List.getElem?_eq_some_iff.mp hnx).1, sub1?_succ]

theorem lineBounds_last {src : Bytes} {starts : List Nat} {idx ls : Nat} (hls : starts[idx]? = some ls)
    (hlast : ¬ idx + 1 < starts.length) : lineBounds src starts idx = some (ls, src.length) := by
  rw [lineBounds, hls]
  simp only [if_neg hlast]

theorem lineColFromSpan_eq {src pre : Bytes} {start idx ls le : Nat}
    (hidx : lineIdx (computeLineStarts src) start = some idx)
    (hb : lineBounds src (computeLineStarts src) idx = some (ls, le)) (hpre : slice? src ls start = some pre) :
    lineColFromSpan src start = some ⟨idx + 1, visualCol pre + 1, ls, le⟩ := by
  simp only [lineColFromSpan, hidx, hb, hpre]

theorem lineColFromSpan_ok {src : Bytes} (hv : validUtf8 src = true) {start : Nat}
    (hb : isBoundary src start = true) :
    ∃ lc, lineColFromSpan src start = some lc ∧ LineColOk src start lc := by
  have hs := isBoundary_le_length hb
  have hsorted := computeLineStarts_sorted src
  have hcnt : 1 ≤ cntLE (computeLineStarts src) start := by
    simp [computeLineStarts, cntLE_cons]
  have hlen := cntLE_le (computeLineStarts src) start
  generalize hst : computeLineStarts src = starts at hsorted hcnt hlen
  generalize hk : cntLE starts start = k at hcnt hlen
  have hidx : lineIdx starts start = some (k - 1) := by
    rw [lineIdx_eq hsorted, hk]; exact sub1?_pos hcnt
  have hlt : k - 1 < starts.length := Nat.lt_of_lt_of_le (Nat.sub_lt hcnt Nat.one_pos) hlen
  have hls : starts[k - 1]? = some starts[k - 1] := List.getElem?_eq_getElem hlt
  generalize hlsv : starts[k - 1] = ls at hls
  have hls_mem : ls ∈ computeLineStarts src := by rw [hst]; exact List.mem_of_getElem? hls
  have hls_le : ls ≤ start := (sorted_le_iff starts hsorted start (k - 1) ls hls).mpr (by omega)
  have hls_bnd := isLineStart_boundary hv ((isLineStart_iff src ls).mpr hls_mem)
  have hpre := slice?_some hls_le hls_bnd hb
  have hk1 : k - 1 + 1 = k := Nat.sub_add_cancel hcnt
  by_cases hnext : k - 1 + 1 < starts.length
  · -- there is a next line start `nx`
    have hnx : starts[k - 1 + 1]? = some starts[k - 1 + 1] := List.getElem?_eq_getElem hnext
    generalize hnxv : starts[k - 1 + 1] = nx at hnx
    have hnx_mem : nx ∈ computeLineStarts src := by rw [hst]; exact List.mem_of_getElem? hnx
    have hnx_gt : start < nx := by
      have := sorted_le_iff starts hsorted start (k - 1 + 1) nx hnx
      rw [hk] at this
      omega
    cases nx with
    | zero => omega
    | succ q =>
      -- `q` is the position of the terminating `'\n'` / `'\r'`
      have hbounds : lineBounds src starts (k - 1) = some (ls, q) := lineBounds_next hls hnx
      obtain ⟨b, hbq, hblt⟩ : ∃ b, src[q]? = some b ∧ b < 128 :=
        (isLineStart_byte ((isLineStart_iff src _).mpr hnx_mem)).elim (fun h => ⟨nl, h, by decide⟩)
          fun h => ⟨cr, h, by decide⟩
      have hq_bnd : isBoundary src q = true :=
        isBoundary_of_not_cont hbq (by simp [isCont]; omega)
      refine ⟨_, lineColFromSpan_eq (hst ▸ hidx) (hst ▸ hbounds) hpre, ?_⟩
      · exact ⟨Nat.le_add_left 1 _, Nat.le_add_left 1 _, hls_le, Nat.le_of_lt_succ hnx_gt,
          Nat.le_of_lt (List.getElem?_eq_some_iff.mp hbq).1,
          hls_bnd, hq_bnd, hst ▸ hbounds, by rw [hst, hk]; exact hk1, hls_mem, rfl,
          Or.inl ⟨by rw [hst]; exact hnext, by rw [hst]; exact hnx⟩⟩
  · have hbounds : lineBounds src starts (k - 1) = some (ls, src.length) := lineBounds_last hls hnext
    refine ⟨_, lineColFromSpan_eq (hst ▸ hidx) (hst ▸ hbounds) hpre, ?_⟩
    · exact ⟨Nat.le_add_left 1 _, Nat.le_add_left 1 _, hls_le, hs, Nat.le_refl _, hls_bnd, by simp [isBoundary],
        hst ▸ hbounds, by rw [hst, hk]; exact hk1, hls_mem, rfl,
        Or.inr ⟨by rw [hst]; show k - 1 + 1 = _; omega, rfl⟩⟩

end NaijaVerif.Render
