import NaijaVerif.Lemmas.AnalysisRefineRel
import NaijaVerif.Lemmas.AnalysisEvalEq
/-
BRIDGE, both directions at once.  Each side is a function of its fuel; `Lim` says such a function converges, `Conv` that
the two sides converge to related results, and `Bis B vr m G F` that they do as soon as ONE of them is not cut short by
some fuel `≤ m`.  The rules below build `Bis` along the structure of the two evaluators — the fragment read through its own
sequencing `AEval.andThen` and the equations of `Lemmas/AnalysisEvalEq.lean` —, so every form of expression and statement
is treated once (`Both`, one file per group of forms); the two refinement theorems are the two ways of supplying "one of
them is not cut short".
-/
namespace NaijaVerif.C03
open NaijaVerif NaijaVerif.Analysis

variable {N : Type} [NumOps N]

/-- `good`: not cut short.  `det` is what makes results independent of the fuel. -/
structure Lim {X : Type} (good : X → Prop) (G : Nat → X) (a : X) : Prop where
  det : ∀ n, good (G n) → G n = a
  ev : ∃ n0, ∀ n, n0 ≤ n → G n = a

def Lv {X : Type} (good : X → Prop) (m : Nat) (G : Nat → X) : Prop := ∃ n, n ≤ m ∧ good (G n)

/-! `Lim` and `Lv` are about one evaluator.  For each way of building a computation from parts (a unit of fuel spent,
sequencing), `Lim` is carried from the parts to the whole and `Lv` from the whole to the parts. -/
section
variable {X Y : Type} {good : X → Prop} {G : Nat → X} {a : X} {m : Nat}

theorem Lim.const (a : X) : Lim good (fun _ => a) a := ⟨fun _ _ => rfl, 0, fun _ _ => rfl⟩

theorem Lim.succ (h0 : ¬ good (G 0)) (h : Lim good (fun n => G (n + 1)) a) : Lim good G a where
  det := fun n hn => by
    cases n with
    | zero => exact absurd hn h0
    | succ n => exact h.det n hn
  ev := by
    obtain ⟨n0, h⟩ := h.ev
    refine ⟨n0 + 1, fun n hn => ?_⟩
    obtain ⟨n', rfl⟩ : ∃ n', n = n' + 1 := ⟨n - 1, by omega⟩
    exact h n' (by omega)

theorem Lv.succ (h0 : ¬ good (G 0)) (h : Lv good (m + 1) G) : Lv good m (fun n => G (n + 1)) := by
  obtain ⟨n, hn, h⟩ := h
  cases n with
  | zero => exact absurd h h0
  | succ n => exact ⟨n, by omega, h⟩

theorem Lv.mono (h : Lv good m G) : Lv good (m + 1) G := h.imp fun _ h => ⟨by omega, h.2⟩

theorem Lv.zero (h : Lv good 0 G) : good (G 0) := by
  obtain ⟨n, hn, h⟩ := h
  obtain rfl : n = 0 := by omega
  exact h

variable {good' : Y → Prop} {post : Nat → X → Y} {b : Y}

/-- `hg`: the whole is cut short when the first part is. -/
theorem Lim.seq (h1 : Lim good G a) (hg : ∀ n x, good' (post n x) → good x) (h2 : Lim good' (fun n => post n a) b) :
    Lim good' (fun n => post n (G n)) b where
  det := fun n hn => by
    have hn' : good' (post n (G n)) := hn
    show post n (G n) = b
    have e := h1.det n (hg _ _ hn')
    rw [e] at hn' ⊢; exact h2.det n hn'
  ev := by
    obtain ⟨n1, e1⟩ := h1.ev
    obtain ⟨n2, e2⟩ := h2.ev
    refine ⟨max n1 n2, fun n hn => ?_⟩
    show post n (G n) = b
    rw [e1 n (by omega)]; exact e2 n (by omega)

theorem Lv.seq (hg : ∀ n x, good' (post n x) → good x) (h : Lv good' m (fun n => post n (G n))) : Lv good m G :=
  h.imp fun n h => ⟨h.1, hg n _ h.2⟩

theorem Lim.lv (h1 : Lim good G a) (hg : ∀ n x, good' (post n x) → good x) (h : Lv good' m (fun n => post n (G n))) :
    Lv good' m (fun n => post n a) :=
  h.imp fun n h => ⟨h.1, by have h' : good' (post n (G n)) := h.2; rwa [h1.det n (hg _ _ h')] at h'⟩

theorem Lim.map (h : Lim good G a) (f : X → Y) (hg : ∀ x, good' (f x) → good x) : Lim good' (fun n => f (G n)) (f a) :=
  h.seq (post := fun _ => f) (fun _ => hg) (Lim.const (f a))

end

section
variable {α β γ δ : Type} {B : Brg}

omit [NumOps N] in
theorem Res.ne_of_bind {r : Eval.Res N β} {k : β → Eval.State N → Eval.Res N δ} (h : NE (r.bind k)) : NE r := by
  intro h'; cases h'; exact h rfl

omit [NumOps N] in
theorem ErrSim.out {er : AEval.Err} {t t' : AEval.St (VE N)} {r : Eval.Res N β} (h : ErrSim er t r)
    (hout : t'.out = t.out) : ErrSim er t' r := by
  cases r with
  | ok _ _ => cases h
  | fuel => cases h
  | err kd sp s' => exact ⟨h.1, by rw [hout]; exact h.2⟩
  | panic site s' => exact ⟨h.1, by rw [hout]; exact h.2⟩

def Conv (B : Brg) (vr : α → β → Prop) (G : Nat → AEval.R (VE N) α) (F : Nat → Eval.Res N β) : Prop :=
  ∃ a r, RSim B vr a r ∧ Lim NF G a ∧ Lim NE F r

/-- Nothing to do with the live variables of AnalysisLive*. -/
def Live (m : Nat) (G : Nat → AEval.R (VE N) α) (F : Nat → Eval.Res N β) : Prop := Lv NF m G ∨ Lv NE m F

/-- The hypothesis is a disjunction so that one induction on `m` serves both directions of the refinement: which side
is known to terminate is passed down unchanged to the parts. -/
def Bis (B : Brg) (vr : α → β → Prop) (m : Nat) (G : Nat → AEval.R (VE N) α) (F : Nat → Eval.Res N β) : Prop :=
  Live m G F → Conv B vr G F

section
variable {vr : α → β → Prop} {m : Nat} {G : Nat → AEval.R (VE N) α} {F : Nat → Eval.Res N β}

omit [NumOps N] in
theorem Bis.zero (hG : (G 0).1 = .error .fuel) (hF : F 0 = .fuel) : Bis B vr 0 G F :=
  fun hl => hl.elim (fun h => absurd hG h.zero) (fun h => absurd hF h.zero)

omit [NumOps N] in
theorem Bis.const {a : AEval.R (VE N) α} {r : Eval.Res N β} (h : RSim B vr a r) :
    Bis B vr m (fun _ => a) (fun _ => r) := fun _ => ⟨a, r, h, Lim.const a, Lim.const r⟩

omit [NumOps N] in
/-- The fragment alone spends a unit of fuel: a cell of an operand list or its end, which `Eval` does not count. -/
theorem Bis.stepA (hG : (G 0).1 = .error .fuel) (h : Bis B vr m (fun n => G (n + 1)) F) : Bis B vr m G F := fun hl =>
  have h0 : ¬ NF (G 0) := fun h => h hG
  let ⟨a, r, hr, hA, hE⟩ := h (hl.imp (fun h => h.mono.succ h0) id)
  ⟨a, r, hr, hA.succ h0, hE⟩

omit [NumOps N] in
/-- `Eval` alone spends a unit of fuel: `evalSel`, `evalIdxs`, `evalMutOp` count, the fragment's `evalChecked` has no fuel
of its own. -/
theorem Bis.stepE (hF : F 0 = .fuel) (h : Bis B vr m G (fun f => F (f + 1))) : Bis B vr m G F := fun hl =>
  have h0 : ¬ NE (F 0) := fun h => h hF
  let ⟨a, r, hr, hA, hE⟩ := h (hl.imp id (fun h => h.mono.succ h0))
  ⟨a, r, hr, hA, hE.succ h0⟩

omit [NumOps N] in
/-- The one rule that raises the level.  With `Bis.zero` it carries the induction `both`; every `bis_*` of a form that both
evaluators count begins with it. -/
theorem Bis.step (hG : (G 0).1 = .error .fuel) (hF : F 0 = .fuel)
    (h : Bis B vr m (fun n => G (n + 1)) (fun f => F (f + 1))) : Bis B vr (m + 1) G F := fun hl =>
  have hA0 : ¬ NF (G 0) := fun h => h hG
  have hE0 : ¬ NE (F 0) := fun h => h hF
  let ⟨a, r, hr, hA, hE⟩ := h (hl.imp (Lv.succ hA0) (Lv.succ hE0))
  ⟨a, r, hr, hA.succ hA0, hE.succ hE0⟩

end

omit [NumOps N] in
theorem Bis.err {vr : γ → δ → Prop} {m : Nat} {er : AEval.Err} {t : AEval.St (VE N)} {r : Eval.Res N β}
    {k : Nat → β → Eval.State N → Eval.Res N δ} (h : ErrSim er t r) :
    Bis B vr m (fun _ => ((.error er, t) : AEval.R (VE N) γ)) (fun f => r.bind (k f)) := by
  have hb := ErrSim.bind h (k 0)
  have : (fun f => r.bind (k f)) = fun _ => r.bind (k 0) := funext fun f => hb.2 _
  rw [this]
  exact Bis.const (RSim.err hb.1)

omit [NumOps N] in
/-- `Bis.stepE` under a `bind`, for a step of `Eval` that only waits for one unit of fuel (the end of an argument list). -/
theorem Bis.skipE {β' : Type} {vr : α → δ → Prop} {m : Nat} {G : Nat → AEval.R (VE N) α} {X : Nat → Eval.Res N β'}
    {k : Nat → β' → Eval.State N → Eval.Res N δ} {x0 : β'} {s0 : Eval.State N} (h0 : X 0 = .fuel)
    (hX : ∀ f, X (f + 1) = .ok x0 s0) (h : Bis B vr m G (fun f => k f x0 s0)) :
    Bis B vr m G (fun f => (X f).bind (k f)) := fun hl =>
  have hL : Lim NE X (.ok x0 s0) := Lim.succ (fun h => h h0) ⟨fun f _ => hX f, 0, fun f _ => hX f⟩
  have ne : ∀ f (r : Eval.Res N β'), NE (r.bind (k f)) → NE r := fun _ _ => Res.ne_of_bind
  let ⟨a, r, hr, hA, hE⟩ := h (hl.imp id (hL.lv ne))
  ⟨a, r, hr, hA, hL.seq ne hE⟩

omit [NumOps N] in
/-- The first parts converge (whichever side is live, its first part is); if to an error, that is the result; if to
related values, the side that is live continues with its value — by `Lim.det` the value the first part converges to —
so the continuations are live.  The first parts must stand at the fuel variable itself (`G1 n`, not `G1 (n + 1)`):
`Live m` cannot be moved to more fuel.  So fuel is peeled off (`stepA`, `stepE`, `skipE`) only as far as the next
sequencing needs, and the rest inside its continuation.  What the fragment does with its first result is any `post`
that hands an error on (`herr`; it may still pop scopes, `hp`: `Eval` does not, and only the output of an error state
is compared) and continues with `K` on a value (`hok`). -/
theorem Bis.seq {vr1 : α → β → Prop} {vr : γ → δ → Prop} {m : Nat} {G1 : Nat → AEval.R (VE N) α}
    {F1 : Nat → Eval.Res N β} {post : Nat → AEval.R (VE N) α → AEval.R (VE N) γ}
    {K : Nat → α → AEval.St (VE N) → AEval.R (VE N) γ}
    {k : Nat → β → Eval.State N → Eval.Res N δ} {hp : AEval.St (VE N) → AEval.St (VE N)}
    (herr : ∀ n er t1, post n (.error er, t1) = (.error er, hp t1)) (hok : ∀ n x t1, post n (.ok x, t1) = K n x t1)
    (hout : ∀ t, (hp t).out = t.out) (h1 : Bis B vr1 m G1 F1)
    (hk : ∀ x t1 y s1, vr1 x y → B.Sim s1 t1 → Bis B vr m (fun n => K n x t1) (fun f => k f y s1)) :
    Bis B vr m (fun n => post n (G1 n)) (fun f => (F1 f).bind (k f)) := by
  have nf : ∀ n a, NF (post n a) → NF a := fun n a h => by
    obtain ⟨_ | _, _⟩ := a
    · rw [herr] at h
      exact nf_err h
    · exact nf_ok _ _
  have ne : ∀ f (r : Eval.Res N β), NE (r.bind (k f)) → NE r := fun _ _ => Res.ne_of_bind
  intro hl
  obtain ⟨a1, r1, hr, hA, hE⟩ := h1 (hl.imp (Lv.seq nf) (Lv.seq ne))
  suffices Conv B vr (fun n => post n a1) (fun f => r1.bind (k f)) by
    obtain ⟨a, r, hr2, hA2, hE2⟩ := this
    exact ⟨a, r, hr2, hA.seq nf hA2, hE.seq ne hE2⟩
  have hl' : Live m (fun n => post n a1) (fun f => r1.bind (k f)) :=
    hl.imp (hA.lv nf) (hE.lv ne)
  obtain ⟨er | x, t1⟩ := a1
  · simp only [herr] at hl' ⊢
    exact Bis.err ((show ErrSim er t1 r1 from hr).out (hout t1)) hl'
  · obtain ⟨y, s1, rfl, hxy, hs⟩ := (show ∃ y s', r1 = .ok y s' ∧ vr1 x y ∧ B.Sim s' t1 from hr)
    simp only [hok] at hl' ⊢
    exact hk x t1 y s1 hxy hs hl'

omit [NumOps N] in
/-- Brings a sequencing of the fragment into the right-nested shape that `Bis.andThen` reads. -/
theorem andThen_assoc {α β γ : Type} (a : AEval.R (VE N) α) (K1 : α → AEval.St (VE N) → AEval.R (VE N) β)
    (K2 : β → AEval.St (VE N) → AEval.R (VE N) γ) :
    AEval.andThen (AEval.andThen a K1) K2 = AEval.andThen a fun x t => AEval.andThen (K1 x t) K2 := by
  obtain ⟨_ | _, _⟩ := a <;> rfl

omit [NumOps N] in
theorem Bis.andThen {vr1 : α → β → Prop} {vr : γ → δ → Prop} {m : Nat} {G1 : Nat → AEval.R (VE N) α}
    {F1 : Nat → Eval.Res N β} {K : Nat → α → AEval.St (VE N) → AEval.R (VE N) γ}
    {k : Nat → β → Eval.State N → Eval.Res N δ} (h1 : Bis B vr1 m G1 F1)
    (hk : ∀ x t1 y s1, vr1 x y → B.Sim s1 t1 → Bis B vr m (fun n => K n x t1) (fun f => k f y s1)) :
    Bis B vr m (fun n => AEval.andThen (G1 n) (K n)) (fun f => (F1 f).bind (k f)) :=
  Bis.seq (post := fun n a => AEval.andThen a (K n)) (hp := id) (fun _ _ _ => rfl) (fun _ _ _ => rfl) (fun _ => rfl) h1 hk

omit [NumOps N] in
theorem Bis.bind {vr : γ → δ → Prop} {m : Nat} {G1 : Nat → AEval.R (VE N) α} {F1 : Nat → Eval.Res N α}
    {K : Nat → α → AEval.St (VE N) → AEval.R (VE N) γ} {k : Nat → α → Eval.State N → Eval.Res N δ}
    (h1 : Bis B Eq m G1 F1)
    (hk : ∀ x t1 s1, B.Sim s1 t1 → Bis B vr m (fun n => K n x t1) (fun f => k f x s1)) :
    Bis B vr m (fun n => AEval.andThen (G1 n) (K n)) (fun f => (F1 f).bind (k f)) :=
  Bis.andThen h1 fun x t1 _ s1 hxy hs => hxy ▸ hk x t1 s1 hs

omit [NumOps N] in
/-- Leaving a block or a call: the fragment pops the scope whatever the ending and maps the ending by `q`. -/
theorem Bis.leave {vr1 : α → β → Prop} {vr : γ → δ → Prop} {m : Nat} {G1 : Nat → AEval.R (VE N) α}
    {F1 : Nat → Eval.Res N β} (q : Except AEval.Err α → Except AEval.Err γ) {k : β → Eval.State N → Eval.Res N δ}
    (hq : ∀ er, q (.error er) = .error er) (h1 : Bis B vr1 m G1 F1)
    (hk : ∀ x t1 y s1, vr1 x y → B.Sim s1 t1 → RSim B vr ((q (.ok x), t1.pop) : AEval.R (VE N) γ) (k y s1)) :
    Bis B vr m (fun n => (q (G1 n).1, (G1 n).2.pop)) (fun f => (F1 f).bind k) :=
  Bis.seq (post := fun _ a => (q a.1, a.2.pop)) (K := fun _ x t1 => (q (.ok x), t1.pop)) (hp := AEval.St.pop)
    (fun _ er _ => by rw [hq]) (fun _ _ _ => rfl) (fun _ => rfl) h1 fun x t1 y s1 hxy hs => Bis.const (hk x t1 y s1 hxy hs)

end

/-- `Bis` at level `m` for the six mutually recursive functions of the two evaluators: the induction hypothesis of every
`bis_*`, and what `both` proves for every `m`. -/
structure Both (B : Brg) (m : Nat) : Prop where
  expr : ∀ (e : Expr) (s : Eval.State N) (t : AEval.St (VE N)), okExpr B.o e = true → B.Sim s t →
    Bis B Eq m (fun n => AEval.evalExpr B.P B.ac n e t) (fun f => Eval.evalExpr B.rc f e s)
  list : ∀ (es : List Expr) (s : Eval.State N) (t : AEval.St (VE N)), okExprs B.o es = true → B.Sim s t →
    Bis B Eq m (fun n => AEval.evalList B.P B.ac n es t) (fun f => Eval.evalSel B.rc f (es.map .ok) s)
  block : ∀ (b : Block) (s : Eval.State N) (t : AEval.St (VE N)), okBlock B.o b = true → B.Sim s t →
    Bis B FlowSim m (fun n => AEval.execBlock B.P B.ac n b.stmts t) (fun f => Eval.execBlock B.rc f b s)
  stmts : ∀ (ss : List Stmt) (s : Eval.State N) (t : AEval.St (VE N)), okStmts B.o ss = true → B.Sim s t →
    Bis B FlowSim m (fun n => AEval.execStmts B.P B.ac n ss t) (fun f => Eval.execStmts B.rc f ss s)
  stmt : ∀ (st : Stmt) (s : Eval.State N) (t : AEval.St (VE N)), okStmt B.o st = true → B.Sim s t →
    Bis B FlowSim m (fun n => AEval.execStmt B.P B.ac n st t) (fun f => Eval.execStmt B.rc f st s)
  loop : ∀ (c : Expr) (b : Block) (sp : Span) (s : Eval.State N) (t : AEval.St (VE N)), okExpr B.o c = true →
    okBlock B.o b = true → B.Sim s t →
    Bis B FlowSim m (fun n => AEval.execLoop B.P B.ac n c b.stmts t) (fun f => Eval.loopW B.rc f c b sp s)

end NaijaVerif.C03
