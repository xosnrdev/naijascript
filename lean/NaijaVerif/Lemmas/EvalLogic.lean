import NaijaVerif.Lemmas.EvalPure
import NaijaVerif.Lemmas.ListFacts
/-
A relational logic for the one-step body of the evaluator, and the ONE walk over that body.

What is proved about the eight functions of `Model/Eval.lean` is proved by induction on the fuel, and the step
follows the defining equation: a sub-evaluation by the induction hypothesis, `Res.bind` by a bind rule, a leaf
by a leaf rule.  The properties differ only in what they need at a node, and they are nested, so the strongest
walk, with everything it mentions a parameter (`Logic`), is all of them (its instances: DESIGN.md §10.4).

Two runs are followed — `cfg₁` at fuel `f + 1`, `cfg₂` at `g + 1`, same syntax, same state.  `Fr` ties the state
a judgment `J` ends in to the state `st0` it started from.  It stands apart from `Inv` because it speaks of two
states: an instance may take the equation `st' = st0` for it (an expression without calls leaves the state as it
is, `Props/C05.lean`), which no invariant of one state says.  `V` is there for one law (`StateLaws.callFn`): if the
flow a callee's body ends with meets `V` in the callee's context and is a jump (`comot` / `next`), the site
`flowEscape` must be in `T`.  An instance whose context records whether the code sits in a loop takes "a jump only
inside a loop" for `V` and so never owes that site; the others take `True`.
The laws say what the LEAVES of the body do; entering and leaving a scope is one law, the exit being a
continuation of the entry, so that no detail of the scope shows.
-/
namespace NaijaVerif

def Expr.kids : Expr → List Expr
  | .binary _ l r _ => [l, r]
  | .unary _ x _ => [x]
  | .array es _ => es
  | .index a i _ _ => [a, i]
  | .call (.member obj _ _ _) args _ _ => obj :: args
  | .call _ args _ _ => args
  | _ => []

/-- The condition of a loop is run by `loopW`. -/
def Stmt.exprs : Stmt → List Expr
  | .assign _ _ e _ _ _ => [e]
  | .assignExisting _ _ e _ _ _ => [e]
  | .assignIndex t e _ _ => [t, e]
  | .ifS c _ _ _ _ => [c]
  | .ret (some e) _ _ => [e]
  | .expr e _ _ => [e]
  | _ => []

def Stmt.blocks : Stmt → List Block
  | .ifS _ t (some e) _ _ => [t, e]
  | .ifS _ t none _ _ => [t]
  | .block b _ _ => [b]
  | _ => []

namespace Eval

variable {N : Type} [NumOps N]

def Flow.isJump : Flow N → Bool
  | .brk => true
  | .next => true
  | _ => false

/-- `Lemmas/EvalScopeState.lean`, which does not see this file, and `Props/C04.lean` write this state and the next one
out. -/
abbrev blockEntry (cfg : RunCfg) (b : Block) (st : State N) : State N :=
  hoist cfg b.stmts (pushScope st (.block b.span) st.chain [] (declIds b.stmts))

abbrev calleeEntry (fd : FnEntry) (ids : List (Option Nat)) (vs : List (Value N)) (st : State N) : State N :=
  pushScope st (.params fd.id) fd.chain (paramSlots fd.params ids vs) (ids.filterMap id)

/-- No field mentions `cfg₁`, `cfg₂`: they are parameters so that the laws (`RelLaws.trap`, `StateLaws`) and the
conclusion `All` can name the two runs.  `Ctx`: what invariant and side conditions know of the place of the code (a
lexical context; `Unit` for nothing). -/
structure Logic (N : Type) [NumOps N] (cfg₁ cfg₂ : RunCfg) (Ctx : Type) where
  R : ∀ {α : Type}, Res N α → Res N α → Prop
  /-- the sites at which the two `trap`s are related outright -/
  T : PanicSite → Prop
  Inv : Ctx → State N → Prop
  Fr : State N → State N → Prop
  E : Ctx → Expr → Prop
  S : Ctx → Stmt → Prop
  Ss : Ctx → List Stmt → Prop
  B : Ctx → Block → Prop
  /-- what the flow a statement ends with satisfies; read by `StateLaws.callFn` alone -/
  V : Ctx → Flow N → Prop

variable {cfg₁ cfg₂ : RunCfg} {Ctx : Type}

namespace Logic

abbrev any {α : Type} : α → Prop := fun _ => True

variable (L : Logic N cfg₁ cfg₂ Ctx)

def J (Γ : Ctx) (st0 : State N) {α : Type} (Q : α → Prop) (r r' : Res N α) : Prop :=
  L.R r r' ∧ ∀ a st', r = .ok a st' → L.Inv Γ st' ∧ L.Fr st0 st' ∧ Q a

def Es (Γ : Ctx) (es : List Expr) : Prop := ∀ e ∈ es, L.E Γ e

def Ref (Γ : Ctx) (name : Bytes) (bind : Option Nat) : Prop := ∃ sp, L.E Γ (.var name bind sp)

/-- A missing argument is a site of `T`. -/
def Sel (Γ : Ctx) (es : List (Except (PanicSite × Span) Expr)) : Prop :=
  (∀ e, Except.ok e ∈ es → L.E Γ e) ∧ ∀ s, Except.error s ∈ es → L.T s.1

structure RelLaws : Prop where
  ok : ∀ {α : Type} (a : α) (st : State N), L.R (Res.ok a st) (Res.ok a st)
  err : ∀ {α : Type} (k : RtKind) (sp : Span) (st : State N), L.R (Res.err k sp st : Res N α) (Res.err k sp st)
  trap : ∀ {α : Type} {site : PanicSite}, L.T site → ∀ (sp : Span) (st : State N),
    L.R (trap cfg₁ site sp st : Res N α) (trap cfg₂ site sp st)
  fixedT : ∀ {site : PanicSite}, site.fixed = true → L.T site
  bind : ∀ {α β : Type} {r r' : Res N α} {k k' : α → State N → Res N β}, L.R r r' →
    (∀ a st, r = .ok a st → L.R (k a st) (k' a st)) → L.R (r.bind k) (r'.bind k')

structure SynLaws : Prop where
  kids : ∀ {Γ : Ctx} {e : Expr}, L.E Γ e → L.Es Γ e.kids
  seg : ∀ {Γ : Ctx} {segs : List Seg} {sp : Span} {name : Bytes} {bind : Option Nat},
    L.E Γ (.str (.interp segs) sp) → Seg.var name bind ∈ segs → L.Ref Γ name bind
  exprs : ∀ {Γ : Ctx} {s : Stmt}, L.S Γ s → L.Es Γ s.exprs
  blocks : ∀ {Γ : Ctx} {s : Stmt}, L.S Γ s → ∀ b ∈ s.blocks, L.B Γ b
  target : ∀ {Γ : Ctx} {var : Bytes} {vsp : Span} {e : Expr} {bind sid : Option Nat} {sp : Span},
    L.S Γ (.assignExisting var vsp e bind sid sp) → L.Ref Γ var bind
  /-- The loop runs in a context `Γl` with the same states as `Γ`, in which its condition and body meet their
  side conditions.  An instance whose context records whether the code sits in a loop (C06's, for `comot` and
  `next`) switches that on here; the others take `Γ` itself. -/
  loop : ∀ {Γ : Ctx} {c : Expr} {b : Block} {sid : Option Nat} {sp : Span}, L.S Γ (.loop c b sid sp) →
    ∃ Γl : Ctx, (∀ st, L.Inv Γ st ↔ L.Inv Γl st) ∧ L.E Γl c ∧ L.B Γl b
  /-- a statement the run does not prune -/
  cons : ∀ {Γ : Ctx} {s : Stmt} {rest : List Stmt}, L.Ss Γ (s :: rest) →
    (¬ Plan.prunesStmt cfg₁.plan s.sid = true → L.S Γ s) ∧ L.Ss Γ rest
  plain : ∀ {Γ : Ctx} {flow : Flow N}, flow.isJump = false → L.V Γ flow
  jumpBrk : ∀ {Γ : Ctx} {sid : Option Nat} {sp : Span}, L.S Γ (.brk sid sp) → L.V Γ .brk
  jumpNext : ∀ {Γ : Ctx} {sid : Option Nat} {sp : Span}, L.S Γ (.cont sid sp) → L.V Γ .next

/-- Why a residual site is not reached, or is in `T`. -/
structure SiteLaws : Prop where
  numLit : ∀ {Γ : Ctx} {lex : Bytes} {sp : Span}, L.E Γ (.num lex sp) → NumOps.ofLit (N := N) lex = none → L.T .numLit
  arity : ∀ {Γ : Ctx} {name : Bytes} {b : Option Nat} {vsp : Span} {args : List Expr} {fn : Option Nat} {sp : Span}
      {gb : GlobalB}, L.E Γ (.call (.var name b vsp) args fn sp) → GlobalB.ofName name = some gb →
    args.length = 1 ∨ L.T .builtinArity
  index : ∀ {Γ : Ctx} {target e : Expr} {sid : Option Nat} {sp : Span}, L.S Γ (.assignIndex target e sid sp) →
    L.T .assignIndexEmpty ∨ ∀ name bind, lvOf target ≠ .path name bind []
  str : L.T .twMaximalSuffix ∨ Bridge.StrTotal

structure StateLaws : Prop where
  refl : ∀ st, L.Fr st st
  trans : ∀ {a b c : State N}, L.Fr a b → L.Fr b c → L.Fr a c
  host : ∀ (c : Proc.Cmd) (sp : Span) (st : State N), Eval.runCommand cfg₂ c sp st = Eval.runCommand cfg₁ c sp st
  std : cfg₂.std = cfg₁.std
  prune : ∀ sid, Plan.prunesStmt cfg₂.plan sid = Plan.prunesStmt cfg₁.plan sid
  slot : ∀ {Γ : Ctx} {st : State N} {name : Bytes} {bind : Option Nat}, L.Inv Γ st → L.Ref Γ name bind →
    slotOf cfg₂ st bind name = slotOf cfg₁ st bind name
  define : ∀ {Γ : Ctx} {st : State N} {var : Bytes} {vsp : Span} {e : Expr} {bind sid : Option Nat} {sp : Span},
    L.Inv Γ st → L.S Γ (.assign var vsp e bind sid sp) → ∀ v,
    L.Inv Γ (define st bind var v) ∧ L.Fr st (define st bind var v)
  /-- a call of a method that mutates its receiver: some slot is updated -/
  mutE : ∀ {Γ : Ctx} {st : State N} {obj : Expr} {field : Bytes} {fsp msp : Span} {args : List Expr} {fn : Option Nat}
      {sp : Span} {m : MutM}, L.Inv Γ st → L.E Γ (.call (.member obj field fsp msp) args fn sp) →
    MutM.ofName field = some m → ∀ pos f,
    L.Inv Γ { st with env := updateAt st.env pos f } ∧ L.Fr st { st with env := updateAt st.env pos f }
  /-- A statement that updates a slot.  Asked of every statement that meets the side condition; the walk reads it
  at an assignment to a variable and at an assignment to an index. -/
  mutS : ∀ {Γ : Ctx} {st : State N} {s : Stmt}, L.Inv Γ st → L.S Γ s → ∀ pos f,
    L.Inv Γ { st with env := updateAt st.env pos f } ∧ L.Fr st { st with env := updateAt st.env pos f }
  /-- a call of a global built-in: `shout` adds to the output, `read_line` takes from the input -/
  io : ∀ {Γ : Ctx} {st : State N} {name : Bytes} {b : Option Nat} {vsp : Span} {args : List Expr} {fn : Option Nat}
      {sp : Span} {gb : GlobalB}, L.Inv Γ st → L.E Γ (.call (.var name b vsp) args fn sp) →
    GlobalB.ofName name = some gb → ∀ out input,
    L.Inv Γ { st with out := out, input := input } ∧ L.Fr st { st with out := out, input := input }
  enterBlock : ∀ {Γ : Ctx} {st : State N} {b : Block}, L.Inv Γ st → L.B Γ b → ∃ Γ' : Ctx,
    blockEntry cfg₂ b st = blockEntry cfg₁ b st ∧ L.Inv Γ' (blockEntry cfg₁ b st) ∧ L.Ss Γ' b.stmts ∧
    ∀ st2, L.Inv Γ' st2 → L.Fr (blockEntry cfg₁ b st) st2 →
      L.Inv Γ (popScope st2 st.chain) ∧ L.Fr st (popScope st2 st.chain) ∧ ∀ flow, L.V Γ' flow → L.V Γ flow
  /-- A call of a user function, with the residual sites of `eval_function_call`.  `vs.length = args.length` is handed
  over for `callArity`: an instance that knows the callee's parameter count from the syntax needs no reason at that
  site (`Lemmas/BridgeSafe.lean`).  The last conjunct is what `V` is for. -/
  callFn : ∀ {Γ : Ctx} {st : State N} {name : Bytes} {b : Option Nat} {vsp : Span} {args : List Expr}
      {fn : Option Nat} {sp : Span}, L.Inv Γ st → L.E Γ (.call (.var name b vsp) args fn sp) →
    GlobalB.ofName name = none →
    lookupFn cfg₂ st fn name = lookupFn cfg₁ st fn name ∧
    (lookupFn cfg₁ st fn name = none → L.T (if fn.isSome then .fnById else .fnByName)) ∧
    ∀ fd, lookupFn cfg₁ st fn name = some fd → ∀ (vs : List (Value N)) (st1 : State N),
      vs.length = args.length → L.Inv Γ st1 → L.Fr st st1 →
      (vs.length ≠ fd.params.length → L.T .callArity) ∧ (paramIds fd = none → L.T .paramRange) ∧
      ∀ ids, paramIds fd = some ids → ∃ Γ' : Ctx,
        L.Inv Γ' (calleeEntry fd ids vs st1) ∧ L.B Γ' fd.body ∧
        (∀ st3, L.Inv Γ' st3 → L.Fr (calleeEntry fd ids vs st1) st3 →
          L.Inv Γ (popScope st3 st1.chain) ∧ L.Fr st1 (popScope st3 st1.chain)) ∧
        (∀ flow, L.V Γ' flow → flow.isJump = true → L.T .flowEscape)

structure Laws : Prop extends RelLaws L, SynLaws L, SiteLaws L, StateLaws L

structure All (f g : Nat) : Prop where
  expr : ∀ Γ e (st : State N), L.Inv Γ st → L.E Γ e → L.J Γ st any (evalExpr cfg₁ f e st) (evalExpr cfg₂ g e st)
  sel : ∀ Γ es (st : State N), L.Inv Γ st → L.Sel Γ es → L.J Γ st any (evalSel cfg₁ f es st) (evalSel cfg₂ g es st)
  idxs : ∀ Γ (is : List (Expr × Span)) (st : State N), L.Inv Γ st → (∀ q ∈ is, L.E Γ q.1) →
    L.J Γ st any (evalIdxs cfg₁ f is st) (evalIdxs cfg₂ g is st)
  mutOp : ∀ Γ m args sp (st : State N), L.Inv Γ st → L.Es Γ args →
    L.J Γ st any (evalMutOp cfg₁ f m args sp st) (evalMutOp cfg₂ g m args sp st)
  stmt : ∀ Γ s (st : State N), L.Inv Γ st → L.S Γ s → L.J Γ st (L.V Γ) (execStmt cfg₁ f s st) (execStmt cfg₂ g s st)
  stmts : ∀ Γ ss (st : State N), L.Inv Γ st → L.Ss Γ ss →
    L.J Γ st (L.V Γ) (execStmts cfg₁ f ss st) (execStmts cfg₂ g ss st)
  block : ∀ Γ b (st : State N), L.Inv Γ st → L.B Γ b → L.J Γ st (L.V Γ) (execBlock cfg₁ f b st) (execBlock cfg₂ g b st)
  loop : ∀ Γ c b sp (st : State N), L.Inv Γ st → L.E Γ c → L.B Γ b →
    L.J Γ st (fun flow => flow.isJump = false) (loopW cfg₁ f c b sp st) (loopW cfg₂ g c b sp st)

variable {L}

theorem Sel.map_ok {Γ : Ctx} {es : List Expr} (h : L.Es Γ es) : L.Sel Γ (es.map .ok) :=
  ⟨fun e he => by
      obtain ⟨e', he', e2⟩ := List.mem_map.1 he
      exact Except.ok.inj e2 ▸ h e' he',
   fun s hs => by obtain ⟨_, _, e2⟩ := List.mem_map.1 hs; cases e2⟩

theorem Sel.pick {Γ : Ctx} {args : List Expr} (h : L.Es Γ args) {idx : List (Nat × PanicSite)}
    (hidx : ∀ q ∈ idx, L.T q.2) (sp : Span) : L.Sel Γ (pick args idx sp) := by
  refine ⟨fun e he => ?_, fun s hs => ?_⟩ <;> simp only [Eval.pick, List.mem_map] at *
  · obtain ⟨q, _, hq⟩ := he
    split at hq
    · next e' he' => cases hq; exact h _ (List.mem_of_getElem? he')
    · cases hq
  · obtain ⟨q, hq1, hq⟩ := hs
    split at hq
    · cases hq
    · cases hq; exact hidx q hq1

/-- The fuel is out on the first side.  `hf` is asked with what is known of the second result: nothing when `g` is
not `0` (the fuel order relates `.fuel` to every result), `r' = .fuel` when it is (what the instances at equal
fuels need). -/
theorem All.zero (g : Nat) (hf : ∀ {α : Type} (r' : Res N α), (g = 0 → r' = .fuel) → L.R .fuel r') : L.All 0 g := by
  have hj : ∀ {Γ : Ctx} {st0 : State N} {α : Type} {Q : α → Prop} (r' : Res N α), (g = 0 → r' = .fuel) →
      L.J Γ st0 Q .fuel r' := fun r' h => ⟨hf r' h, fun _ _ e => nomatch e⟩
  constructor <;> intros <;> exact hj _ fun e => by subst e; rfl

theorem SiteLaws.ofT (hT : ∀ s, L.T s) : L.SiteLaws :=
  ⟨fun _ _ => hT _, fun _ _ => .inr (hT _), fun _ => .inl (hT _), .inl (hT _)⟩

section
variable (hL : L.Laws) {Γ : Ctx} {st0 : State N} {α β : Type}
include hL

theorem lookup_eq {st : State N} (hm : L.Inv Γ st) {name : Bytes} {bind : Option Nat} (hr : L.Ref Γ name bind) :
    lookupVal cfg₂ st bind name = lookupVal cfg₁ st bind name := by
  simp only [lookupVal, hL.slot hm hr]

/- Inside the proof of a theorem `J.f` the bare name `f` means that theorem, so the model function of the same
name is written `Eval.f` there (`Eval.trap`, `Eval.runCommand`, …). -/
namespace J

theorem ok {Q : α → Prop} {st : State N} (hm : L.Inv Γ st) (hf : L.Fr st0 st) {a : α} (hq : Q a) :
    L.J Γ st0 Q (Res.ok a st) (Res.ok a st) :=
  ⟨hL.ok a st, by intro a' st' h; cases h; exact ⟨hm, hf, hq⟩⟩

theorem err {Q : α → Prop} {k : RtKind} {sp : Span} {st : State N} :
    L.J Γ st0 Q (Res.err k sp st) (Res.err k sp st) :=
  ⟨hL.err k sp st, fun _ _ h => nomatch h⟩

theorem trap {Q : α → Prop} {site : PanicSite} (ht : L.T site) {sp : Span} {st : State N} :
    L.J Γ st0 Q (Eval.trap cfg₁ site sp st : Res N α) (Eval.trap cfg₂ site sp st) :=
  ⟨hL.trap ht sp st, fun _ _ h => absurd h (trap_ne_ok _ _ _ _ _ _)⟩

theorem fixed {Q : α → Prop} {site : PanicSite} (hs : site.fixed = true) {sp : Span} {st : State N} :
    L.J Γ st0 Q (Eval.trap cfg₁ site sp st : Res N α) (Eval.trap cfg₂ site sp st) :=
  J.trap hL (hL.fixedT hs)

theorem ofFault {Q : α → Prop} {flt : Fault} (hx : ∀ s, flt = .panic s → L.T s) {sp : Span} {st : State N} :
    L.J Γ st0 Q (Res.ofFault cfg₁ flt sp st : Res N α) (Res.ofFault cfg₂ flt sp st) := by
  cases flt with
  | rt k s => exact J.err hL
  | panic s => exact J.trap hL (hx s rfl)

theorem ofExcept {st : State N} (hm : L.Inv Γ st) (hf : L.Fr st0 st) {x : Except Fault α}
    (hx : PanicsIn L.T x) {sp : Span} : L.J Γ st0 any (Res.ofExcept cfg₁ x sp st) (Res.ofExcept cfg₂ x sp st) := by
  cases x with
  | ok a => exact J.ok hL hm hf trivial
  | error flt => exact J.ofFault hL fun s e => hx s (by rw [e])

/-- The first part runs in another context (a block, a callee) from another state. -/
theorem bindX {Γ1 : Ctx} {s1 : State N} {Q1 : α → Prop} {Q : β → Prop} {r r' : Res N α}
    {k k' : α → State N → Res N β} (h : L.J Γ1 s1 Q1 r r')
    (hk : ∀ a st1, r = .ok a st1 → L.Inv Γ1 st1 → L.Fr s1 st1 → Q1 a → L.J Γ st0 Q (k a st1) (k' a st1)) :
    L.J Γ st0 Q (r.bind k) (r'.bind k') := by
  have hk' := fun a st e => hk a st e (h.2 a st e).1 (h.2 a st e).2.1 (h.2 a st e).2.2
  refine ⟨hL.bind h.1 fun a st e => (hk' a st e).1, fun b st' e => ?_⟩
  obtain ⟨a, st1, e1, e2⟩ := Res.bind_eq_ok e
  exact (hk' a st1 e1).2 b st' e2

theorem rebase {Q : α → Prop} {st1 : State N} {r r' : Res N α} (hf : L.Fr st0 st1) (h : L.J Γ st1 Q r r') :
    L.J Γ st0 Q r r' :=
  ⟨h.1, fun a st' e => ⟨(h.2 a st' e).1, hL.trans hf (h.2 a st' e).2.1, (h.2 a st' e).2.2⟩⟩

theorem runCommand {st : State N} (hm : L.Inv Γ st) (hf : L.Fr st0 st) (c : Proc.Cmd) (sp : Span) :
    L.J Γ st0 any (Eval.runCommand cfg₁ c sp st) (Eval.runCommand cfg₂ c sp st) := by
  rw [hL.host]
  unfold Eval.runCommand
  split
  · exact J.err hL
  · split
    · exact J.err hL
    · split
      · exact J.err hL
      · exact J.ok hL hm hf trivial

theorem globalCall {st : State N} (hm : L.Inv Γ st) (hf : L.Fr st0 st)
    (hio : ∀ out input, L.Inv Γ { st with out := out, input := input } ∧ L.Fr st { st with out := out, input := input })
    (b : GlobalB) (v : Value N) (sp : Span) :
    L.J Γ st0 any (Eval.globalCall cfg₁ b v sp st) (Eval.globalCall cfg₂ b v sp st) := by
  have hw : ∀ out input (a : Value N), L.J Γ st0 any (.ok a { st with out := out, input := input })
      (.ok a { st with out := out, input := input }) :=
    fun out input a => J.ok hL (hio out input).1 (hL.trans hf (hio out input).2) trivial
  cases b with
  | shout => exact hw _ st.input _
  | readLine =>
    simp only [Eval.globalCall]
    split
    · exact J.ok hL hm hf trivial
    · exact hw st.out _ _
  | command =>
    simp only [Eval.globalCall]
    split
    · exact J.ok hL hm hf trivial
    · exact J.fixed hL rfl
  | _ => exact J.ok hL hm hf trivial

theorem applyMut {st : State N} (hm : L.Inv Γ st) (hf : L.Fr st0 st) {name : Bytes} {bind : Option Nat}
    (hr : L.Ref Γ name bind)
    (hw : ∀ pos f, L.Inv Γ { st with env := updateAt st.env pos f } ∧ L.Fr st { st with env := updateAt st.env pos f })
    (path : List (Nat × Span)) (op : MutOp N) (sp : Span) :
    L.J Γ st0 any (Eval.applyMut cfg₁ st name bind path op sp) (Eval.applyMut cfg₂ st name bind path op sp) := by
  unfold Eval.applyMut
  rw [hL.slot hm hr]
  split
  · -- no slot: `mutCmdVar` / `mutCmdBase` / `mutArrVar` / `mutArrBase`, by the kind of `op` and whether the path is
    -- empty; each of the four is fixed
    exact J.fixed hL (by cases op <;> simp only <;> split <;> rfl)
  · split
    · exact J.fixed hL rfl
    · split
      · next flt hflt => exact J.ofFault hL fun s e => walkMut_pure _ _ s (by rw [hflt, e])
      · split
        · next flt hflt => exact J.ofFault hL fun s e => apply_pure hL.fixedT s (by rw [hflt, e])
        · exact J.ok hL (hw _ _).1 (hL.trans hf (hw _ _).2) trivial

theorem assignIndex {st : State N} (hm : L.Inv Γ st) (hf : L.Fr st0 st) {name : Bytes} {bind : Option Nat}
    (hr : L.Ref Γ name bind)
    (hw : ∀ pos f, L.Inv Γ { st with env := updateAt st.env pos f } ∧ L.Fr st { st with env := updateAt st.env pos f })
    {path : List (Nat × Span)} (hne : path ≠ [] ∨ L.T .assignIndexEmpty) (v : Value N) (sp : Span) :
    L.J Γ st0 any (Eval.assignIndex cfg₁ st name bind path v sp) (Eval.assignIndex cfg₂ st name bind path v sp) := by
  unfold Eval.assignIndex
  rw [hL.slot hm hr]
  split
  · exact J.fixed hL rfl
  · split
    · exact J.fixed hL rfl
    · split
      · next flt hflt => exact J.ofFault hL fun s e => walkAssign_pure _ _ _ hne s (by rw [hflt, e])
      · exact J.ok hL (hw _ _).1 (hL.trans hf (hw _ _).2) trivial

end J

end

theorem step (hL : L.Laws) {f g : Nat} (h : L.All f g) : L.All (f + 1) (g + 1) where
  expr Γ e st hm he := by
    have hF0 := hL.refl st
    have hk := hL.kids he
    cases e with
    | num lex sp =>
      simp only [evalExpr]
      split
      · exact J.ok hL hm hF0 trivial
      · next hn => exact J.trap hL (hL.numLit he hn)
    | bool | null => exact J.ok hL hm hF0 trivial
    | str parts sp =>
      cases parts with
      | static s => exact J.ok hL hm hF0 trivial
      | interp segs =>
        simp only [evalExpr]
        rw [interp_congr (cfg := cfg₁) (cfg' := cfg₂) segs [] fun _ _ hmem => lookup_eq hL hm (hL.seg he hmem)]
        split
        · exact J.ok hL hm hF0 trivial
        · exact J.fixed hL rfl
    | var name bind sp =>
      simp only [evalExpr]
      rw [lookup_eq hL hm ⟨sp, he⟩]
      split
      · exact J.ok hL hm hF0 trivial
      · exact J.fixed hL rfl
    | binary op l r sp =>
      refine J.bindX hL (h.expr _ l st hm (hk l List.mem_cons_self)) fun lv st1 _ hm1 hF1 _ => ?_
      have hrhs : ∀ (x : Value N → Except Fault (Value N)) (s : Span), (∀ rv, PanicsIn L.T (x rv)) →
          L.J Γ st any ((evalExpr cfg₁ f r st1).bind fun rv st2 => Res.ofExcept cfg₁ (x rv) s st2)
            ((evalExpr cfg₂ g r st1).bind fun rv st2 => Res.ofExcept cfg₂ (x rv) s st2) :=
        fun x s hx => J.bindX hL (J.rebase hL hF1 (h.expr _ r st1 hm1 (hk r mem_second)))
          fun rv st2 _ hm2 hF2 _ => J.ofExcept hL hm2 hF2 (hx rv)
      cases op with
      | and | or =>
        dsimp only
        split
        · exact J.ok hL hm1 hF1 trivial
        · exact hrhs _ _ fun _ => logicRhs_pure hL.fixedT rfl
      | _ => exact hrhs _ _ fun _ => arith_pure hL.fixedT
    | unary op x sp =>
      exact J.bindX hL (h.expr _ x st hm (hk x List.mem_cons_self)) fun v st1 _ hm1 hF1 _ =>
        J.ofExcept hL hm1 hF1 (unary_pure hL.fixedT)
    | array es sp =>
      exact J.bindX hL (h.sel _ _ st hm (Sel.map_ok hk)) fun vs st1 _ hm1 hF1 _ => J.ok hL hm1 hF1 trivial
    | index a i isp sp =>
      exact J.bindX hL (h.expr _ a st hm (hk a List.mem_cons_self)) fun av st1 _ hm1 hF1 _ =>
        J.bindX hL (J.rebase hL hF1 (h.expr _ i st1 hm1 (hk i mem_second))) fun iv st2 _ hm2 hF2 _ =>
          J.ofExcept hL hm2 hF2 (indexRead_pure hL.fixedT)
    | member obj field fsp sp => exact J.fixed hL rfl
    | call callee args fn sp =>
      cases callee with
      | member obj field fsp msp =>
        have hobj : L.E Γ obj := hk obj List.mem_cons_self
        have hargs : L.Es Γ args := fun e hm => hk e (List.mem_cons_of_mem _ hm)
        simp only [evalExpr, hL.std]
        cases hmm : MutM.ofName field with
        | some m =>
          simp only
          refine J.bindX hL (h.mutOp _ m args sp st hm hargs) fun op st1 _ hm1 hF1 _ => ?_
          cases hlv : lvOf obj with
          | other => exact J.err hL
          | badRoot => exact J.fixed hL rfl
          | path name bind idxs =>
            obtain ⟨hr, hidx⟩ := lvOf_all (P := L.E Γ)
              (fun _ _ _ _ hi => ⟨hL.kids hi _ List.mem_cons_self, hL.kids hi _ mem_second⟩) hobj hlv
            simp only
            exact J.bindX hL (J.rebase hL hF1 (h.idxs _ idxs st1 hm1 hidx)) fun path st2 _ hm2 hF2 _ =>
              J.applyMut hL hm2 hF2 hr (hL.mutE hm2 he hmm) path op sp
        | none =>
          simp only
          refine J.bindX hL (h.expr _ obj st hm hobj) fun recv st1 _ hm1 hF1 _ => ?_
          have harg : ∀ idx, (∀ q ∈ idx, q.2.fixed = true) →
              L.J Γ st any (evalSel cfg₁ f (pick args idx sp) st1) (evalSel cfg₂ g (pick args idx sp) st1) :=
            fun idx hi => J.rebase hL hF1 (h.sel _ _ st1 hm1 (Sel.pick hargs (fun q hq => hL.fixedT (hi q hq)) sp))
          -- by receiver, in the order of the definition; under each, by the method the field names
          split
          · -- a string: a string method on the arguments it selects; no such method
            split
            · exact J.bindX hL (harg _ (argIdx_fixed _)) fun vs st2 _ hm2 hF2 _ =>
                J.ofExcept hL hm2 hF2 (strMethod_pure hL.fixedT hL.str)
            · exact J.err hL
          · -- a number: a number method; no such method
            split
            · exact J.ok hL hm1 hF1 trivial
            · exact J.err hL
          · -- an array: `len`; `join` (a separator that is a string, or the site `joinSep`); no such method
            split
            · exact J.ok hL hm1 hF1 trivial
            · refine J.bindX hL (harg _ (by decide)) fun vs st2 _ hm2 hF2 _ => ?_
              split
              · exact J.ok hL hm2 hF2 trivial
              · exact J.fixed hL rfl
            · exact J.err hL
          · -- a process command: `run`; no such method
            split
            · exact J.runCommand hL hm1 hF1 _ _
            · exact J.err hL
          · -- a process result: a result method; no such method
            split
            · exact J.ok hL hm1 hF1 trivial
            · exact J.err hL
          · exact J.fixed hL rfl  -- a boolean: the site `boolReceiver`
          · exact J.err hL  -- `null`
      | var name b vsp =>
        simp only [evalExpr]
        have hsel := h.sel _ _ st hm (Sel.map_ok (L := L) hk)
        cases hg : GlobalB.ofName name with
        | some gb =>
          simp only
          refine J.bindX hL hsel fun vs st1 e1 hm1 hF1 _ => ?_
          rcases hL.arity he hg with h1 | ht
          · have hlen := evalSel_length _ _ _ _ _ _ e1
            simp only [List.length_map, h1] at hlen
            match vs, hlen with
            | [v], _ => exact J.globalCall hL hm1 hF1 (hL.io hm1 he hg) gb v sp
          · split
            · exact J.globalCall hL hm1 hF1 (hL.io hm1 he hg) gb _ sp
            · exact J.trap hL ht
        | none =>
          -- the callee is looked up before the arguments are evaluated
          obtain ⟨hlk, hnone, hsome⟩ := hL.callFn hm he hg
          simp only [hlk]
          cases hfd : lookupFn cfg₁ st fn name with
          | none => exact J.trap hL (hnone hfd)
          | some fd =>
            simp only
            refine J.bindX hL hsel fun vs st1 e1 hm1 hF1 _ => ?_
            have hlen : vs.length = args.length := by simpa using evalSel_length _ _ _ _ _ _ e1
            obtain ⟨har, hpr, hbody⟩ := hsome fd hfd vs st1 hlen hm1 hF1
            by_cases hne : vs.length ≠ fd.params.length
            · simp only [if_pos hne]; exact J.trap hL (har hne)
            · simp only [if_neg hne]
              cases hids : paramIds fd with
              | none => exact J.trap hL (hpr hids)
              | some ids =>
                obtain ⟨Γ', hmP, hB, hpop, hflow⟩ := hbody ids hids
                simp only
                refine J.bindX hL (h.block _ fd.body _ hmP hB) fun flow st3 _ hm3 hF3 hv => ?_
                obtain ⟨hm4, hF4⟩ := hpop st3 hm3 hF3
                have hF04 := hL.trans hF1 hF4
                cases flow with
                | cont | ret => exact J.ok hL hm4 hF04 trivial
                | brk | next => exact J.trap hL (hflow _ hv rfl)
      | _ => exact J.fixed hL rfl
  sel Γ es st hm hs := by
    cases es with
    | nil => exact J.ok hL hm (hL.refl st) trivial
    | cons e rest =>
      have hrest : L.Sel Γ rest :=
        ⟨fun e he => hs.1 e (List.mem_cons_of_mem _ he), fun s he => hs.2 s (List.mem_cons_of_mem _ he)⟩
      cases e with
      | error s => exact J.trap hL (hs.2 s List.mem_cons_self)
      | ok e =>
        exact J.bindX hL (h.expr _ e st hm (hs.1 e List.mem_cons_self)) fun v st1 _ hm1 hF1 _ =>
          J.bindX hL (J.rebase hL hF1 (h.sel _ rest st1 hm1 hrest)) fun vs st2 _ hm2 hF2 _ => J.ok hL hm2 hF2 trivial
  idxs Γ is st hm hs := by
    cases is with
    | nil => exact J.ok hL hm (hL.refl st) trivial
    | cons q rest =>
      exact J.bindX hL (h.expr _ q.1 st hm (hs q List.mem_cons_self)) fun v st1 _ hm1 hF1 _ =>
        J.bindX hL (J.ofExcept hL hm1 hF1 (indexValue_pure hL.fixedT)) fun i st2 _ hm2 hF2 _ =>
          J.bindX hL (J.rebase hL hF2 (h.idxs _ rest st2 hm2 fun q' hq => hs q' (List.mem_cons_of_mem _ hq)))
            fun is st3 _ hm3 hF3 _ => J.ok hL hm3 hF3 trivial
  mutOp Γ m args sp st hm hs := by
    have hF0 := hL.refl st
    -- a built-in that reads one argument: a result that is not one value is a site
    have arg : ∀ {β : Type} (i : Nat) (s : PanicSite), s.fixed = true → ∀ {st1 : State N}, L.Inv Γ st1 → L.Fr st st1 →
        ∀ {k k' : Value N → State N → Res N β},
        (∀ v st2, L.Inv Γ st2 → L.Fr st st2 → L.J Γ st any (k v st2) (k' v st2)) →
        L.J Γ st any
          ((evalSel cfg₁ f (pick args [(i, s)] sp) st1).bind fun vs st2 =>
            match vs with | [v] => k v st2 | _ => trap cfg₁ s sp st2)
          ((evalSel cfg₂ g (pick args [(i, s)] sp) st1).bind fun vs st2 =>
            match vs with | [v] => k' v st2 | _ => trap cfg₂ s sp st2) := by
      intro β i s hfix st1 hm1 hF1 k k' hk
      refine J.bindX hL (J.rebase hL hF1 (h.sel _ _ st1 hm1
        (Sel.pick hs (fun q hq => by cases List.mem_singleton.1 hq; exact hL.fixedT hfix) sp)))
        fun vs st2 _ hm2 hF2 _ => ?_
      split
      · exact hk _ _ hm2 hF2
      · exact J.fixed hL hfix
    cases m with
    | push => exact arg _ _ (by rfl) hm hF0 fun _ _ hm2 hF2 => J.ok hL hm2 hF2 trivial
    | pop | reverse => exact J.ok hL hm hF0 trivial
    | cmd c =>
      cases c with
      | arg | stdinText => exact arg _ _ (by rfl) hm hF0 fun _ _ hm2 hF2 => J.ok hL hm2 hF2 trivial
      | cwd =>
        exact arg _ _ (by rfl) hm hF0 fun _ _ hm2 hF2 =>
          J.bindX hL (J.ofExcept hL hm2 hF2 (requiredString_pure hL.fixedT)) fun _ _ _ hm3 hF3 _ => J.ok hL hm3 hF3 trivial
      | timeoutMs =>
        exact arg _ _ (by rfl) hm hF0 fun _ _ hm2 hF2 =>
          J.bindX hL (J.ofExcept hL hm2 hF2 (timeoutMs_pure hL.fixedT)) fun _ _ _ hm3 hF3 _ => J.ok hL hm3 hF3 trivial
      | env =>
        exact arg _ _ (by rfl) hm hF0 fun _ _ hm2 hF2 =>
          J.bindX hL (J.ofExcept hL hm2 hF2 (requiredString_pure hL.fixedT)) fun _ _ _ hm3 hF3 _ =>
            arg _ _ (by rfl) hm3 hF3 fun _ _ hm4 hF4 => J.ok hL hm4 hF4 trivial
      | _ => exact J.ok hL hm hF0 trivial
  stmt Γ s st hm hs := by
    have hF0 := hL.refl st
    have hx := hL.exprs hs
    have hb := hL.blocks hs
    have plain : ∀ {flow : Flow N}, flow.isJump = false → L.V Γ flow := hL.plain
    cases s with
    | assign var vsp e bind sid sp =>
      refine J.bindX hL (h.expr _ e st hm (hx e List.mem_cons_self)) fun v st1 _ hm1 hF1 _ => ?_
      obtain ⟨a, b⟩ := hL.define hm1 hs v
      exact J.ok hL a (hL.trans hF1 b) (plain rfl)
    | assignExisting var vsp e bind sid sp =>
      simp only [execStmt]
      refine J.bindX hL (h.expr _ e st hm (hx e List.mem_cons_self)) fun v st1 _ hm1 hF1 _ => ?_
      have ha : Eval.assign cfg₂ st1 bind var v = Eval.assign cfg₁ st1 bind var v := by
        simp only [Eval.assign, hL.slot hm1 (hL.target hs)]
      rw [ha]
      cases hasg : Eval.assign cfg₁ st1 bind var v with
      | none => exact J.fixed hL (by split <;> rfl)
      | some st2 =>
        simp only [Eval.assign] at hasg
        split at hasg
        · cases hasg
          obtain ⟨a, b⟩ := hL.mutS hm1 hs _ _
          exact J.ok hL a (hL.trans hF1 b) (plain rfl)
        · cases hasg
    | assignIndex target e sid sp =>
      simp only [execStmt]
      refine J.bindX hL (h.expr _ e st hm (hx e mem_second)) fun v st1 _ hm1 hF1 _ => ?_
      cases hlv : lvOf target with
      | other => exact J.fixed hL rfl
      | badRoot => exact J.fixed hL rfl
      | path name bind idxs =>
        obtain ⟨hr, hidx⟩ := lvOf_all (P := L.E Γ)
          (fun _ _ _ _ hi => ⟨hL.kids hi _ List.mem_cons_self, hL.kids hi _ mem_second⟩) (hx target List.mem_cons_self) hlv
        simp only
        refine J.bindX hL (J.rebase hL hF1 (h.idxs _ idxs st1 hm1 hidx)) fun path st2 e2 hm2 hF2 _ => ?_
        have hne : path ≠ [] ∨ L.T .assignIndexEmpty := by
          refine (hL.index hs).symm.imp_left fun hn hnil => hn name bind ?_
          have hlen := evalIdxs_length _ _ _ _ _ _ e2
          rw [hnil] at hlen
          rw [hlv, List.length_eq_zero_iff.1 hlen.symm]
        exact J.bindX hL (J.assignIndex hL hm2 hF2 hr (hL.mutS hm2 hs) hne v sp) fun _ st3 _ hm3 hF3 _ =>
          J.ok hL hm3 hF3 (plain rfl)
    | ifS cond thenB elseB sid sp =>
      refine J.bindX hL (h.expr _ cond st hm (hx cond List.mem_cons_self)) fun v st1 _ hm1 hF1 _ =>
        J.bindX hL (J.ofExcept hL hm1 hF1 (truthy_pure hL.fixedT rfl)) fun t st2 _ hm2 hF2 _ => ?_
      split
      · exact J.rebase hL hF2 (h.block _ thenB st2 hm2 (hb thenB (by cases elseB <;> exact .head _)))
      · cases elseB with
        | none => exact J.ok hL hm2 hF2 (plain rfl)
        | some eb => exact J.rebase hL hF2 (h.block _ eb st2 hm2 (hb eb mem_second))
    | loop cond body sid sp =>
      obtain ⟨Γl, hiff, hc, hbody⟩ := hL.loop hs
      have hj := h.loop Γl cond body cond.span st ((hiff st).1 hm) hc hbody
      exact ⟨hj.1, fun a st' e => ⟨(hiff st').2 (hj.2 a st' e).1, (hj.2 a st' e).2.1, plain (hj.2 a st' e).2.2⟩⟩
    | block b sid sp => exact h.block _ b st hm (hb b List.mem_cons_self)
    | fnDef => exact J.ok hL hm hF0 (plain rfl)
    | ret e sid sp =>
      cases e with
      | none => exact J.ok hL hm hF0 (plain rfl)
      | some e =>
        exact J.bindX hL (h.expr _ e st hm (hx e List.mem_cons_self)) fun v st1 _ hm1 hF1 _ => J.ok hL hm1 hF1 (plain rfl)
    | brk => exact J.ok hL hm hF0 (hL.jumpBrk hs)
    | cont => exact J.ok hL hm hF0 (hL.jumpNext hs)
    | expr e sid sp =>
      exact J.bindX hL (h.expr _ e st hm (hx e List.mem_cons_self)) fun v st1 _ hm1 hF1 _ => J.ok hL hm1 hF1 (plain rfl)
  stmts Γ ss st hm hs := by
    cases ss with
    | nil => exact J.ok hL hm (hL.refl st) (hL.plain rfl)
    | cons s rest =>
      obtain ⟨h1, h2⟩ := hL.cons hs
      by_cases hp : Plan.prunesStmt cfg₁.plan s.sid = true
      · simp only [execStmts, hL.prune, hp, ↓reduceIte]
        exact h.stmts _ rest st hm h2
      · simp only [execStmts, hL.prune, hp]
        refine J.bindX hL (h.stmt _ s st hm (h1 hp)) fun flow st1 _ hm1 hF1 hv => ?_
        split
        · exact J.rebase hL hF1 (h.stmts _ rest st1 hm1 h2)
        · exact J.ok hL hm1 hF1 hv
  block Γ b st hm hb := by
    obtain ⟨Γ', e, hmT, hss, hpop⟩ := hL.enterBlock hm hb
    simp only [execBlock, e]
    refine J.bindX hL (h.stmts _ _ _ hmT hss) fun flow st2 _ hm2 hF2 hv => ?_
    obtain ⟨hm3, hF3, hV⟩ := hpop st2 hm2 hF2
    exact J.ok hL hm3 hF3 (hV flow hv)
  loop Γ c b sp st hm hc hb := by
    refine J.bindX hL (h.expr _ c st hm hc) fun v st1 _ hm1 hF1 _ =>
      J.bindX hL (J.ofExcept hL hm1 hF1 (truthy_pure hL.fixedT rfl)) fun t st2 _ hm2 hF2 _ => ?_
    split
    · refine J.bindX hL (J.rebase hL hF2 (h.block _ b st2 hm2 hb)) fun flow st3 _ hm3 hF3 _ => ?_
      split
      · exact J.ok hL hm3 hF3 rfl
      · exact J.ok hL hm3 hF3 rfl
      · exact J.rebase hL hF3 (h.loop _ c b sp st3 hm3 hc hb)
    · exact J.ok hL hm2 hF2 rfl

theorem all (hL : L.Laws) (hf : ∀ {α : Type}, L.R (Res.fuel : Res N α) .fuel) : ∀ f, L.All f f
  | 0 => All.zero 0 fun _ h => h rfl ▸ hf
  | f + 1 => step hL (all hL hf f)

end Logic

end Eval

end NaijaVerif
