import NaijaVerif.Lemmas.AnalysisReach
import NaijaVerif.Lemmas.AnalysisCong
/-
Behind T1 and `c03_partial`: a configuration that never skips a statement the reachability table calls reachable (and
drops no function) runs exactly like the plain runtime, and every executed statement has flag `true`: `Main` at every fuel
(`main_all`; `Agree` is the shape of its fields).  A statement (list) that completes normally leaves a reachable point
behind (`normal_after`, about the plain runtime alone).
-/
namespace NaijaVerif.C03
open NaijaVerif NaijaVerif.Analysis NaijaVerif.AEval

variable {V : Type}

/-- The third conjunct of `block`/`stmts`/`stmt` is `normal_after`, a fact about the plain run alone that is
carried along; the step lemmas prove the first two (`Agree`) and drop it from the hypothesis by `Agree.of3`.  Nothing reads it
from `Main`: where it is needed (`step_stmts`, `Props/C03.lean`) `normal_after` is applied directly. -/
structure Main (P : Prims V) (T : List (Nat × Bool)) (cfg : Cfg) (n : Nat) : Prop where
  expr : ∀ (e : Expr) (st : St V), Inv T st →
    evalExpr P cfg n e st = evalExpr P plain n e st ∧ Inv T (evalExpr P plain n e st).2
  list : ∀ (es : List Expr) (st : St V), Inv T st →
    evalList P cfg n es st = evalList P plain n es st ∧ Inv T (evalList P plain n es st).2
  block : ∀ (ss : List Stmt) (st : St V), ConsStmts T true ss → Inv T st →
    execBlock P cfg n ss st = execBlock P plain n ss st ∧ Inv T (execBlock P plain n ss st).2 ∧
    ((execBlock P plain n ss st).1 = .ok .normal → afterStmts true ss = true)
  stmts : ∀ (ss : List Stmt) (st : St V), ConsStmts T true ss → Inv T st →
    execStmts P cfg n ss st = execStmts P plain n ss st ∧ Inv T (execStmts P plain n ss st).2 ∧
    ((execStmts P plain n ss st).1 = .ok .normal → afterStmts true ss = true)
  stmt : ∀ (s : Stmt) (st : St V), ConsStmt T true s → Inv T st →
    execStmt P cfg n s st = execStmt P plain n s st ∧ Inv T (execStmt P plain n s st).2 ∧
    ((execStmt P plain n s st).1 = .ok .normal → afterStmt true s = true)
  loop : ∀ (c : Expr) (b : List Stmt) (st : St V), ConsStmts T true b → Inv T st →
    execLoop P cfg n c b st = execLoop P plain n c b st ∧ Inv T (execLoop P plain n c b st).2

theorem normal_after (P : Prims V) : ∀ n,
    (∀ (ss : List Stmt) (st : St V), (execBlock P plain n ss st).1 = .ok .normal → afterStmts true ss = true) ∧
    (∀ (ss : List Stmt) (st : St V), (execStmts P plain n ss st).1 = .ok .normal → afterStmts true ss = true) ∧
    (∀ (s : Stmt) (st : St V), (execStmt P plain n s st).1 = .ok .normal → afterStmt true s = true)
  | 0 => by
      refine ⟨fun ss st h => ?_, fun ss st h => ?_, fun s st h => ?_⟩
      · rw [execBlock_zero] at h; cases h
      · rw [execStmts_zero] at h; cases h
      · rw [execStmt_zero] at h; cases h
  | n + 1 => by
      obtain ⟨ihb, ihs, ih1⟩ := normal_after P n
      refine ⟨fun ss st h => ?_, fun ss st h => ?_, fun s st h => ?_⟩
      · rw [execBlock_succ] at h
        exact ihs ss _ h
      · cases ss with
        | nil => rfl
        | cons s ss =>
          rw [execStmts_cons] at h
          cases hsid : s.sid with
          | none => rw [hsid] at h; cases h
          | some i =>
            rw [hsid] at h
            obtain ⟨fl, st1, h1, h2⟩ := andThen_ok_inv (show (andThen _ _).1 = _ from h)
            cases fl with
            | normal =>
              have ha : afterStmt true s = true := ih1 s _ (by rw [h1])
              simp only [afterStmts, ha]
              exact ihs ss st1 h2
            | ret v => cases h2
            | brk => cases h2
            | cont => cases h2
      · cases s with
        | ret e =>
          cases e with
          | none => rw [execStmt_retNone] at h; cases h
          | some e =>
            rw [execStmt_ret] at h
            obtain ⟨_, _, _, h2⟩ := andThen_ok_inv h
            cases h2
        | brk => rw [execStmt_brk] at h; cases h
        | cont => rw [execStmt_cont] at h; cases h
        | block body =>
          obtain ⟨b, _⟩ := body
          rw [execStmt_block] at h
          exact ihb b st h
        | ifS c tb eb =>
          obtain ⟨t, _⟩ := tb
          rcases eb with _ | ⟨e, _⟩
          · exact Bool.or_true _
          · rw [execStmt_ifS] at h
            obtain ⟨v, st1, _, h2⟩ := andThen_ok_inv h
            obtain ⟨bv, st2, _, h3⟩ := andThen_ok_inv h2
            cases bv with
            | true => exact Bool.or_eq_true_iff.mpr (Or.inl (ihb t st2 h3))
            | false => exact Bool.or_eq_true_iff.mpr (Or.inr (ihb e st2 h3))
        | _ => rfl

/-- `a`: the result under `cfg`, `b`: the plain result.  This is the shape of `Main`'s fields, which is why it is not written
as an instance of `OutG`; the expression congruence produces the instance at `mainRel`, which says the same with the
equality taken componentwise (`agree_iff`). -/
@[reducible] def Agree (T : List (Nat × Bool)) {α : Type} (a b : R V α) : Prop := a = b ∧ Inv T b.2

section step
variable {P : Prims V} {T : List (Nat × Bool)} {cfg : Cfg} {n : Nat} {α β : Type}

theorem Agree.ret (x : Except Err α) (st : St V) (h : Inv T st) : Agree T (x, st) (x, st) := ⟨rfl, h⟩

theorem Agree.andThen {ra rb : R V α} {ka kb : α → St V → R V β} (h : Agree T ra rb)
    (hk : ∀ v st, rb = (.ok v, st) → Inv T st → Agree T (ka v st) (kb v st)) :
    Agree T (andThen ra ka) (andThen rb kb) := by
  obtain ⟨rfl, hi⟩ := h
  rcases ra with ⟨_ | v, st⟩
  · exact ⟨rfl, hi⟩
  · exact hk v st rfl hi

theorem Agree.check {ka kb : α → St V → R V β} (x : Except Err α) {st : St V} (h : Inv T st)
    (hk : ∀ v, Agree T (ka v st) (kb v st)) : Agree T (AEval.andThen (x, st) ka) (AEval.andThen (x, st) kb) := by
  cases x with
  | error e => exact ⟨rfl, h⟩
  | ok v => exact hk v

theorem Agree.pop {a b : R V α} (h : Agree T a b) (g : Except Err α → Except Err β) :
    Agree T (g a.1, a.2.pop) (g b.1, b.2.pop) := by
  obtain ⟨rfl, hi⟩ := h
  exact ⟨rfl, FnsAll.drop hi.1, hi.2⟩

theorem Agree.of3 {a b : R V α} {X : Prop} (h : a = b ∧ Inv T b.2 ∧ X) : Agree T a b := ⟨h.1, h.2.1⟩

theorem inv_push {st : St V} (h : Inv T st) (sc : Scope V) {fs : List FnDef}
    (hfs : ∀ fd ∈ fs, ConsStmts T true fd.body) : Inv T (st.push sc fs) :=
  ⟨FnsAll.push h.1 hfs, h.2⟩

theorem main_zero (P : Prims V) (T : List (Nat × Bool)) (cfg : Cfg) : Main P T cfg 0 where
  expr _ _ h := ⟨rfl, h⟩
  list _ _ h := ⟨rfl, h⟩
  block _ _ _ h := ⟨rfl, h, nofun⟩
  stmts _ _ _ h := ⟨rfl, h, nofun⟩
  stmt _ _ _ h := ⟨rfl, h, nofun⟩
  loop _ _ _ _ h := ⟨rfl, h⟩

theorem consStmt_inTbl {live : Bool} {s : Stmt} (h : ConsStmt T live s) : InTbl T s.sid live := by
  cases s with
  | fnDef _ _ _ body => obtain ⟨_, _⟩ := body; exact h.1
  | ifS _ t e => obtain ⟨_, _⟩ := t; rcases e with _ | ⟨_, _⟩ <;> exact h.1
  | loop _ b => obtain ⟨_, _⟩ := b; exact h.1
  | block b => obtain ⟨_, _⟩ := b; exact h.1
  | _ => exact h

theorem step_stmts (hc : Harmless T cfg) (ih : Main P T cfg n) : ∀ (ss : List Stmt) (st : St V),
    ConsStmts T true ss → Inv T st →
    Agree T (execStmts P cfg (n + 1) ss st) (execStmts P plain (n + 1) ss st)
  | [], st, _, h => by simp only [execStmts_nil]; exact .ret _ _ h
  | s :: ss, st, ⟨hs, hrest⟩, h => by
      simp only [execStmts_cons]
      cases hsid : s.sid with
      | none => exact .ret _ _ h
      | some i =>
        have hi : (i, true) ∈ T := consStmt_inTbl hs i hsid
        have hskip' : plain.skip i = false := rfl
        simp only [hc.1 i hi, hskip', Bool.false_eq_true, ↓reduceIte]
        refine Agree.andThen (Agree.of3 (ih.stmt s _ hs ⟨h.1, List.forall_mem_cons.mpr ⟨hi, h.2⟩⟩)) fun fl st1 hb h1 => ?_
        cases fl with
        | normal =>
          rw [(normal_after P n).2.2 s _ (by rw [hb])] at hrest
          exact Agree.of3 (ih.stmts ss st1 hrest h1)
        | ret v => exact .ret _ _ h1
        | brk => exact .ret _ _ h1
        | cont => exact .ret _ _ h1

theorem step_block (ih : Main P T cfg n) (ss : List Stmt) (st : St V)
    (hcs : ConsStmts T true ss) (h : Inv T st) :
    Agree T (execBlock P cfg (n + 1) ss st) (execBlock P plain (n + 1) ss st) := by
  simp only [execBlock_succ]
  exact (Agree.of3 (ih.stmts ss _ hcs (inv_push h _ (hoist_ok true ss hcs)))).pop id

theorem step_loop (ih : Main P T cfg n) (c : Expr) (b : List Stmt) (st : St V)
    (hb : ConsStmts T true b) (h : Inv T st) :
    Agree T (execLoop P cfg (n + 1) c b st) (execLoop P plain (n + 1) c b st) := by
  simp only [execLoop_succ]
  refine Agree.andThen (ih.expr c st h) fun v st1 _ h1 => ?_
  refine Agree.check (P.cond v) h1 fun bv => ?_
  cases bv with
  | false => exact .ret _ _ h1
  | true =>
    refine Agree.andThen (Agree.of3 (ih.block b st1 hb h1)) fun fl st2 _ h2 => ?_
    cases fl with
    | brk => exact .ret _ _ h2
    | ret v => exact .ret _ _ h2
    | normal => exact ih.loop c b st2 hb h2
    | cont => exact ih.loop c b st2 hb h2

def mainRel (V : Type) (T : List (Nat × Bool)) : ExprRel V :=
  { R := fun a b => a = b, I := Inv T, B := fun _ => False, X := fun _ => true, D := fun _ => false }

theorem mainRel_ok : (mainRel V T).Ok P where
  bErr := fun h => h.elim
  lookup := fun _ hr => by cases hr; rfl
  assign := fun {a b x} v _ hr hi => by
    cases hr
    cases assignEnv P.dscope x v a.env with
    | none => trivial
    | some env' => exact ⟨rfl, hi⟩
  out := fun _ hr hi => by cases hr; exact ⟨rfl, hi⟩

theorem agree_iff {a b : AEval.R V α} : Agree T a b ↔ (mainRel V T).Out a b :=
  ⟨fun h => ⟨Or.inr ⟨congrArg Prod.fst h.1, congrArg Prod.snd h.1⟩, h.2⟩,
   fun h => ⟨h.1.elim False.elim fun h' => Prod.ext h'.1 h'.2, h.2⟩⟩

theorem Main.exprSim (ih : Main P T cfg n) : ExprSim P (mainRel V T) cfg plain n :=
  ⟨fun e a b _ hr hi => by cases hr; exact agree_iff.mp (ih.expr e a hi),
   fun es a b _ hr hi => by cases hr; exact agree_iff.mp (ih.list es a hi)⟩

theorem step_userCall (hc : Harmless T cfg) (ih : Main P T cfg n) (f : Nat) (args : List Expr) (st : St V)
    (h : Inv T st) : Agree T (userCall P cfg n f args st) (userCall P plain n f args st) := by
  simp only [userCall, findFnC_kept (hc.2 f), findFnC_kept (cfg := plain) rfl]
  cases hf : findFn f st.fns with
  | none => exact .ret _ _ h
  | some fd =>
    refine Agree.andThen (ih.list args _ h) fun vs st1 _ h1 => ?_
    cases bindParams fd.params vs with
    | none => exact .ret _ _ h1
    | some slots =>
      exact (Agree.of3 (ih.block fd.body _ (findFn_ok h.1 hf) (inv_push h1 _ (fun _ hm => by cases hm)))).pop
        (·.bind (callValue P))

theorem step_stmt (ih : Main P T cfg n) (s : Stmt) (st : St V) (hs : ConsStmt T true s) (h : Inv T st) :
    Agree T (execStmt P cfg (n + 1) s st) (execStmt P plain (n + 1) s st) := by
  cases s with
  | assign _ _ e b =>
    rw [execStmt_assign, execStmt_assign]
    refine Agree.andThen (ih.expr e st h) fun v st1 _ h1 => ?_
    cases b with
    | none => exact .ret _ _ h1
    | some id => exact .ret _ _ h1
  | assignExisting _ _ e b =>
    rw [execStmt_assignExisting, execStmt_assignExisting]
    refine Agree.andThen (ih.expr e st h) fun v st1 _ h1 => ?_
    cases b.bind (fun id => assignEnv P.dscope id v st1.env) with
    | none => exact .ret _ _ h1
    | some env' => exact .ret _ _ h1
  | assignIndex t e =>
    rw [execStmt_assignIndex, execStmt_assignIndex]
    refine Agree.andThen (ih.expr e st h) fun v st1 _ h1 => ?_
    cases lvalue t with
    | none => exact .ret _ _ h1
    | some rp =>
      -- the write through the l-value is `updateRoot`, which the expression congruence covers
      exact agree_iff.mpr (ih.exprSim.updateRoot mainRel_ok rp.1 rp.2 _ st1 st1 rfl (eOk_top.2 _) (fun _ _ _ h => h)
        (fun _ _ _ _ _ _ h => h) rfl h1)
  | ifS c tb eb =>
    obtain ⟨t, _⟩ := tb
    rw [execStmt_ifS, execStmt_ifS]
    refine Agree.andThen (ih.expr c st h) fun v st1 _ h1 => ?_
    refine Agree.check (P.cond v) h1 fun bv => ?_
    rcases eb with _ | ⟨e, _⟩
    · cases bv with
      | false => exact .ret _ _ h1
      | true => exact .of3 (ih.block t st1 hs.2 h1)
    · cases bv with
      | false => exact .of3 (ih.block e st1 hs.2.2 h1)
      | true => exact .of3 (ih.block t st1 hs.2.1 h1)
  | loop c body =>
    obtain ⟨b, _⟩ := body
    rw [execStmt_loop, execStmt_loop]
    exact ih.loop c b st hs.2 h
  | block body =>
    obtain ⟨b, _⟩ := body
    rw [execStmt_block, execStmt_block]
    exact .of3 (ih.block b st hs.2 h)
  | fnDef => rw [execStmt_fnDef, execStmt_fnDef]; exact .ret _ _ h
  | ret e =>
    cases e with
    | none => rw [execStmt_retNone, execStmt_retNone]; exact .ret _ _ h
    | some e =>
      rw [execStmt_ret, execStmt_ret]
      exact Agree.andThen (ih.expr e st h) fun v st1 _ h1 => .ret _ _ h1
  | brk => rw [execStmt_brk, execStmt_brk]; exact .ret _ _ h
  | cont => rw [execStmt_cont, execStmt_cont]; exact .ret _ _ h
  | expr e =>
    rw [execStmt_expr, execStmt_expr]
    exact Agree.andThen (ih.expr e st h) fun v st1 _ h1 => .ret _ _ h1

/-- `ExprSim.node` at `mainRel`. -/
theorem generic (ih : Main P T cfg n) (e : Expr) (st : St V) (h : Inv T st) :
    finishNode P e (evalList P cfg n (children e) st) = finishNode P e (evalList P plain n (children e) st) ∧
    Inv T (finishNode P e (evalList P plain n (children e) st)).2 :=
  agree_iff.mpr (ih.exprSim.node mainRel_ok e st st (eOk_top.1 e) rfl h)

end step

theorem main_all (P : Prims V) {T : List (Nat × Bool)} {cfg : Cfg} (hc : Harmless T cfg) : ∀ n, Main P T cfg n
  | 0 => main_zero P T cfg
  | n + 1 =>
      have ih := main_all P hc n
      have na := normal_after P (n + 1)
      have ihe := ih.exprSim.step mainRel_ok fun g args a b _ _ hr hi => by
        cases hr; exact agree_iff.mp (step_userCall hc ih g args a hi)
      { expr := fun e st h => agree_iff.mpr (ihe.expr e st st (eOk_top.1 e) rfl h)
        list := fun es st h => agree_iff.mpr (ihe.list es st st (eOk_top.2 es) rfl h)
        block := fun ss st hcs h => ⟨(step_block ih ss st hcs h).1, (step_block ih ss st hcs h).2, na.1 ss st⟩
        stmts := fun ss st hcs h => ⟨(step_stmts hc ih ss st hcs h).1, (step_stmts hc ih ss st hcs h).2, na.2.1 ss st⟩
        stmt := fun s st hs h => ⟨(step_stmt ih s st hs h).1, (step_stmt ih s st hs h).2, na.2.2 s st⟩
        loop := step_loop ih }

end NaijaVerif.C03
