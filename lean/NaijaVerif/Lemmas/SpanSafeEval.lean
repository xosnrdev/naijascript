import NaijaVerif.Lemmas.SpanMapEval
/-
C07, behind the parser: a run of a program whose spans are all in `S` that ends in a runtime error
reports it at a span in `S` (`run_rt_span`); the evaluator synthesises no span, also not for a panic
site reported as a runtime error.  Read off the naturality of the evaluator in spans
(`Lemmas/SpanMapEval.lean`): a span map that is the identity on `S` leaves the program as it is, hence
the run, hence the reported span — so that span is not one the map moves.
-/
namespace NaijaVerif.SpanSafe
open NaijaVerif NaijaVerif.Parse NaijaVerif.Eval

variable {N : Type}

section Defs
variable (S : Span → Prop)

def AllS (l : List Span) : Prop := ∀ s ∈ l, S s

end Defs

variable {S : Span → Prop}

theorem AllS_nil : AllS S [] := fun _ h => by simp at h

section Evaluator
variable [NumOps N]

theorem run_rt_span (cfg : RunCfg) (fuel : Nat) (prog : Block) (hp : AllS S (blockSpans prog))
    {k : RtKind} {sp : Span} {out : List (Value N)} (h : (run cfg fuel prog : Outcome N) = .rt k sp out) :
    S sp := by
  classical
  refine SpanMap.mem_of_all_fix fun φ hφ => ?_
  have hm := SpanMap.run_map (N := N) φ cfg fuel prog
  rw [SpanMap.mapBlock_fix prog fun s hs => hφ s (hp s hs), h] at hm
  exact (Outcome.rt.inj hm).2.1.symm

end Evaluator

end NaijaVerif.SpanSafe
