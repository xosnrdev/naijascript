import NaijaVerif.Lemmas.BridgeOk
/-
Bridge resolver → evaluator: the optimisation plan and the functions reachable through calls.

`keptBlock plan` asks every kept function to call kept functions only; the real plan does not deliver
that: a definition in dead code is hoisted whatever `plan.stmts` says (only `plan.fns` decides), and the
functions only it calls are "unused" and removed, although nothing of that definition can ever run.

`KeptReach K plan root` asks it of a set `K` of function ids closed under the calls of the code that can
run (diagnostics.rs `compute_function_reachability`): (i) the plan removes no function of `K`; (ii) in the
top-level code and in the bodies of definitions in `K`, outside the statements the plan removes
(`stmtSkipped`) and outside nested definitions, every user call is bound in `K`.  Bodies of definitions
outside `K` are exempt: hoisted but never looked up.  `ok_reach_block` gives `okBlock` for the extended
plan `planK` (the plan plus every function of the arity table outside `K`), which `Lemmas/BridgeSafe.lean` accepts in
place of the plan of the run (`PlanExt`).  `numBlock` stands at the end although it says nothing of reach: it is a
hypothesis of `Lemmas/BridgeReachPlan.lean`, proved of the checker's output in `Lemmas/BridgeReachNum.lean`, and
`Driver/Run.lean` evaluates it with this file imported.
-/
namespace NaijaVerif.Bridge
open NaijaVerif

/-- A call annotation lies in `K`; an unbound call (never accepted: `SCfg.fnOk`) is not constrained,
as in `keptExpr`. -/
def inK (K : Nat → Bool) : Option Nat → Bool
  | some i => K i
  | none => true

mutual
  def reachExpr (K : Nat → Bool) : Expr → Bool
    | .num _ _ | .bool _ _ | .null _ | .str _ _ | .var _ _ _ => true
    | .binary _ l r _ => reachExpr K l && reachExpr K r
    | .unary _ x _ => reachExpr K x
    | .array es _ => reachExprs K es
    | .index a i _ _ => reachExpr K a && reachExpr K i
    | .member o _ _ _ => reachExpr K o
    | .call (.member obj _ _ _) args _ _ => reachExpr K obj && reachExprs K args
    | .call (.var name _ _) args fn _ =>
        reachExprs K args && ((Eval.GlobalB.ofName name).isSome || inK K fn)
    | .call _ args _ _ => reachExprs K args
  def reachExprs (K : Nat → Bool) : List Expr → Bool
    | [] => true
    | e :: es => reachExpr K e && reachExprs K es
end

mutual
  /-- (ii) for one statement: nested blocks are walked, the body of a nested definition only when
  its id is in `K`. -/
  def reachStmt (K : Nat → Bool) (plan : Option Eval.Plan) : Stmt → Bool
    | .assign _ _ e _ _ _ => reachExpr K e
    | .assignExisting _ _ e _ _ _ => reachExpr K e
    | .assignIndex t e _ _ => reachExpr K t && reachExpr K e
    | .ifS c t e _ _ => reachExpr K c && reachBlock K plan t && reachOptBlock K plan e
    | .loop c b _ _ => reachExpr K c && reachBlock K plan b
    | .block b _ _ => reachBlock K plan b
    | .fnDef _ _ _ body fn _ _ => !inK K fn || reachBlock K plan body
    | .ret (some e) _ _ => reachExpr K e
    | .ret none _ _ => true
    | .brk _ _ => true
    | .cont _ _ => true
    | .expr e _ _ => reachExpr K e
  def reachStmts (K : Nat → Bool) (plan : Option Eval.Plan) : List Stmt → Bool
    | [] => true
    | s :: rest => (stmtSkipped plan s || reachStmt K plan s) && reachStmts K plan rest
  def reachBlock (K : Nat → Bool) (plan : Option Eval.Plan) : Block → Bool
    | .mk ss _ => reachStmts K plan ss
  def reachOptBlock (K : Nat → Bool) (plan : Option Eval.Plan) : Option Block → Bool
    | none => true
    | some b => reachBlock K plan b
end

def KeptReach (K : Nat → Bool) (plan : Option Eval.Plan) (root : Block) : Prop :=
  (∀ i, K i = true → Eval.Plan.prunesFn plan (some i) = false) ∧ reachBlock K plan root = true

/-- `KeptReach` for a finite `K`, as a Boolean. -/
def keptReach (K : List Nat) (plan : Option Eval.Plan) (root : Block) : Bool :=
  K.all (fun i => !Eval.Plan.prunesFn plan (some i)) && reachBlock (fun i => K.contains i) plan root

theorem keptReach_spec {K : List Nat} {plan : Option Eval.Plan} {root : Block} (h : keptReach K plan root = true) :
    KeptReach (fun i => K.contains i) plan root := by
  simp only [keptReach, Bool.and_eq_true, List.all_eq_true, Bool.not_eq_true'] at h
  exact ⟨fun i hi => h.1 i (by simpa using hi), h.2⟩

theorem keptReach_of {K : List Nat} {plan : Option Eval.Plan} {root : Block}
    (h : KeptReach (fun i => K.contains i) plan root) : keptReach K plan root = true := by
  simp only [keptReach, Bool.and_eq_true, List.all_eq_true, Bool.not_eq_true']
  exact ⟨fun i hi => h.1 i (by simpa using hi), h.2⟩

/-! `keptBlock`: the code that is kept calls kept functions only.  The body of a removed function is exempt
(never hoisted), and so is a statement the plan removes (`stmtSkipped`).  It is `reachBlock (keptFns plan) plan`
(`reach_keptFns`), written out because it is the hypothesis of `c06_pipeline_kept` (`PlanKeepsCalls`) and the subject of
the counterexample `keptBlock_too_strong` (`Props/C06Accepted.lean`). -/

mutual
  def keptExpr (plan : Option Eval.Plan) : Expr → Bool
    | .num _ _ | .bool _ _ | .null _ | .str _ _ | .var _ _ _ => true
    | .binary _ l r _ => keptExpr plan l && keptExpr plan r
    | .unary _ x _ => keptExpr plan x
    | .array es _ => keptExprs plan es
    | .index a i _ _ => keptExpr plan a && keptExpr plan i
    | .member o _ _ _ => keptExpr plan o
    | .call (.member obj _ _ _) args _ _ => keptExpr plan obj && keptExprs plan args
    | .call (.var name _ _) args fn _ =>
        keptExprs plan args && ((Eval.GlobalB.ofName name).isSome || !Eval.Plan.prunesFn plan fn)
    | .call _ args _ _ => keptExprs plan args
  def keptExprs (plan : Option Eval.Plan) : List Expr → Bool
    | [] => true
    | e :: es => keptExpr plan e && keptExprs plan es
end

mutual
  def keptStmt (plan : Option Eval.Plan) : Stmt → Bool
    | .assign _ _ e _ _ _ => keptExpr plan e
    | .assignExisting _ _ e _ _ _ => keptExpr plan e
    | .assignIndex t e _ _ => keptExpr plan t && keptExpr plan e
    | .ifS c t e _ _ => keptExpr plan c && keptBlock plan t && keptOptBlock plan e
    | .loop c b _ _ => keptExpr plan c && keptBlock plan b
    | .block b _ _ => keptBlock plan b
    | .fnDef _ _ _ body fn _ _ => Eval.Plan.prunesFn plan fn || keptBlock plan body
    | .ret (some e) _ _ => keptExpr plan e
    | .ret none _ _ => true
    | .brk _ _ => true
    | .cont _ _ => true
    | .expr e _ _ => keptExpr plan e
  def keptStmts (plan : Option Eval.Plan) : List Stmt → Bool
    | [] => true
    | s :: rest => (stmtSkipped plan s || keptStmt plan s) && keptStmts plan rest
  def keptBlock (plan : Option Eval.Plan) : Block → Bool
    | .mk ss _ => keptStmts plan ss
  def keptOptBlock (plan : Option Eval.Plan) : Option Block → Bool
    | none => true
    | some b => keptBlock plan b
end

def SCfg.withPlan (C : SCfg) (plan : Option Eval.Plan) : SCfg := ⟨C.arity, C.numOk, C.strictIdx, plan⟩

theorem kept_none_all :
    ((∀ e, keptExpr none e = true) ∧ ∀ es, keptExprs none es = true) ∧
    (∀ s, keptStmt none s = true) ∧ (∀ ss, keptStmts none ss = true) ∧ (∀ b, keptBlock none b = true) ∧
      ∀ o, keptOptBlock none o = true := by
  have hp : ∀ fn, Eval.Plan.prunesFn none fn = false := by intro fn; cases fn <;> rfl
  have hE : (∀ e, keptExpr none e = true) ∧ ∀ es, keptExprs none es = true := by
    apply Expr.walk
    case call =>
      intro c _ _ _ hc _ ha
      cases c with
      | member o fld fs ms => exact absurd rfl (hc o fld fs ms)
      | _ => simp [keptExpr, hp, ha]
    all_goals intros; simp [keptExpr, keptExprs, *]
  refine ⟨hE, ?_⟩
  apply Stmt.walk
  case ret => intro e _ _; cases e <;> simp [keptStmt, hE.1]
  all_goals intros; simp [keptStmt, keptStmts, keptBlock, keptOptBlock, hE.1, *]

theorem kept_none (b : Block) : keptBlock none b = true := kept_none_all.2.2.2.1 b

def keptFns (plan : Option Eval.Plan) : Nat → Bool := fun i => !Eval.Plan.prunesFn plan (some i)

theorem inK_keptFns (plan : Option Eval.Plan) (fn : Option Nat) :
    inK (keptFns plan) fn = !Eval.Plan.prunesFn plan fn := by
  cases fn with
  | some i => rfl
  | none => cases plan <;> rfl

theorem reach_keptFns (plan : Option Eval.Plan) :
    ((∀ e, reachExpr (keptFns plan) e = keptExpr plan e) ∧ ∀ es, reachExprs (keptFns plan) es = keptExprs plan es) ∧
    (∀ s, reachStmt (keptFns plan) plan s = keptStmt plan s) ∧
    (∀ ss, reachStmts (keptFns plan) plan ss = keptStmts plan ss) ∧
    (∀ b, reachBlock (keptFns plan) plan b = keptBlock plan b) ∧
    ∀ o, reachOptBlock (keptFns plan) plan o = keptOptBlock plan o := by
  have hE : (∀ e, reachExpr (keptFns plan) e = keptExpr plan e) ∧
      ∀ es, reachExprs (keptFns plan) es = keptExprs plan es := by
    apply Expr.walk
    case call =>
      intro c _ _ _ hc _ ha
      cases c with
      | member o fld fs ms => exact absurd rfl (hc o fld fs ms)
      | _ => simp only [reachExpr, keptExpr, ha, inK_keptFns]
    all_goals intros; simp only [reachExpr, reachExprs, keptExpr, keptExprs, *]
  refine ⟨hE, ?_⟩
  apply Stmt.walk
  case ret => intro e _ _; cases e <;> simp only [reachStmt, keptStmt, hE.1]
  all_goals
    intros
    simp only [reachStmt, reachStmts, reachBlock, reachOptBlock, keptStmt, keptStmts, keptBlock, keptOptBlock,
      hE.1, inK_keptFns, Bool.not_not, *]

theorem reachBlock_keptFns (plan : Option Eval.Plan) (b : Block) :
    reachBlock (keptFns plan) plan b = keptBlock plan b := (reach_keptFns plan).2.2.2.1 b

theorem keptReach_of_keptBlock {plan : Option Eval.Plan} {root : Block} (h : keptBlock plan root = true) :
    KeptReach (keptFns plan) plan root :=
  ⟨fun i hi => by simpa [keptFns] using hi, by rw [reachBlock_keptFns]; exact h⟩

/-- `plan` with every function id below `n` outside `K` removed as well.  The bound makes it a finite list;
`ok_reach_block` takes `n := C.arity.length`, which covers every id an accepted definition carries (`fnOk_lt`; `hout` of
`ok_transfer_walk` is about these). -/
def planK (n : Nat) (K : Nat → Bool) (plan : Option Eval.Plan) : Eval.Plan :=
  { stmts := (match plan with | some p => p.stmts | none => []),
    fns := (match plan with | some p => p.fns | none => []) ++ (List.range n).filter (fun i => !K i) }

theorem planK_stmt (n : Nat) (K : Nat → Bool) (plan : Option Eval.Plan) (sid : Option Nat) :
    Eval.Plan.prunesStmt (some (planK n K plan)) sid = Eval.Plan.prunesStmt plan sid := by
  cases plan <;> cases sid <;> simp [Eval.Plan.prunesStmt, planK]

theorem planK_fn (n : Nat) (K : Nat → Bool) (plan : Option Eval.Plan) (i : Nat) :
    Eval.Plan.prunesFn (some (planK n K plan)) (some i) =
      (Eval.Plan.prunesFn plan (some i) || (decide (i < n) && !K i)) := by
  cases plan <;> simp [Eval.Plan.prunesFn, planK, List.mem_filter, List.mem_range, Bool.decide_and]

theorem planK_fn_of_pruned (n : Nat) (K : Nat → Bool) (plan : Option Eval.Plan) (fn : Option Nat)
    (h : Eval.Plan.prunesFn plan fn = true) : Eval.Plan.prunesFn (some (planK n K plan)) fn = true := by
  cases fn with
  | none => cases plan <;> simp [Eval.Plan.prunesFn] at h
  | some i => rw [planK_fn, h]; rfl

theorem planK_skipped (n : Nat) (K : Nat → Bool) (plan : Option Eval.Plan) (s : Stmt) :
    stmtSkipped (some (planK n K plan)) s = stmtSkipped plan s := by
  cases s <;> simp only [stmtSkipped, planK_stmt]

theorem fnOk_lt {C : SCfg} {fn : Option Nat} {k : Nat} (h : C.fnOk fn k = true) : ∃ i, fn = some i ∧ i < C.arity.length := by
  cases fn with
  | none => simp [SCfg.fnOk] at h
  | some i =>
    refine ⟨i, rfl, ?_⟩
    simp only [SCfg.fnOk, beq_iff_eq] at h
    exact (List.getElem?_eq_some_iff.1 h).1

/-! The transfer is a walk of three checks at once: `okStmt` without a plan and `reachStmt K plan` pass, so `okStmt` under
`P` passes.  All three are the conjunction over the same components, so an arm is `and_imp2` over the hypotheses of the
components (`Lemmas/AstInduction.lean`); what is left are the three places where `okStmt` reads the plan: a user call
(`hin`), a definition (`hout`) and the skip test (`hskip`). -/

theorem ok_transfer_expr (C : SCfg) (K : Nat → Bool) (P : Option Eval.Plan)
    (hin : ∀ i, K i = true → Eval.Plan.prunesFn P (some i) = false) :
    (∀ e, okExpr (C.withPlan none) e = true → reachExpr K e = true → okExpr (C.withPlan P) e = true) ∧
    (∀ es, okExprs (C.withPlan none) es = true → reachExprs K es = true → okExprs (C.withPlan P) es = true) := by
  apply Expr.walk
  case call =>
    intro c args fn _ hc _ iha
    cases c with
    | member o fld fs ms => exact absurd rfl (hc o fld fs ms)
    | var name b vsp =>
      refine and_imp2 iha fun h1 h2 => ?_
      cases hg : (Eval.GlobalB.ofName name).isSome with
      | true => rw [hg] at h1; exact h1
      | false =>
        rw [hg] at h1 h2
        obtain ⟨hfn, _⟩ := Bool.and_eq_true_iff.1 h1
        obtain ⟨i, rfl, _⟩ := fnOk_lt hfn
        exact Bool.and_eq_true_iff.2 ⟨hfn, congrArg (! ·) (hin i h2)⟩
    | _ => exact iha
  case callMember => exact fun _ _ _ _ _ _ _ iho iha => and_imp2 iho iha
  case binary | index => exact fun _ _ _ _ ih1 ih2 => and_imp2 ih1 ih2
  case cons => exact fun _ _ ih1 ih2 => and_imp2 ih1 ih2
  case array => exact fun _ _ ih => ih
  case unary => exact fun _ _ _ ih => ih
  case member => exact fun _ _ _ _ ih => ih
  case num => exact fun _ _ h _ => h
  all_goals intros; rfl

theorem ok_transfer_walk (C : SCfg) (K : Nat → Bool) (plan P : Option Eval.Plan)
    (hin : ∀ i, K i = true → Eval.Plan.prunesFn P (some i) = false)
    (hout : ∀ i, i < C.arity.length → K i = false → Eval.Plan.prunesFn P (some i) = true)
    (hskip : ∀ s, stmtSkipped plan s = true → stmtSkipped P s = true) :
    (∀ s d, okStmt (C.withPlan none) d s = true → reachStmt K plan s = true → okStmt (C.withPlan P) d s = true) ∧
    (∀ ss d, okStmts (C.withPlan none) d ss = true → reachStmts K plan ss = true →
      okStmts (C.withPlan P) d ss = true) ∧
    (∀ b d, okBlock (C.withPlan none) d b = true → reachBlock K plan b = true → okBlock (C.withPlan P) d b = true) ∧
    (∀ ob d, okOptBlock (C.withPlan none) d ob = true → reachOptBlock K plan ob = true →
      okOptBlock (C.withPlan P) d ob = true) := by
  have hE := (ok_transfer_expr C K P hin).1
  apply Stmt.walk
  case fnDef =>
    intro _ _ ps body fn _ _ ih d h1 h2
    -- without a plan no function is removed: `hbody` is `okBlock` of the body
    obtain ⟨hfn, hbody⟩ := Bool.and_eq_true_iff.1 h1
    obtain ⟨i, rfl, hlt⟩ := fnOk_lt hfn
    refine Bool.and_eq_true_iff.2 ⟨hfn, Bool.or_eq_true_iff.2 ?_⟩
    cases hK : K i with
    | false => exact Or.inl (hout i hlt hK)
    | true =>
      have h2 : (!K i || reachBlock K plan body) = true := h2
      rw [hK] at h2
      exact Or.inr (ih false hbody h2)
  case cons =>
    intro s _ ih1 ih2 d
    refine and_imp2 (fun h1 h2 => Bool.or_eq_true_iff.2 ?_) (ih2 d)
    -- without a plan no statement is skipped: `h1` is `okStmt`
    rw [show (C.withPlan none).plan = none from rfl, stmtSkipped_none] at h1
    exact (Bool.or_eq_true_iff.1 h2).imp (hskip s) (ih1 d h1)
  case assign | assignExisting => exact fun _ _ e _ _ _ _ => hE e
  case assignIndex =>
    exact fun t e _ _ _ h1 h2 => Bool.and_eq_true_iff.2
      ⟨and_imp2 (hE t) (hE e) (Bool.and_eq_true_iff.1 h1).1 h2, (Bool.and_eq_true_iff.1 h1).2⟩
  case ifS => exact fun c _ _ _ _ ih1 ih2 d => and_imp2 (and_imp2 (hE c) (ih1 d)) (ih2 d)
  case loop => exact fun c _ _ _ ih _ => and_imp2 (hE c) (ih true)
  case block => exact fun _ _ _ ih => ih
  case ret =>
    intro e _ _ _
    cases e with
    | none => exact fun _ _ => rfl
    | some e => exact hE e
  case brk | cont => exact fun _ _ _ h1 _ => h1
  case expr => exact fun e _ _ _ => hE e
  case mk => exact fun _ _ ih => ih
  case some => exact fun _ ih => ih
  all_goals intros; rfl

theorem ok_transfer_block (C : SCfg) (K : Nat → Bool) (plan P : Option Eval.Plan)
    (hin : ∀ i, K i = true → Eval.Plan.prunesFn P (some i) = false)
    (hout : ∀ i, i < C.arity.length → K i = false → Eval.Plan.prunesFn P (some i) = true)
    (hskip : ∀ s, stmtSkipped plan s = true → stmtSkipped P s = true) (b : Block) : ∀ d,
    okBlock (C.withPlan none) d b = true → reachBlock K plan b = true → okBlock (C.withPlan P) d b = true :=
  (ok_transfer_walk C K plan P hin hout hskip).2.2.1 b

theorem ok_reach_block (C : SCfg) (K : Nat → Bool) (plan : Option Eval.Plan)
    (hK : ∀ i, K i = true → Eval.Plan.prunesFn plan (some i) = false) (b : Block) : ∀ d,
    okBlock (C.withPlan none) d b = true → reachBlock K plan b = true →
      okBlock (C.withPlan (some (planK C.arity.length K plan))) d b = true :=
  ok_transfer_block C K plan _ (fun i hi => by rw [planK_fn, hK i hi, hi]; simp)
    (fun i hlt hi => by rw [planK_fn, hi]; simp [hlt]) (fun s hs => by rw [planK_skipped]; exact hs) b

/-- The instance for `keptBlock`; the pipeline theorems go through `ok_reach_block`. -/
theorem ok_plan_block (C : SCfg) (plan : Option Eval.Plan) (b : Block) : ∀ d,
    okBlock (C.withPlan none) d b = true → keptBlock plan b = true → okBlock (C.withPlan plan) d b = true :=
  fun d h hk => ok_transfer_block C (keptFns plan) plan plan (fun i hi => by simpa [keptFns] using hi)
    (fun i _ hi => by simpa [keptFns] using hi) (fun _ hs => hs) b d h (by rw [reachBlock_keptFns]; exact hk)

/-! What follows up to `planReaches` is code the driver evaluates on the real plan and annotations: a candidate `K`
(`reachK`) and the Boolean `keptReach` of it.  No lemma is about it. -/

mutual
  def callsExpr : Expr → List Nat
    | .num _ _ | .bool _ _ | .null _ | .str _ _ | .var _ _ _ => []
    | .binary _ l r _ => callsExpr l ++ callsExpr r
    | .unary _ x _ => callsExpr x
    | .array es _ => callsExprs es
    | .index a i _ _ => callsExpr a ++ callsExpr i
    | .member o _ _ _ => callsExpr o
    | .call (.member obj _ _ _) args _ _ => callsExpr obj ++ callsExprs args
    | .call (.var name _ _) args fn _ =>
        (if (Eval.GlobalB.ofName name).isSome then [] else fn.toList) ++ callsExprs args
    | .call _ args _ _ => callsExprs args
  def callsExprs : List Expr → List Nat
    | [] => []
    | e :: es => callsExpr e ++ callsExprs es
end

mutual
  /-- Ids of the user calls of the statements the plan does not skip, nested definitions excluded. -/
  def callsStmt (plan : Option Eval.Plan) : Stmt → List Nat
    | .assign _ _ e _ _ _ => callsExpr e
    | .assignExisting _ _ e _ _ _ => callsExpr e
    | .assignIndex t e _ _ => callsExpr t ++ callsExpr e
    | .ifS c t e _ _ => callsExpr c ++ callsBlock plan t ++ callsOptBlock plan e
    | .loop c b _ _ => callsExpr c ++ callsBlock plan b
    | .block b _ _ => callsBlock plan b
    | .fnDef _ _ _ _ _ _ _ => []
    | .ret (some e) _ _ => callsExpr e
    | .ret none _ _ => []
    | .brk _ _ => []
    | .cont _ _ => []
    | .expr e _ _ => callsExpr e
  def callsStmts (plan : Option Eval.Plan) : List Stmt → List Nat
    | [] => []
    | s :: rest => (if stmtSkipped plan s then [] else callsStmt plan s) ++ callsStmts plan rest
  def callsBlock (plan : Option Eval.Plan) : Block → List Nat
    | .mk ss _ => callsStmts plan ss
  def callsOptBlock (plan : Option Eval.Plan) : Option Block → List Nat
    | none => []
    | some b => callsBlock plan b
end

mutual
  def defsStmt : Stmt → List (Nat × Block)
    | .fnDef _ _ _ body fn _ _ => (match fn with | some g => [(g, body)] | none => []) ++ defsBlock body
    | .ifS _ t e _ _ => defsBlock t ++ defsOptBlock e
    | .loop _ b _ _ => defsBlock b
    | .block b _ _ => defsBlock b
    | .assign _ _ _ _ _ _ => []
    | .assignExisting _ _ _ _ _ _ => []
    | .assignIndex _ _ _ _ => []
    | .ret _ _ _ => []
    | .brk _ _ => []
    | .cont _ _ => []
    | .expr _ _ _ => []
  def defsStmts : List Stmt → List (Nat × Block)
    | [] => []
    | s :: rest => defsStmt s ++ defsStmts rest
  def defsBlock : Block → List (Nat × Block)
    | .mk ss _ => defsStmts ss
  def defsOptBlock : Option Block → List (Nat × Block)
    | none => []
    | some b => defsBlock b
end

def addIds (xs : List Nat) (K : List Nat) : List Nat := xs.foldl (fun acc x => if acc.contains x then acc else x :: acc) K

def reachStep (plan : Option Eval.Plan) (defs : List (Nat × Block)) (K : List Nat) : List Nat :=
  defs.foldl (fun acc d => if K.contains d.1 then addIds (callsBlock plan d.2) acc else acc) K

/-- `Analysis.iter` (Model/Analysis.lean) under a name of this namespace: this file does not import the analysis model. -/
def iterN {α : Type} (f : α → α) : Nat → α → α
  | 0, x => x
  | n + 1, x => iterN f n (f x)

/-- From the root (id 0) and the kept top-level calls, `defs.length` rounds of adding the calls of the definitions
reached so far.  That this many rounds reach a closed set is not proved; the list is only evaluated, and
`keptReach` checks it. -/
def reachK (plan : Option Eval.Plan) (root : Block) : List Nat :=
  let defs := defsBlock root
  iterN (reachStep plan defs) defs.length (addIds (callsBlock plan root) [0])

def planReaches (plan : Option Eval.Plan) (root : Block) : Bool := keptReach (reachK plan root) plan root

mutual
  /-- Every statement carries a `StmtId` and every definition a `FunctionId` (the resolver's numbering). -/
  def numStmt : Stmt → Bool
    | .fnDef _ _ _ body fn sid _ => fn.isSome && sid.isSome && numBlock body
    | .assign _ _ _ _ sid _ => sid.isSome
    | .assignExisting _ _ _ _ sid _ => sid.isSome
    | .assignIndex _ _ sid _ => sid.isSome
    | .ifS _ t e sid _ => sid.isSome && numBlock t && numOptBlock e
    | .loop _ b sid _ => sid.isSome && numBlock b
    | .block b sid _ => sid.isSome && numBlock b
    | .ret _ sid _ => sid.isSome
    | .brk sid _ => sid.isSome
    | .cont sid _ => sid.isSome
    | .expr _ sid _ => sid.isSome
  def numStmts : List Stmt → Bool
    | [] => true
    | s :: rest => numStmt s && numStmts rest
  def numBlock : Block → Bool
    | .mk ss _ => numStmts ss
  def numOptBlock : Option Block → Bool
    | none => true
    | some b => numBlock b
end

end NaijaVerif.Bridge
