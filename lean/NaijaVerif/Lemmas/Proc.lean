/-
For `Props/C15.lean`: the generic "last call wins" fold, the environment invariant of `set_env`, and
`validate` walked once.  `Holds x A Q` says what an outcome of `x` implies: `A` of the value it returns, `Q`
of the error it stops with.  Every stage of `validate` gets one such statement and `Holds.andThen` chains them
along the `?`s of the code (`validate_holds`).  Since a violation excludes `Valid` (`Violates.not_valid`), the
one-sided statement decides both directions of `validate_ok_iff`.
-/
import NaijaVerif.Spec.Proc

namespace NaijaVerif.Proc

theorem foldl_program (ops : List Op) (c : Cmd) : (ops.foldl step c).program = c.program := by
  induction ops generalizing c with
  | nil => rfl
  | cons op rest ih => rw [List.foldl_cons, ih]; cases op <;> rfl

theorem step_args (c : Cmd) (op : Op) :
    (step c op).args = match op.argText with | some v => c.args ++ [v] | none => c.args := by
  cases op <;> rfl

theorem foldl_args (ops : List Op) (c : Cmd) :
    (ops.foldl step c).args = c.args ++ argTexts ops := by
  induction ops generalizing c with
  | nil => exact (List.append_nil _).symm
  | cons op rest ih =>
    rw [List.foldl_cons, ih, step_args]
    unfold argTexts
    rw [List.filterMap_cons]
    cases op.argText <;> simp

theorem lastOf_map {α β : Type} (f : Op → Option α) (g : α → β) (ops : List Op) :
    lastOf (fun op => (f op).map g) ops = (lastOf f ops).map g := by
  induction ops with
  | nil => rfl
  | cons op rest ih => simp only [lastOf, ih]; cases lastOf f rest <;> simp

/-- Generic "last set wins" for a field that each op either sets (`f op = some a`) or keeps. -/
theorem foldl_last {α : Type} (get : Cmd → α) (f : Op → Option α)
    (hstep : ∀ c op, get (step c op) = (f op).getD (get c)) (ops : List Op) (c : Cmd) :
    get (ops.foldl step c) = (lastOf f ops).getD (get c) := by
  induction ops generalizing c with
  | nil => rfl
  | cons op rest ih =>
    rw [List.foldl_cons, ih, lastOf]
    cases lastOf f rest with
    | some a => rfl
    | none => exact hstep c op

theorem foldl_last_some {α : Type} (get : Cmd → Option α) (f : Op → Option α)
    (hstep : ∀ c op, get (step c op) = ((f op).map some).getD (get c)) (ops : List Op) (c : Cmd)
    (hc : get c = none) : get (ops.foldl step c) = lastOf f ops := by
  rw [foldl_last get (fun op => (f op).map some) hstep, lastOf_map, hc]
  cases lastOf f ops <;> rfl

theorem mem_dedup (l : List Bytes) (k : Bytes) : k ∈ dedup l ↔ k ∈ l := by
  induction l with
  | nil => simp [dedup]
  | cons a rest ih =>
    simp only [dedup, List.mem_cons, List.mem_filter, ih, decide_eq_true_eq]
    by_cases h : k = a <;> simp [h]

theorem dedup_nodup (l : List Bytes) : (dedup l).Nodup := by
  induction l with
  | nil => simp [dedup]
  | cons a rest ih =>
    simp only [dedup, List.nodup_cons, List.mem_filter, decide_eq_true_eq]
    exact ⟨fun h => h.2 rfl, ih.filter _⟩

theorem dedup_append_singleton (l : List Bytes) (k : Bytes) :
    dedup (l ++ [k]) = if k ∈ l then dedup l else dedup l ++ [k] := by
  induction l with
  | nil => simp [dedup]
  | cons a rest ih =>
    simp only [List.cons_append, dedup, ih, List.mem_cons]
    by_cases hka : k = a
    · subst hka
      by_cases hr : k ∈ rest <;> simp [hr, List.filter_append]
    · by_cases hr : k ∈ rest <;> simp [hr, hka, List.filter_append]

theorem lastWrite_append_singleton (ws : List (Bytes × Bytes)) (k v k' : Bytes) :
    lastWrite (ws ++ [(k, v)]) k' = if k = k' then some v else lastWrite ws k' := by
  induction ws with
  | nil => simp [lastWrite]
  | cons p rest ih =>
    simp only [List.cons_append, lastWrite, ih]
    by_cases h : k = k' <;> simp [h]

theorem replaceFirst_none_iff (k v : Bytes) (l : List (Bytes × Bytes)) :
    replaceFirst k v l = none ↔ k ∉ l.map Prod.fst := by
  induction l with
  | nil => simp [replaceFirst]
  | cons p rest ih =>
    rw [replaceFirst, List.map_cons, List.mem_cons, not_or, ← ih]
    by_cases h : p.1 = k
    · simp [h]
    · rw [if_neg h]
      cases replaceFirst k v rest <;> simp [Ne.symm h]

theorem replaceFirst_keys (k v : Bytes) (l r : List (Bytes × Bytes))
    (h : replaceFirst k v l = some r) : r.map Prod.fst = l.map Prod.fst := by
  induction l generalizing r with
  | nil => cases h
  | cons p rest ih =>
    rw [replaceFirst] at h
    split at h
    · cases h; rfl
    · cases hr : replaceFirst k v rest with
      | none => rw [hr] at h; cases h
      | some r' => rw [hr] at h; cases h; rw [List.map_cons, List.map_cons, ih r' hr]

/-- Read from the far end, replacing the first pair with key `k` is one more write to `k`. -/
theorem lastWrite_reverse_replaceFirst (k v : Bytes) (l r : List (Bytes × Bytes))
    (h : replaceFirst k v l = some r) (k' : Bytes) :
    lastWrite r.reverse k' = if k = k' then some v else lastWrite l.reverse k' := by
  induction l generalizing r with
  | nil => cases h
  | cons p rest ih =>
    obtain ⟨a, b⟩ := p
    rw [replaceFirst] at h
    split at h
    · next hak =>
      cases h
      rw [List.reverse_cons, List.reverse_cons, lastWrite_append_singleton, lastWrite_append_singleton, hak]
      split <;> rfl
    · next hak =>
      cases hr : replaceFirst k v rest with
      | none => rw [hr] at h; cases h
      | some r' =>
        rw [hr] at h; cases h
        rw [List.reverse_cons, List.reverse_cons, lastWrite_append_singleton, lastWrite_append_singleton,
          ih r' hr]
        by_cases hk : k = k'
        · simp only [if_pos hk, if_neg fun e : a = k' => hak (e.trans hk.symm)]
        · simp only [if_neg hk]

theorem setEnv_keys (env : List (Bytes × Bytes)) (k v : Bytes) :
    (setEnv env k v).map Prod.fst =
      if k ∈ env.map Prod.fst then env.map Prod.fst else env.map Prod.fst ++ [k] := by
  have hnone := replaceFirst_none_iff k v env.reverse
  rw [List.map_reverse, List.mem_reverse] at hnone
  unfold setEnv
  cases h : replaceFirst k v env.reverse with
  | none => rw [if_neg (hnone.mp h), List.map_append]; rfl
  | some r =>
    rw [if_pos (Classical.not_not.mp fun hn => by rw [hnone.mpr hn] at h; cases h), List.map_reverse,
      replaceFirst_keys k v _ r h, List.map_reverse, List.reverse_reverse]

theorem lastWrite_setEnv (env : List (Bytes × Bytes)) (k v k' : Bytes) :
    lastWrite (setEnv env k v) k' = if k = k' then some v else lastWrite env k' := by
  unfold setEnv
  cases h : replaceFirst k v env.reverse with
  | none => exact lastWrite_append_singleton env k v k'
  | some r => rw [lastWrite_reverse_replaceFirst k v _ r h, List.reverse_reverse]

theorem lastWrite_none_iff (l : List (Bytes × Bytes)) (k : Bytes) :
    lastWrite l k = none ↔ k ∉ l.map Prod.fst := by
  induction l with
  | nil => simp [lastWrite]
  | cons p rest ih =>
    rw [lastWrite, List.map_cons, List.mem_cons, not_or, ← ih]
    cases lastWrite rest k <;> simp [eq_comm]

theorem lastWrite_some_iff_mem (l : List (Bytes × Bytes)) (hn : (l.map Prod.fst).Nodup) (k v : Bytes) :
    lastWrite l k = some v ↔ (k, v) ∈ l := by
  induction l generalizing v with
  | nil => simp [lastWrite]
  | cons p rest ih =>
    obtain ⟨a, b⟩ := p
    simp only [List.map_cons, List.nodup_cons] at hn
    cases h : lastWrite rest k with
    | some v' =>
      have hmem : (k, v') ∈ rest := (ih hn.2 v').mp h
      have hka : ¬ k = a := fun e => hn.1 (e ▸ List.mem_map_of_mem (f := Prod.fst) hmem)
      simp only [lastWrite, h, List.mem_cons, Prod.mk.injEq, Option.some.injEq, hka, false_and, false_or]
      rw [← ih hn.2 v, h, Option.some.injEq]
    | none =>
      have hnin := (lastWrite_none_iff rest k).mp h
      have hnm : (k, v) ∉ rest := fun hm => hnin (List.mem_map_of_mem (f := Prod.fst) hm)
      simp only [lastWrite, h, List.mem_cons, Prod.mk.injEq, hnm, or_false]
      by_cases hak : a = k
      · subst hak; simp [eq_comm]
      · have : ¬ k = a := fun e => hak e.symm
        simp [hak, this]

/-- `env` is the builder's vector, `ws` the `set_env` calls made so far, in call order. -/
structure EnvInv (env ws : List (Bytes × Bytes)) : Prop where
  keys : env.map Prod.fst = dedup (ws.map Prod.fst)
  vals : ∀ k, lastWrite env k = lastWrite ws k

theorem EnvInv.nodup {env ws : List (Bytes × Bytes)} (h : EnvInv env ws) :
    (env.map Prod.fst).Nodup := by rw [h.keys]; exact dedup_nodup _

theorem EnvInv.mem_iff {env ws : List (Bytes × Bytes)} (h : EnvInv env ws) (k v : Bytes) :
    (k, v) ∈ env ↔ lastWrite ws k = some v := by
  rw [← h.vals, lastWrite_some_iff_mem env h.nodup]

theorem EnvInv.setEnv {env ws : List (Bytes × Bytes)} (h : EnvInv env ws) (k v : Bytes) :
    EnvInv (setEnv env k v) (ws ++ [(k, v)]) where
  keys := by
    simp only [setEnv_keys, List.map_append, List.map_cons, List.map_nil, dedup_append_singleton,
      h.keys, mem_dedup]
  vals k' := by rw [lastWrite_setEnv, lastWrite_append_singleton, h.vals]

theorem step_env (c : Cmd) (op : Op) :
    (step c op).env = match op.envWrite with | some w => setEnv c.env w.1 w.2 | none => c.env := by
  cases op <;> rfl

theorem foldl_env (ops : List Op) (c : Cmd) (ws : List (Bytes × Bytes)) (h : EnvInv c.env ws) :
    EnvInv (ops.foldl step c).env (ws ++ envWrites ops) := by
  induction ops generalizing c ws with
  | nil => rwa [envWrites, List.filterMap_nil, List.append_nil]
  | cons op rest ih =>
    rw [List.foldl_cons, envWrites, List.filterMap_cons]
    have hstep := step_env c op
    cases hw : op.envWrite with
    | none => simp only [hw] at hstep; exact ih _ ws (hstep ▸ h)
    | some w =>
      simp only [hw] at hstep
      have := ih _ _ (hstep ▸ h.setEnv w.1 w.2)
      rwa [List.append_assoc] at this

theorem build_envInv (p : Bytes) (ops : List Op) : EnvInv (build p ops).env (envWrites ops) := by
  simpa [build] using foldl_env ops (Cmd.new p) [] ⟨rfl, fun _ => rfl⟩

/-- `andThen` is the `?` of the code. Of this and `andThen_error_iff` only the `error` half has a user
(`validate_program_first`). -/
theorem andThen_ok_iff {α β : Type} (x : Except Err α) (f : α → Except Err β) (b : β) :
    andThen x f = .ok b ↔ ∃ a, x = .ok a ∧ f a = .ok b := by
  cases x <;> simp [andThen]

theorem andThen_error_iff {α β : Type} (x : Except Err α) (f : α → Except Err β) (e : Err) :
    andThen x f = .error e ↔ x = .error e ∨ ∃ a, x = .ok a ∧ f a = .error e := by
  cases x <;> simp [andThen]

theorem check_ok_iff (p : Prop) [Decidable p] (e : Err) (u : Unit) : check p e = .ok u ↔ p := by
  unfold check; split <;> simp_all

theorem check_error_iff (p : Prop) [Decidable p] (e e' : Err) :
    check p e = .error e' ↔ ¬ p ∧ e' = e := by
  unfold check; split <;> simp_all [eq_comm]

/-- With a `u32` cap the five tests of `validate_named_text` amount to `TextOk`: the conversion of the length
cannot fail once the length is within the cap. -/
theorem validateText_eq (e : Err) (v : Bytes) (max : Nat) (ae fe : Bool) (hmax : max < u32Lim) :
    validateText e v max ae fe = if TextOk v max ae fe then .ok v.length else .error e := by
  unfold validateText
  by_cases h1 : ae = false ∧ v = []
  · rw [if_pos h1, if_neg fun h : TextOk .. => h.1 h1.1 h1.2]
  by_cases h2 : 0 ∈ v
  · rw [if_neg h1, if_pos h2, if_neg fun h : TextOk .. => h.2.1 h2]
  by_cases h3 : fe = true ∧ 61 ∈ v
  · rw [if_neg h1, if_neg h2, if_pos h3, if_neg fun h : TextOk .. => h.2.2.1 h3.1 h3.2]
  by_cases h4 : v.length ≤ max
  · rw [if_neg h1, if_neg h2, if_neg h3, if_neg (by omega), if_neg (by omega),
      if_pos ⟨fun ha hv => h1 ⟨ha, hv⟩, h2, fun hf hm => h3 ⟨hf, hm⟩, h4⟩]
  · rw [if_neg h1, if_neg h2, if_neg h3, if_neg fun h : TextOk .. => h4 h.2.2.2]
    split
    · rfl
    · rw [if_pos (by omega)]

theorem validateText_ok_iff (e : Err) (v : Bytes) (max : Nat) (ae fe : Bool) (n : Nat)
    (hmax : max < u32Lim) :
    validateText e v max ae fe = .ok n ↔ TextOk v max ae fe ∧ n = v.length := by
  rw [validateText_eq e v max ae fe hmax]
  split <;> simp [*, eq_comm]

theorem validateText_error_iff (e e' : Err) (v : Bytes) (max : Nat) (ae fe : Bool)
    (hmax : max < u32Lim) :
    validateText e v max ae fe = .error e' ↔ ¬ TextOk v max ae fe ∧ e' = e := by
  rw [validateText_eq e v max ae fe hmax]
  split <;> simp [*, eq_comm]

theorem validateCount_eq (len max : Nat) (e : Err) (hmax : max < u32Lim) :
    validateCount len max e = check (len ≤ max) e := by
  unfold validateCount check
  by_cases h : len ≤ max
  · rw [if_neg (by omega), if_neg (by omega), if_pos h]
  · rw [if_neg h]
    split
    · rfl
    · rw [if_pos (by omega)]

theorem validateCount_ok_iff (len max : Nat) (e : Err) (u : Unit) (hmax : max < u32Lim) :
    validateCount len max e = .ok u ↔ len ≤ max := by
  rw [validateCount_eq len max e hmax, check_ok_iff]

theorem validateCount_error_iff (len max : Nat) (e e' : Err) (hmax : max < u32Lim) :
    validateCount len max e = .error e' ↔ max < len ∧ e' = e := by
  rw [validateCount_eq len max e hmax, check_error_iff, Nat.not_le]

def Holds {α : Type} (x : Except Err α) (A : α → Prop) (Q : Err → Prop) : Prop :=
  match x with
  | .ok a => A a
  | .error e => Q e

section
variable {α β : Type} {x : Except Err α} {A : α → Prop} {Q Q' : Err → Prop}

theorem Holds.ok (h : Holds x A Q) {a : α} (hx : x = .ok a) : A a := by subst hx; exact h

theorem Holds.error (h : Holds x A Q) {e : Err} (hx : x = .error e) : Q e := by subst hx; exact h

theorem Holds.andThen {f : α → Except Err β} {B : β → Prop} (hx : Holds x A Q') (hq : ∀ e, Q' e → Q e)
    (hf : ∀ a, A a → Holds (f a) B Q) : Holds (andThen x f) B Q := by
  cases x with
  | error e => exact hq e hx
  | ok a => exact hf a hx

end

/-- A stage that reports its failures under one name `e`. -/
def Named (e : Err) (P : Prop) (e' : Err) : Prop := ¬ P ∧ e' = e

theorem Named.elim {e : Err} {P : Prop} {Q : Err → Prop} (h : ¬ P → Q e) : ∀ e', Named e P e' → Q e' :=
  fun _ ⟨hp, he⟩ => he ▸ h hp

theorem check_holds (p : Prop) [Decidable p] (e : Err) : Holds (check p e) (fun _ => p) (Named e p) := by
  unfold check
  by_cases h : p
  · rw [if_pos h]; exact h
  · rw [if_neg h]; exact ⟨h, rfl⟩

theorem validateText_holds (e : Err) (v : Bytes) (max : Nat) (ae fe : Bool) (hmax : max < u32Lim) :
    Holds (validateText e v max ae fe) (fun n => TextOk v max ae fe ∧ n = v.length)
      (Named e (TextOk v max ae fe)) := by
  rw [validateText_eq e v max ae fe hmax]
  by_cases h : TextOk v max ae fe
  · rw [if_pos h]; exact ⟨h, rfl⟩
  · rw [if_neg h]; exact ⟨h, rfl⟩

theorem validateCount_holds (len max : Nat) (e : Err) (hmax : max < u32Lim) :
    Holds (validateCount len max e) (fun _ => len ≤ max) (Named e (len ≤ max)) := by
  rw [validateCount_eq len max e hmax]
  exact check_holds _ e

theorem argBytes_cons (a : Bytes) (rest : List Bytes) : argBytes (a :: rest) = a.length + argBytes rest := rfl

theorem envBytes_cons (k v : Bytes) (rest : List (Bytes × Bytes)) :
    envBytes ((k, v) :: rest) = k.length + v.length + envBytes rest := rfl

/-- The running total leaves the loop as `t + argBytes args`; the loop stops at the first bad argument, or
when the total no longer fits a `u32`. -/
theorem argsLoop_holds (caps : Caps) (hcap : caps.maxArg < u32Lim) (args : List Bytes) (t : Nat) :
    Holds (argsLoop caps args t)
      (fun t' => (∀ a ∈ args, TextOk a caps.maxArg true false) ∧ t' = t + argBytes args)
      (fun e => (e = .argument ∧ ∃ a ∈ args, ¬ TextOk a caps.maxArg true false) ∨
        (e = .argBytes ∧ u32Lim ≤ t + argBytes args)) := by
  induction args generalizing t with
  | nil => exact ⟨nofun, rfl⟩
  | cons a rest ih =>
    rw [argsLoop]
    refine (validateText_holds .argument a _ true false hcap).andThen
      (Named.elim fun hb => Or.inl ⟨rfl, a, List.mem_cons_self, hb⟩) ?_
    rintro _ ⟨hok, rfl⟩
    rw [argBytes_cons, ← Nat.add_assoc]
    by_cases hov : u32Lim ≤ t + a.length
    · rw [if_pos hov]
      exact Or.inr ⟨rfl, Nat.le_trans hov (Nat.le_add_right _ _)⟩
    · rw [if_neg hov]
      have h := ih (t + a.length)
      revert h
      cases argsLoop caps rest (t + a.length) with
      | ok t' => exact fun ⟨h₁, h₂⟩ => ⟨List.forall_mem_cons.mpr ⟨hok, h₁⟩, h₂⟩
      | error e =>
        exact Or.imp (fun ⟨he, b, hb, hbad⟩ => ⟨he, b, List.mem_cons_of_mem _ hb, hbad⟩) id

theorem envLoop_holds (caps : Caps) (hk : caps.maxEnvKey < u32Lim) (hv : caps.maxEnvValue < u32Lim)
    (env : List (Bytes × Bytes)) (t : Nat) :
    Holds (envLoop caps env t)
      (fun t' => (∀ p ∈ env, TextOk p.1 caps.maxEnvKey false true ∧ TextOk p.2 caps.maxEnvValue true false) ∧
        t' = t + envBytes env)
      (fun e => (e = .envKey ∧ ∃ p ∈ env, ¬ TextOk p.1 caps.maxEnvKey false true) ∨
        (e = .envValue ∧ ∃ p ∈ env, ¬ TextOk p.2 caps.maxEnvValue true false) ∨
        (e = .envBytes ∧ u32Lim ≤ t + envBytes env)) := by
  induction env generalizing t with
  | nil => exact ⟨nofun, rfl⟩
  | cons p rest ih =>
    obtain ⟨k, v⟩ := p
    rw [envLoop]
    refine (validateText_holds .envKey k _ false true hk).andThen
      (Named.elim fun hb => Or.inl ⟨rfl, (k, v), List.mem_cons_self, hb⟩) ?_
    rintro _ ⟨hkok, rfl⟩
    refine (validateText_holds .envValue v _ true false hv).andThen
      (Named.elim fun hb => Or.inr (Or.inl ⟨rfl, (k, v), List.mem_cons_self, hb⟩)) ?_
    rintro _ ⟨hvok, rfl⟩
    rw [envBytes_cons, ← Nat.add_assoc, ← Nat.add_assoc]
    by_cases hov : u32Lim ≤ t + k.length + v.length
    · rw [if_pos hov]
      exact Or.inr (Or.inr ⟨rfl, Nat.le_trans hov (Nat.le_add_right _ _)⟩)
    · rw [if_neg hov]
      have h := ih (t + k.length + v.length)
      revert h
      cases envLoop caps rest (t + k.length + v.length) with
      | ok t' => exact fun ⟨h₁, h₂⟩ => ⟨List.forall_mem_cons.mpr ⟨⟨hkok, hvok⟩, h₁⟩, h₂⟩
      | error e =>
        exact Or.imp (fun ⟨he, q, hq, hbad⟩ => ⟨he, q, List.mem_cons_of_mem _ hq, hbad⟩)
          (Or.imp (fun ⟨he, q, hq, hbad⟩ => ⟨he, q, List.mem_cons_of_mem _ hq, hbad⟩) id)

theorem validateCwd_holds (cwd : Option Bytes) (caps : Caps) (h : caps.maxCwd < u32Lim) :
    Holds (validateCwd cwd caps) (fun _ => ∀ d, cwd = some d → TextOk d caps.maxCwd false false)
      (fun e => e = .cwd ∧ ∃ d, cwd = some d ∧ ¬ TextOk d caps.maxCwd false false) := by
  cases cwd with
  | none => exact nofun
  | some d =>
    exact (validateText_holds .cwd d _ false false h).andThen
      (Named.elim fun hb => ⟨rfl, d, rfl, hb⟩) fun _ hok d' hd => Option.some.inj hd ▸ hok.1

theorem validateStdin_holds (s : StdinPol) (caps : Caps) (h : caps.maxStdin < u32Lim) :
    Holds (validateStdin s caps) (fun _ => ∀ t, s = .text t → TextOk t caps.maxStdin true false)
      (fun e => e = .stdinText ∧ ∃ t, s = .text t ∧ ¬ TextOk t caps.maxStdin true false) := by
  cases s with
  | inherit => exact nofun
  | null => exact nofun
  | text t =>
    exact (validateText_holds .stdinText t _ true false h).andThen
      (Named.elim fun hb => ⟨rfl, t, rfl, hb⟩) fun _ hok t' ht => StdinPol.text.inj ht ▸ hok.1

/-! `TextOk` with the flags of the four kinds of text `validate` looks at. -/

theorem textOk_strict (v : Bytes) (m : Nat) : TextOk v m false false ↔ v ≠ [] ∧ 0 ∉ v ∧ v.length ≤ m := by
  simp [TextOk]

theorem textOk_lax (v : Bytes) (m : Nat) : TextOk v m true false ↔ 0 ∉ v ∧ v.length ≤ m := by
  simp [TextOk]

theorem textOk_key (v : Bytes) (m : Nat) :
    TextOk v m false true ↔ v ≠ [] ∧ 0 ∉ v ∧ 61 ∉ v ∧ v.length ≤ m := by
  simp [TextOk]

theorem Violates.not_valid {e : Err} {c : Cmd} {caps : Caps} (h : Violates e c caps) (hv : Valid c caps) :
    False := by
  cases e with
  | program => exact h ((textOk_strict ..).mpr hv.program)
  | argCount => exact Nat.not_le.mpr h hv.argCount
  | envCount => exact Nat.not_le.mpr h hv.envCount
  | argument => obtain ⟨a, ha, hb⟩ := h; exact hb ((textOk_lax ..).mpr (hv.args a ha))
  | argBytes => exact Nat.not_le.mpr h hv.argTotal
  | cwd => obtain ⟨d, hd, hb⟩ := h; exact hb ((textOk_strict ..).mpr (hv.cwd d hd))
  | envKey => obtain ⟨p, hp, hb⟩ := h; exact hb ((textOk_key ..).mpr (hv.envKeys p hp))
  | envValue => obtain ⟨p, hp, hb⟩ := h; exact hb ((textOk_lax ..).mpr (hv.envValues p hp))
  | envBytes => exact Nat.not_le.mpr h hv.envTotal
  | stdinText => obtain ⟨t, ht, hb⟩ := h; exact hb ((textOk_lax ..).mpr (hv.stdin t ht))
  | timeoutZero => exact Nat.ne_of_gt hv.timeoutPos h
  | timeoutLimit => exact Nat.not_le.mpr h hv.timeoutMax

theorem validate_holds (c : Cmd) (caps : Caps) (hu : caps.IsU32) :
    Holds (validate c caps) (fun s => Valid c caps ∧ s = specOf c caps) (fun e => Violates e c caps) := by
  obtain ⟨hProgram, hCwd, hArgs, hArg, hTotalArg, hEnvPairs, hEnvKey, hEnvValue, hTotalEnv, hStdin, _⟩ := hu
  unfold validate
  refine (validateText_holds .program _ _ false false hProgram).andThen (Named.elim id) fun _ hp => ?_
  refine (validateCount_holds _ _ .argCount hArgs).andThen (Named.elim Nat.lt_of_not_le) fun _ hac => ?_
  refine (validateCount_holds _ _ .envCount hEnvPairs).andThen (Named.elim Nat.lt_of_not_le) fun _ hec => ?_
  refine (argsLoop_holds caps hArg c.args 0).andThen ?_ ?_
  · rintro _ (⟨rfl, hb⟩ | ⟨rfl, hb⟩)
    · exact hb
    · exact Nat.lt_of_lt_of_le hTotalArg (by rwa [Nat.zero_add] at hb)
  rintro _ ⟨hargs, rfl⟩
  rw [Nat.zero_add]
  refine (check_holds _ .argBytes).andThen (Named.elim Nat.lt_of_not_le) fun _ hat => ?_
  refine (validateCwd_holds c.cwd caps hCwd).andThen (fun _ ⟨he, hb⟩ => he ▸ hb) fun _ hcwd => ?_
  refine (envLoop_holds caps hEnvKey hEnvValue c.env 0).andThen ?_ ?_
  · rintro _ (⟨rfl, hb⟩ | ⟨rfl, hb⟩ | ⟨rfl, hb⟩)
    · exact hb
    · exact hb
    · exact Nat.lt_of_lt_of_le hTotalEnv (by rwa [Nat.zero_add] at hb)
  rintro _ ⟨henv, rfl⟩
  rw [Nat.zero_add]
  refine (check_holds _ .envBytes).andThen (Named.elim Nat.lt_of_not_le) fun _ het => ?_
  refine (validateStdin_holds c.stdin caps hStdin).andThen (fun _ ⟨he, hb⟩ => he ▸ hb) fun _ hstdin => ?_
  refine (check_holds _ .timeoutZero).andThen (Named.elim Classical.not_not.mp) fun _ htz => ?_
  refine (check_holds _ .timeoutLimit).andThen (Named.elim Nat.lt_of_not_le) fun _ htm => ?_
  exact ⟨⟨(textOk_strict ..).mp hp.1, hac, hec, fun a ha => (textOk_lax ..).mp (hargs a ha), hat,
    fun d hd => (textOk_strict ..).mp (hcwd d hd), fun p hp => (textOk_key ..).mp (henv p hp).1,
    fun p hp => (textOk_lax ..).mp (henv p hp).2, het, fun t ht => (textOk_lax ..).mp (hstdin t ht),
    Nat.pos_of_ne_zero htz, htm⟩, rfl⟩

end NaijaVerif.Proc
