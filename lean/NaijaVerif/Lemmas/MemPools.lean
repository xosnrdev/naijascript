import NaijaVerif.Lemmas.MemCount
import NaijaVerif.Lemmas.ListFacts
import NaijaVerif.Props.C12
/-
The components of `Safe` that do not need the whole state: `FrameBelow` / `TempsOK` / `NoFrame` (which frame cells
a list of handles or the temporaries stack may point to) and `PoolOK` (the table of live slots agrees with the
pool models of C12), kept by allocation and release. `PoolOK.alloc` / `PoolOK.free` rest on the theorems of C12
itself, `Pool.alloc_spec` / `Pool.dealloc_spec`: hence the import of a `Props` module.
-/
namespace NaijaVerif.Mem
open NaijaVerif NaijaVerif.Pool

def FrameBelow (t : Nat) (hs : List Handle) : Prop := ∀ h ∈ hs, ∀ k, h.region = .frame k → k < t

def NoFrame (hs : List Handle) : Prop := ∀ h ∈ hs, h.region.isFrame = false

/-- The values on the stack point below `t`, the frame's watermark, and passing a mark `m` lowers the bound to `m`
for everything under it: a reset cuts the frame back to the innermost mark, and what stays on the stack is what
lies under that mark. -/
def TempsOK : Nat → List TE → Prop
  | _, [] => True
  | t, .val v :: r => FrameBelow t v.handles ∧ TempsOK t r
  | t, .mark m _ :: r => m ≤ t ∧ TempsOK m r

/-- An entry `(c, i, x)` of `St.slots`: slot `i` of size class `c` is live and holds the allocation with cid `x`
(`St.valid`). The key forgets `x`: a slot has one entry (`PoolOK.keys`). -/
def slotKey (t : Nat × Nat × Nat) : Nat × Nat := (t.1, t.2.1)

/-- The table of live slots agrees with the pool models of C12 (`Model/Pool.lean`): slot `i` is live in the pool of
class `c` exactly if the table has an entry for it, whatever the cid. -/
structure PoolOK (pools : List Pool) (slots : List (Nat × Nat × Nat)) : Prop where
  inv : ∀ c p, pools[c]? = some p → p.Inv ∧ ∀ i, i ∈ p.live ↔ ∃ x, (c, i, x) ∈ slots
  keys : (slots.map slotKey).Nodup

theorem FrameBelow.mono {t t' : Nat} {hs : List Handle} (h : FrameBelow t hs) (ht : t ≤ t') :
    FrameBelow t' hs := fun a ha k hk => Nat.lt_of_lt_of_le (h a ha k hk) ht

theorem FrameBelow.append {t : Nat} {a b : List Handle} (ha : FrameBelow t a) (hb : FrameBelow t b) :
    FrameBelow t (a ++ b) := fun x hx => (List.mem_append.mp hx).elim (ha x) (hb x)

theorem TempsOK.mono : ∀ {ts : List TE} {t t' : Nat}, TempsOK t ts → t ≤ t' → TempsOK t' ts
  | [], _, _, _, _ => trivial
  | .val _ :: _, _, _, h, ht => ⟨h.1.mono ht, TempsOK.mono h.2 ht⟩
  | .mark _ _ :: _, _, _, h, ht => ⟨Nat.le_trans h.1 ht, h.2⟩

theorem TempsOK.below : ∀ {ts : List TE} {t : Nat}, TempsOK t ts → FrameBelow t (tempsH ts)
  | [], _, _ => fun _ ha => nomatch ha
  | .val _ :: _, _, h => h.1.append (TempsOK.below h.2)
  | .mark _ _ :: _, _, h => (TempsOK.below h.2).mono h.1

theorem NoFrame.nil : NoFrame [] := fun _ ha => nomatch ha

theorem NoFrame.single {a : Handle} (h : a.region.isFrame = false) : NoFrame [a] := by
  intro x hx; simp only [List.mem_singleton] at hx; subst hx; exact h

theorem NoFrame.append {a b : List Handle} (ha : NoFrame a) (hb : NoFrame b) : NoFrame (a ++ b) :=
  fun x hx => (List.mem_append.mp hx).elim (ha x) (hb x)

theorem NoFrame.sub {a b : List Handle} (hb : NoFrame b) (h : Sub a b) : NoFrame a :=
  fun x hx => hb x (h.mem hx)

theorem NoFrame.below {a : List Handle} (h : NoFrame a) (t : Nat) : FrameBelow t a := by
  intro x hx k hk
  have := h x hx
  rw [hk] at this
  cases this

theorem nodup_of_map_key {l : List (Nat × Nat × Nat)} (h : (l.map slotKey).Nodup) : l.Nodup :=
  List.Pairwise.of_map slotKey (fun _ _ hne heq => hne (heq ▸ rfl)) h

theorem PoolOK.set {pools : List Pool} {slots slots' : List (Nat × Nat × Nat)} (h : PoolOK pools slots)
    {c : Nat} {p p' : Pool} (hp : pools[c]? = some p) (hinv : p'.Inv)
    (hlive : ∀ i, i ∈ p'.live ↔ ∃ x, (c, i, x) ∈ slots')
    (hother : ∀ c' i x, c' ≠ c → ((c', i, x) ∈ slots' ↔ (c', i, x) ∈ slots))
    (hkeys : (slots'.map slotKey).Nodup) : PoolOK (pools.set c p') slots' := by
  refine ⟨fun c' q hq => ?_, hkeys⟩
  rw [List.getElem?_set] at hq
  split at hq
  · rename_i hcc
    subst hcc
    rw [if_pos (List.getElem?_eq_some_iff.mp hp).1] at hq
    cases hq
    exact ⟨hinv, hlive⟩
  · rename_i hcc
    obtain ⟨hq1, hq2⟩ := h.inv c' q hq
    refine ⟨hq1, fun j => (hq2 j).trans ?_⟩
    exact exists_congr fun x => (hother c' j x (Ne.symm hcc)).symm

theorem PoolOK.alloc {pools : List Pool} {slots : List (Nat × Nat × Nat)} (h : PoolOK pools slots)
    {c i x : Nat} {p p' : Pool} (hp : pools[c]? = some p) (ha : p.alloc = some (i, p')) :
    PoolOK (pools.set c p') ((c, i, x) :: slots) := by
  obtain ⟨hinv, hlive⟩ := h.inv c p hp
  obtain ⟨hinv', hnl, hlive', -⟩ := Pool.alloc_spec p p' i hinv ha
  refine h.set hp hinv' (fun j => ?_) (fun c' j y hne => ?_) ?_
  · rw [hlive', List.mem_cons, hlive j]
    constructor
    · rintro (rfl | ⟨y, hy⟩)
      · exact ⟨x, List.mem_cons_self⟩
      · exact ⟨y, List.mem_cons_of_mem _ hy⟩
    · rintro ⟨y, hy⟩
      rcases List.mem_cons.mp hy with heq | hy
      · cases heq; exact .inl rfl
      · exact .inr ⟨y, hy⟩
  · refine ⟨fun hy => ?_, List.mem_cons_of_mem _⟩
    rcases List.mem_cons.mp hy with heq | hy
    · cases heq; exact absurd rfl hne
    · exact hy
  · refine List.nodup_cons.mpr ⟨fun hk => ?_, h.keys⟩
    obtain ⟨⟨c', i', y⟩, ht, hk⟩ := List.mem_map.mp hk
    cases hk
    exact hnl ((hlive _).mpr ⟨y, ht⟩)

theorem PoolOK.free {pools : List Pool} {slots : List (Nat × Nat × Nat)} (h : PoolOK pools slots)
    {c i x : Nat} {p : Pool} (hp : pools[c]? = some p) (hm : (c, i, x) ∈ slots) :
    i ∈ p.live ∧ PoolOK (pools.set c (p.dealloc i)) (slots.erase (c, i, x)) := by
  obtain ⟨hinv, hlive⟩ := h.inv c p hp
  have hil : i ∈ p.live := (hlive i).mpr ⟨x, hm⟩
  obtain ⟨hinv', hni, hother, -⟩ := Pool.dealloc_spec p i hinv hil
  have herase : ∀ t, t ∈ slots.erase (c, i, x) ↔ t ≠ (c, i, x) ∧ t ∈ slots :=
    fun t => (nodup_of_map_key h.keys).mem_erase_iff
  refine ⟨hil, h.set hp hinv' (fun j => ?_) (fun c' j y hne => ?_) ?_⟩
  · by_cases hji : j = i
    · subst hji
      refine ⟨fun hj => absurd hj hni, fun ⟨y, hy⟩ => ?_⟩
      have hy' := (herase _).mp hy
      exact absurd (eq_of_nodup_map h.keys _ hy'.2 _ hm rfl) hy'.1
    · rw [hother j hji, hlive j]
      refine exists_congr fun y => ((herase _).trans (and_iff_right ?_)).symm
      intro heq; cases heq; exact hji rfl
  · refine (herase _).trans (and_iff_right ?_)
    intro heq; cases heq; exact hne rfl
  · exact List.Nodup.sublist (List.Sublist.map _ List.erase_sublist) h.keys

end NaijaVerif.Mem
