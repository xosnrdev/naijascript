/-
Validity of what the renderer writes (slices: `valid_slice` in `Lemmas/Render.lean`); the width of a
tab-expanded text is `visual_col`.
-/
import NaijaVerif.Lemmas.Render

namespace NaijaVerif.Render
open NaijaVerif NaijaVerif.Utf8
open NaijaVerif.Bytes (isCont isBoundary)

theorem valid_replicate (n b : Nat) (hb : b < 128) : validUtf8 (List.replicate n b) = true :=
  valid_ascii _ (fun x hx => by rw [(List.mem_replicate.mp hx).2]; exact hb)

theorem valid_bold : validUtf8 bold = true := by decide
theorem valid_reset : validUtf8 reset = true := by decide
theorem valid_color (s : Sev) : validUtf8 (color s) = true := by cases s <;> decide
theorem valid_sevLabel (s : Sev) : validUtf8 (sevLabel s) = true := by cases s <;> decide

theorem digitsGo_ascii : ∀ (fuel n : Nat) (acc : Bytes), (∀ b ∈ acc, b < 128) →
    ∀ b ∈ digitsGo fuel n acc, b < 128 := by
  intro fuel
  induction fuel with
  | zero => intro n acc h; simpa [digitsGo] using h
  | succ f ih =>
    intro n acc h
    unfold digitsGo
    split
    · intro b hb
      rcases List.mem_cons.mp hb with rfl | hb
      · omega
      · exact h b hb
    · apply ih
      intro b hb
      rcases List.mem_cons.mp hb with rfl | hb
      · omega
      · exact h b hb

theorem valid_natStr (n : Nat) : validUtf8 (natStr n) = true :=
  valid_ascii _ (digitsGo_ascii _ _ [] (by simp))

theorem valid_padLeft (w : Nat) {s : Bytes} (h : validUtf8 s = true) : validUtf8 (padLeft w s) = true :=
  valid_append _ (valid_replicate _ _ (by decide)) _ h

/-- The part already copied (`pre`) is carried along so that the induction may stand in the middle of a
character; at a tab — not a continuation byte — the text may be cut. -/
theorem valid_expandTabsGo_from : ∀ (t pre : Bytes) (c : Nat), validUtf8 (pre ++ t) = true →
    validUtf8 (pre ++ expandTabsGo c t) = true
  | [], _, _, h => h
  | b :: r, pre, c, h => by
    rw [expandTabsGo]
    by_cases hb : b = tab
    · have hnc : isCont b = false := by rw [hb]; decide
      rw [if_neg (by rw [hnc]; decide), if_pos hb]
      obtain ⟨hpre, hr⟩ := valid_split _ h pre (b :: r) rfl (fun _ _ e => by cases e; exact hnc)
      have hr' := valid_expandTabsGo_from r [] (c + (tabWidth - c % tabWidth))
        (valid_tail_ascii hr (by rw [hb]; decide))
      exact valid_append _ hpre _ (valid_append _ (valid_replicate _ _ (by decide)) _ hr')
    · rw [List.append_cons] at h
      split <;> (rw [List.append_cons]; exact valid_expandTabsGo_from r _ _ h)

theorem valid_expandTabs {t : Bytes} (h : validUtf8 t = true) : validUtf8 (expandTabs t) = true :=
  valid_expandTabsGo_from t [] 0 h

theorem charCount_expandTabsGo : ∀ (t : Bytes) (c : Nat),
    c + charCount (expandTabsGo c t) = visualColGo c t := by
  intro t
  induction t with
  | nil => intro c; simp [expandTabsGo, visualColGo, charCount]
  | cons b r ih =>
    intro c
    rw [expandTabsGo, visualColGo]
    by_cases h1 : isCont b = true
    · simp only [h1, if_true, charCount]; exact ih c
    · simp only [h1, Bool.false_eq_true, if_false]
      by_cases h2 : b = tab
      · simp only [h2, if_true]
        have hrep : ∀ (n : Nat) (l : Bytes), charCount (List.replicate n space ++ l) = n + charCount l := by
          intro n
          induction n with
          | zero => intro l; simp
          | succ n ihn =>
            intro l
            rw [List.replicate_succ, List.cons_append, charCount]
            have : isCont space = false := by decide
            simp only [this, Bool.false_eq_true, if_false, ihn]; omega
        rw [hrep, ← ih]; omega
      · simp only [h2, if_false, charCount, h1, Bool.false_eq_true]
        rw [← ih]; omega

theorem charCount_expandTabs (t : Bytes) : charCount (expandTabs t) = visualCol t := by
  have := charCount_expandTabsGo t 0
  simp only [Nat.zero_add] at this
  exact this

end NaijaVerif.Render
