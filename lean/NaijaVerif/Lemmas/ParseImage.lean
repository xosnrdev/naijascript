import NaijaVerif.Lemmas.ParseRoundTrip
/-
The image of the expression parser lies in the well-formedness predicate `WF` of the round trip, up
to the decidable side condition on string templates (`StrsOk`: the parts scan back from their rendering,
`strOk`).  The two halves are here: every expression the parser returns has no binding annotations
(`expr_noAnn`), and `WF (eraseExpr e) ↔ NoAnn e ∧ StrsOk e` (`wf_eraseExpr`); `C01Parse.parsed_is_wellformed`
puts them together.
-/
namespace NaijaVerif.Parse
open NaijaVerif

mutual
  /-- No binding annotations (the parser leaves them to the resolver). -/
  def NoAnn : Expr → Prop
    | .var _ b _ => b = none
    | .call c args fn _ => fn = none ∧ NoAnn c ∧ NoAnns args
    | .unary _ e _ => NoAnn e
    | .binary _ l r _ => NoAnn l ∧ NoAnn r
    | .member o _ _ _ => NoAnn o
    | .index a i _ _ => NoAnn a ∧ NoAnn i
    | .array es _ => NoAnns es
    | _ => True
  def NoAnns : List Expr → Prop
    | [] => True
    | e :: es => NoAnn e ∧ NoAnns es
end

mutual
  def StrsOk : Expr → Prop
    | .str parts _ => strOk parts
    | .call c args _ _ => StrsOk c ∧ StrsOks args
    | .unary _ e _ => StrsOk e
    | .binary _ l r _ => StrsOk l ∧ StrsOk r
    | .member o _ _ _ => StrsOk o
    | .index a i _ _ => StrsOk a ∧ StrsOk i
    | .array es _ => StrsOks es
    | _ => True
  def StrsOks : List Expr → Prop
    | [] => True
    | e :: es => StrsOk e ∧ StrsOks es
end

theorem wf_eraseExpr (e : Expr) : WF (eraseExpr e) ↔ NoAnn e ∧ StrsOk e := by
  induction e using Expr.rec (motive_2 := fun es => WFs (eraseExprs es) ↔ NoAnns es ∧ StrsOks es) with
  -- both sides are the same conjunction up to the order of the conjuncts (`and_left_comm`)
  | index a i s1 s2 iha ihi | binary op a i s iha ihi =>
    simp only [eraseExpr, WF, NoAnn, StrsOk, true_and, iha, ihi, and_assoc, and_left_comm]
  | call c args fn s ihc iha =>
    simp only [eraseExpr, WF, NoAnn, StrsOk, true_and, ihc, iha, and_assoc, and_left_comm]
  | array es s ih => simp only [eraseExpr, WF, NoAnn, StrsOk, true_and, ih]
  | unary op e s ih | member e f s1 s2 ih => simp only [eraseExpr, WF, NoAnn, StrsOk, true_and, ih]
  | str _ _ | num _ _ | var _ _ _ | bool _ _ | null _ =>
    simp only [eraseExpr, WF, NoAnn, StrsOk, true_and, and_true, and_self]
  | nil => simp only [eraseExprs, WFs, NoAnns, StrsOks, and_self]
  | cons e es ihe ihes =>
    simp only [eraseExprs, WFs, NoAnns, StrsOks, ihe, ihes, and_assoc, and_left_comm]

theorem atomOf_noAnn {t : SpTok} {e : Expr} (h : atomOf t = some e) : NoAnn e := by
  unfold atomOf at h
  split at h <;> simp at h <;> subst h <;> simp [NoAnn]

theorem expr_noAnn : ∀ f,
    (∀ bp st e st', parseExpr f bp st = some (e, st') → NoAnn e) ∧
    (∀ bp l st e st', parseCont f bp l st = some (e, st') → NoAnn l → NoAnn e) ∧
    (∀ c st es st', parseElems f c st = some (es, st') → NoAnns es) := by
  intro f
  induction f with
  | zero => simp [parseExpr, parseCont, parseElems]
  | succ f ih =>
    obtain ⟨ihe, ihc, ihl⟩ := ih
    have iha : ∀ {c st es st'},
        (if st.cur.tok == c then some ([], st) else parseElems f c st) = some (es, st') → NoAnns es := by
      intro c st es st' h
      by_cases hc : (st.cur.tok == c) = true
      · rw [if_pos hc] at h; cases h; trivial
      · rw [if_neg hc] at h; exact ihl _ _ _ _ h
    -- `fun_cases` abstracts the fuel; `hf` keeps it tied to the `f` of the induction hypotheses
    generalize hf : f + 1 = f'
    refine ⟨fun bp st e st' => ?_, fun bp l st e st' => ?_, fun c st es st' => ?_⟩
    · fun_cases parseExpr f' bp st with
      -- the arms in the order of `parse_expression`: atom 2, prefix operator 4, `( e )` 6, `[ es ]` 8, recovery 9
      | case1 | case3 | case5 | case7 => nofun
      | case2 => cases hf; exact fun h => ihc _ _ _ _ _ h (atomOf_noAnn ‹_›)
      | case4 => cases hf; exact fun h => ihc _ _ _ _ _ h (by simp only [NoAnn]; exact ihe _ _ _ _ ‹_›)
      | case6 => cases hf; exact fun h => ihc _ _ _ _ _ h (ihe _ _ _ _ ‹_›)
      | case8 => cases hf; exact fun h => ihc _ _ _ _ _ h (by simp only [NoAnn]; exact iha ‹_›)
      | case9 => cases hf; exact fun h => ihc _ _ _ _ _ h (by simp only [NoAnn])
    · fun_cases parseCont f' bp l st with
      -- `.field` 2, `( args )` 4, `[ ix ]` 6, the loop stops 7 8, binary operator 10
      | case1 | case3 | case5 | case9 => nofun
      | case2 => cases hf; exact fun h hl => ihc _ _ _ _ _ h (by simp only [NoAnn]; exact hl)
      | case4 => cases hf; exact fun h hl => ihc _ _ _ _ _ h (by simp only [NoAnn]; exact ⟨trivial, hl, iha ‹_›⟩)
      | case6 | case10 =>
        cases hf; exact fun h hl => ihc _ _ _ _ _ h (by simp only [NoAnn]; exact ⟨hl, ihe _ _ _ _ ‹_›⟩)
      | case7 | case8 => rintro ⟨⟩ hl; exact hl
    · fun_cases parseElems f' c st with
      -- trailing comma 3, comma and more elements 5, last element 6
      | case1 | case2 | case4 => nofun
      | case3 _ _ _ _ _ _ _ st2 => cases hf; subst st2; rintro ⟨⟩; exact ⟨ihe _ _ _ _ ‹_›, trivial⟩
      | case6 => cases hf; rintro ⟨⟩; exact ⟨ihe _ _ _ _ ‹_›, trivial⟩
      | case5 => cases hf; rintro ⟨⟩; exact ⟨ihe _ _ _ _ ‹_›, ihl _ _ _ _ ‹_›⟩

end NaijaVerif.Parse
