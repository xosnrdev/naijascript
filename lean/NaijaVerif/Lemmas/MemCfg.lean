import NaijaVerif.Model.Mem
/-
The operations of `Model/Mem.lean` whose whole body is a choice on the configuration, specialised to the two
configurations the theorems of C02 are about (all by `rfl`): their lemmas never look at a flag. Where a flag is
tested inside a longer body (`pushMark`, `resetToMark`, `copyRead`, `relocate`, `callE`) the proof discharges the
test where it stands, with `Cfg.fixed_reclaim` or by evaluating the flag.
-/
namespace NaijaVerif.Mem

theorem Cfg.fixed_reclaim : Cfg.fixed.reclaim = true := rfl

theorem promoteIf_fixed (v : MVal) : promoteIf Cfg.fixed v = promote v := rfl

theorem bindArg_fixed (v : MVal) : bindArg Cfg.fixed v = promote v := rfl

theorem freeIf_fixed (v : MVal) : freeIf Cfg.fixed v = freeTop v := rfl

theorem popClean_fixed : popClean Cfg.fixed = popCleanChecked := rfl

theorem popClean_noReclaim : popClean Cfg.noReclaim = popT := rfl

theorem overwrite_fixed (id : Nat) (v : MVal) :
    overwrite Cfg.fixed id v = (do let v' ← promote v; let old ← swapVar id v'; freeTop old) := rfl

theorem overwrite_noReclaim (id : Nat) (v : MVal) :
    overwrite Cfg.noReclaim id v = (do let _ ← swapVar id v; pure ()) := rfl

end NaijaVerif.Mem
