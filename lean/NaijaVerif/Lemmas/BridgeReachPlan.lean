import NaijaVerif.Lemmas.AnalysisCheck
import NaijaVerif.Lemmas.BridgeReach
import NaijaVerif.Lemmas.AnalysisLiveModel
/-
Bridge resolver → evaluator: the plan of the analysis model satisfies `Bridge.KeptReach K` for
`K := (mkCtx root facts).bodyReachable` (diagnostics.rs `compute_function_reachability`) — the hypothesis on the
plan of `Props/C06Accepted.lean`.
  (i)  `a.plan.fns` are the ids of `unusedFns`, outside `bodyReachable` by definition;
  (ii) a statement of the top-level code or of a body-reachable function is recorded unreachable — then in
       `a.plan.stmts`, and the evaluator skips it — or reachable, and then the calls of its own expressions are
       among its `directCallees` (`baseB`), which lie in `bodyReachable` because the set is closed.
Hypotheses: decidable conditions on the annotated program and its facts only (no plan), evaluated by the `plan`
driver: `numBlock root`; `C03.ownOkB root facts` (`stmtEffects[i].function` is the enclosing function and every user
call of the statement's own expressions is in `stmtEffects[i].directCallees`); `(mkCtx root facts).brClosed` (the
iteration of `bodyReachable` has converged).
-/
namespace NaijaVerif.Bridge
open NaijaVerif NaijaVerif.Analysis NaijaVerif.C03

/-- The plan the analyses hand to the runtime (`Pipeline.frontEnd`: `planOf`), as the `Option` a `RunCfg` holds; `some` of
`PipelinePrune.passPlan root facts` and of `C01Accept.analysisPlan root facts`, each by `rfl`. -/
def modelPlan (root : Block) (facts : Facts) : Option Eval.Plan :=
  some { stmts := (analyse root facts).plan.stmts, fns := (analyse root facts).plan.fns }

def brK (root : Block) (facts : Facts) : Nat → Bool := fun g => (mkCtx root facts).bodyReachable.contains g

theorem reach_of_eOk_walk {X D K : Nat → Bool} (h : ∀ g, X g = true → K g = true) :
    (∀ e : Expr, eOk X D e = true → reachExpr K e = true) ∧
    (∀ es : List Expr, eOkList X D es = true → reachExprs K es = true) := by
  apply Expr.walk
  case call =>
    intro c args fn _ hc _ iha he
    cases c with
    | member o fld fs ms => exact absurd rfl (hc o fld fs ms)
    | var =>
      -- `eOk` has the callee first, `reachExpr` the arguments
      obtain ⟨hf, ha⟩ := Bool.and_eq_true_iff.1 he
      refine Bool.and_eq_true_iff.2 ⟨iha ha, Bool.or_eq_true_iff.2 (Or.inr ?_)⟩
      cases fn with
      | none => rfl
      | some f => exact h f hf
    | _ => exact iha he
  case callMember => exact fun _ _ _ _ _ _ _ iho iha => band_imp iho iha
  case binary | index => exact fun _ _ _ _ ih1 ih2 => band_imp ih1 ih2
  case cons => exact fun _ _ ih1 ih2 => band_imp ih1 ih2
  case array => exact fun _ _ ih => ih
  case unary => exact fun _ _ _ ih => ih
  case member => exact fun _ _ _ _ ih => ih
  all_goals intros; rfl
/-! The two conjuncts of `reach_of_eOk_walk`; `own_step` takes the one for lists. -/

theorem reach_of_eOk {X D K : Nat → Bool} (h : ∀ g, X g = true → K g = true) : ∀ e : Expr,
    eOk X D e = true → reachExpr K e = true := (reach_of_eOk_walk h).1

theorem reach_of_eOkList {X D K : Nat → Bool} (h : ∀ g, X g = true → K g = true) : ∀ es : List Expr,
    eOkList X D es = true → reachExprs K es = true := (reach_of_eOk_walk h).2

section
variable (root : Block) (facts : Facts)

theorem modelPlan_keeps {g : Nat} (h : brK root facts g = true) :
    Eval.Plan.prunesFn (modelPlan root facts) (some g) = false := by
  cases hc : (analyse root facts).plan.fns.contains g with
  | false => simpa [modelPlan, Eval.Plan.prunesFn] using hc
  | true =>
    have hm : g ∈ (mkCtx root facts).unusedFns.map (·.2) := by
      have : g ∈ (analyse root facts).plan.fns := by simpa using hc
      exact this
    have := unused_not_reachable _ hm
    simp only [brK] at h
    rw [this] at h; cases h

theorem modelPlan_skips {i : Nat} (h : (i, false) ∈ tbl root) :
    Eval.Plan.prunesStmt (modelPlan root facts) (some i) = true := by
  have hm : i ∈ (analyse root facts).plan.stmts := by
    show i ∈ uni (unreachable root) _
    exact mem_uni_iff.2 (Or.inl (mem_unreachable.2 h))
  simpa [modelPlan, Eval.Plan.prunesStmt] using hm

/-- The setting of `ownOkB`: no plan, nothing skipped.  So the second argument of `sokB`, the oracle of the store rule for
a skipped store, is never consulted; it is `fun _ _ => false` throughout, as in `ownOkB`. -/
abbrev S0 : Setup := setupOf root facts none (fun _ => false) (fun _ => false)

/-- (ii) for one statement `s` with id `i` of a body-reachable `f`, own expressions `es`; `hr` carries what is
known of its nested blocks. -/
theorem own_step (hcl : BRClosed root facts) {f i : Nat} {live : Bool} {es : List Expr} {s : Stmt}
    (hK : brK root facts f = true) (hT : (i, live) ∈ tbl root) (hb : (S0 root facts).baseB f i es = true)
    (hs : stmtSkipped (modelPlan root facts) s = Eval.Plan.prunesStmt (modelPlan root facts) (some i))
    (hr : reachExprs (brK root facts) es = true → reachStmt (brK root facts) (modelPlan root facts) s = true) :
    (stmtSkipped (modelPlan root facts) s || reachStmt (brK root facts) (modelPlan root facts) s) = true := by
  cases live with
  | false => rw [hs, modelPlan_skips root facts hT]; rfl
  | true =>
    simp only [Setup.baseB, Bool.and_eq_true, beq_iff_eq] at hb
    have hf : (mkCtx root facts).fnOf i = f := hb.1
    have hc := hcl i hT (by rw [hf]; exact hK)
    rw [hr (reach_of_eOkList (X := fun g => ((mkCtx root facts).callees i).contains g)
      (fun g hg => hc g (by simpa using hg)) es hb.2)]
    exact Bool.or_true _

theorem reach_walk (hcl : BRClosed root facts) :
    (∀ (f : Nat) (s : Stmt), sokB (S0 root facts) (fun _ _ => false) f s = true → ∀ (live : Bool),
      brK root facts f = true → ConsStmt (tbl root) live s → numStmt s = true →
      (stmtSkipped (modelPlan root facts) s || reachStmt (brK root facts) (modelPlan root facts) s) = true) ∧
    (∀ (f : Nat) (ss : List Stmt), sokListB (S0 root facts) (fun _ _ => false) f ss = true → ∀ (live : Bool),
      brK root facts f = true → ConsStmts (tbl root) live ss → numStmts ss = true →
      reachStmts (brK root facts) (modelPlan root facts) ss = true) := by
  refine sokB.mutual_induct _ _ ?assign ?assignExisting ?assignIndex ?ifS ?ifElse ?loop ?block ?fnDef ?fnDecl ?retSome
    ?retNone ?brk ?cont ?expr ?fnDefNoId ?_ ?_ ?_ ?_ ?_ ?_ ?_ ?_ ?retNoId ?_ ?_ ?_ ?nil ?cons
  case assign | assignExisting | assignIndex | expr | retSome =>
    intros
    rename_i i _ hs live hK hc hn
    simp only [sokB, Bool.and_eq_true] at hs
    exact own_step root facts hcl hK (hc i rfl) hs.1 rfl fun h => by simpa [reachStmt, reachExprs] using h
  case retNone | brk | cont => intros; simp [reachStmt]
  case ifS =>
    intro f c t _ i _ ih hs live hK hc hn
    simp only [sokB, Bool.and_eq_true] at hs
    simp only [numStmt, numBlock, numOptBlock, Bool.and_eq_true, Bool.and_true] at hn
    have ih := ih hs.2 live hK hc.2 hn.2
    exact own_step root facts hcl hK (hc.1 i rfl) hs.1.1 rfl fun h => by
      simpa [reachStmt, reachBlock, reachOptBlock, reachExprs, ih] using h
  case ifElse =>
    intro f c t _ e _ i _ ih1 ih2 hs live hK hc hn
    simp only [sokB, Bool.and_eq_true] at hs
    simp only [numStmt, numBlock, numOptBlock, Bool.and_eq_true] at hn
    have ih1 := ih1 hs.1.2 live hK hc.2.1 hn.1.2
    have ih2 := ih2 hs.2 live hK hc.2.2 hn.2
    exact own_step root facts hcl hK (hc.1 i rfl) hs.1.1.1 rfl fun h => by
      simpa [reachStmt, reachBlock, reachOptBlock, reachExprs, ih1, ih2] using h
  case loop =>
    intro f c b _ i _ ih hs live hK hc hn
    simp only [sokB, Bool.and_eq_true] at hs
    simp only [numStmt, numBlock, Bool.and_eq_true] at hn
    have ih := ih hs.2 live hK hc.2 hn.2
    exact own_step root facts hcl hK (hc.1 i rfl) hs.1.1 rfl fun h => by
      simpa [reachStmt, reachBlock, reachExprs, ih] using h
  case block =>
    intro f b _ i _ ih hs live hK hc hn
    simp only [sokB, Bool.and_eq_true] at hs
    simp only [numStmt, numBlock, Bool.and_eq_true] at hn
    simp only [reachStmt, reachBlock, ih hs.2 live hK hc.2 hn.2, Bool.or_true]
  case fnDef =>
    intro f _ _ _ body _ g i _ ih hs live hK hc hn
    simp only [sokB, Bool.and_eq_true] at hs
    simp only [numStmt, numBlock, Bool.and_eq_true] at hn
    simp only [reachStmt, reachBlock, inK, Bool.or_eq_true, Bool.not_eq_true']
    cases hg : brK root facts g with
    | false => exact Or.inr (Or.inl rfl)
    | true => exact Or.inr (Or.inr (ih hs.2 true hg hc.2 hn.2))
  case cons =>
    intro f s ss ih1 ih2 hs live hK hc hn
    simp only [sokListB, Bool.and_eq_true] at hs
    simp only [numStmts, Bool.and_eq_true] at hn
    simp only [reachStmts, Bool.and_eq_true]
    exact ⟨ih1 hs.1 live hK hc.1 hn.1, ih2 hs.2 (afterStmt live s) hK hc.2 hn.2⟩
  case nil => intros; simp [reachStmts]
  case retNoId => intro _ e _ _ _ _ _ hn; cases e <;> simp [numStmt] at hn
  -- a statement without id, or a definition without function id, is not numbered
  all_goals
    intros
    rename_i hn
    simp [numStmt] at hn

/-- The statement conjunct of `reach_walk`; `analysis_plan_reach` takes the one for lists. -/
theorem reach_stmt (hcl : BRClosed root facts) : ∀ (f : Nat) (live : Bool) (s : Stmt),
      brK root facts f = true → ConsStmt (tbl root) live s →
      sokB (S0 root facts) (fun _ _ => false) f s = true → numStmt s = true →
      (stmtSkipped (modelPlan root facts) s || reachStmt (brK root facts) (modelPlan root facts) s) = true :=
  fun f live s hK hc hs hn => (reach_walk root facts hcl).1 f s hs live hK hc hn

theorem analysis_plan_reach (hnum : numBlock root = true) (hown : ownOkB root facts = true)
    (hcl : (mkCtx root facts).brClosed = true) :
    KeptReach (brK root facts) (modelPlan root facts) root := by
  refine ⟨fun g hg => modelPlan_keeps root facts hg, ?_⟩
  cases root with
  | mk ss sp =>
    simp only [reachBlock]
    exact (reach_walk (.mk ss sp) facts (brClosed_of_check _ facts hcl)).2 0 ss hown true (root_bodyReachable _)
      (cons_root (.mk ss sp)) hnum

/-- `analysis_plan_reach` in the Boolean form `keptReach` that the driver evaluates. -/
theorem analysis_plan_keptReach (hnum : numBlock root = true) (hown : ownOkB root facts = true)
    (hcl : (mkCtx root facts).brClosed = true) :
    keptReach (mkCtx root facts).bodyReachable (modelPlan root facts) root = true :=
  keptReach_of (analysis_plan_reach root facts hnum hown hcl)

/-! `structOkB root facts` (the plan-free hypothesis of `c03_full_holds`) contains `brClosed` (`globalOkB`) and, along
the liveness walk `lokListB`, the `baseB` conditions of `ownOkB`: the plan of the analyses has `KeptReach` under C03's
hypothesis too (`analysis_plan_reach_struct`).  The pipeline theorems of `Props/C06Accepted.lean` do not go this way:
for the resolver model `ownOkB` and `brClosed` are proved outright. -/

theorem other_rule_none (i : Nat) : (S0 root facts).otherRuleB i = true := by
  simp [Setup.otherRuleB, setupOf, AEval.Cfg.ofPlan]

theorem base_of_L {L : LSetup} (hc : L.c = mkCtx root facts) {f i : Nat} {σ : List (Option Nat)} {es : List Expr}
    (h : L.baseB f σ i es = true) : (S0 root facts).baseB f i es = true := by
  simp only [LSetup.baseB, LSetup.efitList, Bool.and_eq_true, hc] at h
  simp only [Setup.baseB, Bool.and_eq_true]
  exact ⟨h.1, eOkList_mono2 (fun _ hg => hg) (fun _ hx => by cases hx) es h.2⟩

theorem sok_of_lok_walk {L : LSetup} (hc : L.c = mkCtx root facts) :
    (∀ (f : Nat) (σ : List (Option Nat)) (lc : LoopCtx) (s : Stmt) (st : LS) (rest : List Stmt),
      lokB L f σ lc s st rest = true → sokB (S0 root facts) (fun _ _ => false) f s = true) ∧
    (∀ (f : Nat) (σ : List (Option Nat)) (lc : LoopCtx) (ss : List Stmt) (post : LS),
      lokListB L f σ lc ss post = true → sokListB (S0 root facts) (fun _ _ => false) f ss = true) := by
  -- every arm of `lokB` begins with `L.baseB`, the one condition `sokB` shares with it (`base_of_L`): `h.1…1` below is
  -- that first conjunct, behind as many `&&` as the arm has further conditions
  refine lokB.mutual_induct L _ _ ?assign ?assignExisting ?assignIndex ?ifS ?ifElse ?loop ?block ?fnDef ?fnDecl ?retSome
    ?retNone ?brk ?cont ?expr ?fnDefNoId ?_ ?_ ?_ ?_ ?_ ?_ ?_ ?_ ?retNoId ?_ ?_ ?_ ?_ ?cons
  case assign | assignExisting =>
    intro f σ lc _ _ e b i _ st rest h
    simp only [lokB, sokB, Bool.and_eq_true] at h ⊢
    exact ⟨base_of_L root facts hc h.1, by cases b <;> simp [Setup.storeRuleB, setupOf, AEval.Cfg.ofPlan]⟩
  case assignIndex | fnDecl | retSome | retNone | brk | cont | expr =>
    intros
    rename_i h
    simp only [lokB, sokB, Bool.and_eq_true] at h ⊢
    exact ⟨base_of_L root facts hc h.1.1, other_rule_none root facts _⟩
  case ifS | block =>
    intros
    rename_i ih h
    simp only [lokB, sokB, Bool.and_eq_true] at h ⊢
    exact ⟨⟨base_of_L root facts hc h.1.1.1.1, other_rule_none root facts _⟩, ih h.2⟩
  case ifElse =>
    intro f σ lc c t _ e _ i _ st _ iht ihe h
    simp only [lokB, sokB, Bool.and_eq_true] at h ⊢
    exact ⟨⟨⟨base_of_L root facts hc h.1.1.1.1.1.1, other_rule_none root facts _⟩, iht h.1.2⟩, ihe h.2⟩
  case loop =>
    intros
    rename_i ih h
    simp only [lokB, sokB, Bool.and_eq_true] at h ⊢
    exact ⟨⟨base_of_L root facts hc h.1.1.1.1.1, other_rule_none root facts _⟩, ih h.2⟩
  case fnDef =>
    intros
    rename_i ih h
    simp only [lokB, sokB, Bool.and_eq_true] at h ⊢
    exact ⟨⟨base_of_L root facts hc h.1.1.1.1.1.1, other_rule_none root facts _⟩, ih h.2⟩
  case fnDefNoId =>
    intros
    rename_i ih h
    simp only [lokB, sokB, Bool.and_eq_true] at h ⊢
    exact ih h.2
  case cons =>
    intro f σ lc s ss post ih1 ih2 h
    simp only [lokListB, sokListB, Bool.and_eq_true] at h ⊢
    exact ⟨ih1 h.1, ih2 h.2⟩
  case retNoId => intro _ _ _ e _ _ _ _; cases e <;> rfl
  all_goals intros; rfl

theorem sok_of_lok {L : LSetup} (hc : L.c = mkCtx root facts) : ∀ (f : Nat) (σ : List (Option Nat)) (lc : LoopCtx)
      (s : Stmt) (st : LS) (rest : List Stmt), lokB L f σ lc s st rest = true →
      sokB (S0 root facts) (fun _ _ => false) f s = true :=
  (sok_of_lok_walk root facts hc).1

theorem sokList_of_lok {L : LSetup} (hc : L.c = mkCtx root facts) : ∀ (f : Nat) (σ : List (Option Nat)) (lc : LoopCtx)
    (ss : List Stmt) (post : LS), lokListB L f σ lc ss post = true →
    sokListB (S0 root facts) (fun _ _ => false) f ss = true :=
  (sok_of_lok_walk root facts hc).2

theorem own_of_struct (h : structOkB root facts = true) :
    ownOkB root facts = true ∧ (mkCtx root facts).brClosed = true := by
  simp only [structOkB, globalOkB, rootOkB, Bool.and_eq_true] at h
  -- `structOkB`: distinct ids, `globalOkB`, `rootOkB`; `brClosed` is the first of the five conjuncts of `globalOkB`, the
  -- liveness walk `lokListB` the second of the two of `rootOkB`
  obtain ⟨⟨_, ⟨⟨⟨⟨hcl, _⟩, _⟩, _⟩, _⟩⟩, _, hlok⟩ := h
  exact ⟨sokList_of_lok root facts rfl 0 _ _ root.stmts _ hlok, hcl⟩

theorem analysis_plan_reach_struct (hnum : numBlock root = true) (h : structOkB root facts = true) :
    KeptReach (brK root facts) (modelPlan root facts) root :=
  analysis_plan_reach root facts hnum (own_of_struct root facts h).1 (own_of_struct root facts h).2

end

end NaijaVerif.Bridge
