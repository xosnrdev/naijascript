import NaijaVerif.Props.C06Accepted
import NaijaVerif.Lemmas.AnalysisBridge
import NaijaVerif.Lemmas.EvalFuel
/-
What `Pipeline.frontEnd` (lex → parse → resolve → limit preflight → analyses) hands to the runtime,
as a function of the caps: the annotated program and the facts never depend on the caps; plan and warnings depend on
them through the one Boolean `tripped` — the plan of the analysis model with the passes' warnings, or no plan with the one
resource-limit warning (`frontEnd_shape`, in the terms `tripped` / `passPlan` / `passWarnings` that C18 and C03 speak in).
Then what C03 and C01 need to compose a run of the tree with a run of the pipeline, and the text and caps C18's examples
are about.
-/
namespace NaijaVerif.PipelinePrune
open NaijaVerif NaijaVerif.Eval
open NaijaVerif.Props.C06Accepted (parsed)

def passWarnings (root : Block) (facts : Facts) : List Diag :=
  (Analysis.analyse root facts).warns.map Pipeline.warnDiag

/-- The plan the analyses hand over; `some` of it is `Bridge.modelPlan` (`passPlan_eq`). -/
def passPlan (root : Block) (facts : Facts) : Eval.Plan := C03.toEvalPlan (Analysis.planModel root facts)

theorem passPlan_eq (root : Block) (facts : Facts) : some (passPlan root facts) = Bridge.modelPlan root facts := rfl

/-- Did the limit preflight trip for this text under these caps?  `Pipeline.overLimit` of the resolved parse (`tripped_eq`). -/
def tripped (caps : Limits.Caps) (src : Bytes) : Bool :=
  match CfgCount.countProgram (Resolve.resolve (parsed src)).root (Resolve.resolve (parsed src)).facts with
  | none => false
  | some c => (Limits.firstExceeded caps c).isSome

/-- Not by `rfl`: the two `match`es are compared only after a try at evaluating `countProgram` of the resolved parse. -/
theorem tripped_eq (caps : Limits.Caps) (src : Bytes) :
    tripped caps src =
      Pipeline.overLimit caps (Resolve.resolve (parsed src)).root (Resolve.resolve (parsed src)).facts := by
  unfold tripped Pipeline.overLimit
  cases CfgCount.countProgram (Resolve.resolve (parsed src)).root (Resolve.resolve (parsed src)).facts <;> rfl

theorem frontEnd_shape {caps : Limits.Caps} {src : Bytes} {a : Pipeline.Accepted}
    (h : Pipeline.frontEnd caps src = .ok a) :
    a.root = (Resolve.resolve (parsed src)).root ∧ a.facts = (Resolve.resolve (parsed src)).facts ∧
    (Resolve.resolve (parsed src)).rdiags = [] ∧
    a.plan = (if tripped caps src then none else some (passPlan a.root a.facts)) ∧
    a.warnings =
      if tripped caps src then [Limits.limitWarning (parsed src).span] else passWarnings a.root a.facts := by
  have hd : (Resolve.resolve (parsed src)).diags = [] := (Props.C06Accepted.frontEnd_ok h).2
  obtain ⟨_, _, _, (rfl : a = Pipeline.handOver caps (parsed src))⟩ := Pipeline.frontEnd_ok_iff.1 h
  -- every term in its written form first (`dsimp`: the fields of the record), so that each `rfl` below compares two
  -- spellings of one record and never tries to evaluate the resolver
  rw [tripped_eq]
  dsimp only [Pipeline.handOver]
  rw [hd, List.nil_append]
  exact ⟨rfl, rfl, Props.C06Accepted.accepted_rdiags hd, rfl, rfl⟩

theorem evalObs_mono {N : Type} [NumOps N] (cfg : RunCfg) {f g : Nat} (hfg : f ≤ g) (prog : Block)
    {o : List (Value N) × Nat} (h : C03.evalObs (Eval.run (N := N) cfg f prog) = some o) :
    C03.evalObs (Eval.run (N := N) cfg g prog) = some o := by
  have hne : Eval.run (N := N) cfg f prog ≠ .fuelOut := by
    intro hf; rw [hf] at h; cases h
  rw [Eval.run_mono cfg hfg prog _ rfl hne]; exact h

/-- Ending `2` is a crash of the interpreter. -/
theorem evalObs_ne_panic {N : Type} {r : Outcome N} {o : List (Value N) × Nat} (hnp : r.isPanic = false)
    (h : C03.evalObs r = some o) : o.2 ≠ 2 := by
  cases r with
  | ok out => cases h; nofun
  | rt k sp out => cases h; exact fun h2 : 10 + _ = 2 => by omega
  | panic site out => cases hnp
  | fuelOut => cases h

/-- `none` for a rejected text and for a run cut short by its fuel. -/
def ranObs {N : Type} : Pipeline.Result N → Option (List (Value N) × Nat)
  | .ran _ o => C03.evalObs o
  | _ => none

def ranWarnings {N : Type} : Pipeline.Result N → Option (List Diag)
  | .ran w _ => some w
  | _ => none

theorem runSource_ok {N : Type} [NumOps N] {caps : Limits.Caps} (cfg : RunCfg) (fuel : Nat) {src : Bytes}
    {a : Pipeline.Accepted} (h : Pipeline.frontEnd caps src = .ok a) :
    Pipeline.runSource (N := N) caps cfg fuel src = .ran a.warnings (Eval.run { cfg with plan := a.plan } fuel a.root) := by
  unfold Pipeline.runSource
  rw [h]

def endsOk {N : Type} : Outcome N → Bool
  | .ok _ => true
  | _ => false

theorem evalObs_endsOk {N : Type} {r : Outcome N} (h : endsOk r = true) : ∃ o, C03.evalObs r = some o ∧ o.2 = 0 := by
  cases r with
  | ok out => exact ⟨(out, 0), rfl, rfl⟩
  | _ => cases h

/-- The value stored by `x get 2` is never read. -/
def prunedText : Bytes := b!"make x get 1\nx get 2\nx get 3\nshout(x)"

/-- `Props.C06Accepted.roomyCaps` under a name of this namespace, for `tightCaps` below and the examples of C18. -/
def roomyCaps : Limits.Caps := Props.C06Accepted.roomyCaps

/-- The four statements of `prunedText` are one too many.  (`C01Accept.tightCaps` is another record: no statement at all.) -/
def tightCaps : Limits.Caps := { roomyCaps with maxStatements := 3 }

end NaijaVerif.PipelinePrune
