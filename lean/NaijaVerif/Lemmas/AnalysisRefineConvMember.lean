import NaijaVerif.Lemmas.AnalysisRefineConvPath
import NaijaVerif.Lemmas.EvalBasic
/- BRIDGE, both directions: method calls (the arguments of a mutating method, the receiver as an l-value, the dispatch on
the receiver of a non-mutating one) and index assignment. -/
namespace NaijaVerif.C03
open NaijaVerif NaijaVerif.Analysis

variable {N : Type} [NumOps N] {B : Brg}

/-- The value relation of `Bis` for the arguments of a mutating method: the fragment has the argument values `vs`, `Eval`
the mutation built from them. -/
def OpRel (m : Eval.MutM) (vs : List (VE N)) (op : Eval.MutOp N) : Prop := mutOpOf m vs = op

/-- `pop`, `reverse`, the flag setters of a command. -/
theorem bis_mutop_zero {m : Nat} (mm : Eval.MutM) (args : List Expr) (sp : Span) (s : Eval.State N) (t : AEval.St (VE N))
    (hs : B.Sim s t) (op : Eval.MutOp N) (hA : mutStepsM (N := N) mm = []) (hop : mutOpOf mm [] = op)
    (hE : ∀ f, Eval.evalMutOp B.rc (f + 1) mm args sp s = .ok op s) :
    Bis B (OpRel mm) m
      (fun n => AEval.evalChecked (AEval.evalExpr B.P B.ac n) tmErr (AEval.stepArgs args (mutStepsM mm)) t)
      (fun f => Eval.evalMutOp B.rc f mm args sp s) := by
  refine Bis.stepE rfl ?_
  simp only [hE, hA, AEval.stepArgs, List.map_nil, AEval.evalChecked]
  exact Bis.const (RSim.ok hop hs)

/-- One argument, with a check on its value (`cwd`, `timeout_ms`) or with none (`push`, `arg`, `stdin_text`: `chkE` is
`.ok`). -/
theorem bis_mutop_chk (hB : B.Ok N) {m : Nat} (IH : Both (N := N) B m) (mm : Eval.MutM) (args : List Expr)
    (hargs : okExprs B.o args = true) (sp : Span) (s : Eval.State N) (t : AEval.St (VE N)) (hs : B.Sim s t)
    (site : Eval.PanicSite) (hsite : siteErr site = tmErr) {γ : Type} (chkE : VE N → Span → Except Eval.Fault γ)
    (mk : γ → Eval.MutOp N)
    (hspan : ∀ v sp', liftE (chkE v sp') = liftE (chkE v noSpan))
    (hA : mutStepsM (N := N) mm = [(0, fun v => (liftE (chkE v noSpan)).map fun _ => v)])
    (hop : ∀ v x, chkE v noSpan = .ok x → mutOpOf mm [v] = mk x)
    (hE : ∀ f, Eval.evalMutOp B.rc (f + 1) mm args sp s =
      (Eval.evalSel B.rc f (Eval.pick args [(0, site)] sp) s).bind fun vs s1 =>
        match vs with
        | [v] => (Eval.Res.ofExcept B.rc (chkE v sp) sp s1).bind fun x s2 => .ok (mk x) s2
        | _ => Eval.trap B.rc site sp s1) :
    Bis B (OpRel mm) m
      (fun n => AEval.evalChecked (AEval.evalExpr B.P B.ac n) tmErr (AEval.stepArgs args (mutStepsM mm)) t)
      (fun f => Eval.evalMutOp B.rc f mm args sp s) := by
  refine Bis.stepE rfl ?_
  simp only [hE, hA, AEval.stepArgs, List.map_cons, List.map_nil, Eval.pick]
  refine Bis.stepE rfl ?_
  cases hi : args[0]? with
  | none =>
    simp only [AEval.evalChecked, Eval.evalSel]
    have := trap_sim (β := List (VE N)) hB hs.out site sp
    rw [hsite] at this
    exact Bis.err this
  | some e =>
    simp only [AEval.evalChecked_cons, Eval.evalSel, Eval.Res.bind_assoc, Eval.Res.bind_ok]
    simp only [AEval.evalChecked, AEval.andThen_ok]
    refine Bis.bind (IH.expr e s t (okExprs_get hargs hi) hs) fun v t1 s1 hs1 => ?_
    refine Bis.skipE rfl (fun _ => rfl) ?_
    refine Bis.andThen (Bis.const (chk_sim hB hs1 (hspan v sp) v sp)) fun v' t1' x s2 hvx hs2 => ?_
    obtain ⟨rfl, hx⟩ := hvx
    exact Bis.const (RSim.ok (hop v' x hx) hs2)

/-- `env(key, value)`: the key is checked before the value is evaluated. -/
theorem bis_mutop_env (hB : B.Ok N) {m : Nat} (IH : Both (N := N) B m) (args : List Expr)
    (hargs : okExprs B.o args = true) (sp : Span) (s : Eval.State N) (t : AEval.St (VE N)) (hs : B.Sim s t) :
    Bis B (OpRel (.cmd .env)) m
      (fun n => AEval.evalChecked (AEval.evalExpr B.P B.ac n) tmErr (AEval.stepArgs args (mutStepsM (.cmd .env))) t)
      (fun f => Eval.evalMutOp B.rc f (.cmd .env) args sp s) := by
  refine Bis.stepE rfl ?_
  simp only [Eval.evalMutOp, mutStepsM, AEval.stepArgs, List.map_cons, List.map_nil, Eval.pick]
  refine Bis.stepE rfl ?_
  cases h0 : args[0]? with
  | none =>
    simp only [AEval.evalChecked, Eval.evalSel]
    exact Bis.err (trap_sim (β := List (VE N)) hB hs.out .cmdEnv0 sp)
  | some e0 =>
    simp only [AEval.evalChecked_cons, Eval.evalSel, Eval.Res.bind_assoc, Eval.Res.bind_ok]
    refine Bis.bind (IH.expr e0 s t (okExprs_get hargs h0) hs) fun kv t1 s1 hs1 => ?_
    refine Bis.skipE rfl (fun _ => rfl) ?_
    refine Bis.andThen (Bis.const (chk_sim hB hs1 (liftE_span (fun φ => SpanMap.requiredString_map φ kv) sp) kv sp)) fun kv' t1' key s1' hk hs1' => ?_
    obtain ⟨rfl, hx⟩ := hk
    cases h1a : args[1]? with
    | none =>
      simp only [AEval.evalChecked, Eval.evalSel]
      exact Bis.err (trap_sim (β := List (VE N)) hB hs1'.out .cmdEnv1 sp)
    | some e1 =>
      simp only [AEval.evalChecked_cons, andThen_assoc, Eval.evalSel, Eval.Res.bind_assoc, Eval.Res.bind_ok]
      simp only [AEval.evalChecked, AEval.andThen_ok]
      refine Bis.bind (IH.expr e1 s1' t1' (okExprs_get hargs h1a) hs1') fun v t2 s2 hs2 => ?_
      refine bis_selNil s2 _ (RSim.ok ?_ hs2)
      simp only [OpRel, mutOpOf, strOf_eq hx]

theorem bis_mutop (hB : B.Ok N) {m : Nat} (IH : Both (N := N) B m) (mm : Eval.MutM) (args : List Expr)
    (hargs : okExprs B.o args = true) (sp : Span) (s : Eval.State N) (t : AEval.St (VE N)) (hs : B.Sim s t) :
    Bis B (OpRel mm) m
      (fun n => AEval.evalChecked (AEval.evalExpr B.P B.ac n) tmErr (AEval.stepArgs args (mutStepsM mm)) t)
      (fun f => Eval.evalMutOp B.rc f mm args sp s) := by
  cases mm with
  | push =>
    exact bis_mutop_chk hB IH .push args hargs sp s t hs .pushArg0 rfl (fun v _ => .ok v) (fun v => .push v)
      (fun _ _ => rfl) rfl (fun _ _ hx => by cases hx; rfl) (fun _ => rfl)
  | pop => exact bis_mutop_zero .pop args sp s t hs .pop rfl rfl (fun _ => rfl)
  | reverse => exact bis_mutop_zero .reverse args sp s t hs .reverse rfl rfl (fun _ => rfl)
  | cmd c =>
    cases c with
    | arg =>
      exact bis_mutop_chk hB IH (.cmd .arg) args hargs sp s t hs .cmdArg0 rfl (fun v _ => .ok v)
        (fun v => .cmd (.arg v.display)) (fun _ _ => rfl) rfl (fun _ _ hx => by cases hx; rfl) (fun _ => rfl)
    | stdinText =>
      exact bis_mutop_chk hB IH (.cmd .stdinText) args hargs sp s t hs .cmdStdinText0 rfl (fun v _ => .ok v)
        (fun v => .cmd (.stdinText v.display)) (fun _ _ => rfl) rfl (fun _ _ hx => by cases hx; rfl) (fun _ => rfl)
    | cwd =>
      refine bis_mutop_chk hB IH (.cmd .cwd) args hargs sp s t hs .cmdCwd0 rfl Eval.requiredString
        (fun x => .cmd (.cwd x)) (fun v => liftE_span fun φ => SpanMap.requiredString_map φ v) rfl ?_ (fun _ => rfl)
      exact fun v x hx => congrArg (fun y => Eval.MutOp.cmd (.cwd y)) (strOf_eq hx)
    | timeoutMs =>
      refine bis_mutop_chk hB IH (.cmd .timeoutMs) args hargs sp s t hs .cmdTimeout0 rfl Eval.timeoutMs
        (fun ms => .cmd (.timeout ms)) (fun v => liftE_span fun φ => SpanMap.timeoutMs_map φ v) rfl ?_ (fun _ => rfl)
      intro v x hx
      simp only [mutOpOf, msOf, hx]
    | env => exact bis_mutop_env hB IH args hargs sp s t hs
    -- the flag setters and `run` take no argument, as `pop` and `reverse`
    | stdinInherit => exact bis_mutop_zero (.cmd .stdinInherit) args sp s t hs _ rfl rfl (fun _ => rfl)
    | stdinNull => exact bis_mutop_zero (.cmd .stdinNull) args sp s t hs _ rfl rfl (fun _ => rfl)
    | stdoutCapture => exact bis_mutop_zero (.cmd .stdoutCapture) args sp s t hs _ rfl rfl (fun _ => rfl)
    | stdoutInherit => exact bis_mutop_zero (.cmd .stdoutInherit) args sp s t hs _ rfl rfl (fun _ => rfl)
    | stdoutNull => exact bis_mutop_zero (.cmd .stdoutNull) args sp s t hs _ rfl rfl (fun _ => rfl)
    | stderrCapture => exact bis_mutop_zero (.cmd .stderrCapture) args sp s t hs _ rfl rfl (fun _ => rfl)
    | stderrInherit => exact bis_mutop_zero (.cmd .stderrInherit) args sp s t hs _ rfl rfl (fun _ => rfl)
    | stderrNull => exact bis_mutop_zero (.cmd .stderrNull) args sp s t hs _ rfl rfl (fun _ => rfl)
    | run => exact bis_mutop_zero (.cmd .run) args sp s t hs _ rfl rfl (fun _ => rfl)

theorem bis_assignIndex (hB : B.Ok N) {m : Nat} (IH : Both (N := N) B m) (tg e : Expr) (sid : Option Nat) (sp : Span)
    (s : Eval.State N) (t : AEval.St (VE N)) (hok : okStmt B.o (.assignIndex tg e sid sp) = true) (hs : B.Sim s t) :
    Bis B FlowSim (m + 1) (fun n => AEval.execStmt B.P B.ac n (.assignIndex tg e sid sp) t)
      (fun f => Eval.execStmt B.rc f (.assignIndex tg e sid sp) s) := by
  refine Bis.step rfl rfl ?_
  simp only [okStmt, Bool.and_eq_true] at hok
  simp only [AEval.execStmt_assignIndex, updateRoot_eq, P_lvErr, P_argMissing, P_idx, P_dscope, P_setPath, Eval.execStmt]
  refine Bis.bind (IH.expr e s t hok.1.2 hs) fun v t1 s1 hs1 => ?_
  have hlv := lv_sim B.o tg hok.1.1.2
  cases hl : AEval.lvalue tg with
  | none =>
    simp only [hl] at hlv ⊢
    have := trap_sim (β := Eval.Flow N) hB hs1.out .indexTargetRoot sp
    rcases hlv with h | h <;> simp only [h] <;> exact Bis.const (RSim.err this)
  | some rp =>
    obtain ⟨root, path⟩ := rp
    simp only [hl] at hlv ⊢
    obtain ⟨name, idxs, hlo, hmap, hq⟩ := hlv
    simp only [hlo]
    subst hmap
    refine Bis.andThen (bis_idxs hB IH idxs hq s1 t1 hs1) fun pvs t2 pth s2 hpth hs2 => ?_
    exact Bis.const (assignIndex_sim hB hs2 name root pvs v pth hpth sp (FlowSim (N := N)) .normal .cont trivial)

theorem bis_member_pure (hB : B.Ok N) {m : Nat} (IH : Both (N := N) B m) (obj : Expr) (field : Bytes) (fs sp : Span)
    (args : List Expr) (fn : Option Nat) (sp2 : Span) (s : Eval.State N) (t : AEval.St (VE N))
    (hobj : okExpr B.o obj = true) (hargs : okExprs B.o args = true) (hs : B.Sim s t)
    (hm : Eval.MutM.ofName field = none) :
    Bis B Eq (m + 1) (fun n => AEval.evalExpr B.P B.ac n (.call (.member obj field fs sp) args fn sp2) t)
      (fun f => Eval.evalExpr B.rc f (.call (.member obj field fs sp) args fn sp2) s) := by
  refine Bis.step rfl rfl ?_
  simp only [AEval.evalExpr_callMember, P_isMut, hm, Option.isSome_none, Bool.false_eq_true, ↓reduceIte, P_argMissing,
    P_memberSel, P_member, Eval.evalExpr]
  refine Bis.bind (IH.expr obj s t hobj hs) fun recv t1 s1 hs1 => ?_
  cases recv with
  | str x =>
    simp only [memberSelE]
    cases hsm : Eval.StrM.ofName field with
    | none => exact Bis.const (tm_err hs1 sp2)
    | some sm =>
      simp only [AEval.andThen_ok]
      refine Bis.bind (bis_sel hB IH args hargs sp2 sm.argIdx (strM_sites sm) s1 t1 hs1) fun vs t2 s2 hs2 => ?_
      simp only [memberE, hsm]
      exact Bis.const (ofExcept_sim hB hs2 _ _)
  | num x =>
    simp only [memberSelE]
    cases hnm : Eval.NumM.ofName field with
    | none => exact Bis.const (tm_err hs1 sp2)
    | some nm =>
      simp only [AEval.andThen_ok, evalChecked_nil, memberE, hnm]
      exact Bis.const (RSim.ok rfl hs1)
  | bool b =>
    simp only [memberSelE]
    exact Bis.const (RSim.err (trap_sim hB hs1.out .boolReceiver sp2))
  | null => exact Bis.const (tm_err hs1 sp2)
  | host h =>
    cases h with
    | command c =>
      simp only [memberSelE]
      cases hcm : Eval.CmdM.ofName field with
      | none => exact Bis.const (tm_err hs1 sp2)
      | some cm =>
        cases cm
        case run =>
          simp only [AEval.andThen_ok, evalChecked_nil, memberE, hcm]
          exact Bis.const (runCommand_sim hs1 c sp2)
        all_goals exact Bis.const (tm_err hs1 sp2)
    | result r =>
      simp only [memberSelE]
      cases hrm : Eval.ResM.ofName field with
      | none => exact Bis.const (tm_err hs1 sp2)
      | some rm =>
        simp only [AEval.andThen_ok, evalChecked_nil, memberE, hrm]
        exact Bis.const (RSim.ok rfl hs1)
  | arr xs =>
    simp only [memberSelE]
    cases ham : Eval.ArrM.ofName field with
    | none => exact Bis.const (tm_err hs1 sp2)
    | some am =>
      cases am with
      | push => exact Bis.const (tm_err hs1 sp2)
      | pop => exact Bis.const (tm_err hs1 sp2)
      | reverse => exact Bis.const (tm_err hs1 sp2)
      | len =>
        simp only [AEval.andThen_ok, evalChecked_nil, memberE, ham]
        exact Bis.const (RSim.ok rfl hs1)
      | join =>
        simp only [AEval.andThen_ok]
        have h2 := bis_sel hB IH args hargs sp2 [(0, .joinArg0)] (by simp; rfl) s1 t1 hs1
        simp only [List.map_cons, List.map_nil] at h2
        refine Bis.bind h2 fun vs t2 s2 hs2 => ?_
        simp only [memberE, ham]
        have hj : ∀ {β : Type}, ErrSim (β := β) (siteErr .joinSep) t2 (Eval.trap B.rc .joinSep sp2 s2) :=
          trap_sim hB hs2.out .joinSep sp2
        rcases vs with _ | ⟨v, _ | ⟨w, r⟩⟩
        · exact Bis.const (RSim.err hj)
        · cases v with
          | str sep => exact Bis.const (RSim.ok rfl hs2)
          | num _ | bool _ | arr _ | host _ | null => exact Bis.const (RSim.err hj)
        · cases v <;> exact Bis.const (RSim.err hj)

theorem bis_member_mut (hB : B.Ok N) {m : Nat} (IH : Both (N := N) B m) (obj : Expr) (field : Bytes) (fs sp : Span)
    (args : List Expr) (fn : Option Nat) (sp2 : Span) (s : Eval.State N) (t : AEval.St (VE N))
    (hobj : okExpr B.o obj = true) (hargs : okExprs B.o args = true) (hs : B.Sim s t)
    (mm : Eval.MutM) (hm : Eval.MutM.ofName field = some mm) :
    Bis B Eq (m + 1) (fun n => AEval.evalExpr B.P B.ac n (.call (.member obj field fs sp) args fn sp2) t)
      (fun f => Eval.evalExpr B.rc f (.call (.member obj field fs sp) args fn sp2) s) := by
  refine Bis.step rfl rfl ?_
  simp only [AEval.evalExpr_callMember, P_isMut, hm, Option.isSome_some, ↓reduceIte, updateRoot_eq, P_mutSteps, P_lvErr,
    P_argMissing, P_idx, P_dscope, P_mutMember, Eval.evalExpr]
  refine Bis.andThen (bis_mutop hB IH mm args hargs sp2 s t hs) fun vs t1 op s1 hop hs1 => ?_
  have hlv := lv_sim B.o obj hobj
  cases hl : AEval.lvalue obj with
  | none =>
    simp only [hl] at hlv ⊢
    rcases hlv with h | h <;> simp only [h]
    · exact Bis.const (RSim.err (trap_sim hB hs1.out .indexTargetRoot sp2))
    · exact Bis.const (tm_err hs1 sp2)
  | some rp =>
    obtain ⟨root, path⟩ := rp
    simp only [hl] at hlv ⊢
    obtain ⟨name, idxs, hlo, hmap, hq⟩ := hlv
    simp only [hlo]
    subst hmap
    refine Bis.andThen (bis_idxs hB IH idxs hq s1 t1 hs1) fun pvs t2 pth s2 hpth hs2 => ?_
    have h := applyMut_sim hB hs2 field name mm hm root pvs vs pth hpth sp2
    rw [show mutOpOf mm vs = op from hop] at h
    exact Bis.const h

end NaijaVerif.C03
