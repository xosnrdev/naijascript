import NaijaVerif.Lemmas.ResolveStructSum
import NaijaVerif.Lemmas.ResolveStructSteps
import NaijaVerif.Lemmas.BridgeRange
/-
`C03.sumOkB`: what the resolver model records about calls at FUNCTION level.
`check_expr` records a user call three times at once: `record_direct_callee(owner, g)`,
`record_user_call(owner, g)`, `record_stmt_callee(stmt, g)`.  With the context of the walk — the statement
being checked belongs to `current_owner`, the owner has an entry in `function_directs`, the callee is a
signature in scope, hence an allocated function id — the facts keep the invariant `SumInv`: every
function-level callee is a function id, and every statement-level callee is a function-level callee of
the statement's function.  Those are the two hypotheses of `sumOkB_of`.

The context is what makes the refined history `StepsC` (`Lemmas/ResolveSteps.lean`) a history of the resolver.  The walk
(`checkStmt_walk walkC`) carries `TCx`, the context BEFORE a statement pushes its entry; `ECx` is what one call record
needs, inside a statement whose entry exists: `walkC.call` gets it from `TCx` and the history since the entry (`ecx_of`).
-/
namespace NaijaVerif.ResolveStruct
open NaijaVerif NaijaVerif.Resolve NaijaVerif.ResolveFacts NaijaVerif.Analysis NaijaVerif.C03

theorem Steps.preC {f g : Facts} (h : Steps PrimSC f g) : Pre f g := (h.bind primSC_steps).pre

def SigsDir (f : Facts) (fns : List (List FnSig)) : Prop := ∀ s ∈ fns, ∀ g ∈ s, g.id < f.functionDirects.length

theorem SigsDir.mono {f g : Facts} {fns : List (List FnSig)} (h : SigsDir f fns) (hp : Pre f g) : SigsDir g fns :=
  fun s hs x hx => Nat.lt_of_lt_of_le (h s hs x hx) hp.ndir

theorem SigsDir.lookup {f : Facts} {env : Env} (h : SigsDir f env.fns) {x : Bytes} {g : FnSig}
    (hl : lookupFn env x = some g) : g.id < f.functionDirects.length := by
  obtain ⟨s, hs, hg⟩ := lookupFns_mem hl
  exact h s hs g hg

structure ECx (env : Env) (sid : Nat) (f : Facts) : Prop where
  sigs : SigsDir f env.fns
  stmt : ∃ sc, (sImm f)[sid]? = some (env.owner, sc)
  owner : env.owner < f.functionDirects.length

theorem ECx.mono {env : Env} {sid : Nat} {f g : Facts} (h : ECx env sid f) (hp : Pre f g) : ECx env sid g := by
  obtain ⟨sc, hsc⟩ := h.stmt
  exact ⟨h.sigs.mono hp, ⟨sc, hp.stmt hsc⟩, Nat.lt_of_lt_of_le h.owner hp.ndir⟩

/-- For a list of expressions on its own; the statement walk goes through `walkC.call` instead. -/
theorem checkExprs_stepsC (env : Env) (cur : Scope) (sid : Nat) :
      ∀ (es : List Expr) (f : Facts), ECx env sid f → StepsC f (checkExprs env cur sid es f).facts :=
  (checkExpr_walk env cur sid (fun f i => (recUse_stepsN f _ _ i).bind fun h => .one h.sc)
    (fun f i => (recReadWrite_stepsN f _ _ i).bind fun h => .one h.sc)
    (fun f _ g h hl => .one (.call f env.owner sid g.id (h.sigs.lookup hl) h.stmt h.owner))
    (fun _ _ h hs => h.mono hs.preC)).2

/-- `function_directs` has one entry per function (both tables are pushed together); so a `FunctionId` indexes both. -/
def FD (f : Facts) : Prop := f.functionDirects.length = f.functions.length

theorem primS_fd {f g : Facts} (h : PrimS f g) (hf : FD f) : FD g := by
  unfold FD at hf ⊢
  cases h with
  | e he => rw [(primE_lenE he).directs, (primE_lenE he).functions, hf]
  | pushStmt o s => exact hf
  | pushLocal sl name o s d k => simp [pushLocal, modifyAt_length, hf]
  | pushScope p o => exact hf
  | pushFunction name np parent scope => simp [pushFunction, hf]
  | setRootScope s => simp [setRootScope, modifyAt_length, hf]
  | setDefStmt fn sid => simp [setDefStmt, modifyAt_length, hf]

theorem Steps.fd {f g : Facts} (h : Steps PrimSC f g) : FD f → FD g :=
  Steps.inv (I := FD) (fun _ _ hp => primS_fd hp) (h.bind primSC_steps)

/-- `fd`, which `ECx` does not need, is for the block arm: the ids of a block's predeclared signatures are bounded by
`functions.length` (`blkSigs_id_lt`), and `SigsDir` speaks of `functionDirects.length`. -/
structure TCx (env : Env) (f : Facts) : Prop where
  sigs : SigsDir f env.fns
  owner : env.owner < f.functionDirects.length
  fd : FD f

theorem TCx.mono {env : Env} {f g : Facts} (h : TCx env f) (hs : Steps PrimSC f g) : TCx env g :=
  ⟨h.sigs.mono hs.preC, Nat.lt_of_lt_of_le h.owner hs.preC.ndir, hs.fd h.fd⟩

theorem TCx.congr {env env' : Env} {f : Facts} (h : TCx env f) (h1 : env'.fns = env.fns) (h2 : env'.owner = env.owner) :
    TCx env' f := ⟨by unfold SigsDir; rw [h1]; exact h.sigs, by rw [h2]; exact h.owner, h.fd⟩

theorem ecx_of {env : Env} {f0 f : Facts} (h : TCx env f0) (hs : Steps PrimSC (pushStmt f0 env.owner env.scope) f) :
    ECx env f0.stmtEffects.length f :=
  ⟨(h.sigs.mono (primS_pre (.pushStmt f0 env.owner env.scope))).mono hs.preC,
   ⟨env.scope, hs.preC.stmt (sImm_pushStmt f0 env.owner env.scope)⟩,
   Nat.lt_of_lt_of_le h.owner hs.preC.ndir⟩

theorem walkC : Walk PrimSC TCx where
  prim := fun h => .one h.sc
  call := fun h hs hl =>
    have e := ecx_of h hs
    .one (.call _ _ _ _ (e.sigs.lookup hl) e.stmt e.owner)
  mono := TCx.mono
  congr := TCx.congr
  fnDef := fun _ _ h hsig => by
    obtain ⟨own, rest, heq, hg⟩ := sigOf_mem hsig
    exact ⟨h.sigs, h.sigs own (by rw [heq]; exact List.mem_cons_self) _ hg, h.fd⟩
  block := fun {env parent ss f} h => by
    refine ⟨?_, h.owner, h.fd⟩
    intro s hs g hg
    simp only [blkEnvBody, List.mem_cons] at hs
    rcases hs with rfl | hs
    · rw [h.fd]; exact blkSigs_id_lt env parent ss f hg
    · exact h.sigs s hs g hg

/-! The other conjuncts of `checkStmt_walk walkC` (the prime as in `checkStmt_steps'`: from `pushStmt f …`);
`resolveWith_stepsC` needs the one for blocks only. -/

theorem checkStmt_stepsC' (env : Env) (cur : Cur) :
      ∀ (s : Stmt) (f : Facts), TCx env f → StepsC (pushStmt f env.owner env.scope) (checkStmt env cur s f).facts :=
  fun s f => (checkStmt_walk walkC).1 env cur s f

theorem checkStmts_stepsC (env : Env) :
      ∀ (ss : List Stmt) (cur : Cur) (f : Facts), TCx env f → StepsC f (checkStmts env cur ss f).facts :=
  fun ss cur f => (checkStmt_walk walkC).2.2.2 env cur ss f

theorem checkOptBlock_stepsC (env : Env) (parent : Option Nat) :
      ∀ (b : Option Block) (f : Facts), TCx env f → StepsC f (checkOptBlock env parent b f).facts :=
  fun b f => (checkStmt_walk walkC).2.1 env parent b f

theorem resolveWith_stepsC (spanLen : Bool) (q : Block) : StepsC rootFacts (resolveWith spanLen q).facts :=
  (checkStmt_walk walkC).2.2.1 (rootEnv spanLen) none q rootFacts
    ⟨fun s hs => (by cases hs), (by simp [rootEnv, rootFacts]), rfl⟩

def dkey (f : Facts) : List (List Nat) := f.functionDirects.map (·.directCallees)

/-- `SumInv` about two keys as plain lists, so that its preservation (`KInv.push`, `KInv.fn`, `KInv.call`) is list
reasoning. -/
def KInv (sk : List (Nat × List Nat)) (dk : List (List Nat)) : Prop :=
  (∀ l ∈ dk, ∀ h ∈ l, h < dk.length) ∧ (∀ p ∈ sk, ∀ g ∈ p.2, ∃ l, dk[p.1]? = some l ∧ g ∈ l)

def SumInv (f : Facts) : Prop := KInv (skey f) (dkey f)

theorem dkey_modify (f : Facts) (o : Nat) (g : FunctionDirect → FunctionDirect)
    (hg : ∀ d, (g d).directCallees = d.directCallees) :
    (modifyAt f.functionDirects o g).map (·.directCallees) = dkey f :=
  modifyAt_map_key _ g hg _ _

theorem dkey_recCapRead (f : Facts) (o i : Nat) : dkey (recCapRead f o i) = dkey f := by
  unfold recCapRead; split
  · rfl
  · split
    · rfl
    · simp only [dkey]; exact dkey_modify f o _ (fun _ => rfl)
theorem dkey_recCapWrite (f : Facts) (o i : Nat) : dkey (recCapWrite f o i) = dkey f := by
  unfold recCapWrite; split
  · rfl
  · split
    · rfl
    · simp only [dkey]; exact dkey_modify f o _ (fun _ => rfl)

theorem dkey_recStmtRead (f : Facts) (a b c : Nat) : dkey (recStmtRead f a b c) = dkey f := by
  unfold recStmtRead; split <;> rfl
theorem dkey_recStmtWrite (f : Facts) (a b c : Nat) : dkey (recStmtWrite f a b c) = dkey f := by
  unfold recStmtWrite; split <;> rfl

theorem KInv.push {sk : List (Nat × List Nat)} {dk : List (List Nat)} (h : KInv sk dk) (o : Nat) :
    KInv (sk ++ [(o, [])]) dk := by
  refine ⟨h.1, ?_⟩
  intro p hp g hg
  rcases List.mem_append.1 hp with hp | hp
  · exact h.2 p hp g hg
  · simp only [List.mem_singleton] at hp
    subst hp
    cases hg

theorem KInv.fn {sk : List (Nat × List Nat)} {dk : List (List Nat)} (h : KInv sk dk) : KInv sk (dk ++ [[]]) := by
  refine ⟨?_, ?_⟩
  · intro l hl x hx
    simp only [List.length_append, List.length_singleton]
    rcases List.mem_append.1 hl with hl | hl
    · have := h.1 l hl x hx; omega
    · simp only [List.mem_singleton] at hl
      subst hl
      cases hx
  · intro p hp g hg
    obtain ⟨l, hl, hgl⟩ := h.2 p hp g hg
    exact ⟨l, by rw [List.getElem?_append_left (List.getElem?_eq_some_iff.1 hl).1]; exact hl, hgl⟩

theorem KInv.call {sk : List (Nat × List Nat)} {dk : List (List Nat)} (h : KInv sk dk) {o sid g : Nat}
    (hg : g < dk.length) (ho : o < dk.length) (hsid : ∀ p, sk[sid]? = some p → p.1 = o) :
    KInv (modifyAt sk sid (fun p => (p.1, addNew p.2 g))) (modifyAt dk o (fun l => addNew l g)) := by
  have hdo : ∃ l0, dk[o]? = some l0 := ⟨dk[o], List.getElem?_eq_getElem ho⟩
  obtain ⟨l0, hl0⟩ := hdo
  -- the entries of `dk` only grow
  have hdk : ∀ (j : Nat) (l : List Nat), dk[j]? = some l → ∀ x ∈ l,
      ∃ l', (modifyAt dk o (fun l => addNew l g))[j]? = some l' ∧ x ∈ l' := by
    intro j l hj x hx
    rw [getElem?_modifyAt]
    split
    · exact ⟨addNew l g, by simp [hj], mem_addNew.2 (Or.inl hx)⟩
    · exact ⟨l, hj, hx⟩
  refine ⟨?_, ?_⟩
  · intro l hl x hx
    rw [modifyAt_length]
    rcases mem_modifyAt hl with hl | ⟨a, ha, rfl⟩
    · exact h.1 l hl x hx
    · rcases mem_addNew.1 hx with hx | rfl
      · exact h.1 a ha x hx
      · exact hg
  · intro p hp x hx
    obtain ⟨j, hj⟩ := List.getElem?_of_mem hp
    rw [getElem?_modifyAt] at hj
    split at hj
    · next hjs =>
      subst hjs
      cases hsk : sk[j]? with
      | none => simp [hsk] at hj
      | some p0 =>
        simp only [hsk, Option.map_some, Option.some.injEq] at hj
        subst hj
        have hp0 := hsid p0 hsk
        rcases mem_addNew.1 hx with hx | rfl
        · obtain ⟨l, hl, hxl⟩ := h.2 p0 (List.mem_of_getElem? hsk) x hx
          exact hdk _ l hl x hxl
        · simp only
          rw [hp0]
          exact ⟨addNew l0 x, by rw [getElem?_modifyAt]; simp [hl0], mem_addNew.2 (Or.inr rfl)⟩
    · obtain ⟨l, hl, hxl⟩ := h.2 p (List.mem_of_getElem? hj) x hx
      exact hdk _ l hl x hxl

theorem skey_recCall (f : Facts) (o sid g : Nat) :
    skey (recCall f o sid g) = modifyAt (skey f) sid (fun p => (p.1, addNew p.2 g)) := by
  simp only [recCall, skey_recStmtCallee, skey_recUserCall, skey_recDirectCallee]

theorem dkey_recCall (f : Facts) (o sid g : Nat) :
    dkey (recCall f o sid g) = modifyAt (dkey f) o (fun l => addNew l g) := by
  simp only [recCall, recStmtCallee, recUserCall, Resolve.recDirectCallee, dkey]
  exact modifyAt_map (fun d : FunctionDirect => d.directCallees) _ (fun l => addNew l g) (fun _ => rfl) _ _

theorem primSC_sumInv {f g : Facts} (hp : PrimSC f g) (h : SumInv f) : SumInv g := by
  unfold SumInv at h ⊢
  cases hp with
  | recStmtRead o s i => rw [skey_recStmtRead, dkey_recStmtRead]; exact h
  | recStmtWrite o s i => rw [skey_recStmtWrite, dkey_recStmtWrite]; exact h
  | joinClass s c => rw [skey_joinClass]; exact h
  | recCapRead o i => rw [skey_recCapRead, dkey_recCapRead]; exact h
  | recCapWrite o i => rw [skey_recCapWrite, dkey_recCapWrite]; exact h
  | pushStmt o s => rw [skey_pushStmt]; exact h.push o
  | pushLocal sl name o s d k => exact h
  | pushScope p o => exact h
  | pushFunction name np parent scope =>
    have : dkey (pushFunction f name np parent scope) = dkey f ++ [[]] := by simp [dkey, pushFunction]
    rw [skey_pushFunction, this]; exact h.fn
  | setRootScope s => exact h
  | setDefStmt fn sid => exact h
  | call o sid g hg hsid ho =>
    rw [skey_recCall, dkey_recCall]
    refine h.call (by simpa [dkey] using hg) (by simpa [dkey] using ho) ?_
    intro p hp
    obtain ⟨sc, hsc⟩ := hsid
    simp only [sImm, List.getElem?_map, Option.map_eq_some_iff] at hsc
    obtain ⟨e, he, heq⟩ := hsc
    simp only [skey, List.getElem?_map, he, Option.map_some, Option.some.injEq] at hp
    subst hp
    exact (Prod.mk.inj heq).1

theorem sumInv_root : SumInv rootFacts := by
  refine ⟨?_, ?_⟩
  · intro l hl x hx
    simp [dkey, rootFacts] at hl
    subst hl
    cases hx
  · intro p hp
    simp [skey, rootFacts] at hp

/-- The two hypotheses of `sumOkB_of`; `FD` turns the bound `functionDirects.length` of the invariant into `nFns`. -/
theorem SumInv.dir {facts : Facts} (root : Block) (hinv : SumInv facts) (hfd : FD facts) :
    DirLt (mkCtx root facts) ∧ StmtDir (mkCtx root facts) := by
  have hdirect : ∀ g, (mkCtx root facts).direct g =
      match facts.functionDirects[g]? with
      | some d => d
      | none => { directCallees := [], captureReads := [], captureWrites := [] } := fun _ => rfl
  constructor
  · intro g x hx
    simp only [dcs, hdirect] at hx
    cases hd : facts.functionDirects[g]? with
    | none => simp [hd] at hx
    | some d =>
      simp only [hd] at hx
      have := hinv.1 d.directCallees (List.mem_map_of_mem (List.mem_of_getElem? hd)) x hx
      simp only [dkey, List.length_map] at this
      show x < facts.functions.length
      rw [← hfd]; exact this
  · intro sid g hg
    simp only [Ctx.callees, Ctx.eff?, mkCtx] at hg
    cases he : facts.stmtEffects[sid]? with
    | none => simp [he] at hg
    | some e =>
      simp only [he] at hg
      obtain ⟨l, hl, hgl⟩ := hinv.2 (e.function, e.directCallees)
        (List.mem_map_of_mem (f := fun e : StmtEffect => (e.function, e.directCallees)) (List.mem_of_getElem? he)) g hg
      simp only [dkey, List.getElem?_map, Option.map_eq_some_iff] at hl
      obtain ⟨d, hd, rfl⟩ := hl
      have hfn : (mkCtx root facts).fnOf sid = e.function := by
        simp [Ctx.fnOf, Ctx.eff?, mkCtx, he]
      simp only [dcs, hfn, hdirect, hd]
      exact hgl

theorem resolveWith_sumOk (spanLen : Bool) (q : Block) :
    sumOkB (mkCtx (resolveWith spanLen q).root (resolveWith spanLen q).facts) = true := by
  have hinv := Steps.inv (I := SumInv) (fun _ _ hp => primSC_sumInv hp) (resolveWith_stepsC spanLen q) sumInv_root
  have hd := hinv.dir (resolveWith spanLen q).root ((resolveWith_stepsC spanLen q).fd rfl)
  exact sumOkB_of hd.1 hd.2

end NaijaVerif.ResolveStruct
