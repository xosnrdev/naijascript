/-
The client-visible invariant of a history over the bump arena (`Good`: every live block in bounds,
aligned, holding what its owner wrote; live blocks pairwise disjoint), the ways an operation
re-establishes it (`Good.sub`, `Good.cons`, `Good.replace`, `Good.rewrite`), and that the four calls the
strings are built from do; the other operations of a history are in `Props/C11.lean`.
-/
import NaijaVerif.Lemmas.BumpArena

namespace NaijaVerif.Bump

structure BlockOk (a : Arena) (b : Block) : Prop where
  apos    : 0 < b.align
  inb     : b.beg + b.len ≤ a.offset
  aligned : b.align ∣ a.base + b.beg
  content : ∀ k, k < b.len → a.mem (b.beg + k) = b.data k
  /-- a vector living in the block never claims more than the block (`len ≤ capacity`) -/
  usedLe  : b.used ≤ b.len

structure Good (s : St) : Prop where
  inv    : s.a.Inv
  blocks : ∀ b, b ∈ s.live → BlockOk s.a b
  disj   : s.live.Pairwise Disj

theorem BlockOk.frame {a a' : Arena} {b : Block} (h : BlockOk a b) (hb : a'.base = a.base)
    (ho : b.beg + b.len ≤ a'.offset) (hm : ∀ k, k < b.len → a'.mem (b.beg + k) = a.mem (b.beg + k)) :
    BlockOk a' b :=
  ⟨h.apos, ho, hb ▸ h.aligned, fun k hk => (hm k hk).trans (h.content k hk), h.usedLe⟩

theorem BlockOk.keeps {a a' : Arena} {b : Block} {m : Nat} (h : BlockOk a b) (hK : a.Keeps a' m)
    (hm : b.beg + b.len ≤ m) (ho : b.beg + b.len ≤ a'.offset) : BlockOk a' b :=
  h.frame hK.base ho fun _ hk => hK.mem _ (Nat.lt_of_lt_of_le (Nat.add_lt_add_left hk _) hm)

/-- Blocks are only given back (`reset`, `decommit`, `release`). -/
theorem Good.sub {s : St} (hG : Good s) {a' : Arena} {live' : List Block} (bor : List Nat) {m : Nat}
    (hsub : live'.Sublist s.live) (hK : s.a.Keeps a' m) (hm : m ≤ a'.offset)
    (hk : ∀ c, c ∈ live' → BlockOk s.a c → c.beg + c.len ≤ m) :
    Good { a := a', live := live', borrows := bor } :=
  ⟨hK.inv, fun c hc' =>
      have hc0 := hG.blocks c (hsub.subset hc')
      hc0.keeps hK (hk c hc' hc0) (Nat.le_trans (hk c hc' hc0) hm),
    hG.disj.sublist hsub⟩

theorem Good.cons {s : St} (hG : Good s) {a' : Arena} {b : Block} (hI : a'.Inv) (hb : a'.base = s.a.base)
    (hm : ∀ i, i < s.a.offset → a'.mem i = s.a.mem i) (hok : BlockOk a' b) (hnew : s.a.offset ≤ b.beg) :
    Good { s with a := a', live := b :: s.live } := by
  have hle : s.a.offset ≤ a'.offset := Nat.le_trans hnew (Nat.le_trans (Nat.le_add_right _ _) hok.inb)
  refine ⟨hI, fun c hc' => ?_, List.pairwise_cons.2 ⟨fun c hc' => ?_, hG.disj⟩⟩
  · rcases List.mem_cons.1 hc' with rfl | hc'
    · exact hok
    · have hc := hG.blocks c hc'
      exact hc.frame hb (Nat.le_trans hc.inb hle)
        fun _ hk => hm _ (Nat.lt_of_lt_of_le (Nat.add_lt_add_left hk _) hc.inb)
  · exact .of_le (Nat.le_trans (hG.blocks c hc').inb hnew)

/-- `b` is replaced by `b'` (moved, resized, rewritten) and some other blocks may be given back.
`hrest`: the caller shows a kept block disjoint from `b'` knowing that it was disjoint from `b`. -/
theorem Good.replace {s : St} (hG : Good s) {id : Nat} {b : Block} (hf : findBlk s.live id = some b)
    {a' : Arena} {b' : Block} {rest : List Block} (hsub : rest.Sublist (dropBlk s.live id))
    (hI : a'.Inv) (hok : BlockOk a' b')
    (hrest : ∀ c, c ∈ rest → BlockOk s.a c → Disj b c → BlockOk a' c ∧ Disj b' c) :
    Good { s with a := a', live := b' :: rest } := by
  have hall : ∀ c, c ∈ rest → BlockOk a' c ∧ Disj b' c := fun c hc' =>
    hrest c hc' (hG.blocks c (List.eraseP_sublist.subset (hsub.subset hc')))
      (rel_found_dropped Disj.symm hG.disj hf (hsub.subset hc'))
  refine ⟨hI, fun c hc' => ?_, List.pairwise_cons.2
    ⟨fun c hc' => (hall c hc').2, hG.disj.sublist (hsub.trans List.eraseP_sublist)⟩⟩
  rcases List.mem_cons.1 hc' with rfl | hc'
  · exact hok
  · exact (hall c hc').1

/-- The owner writes into its block `b` and sets its length: `hdata` says what the block then holds,
`hout` that no byte outside the block changed. -/
theorem Good.rewrite {s : St} (hG : Good s) {id : Nat} {b : Block} (hf : findBlk s.live id = some b)
    {mem' : Mem} {data' : Nat → Nat} {used' : Nat} (hu : used' ≤ b.len)
    (hdata : ∀ k, k < b.len → mem' (b.beg + k) = data' k)
    (hout : ∀ i, i < b.beg ∨ b.beg + b.len ≤ i → mem' i = s.a.mem i) :
    Good { s with a := { s.a with mem := mem' }
                  live := { b with data := data', used := used' } :: dropBlk s.live id } := by
  have hb := hG.blocks b (findBlk_mem hf)
  refine hG.replace hf (.refl _) (hG.inv.withOffset (Nat.le_refl _) _) ⟨hb.apos, hb.inb, hb.aligned, hdata, hu⟩ ?_
  intro c _ hc hd
  refine ⟨hc.frame rfl hc.inb (fun k hk => hout _ ?_), hd⟩
  unfold Disj at hd
  omega

theorem init_good (base capacity : Nat) : Good (St.init base capacity) :=
  ⟨(new_spec base capacity).1, fun _ h => (nomatch h), List.Pairwise.nil⟩

theorem good_allocBlk (s : St) (hG : Good s) (id bytes align : Nat) (zeroed : Bool) :
    Good (s.allocBlk id bytes align zeroed) := by
  unfold St.allocBlk
  split
  · exact hG
  · rename_i hal
    have ha : 0 < align := Nat.pos_of_ne_zero hal
    split
    · exact hG
    · rename_i beg a' h
      have hA : s.a.Allocd bytes align beg a' := by
        cases zeroed
        · exact alloc_ok _ _ _ _ _ hG.inv h
        · exact (allocZeroed_ok _ _ _ _ _ hG.inv ha h).1
      obtain ⟨s1, _, s3⟩ := absBeg_spec s.a align ha
      rw [← hA.start] at s1 s3
      exact hG.cons hA.inv hA.base hA.mem
        ⟨ha, Nat.le_of_eq hA.off.symm, hA.base ▸ s3, fun _ _ => rfl, Nat.zero_le _⟩ s1

theorem good_growBlk (s : St) (hG : Good s) (id newSize : Nat) : Good (s.growBlk id newSize) := by
  unfold St.growBlk
  split
  · exact hG
  · rename_i b hf
    have hb := hG.blocks b (findBlk_mem hf)
    split
    · exact hG
    · rename_i hsz
      split
      · exact hG
      · rename_i nb a' h
        have hg := grow_ok _ _ _ _ _ _ _ hG.inv hb.apos hb.inb hb.aligned (Nat.le_of_not_lt hsz) h
        have hK := hg.toKeeps
        refine hG.replace hf (.refl _) hg.inv
          ⟨hb.apos, Nat.le_of_eq hg.off, hg.base ▸ hg.aligned, fun k _ => ?_,
            Nat.le_trans hb.usedLe (Nat.le_of_not_lt hsz)⟩ ?_
        · show a'.mem (nb + k) = if k < b.len then b.data k else a'.mem (nb + k)
          split
          · rename_i hk; exact (hg.copied k hk).trans (hb.content k hk)
          · rfl
        · intro c _ hc hd
          have hci := hc.inb
          -- the offset has not gone down: the block ends where the new offset is, and starts in place or above
          have hup : s.a.offset ≤ a'.offset := by
            have hoff := hg.off; have hin := hg.inPlace; have hmv := hg.moved
            omega
          refine ⟨hc.keeps hK hci (Nat.le_trans hci hup), ?_⟩
          -- the new block starts where the old one did (tail: the others lie below its old end) or above the old offset
          by_cases ht : b.beg + b.len = s.a.offset
          · exact hd.grow (hg.inPlace ht) (ht ▸ hci)
          · exact .of_le (Nat.le_trans hci (hg.moved ht))

theorem good_shrinkBlk (s : St) (hG : Good s) (id newSize : Nat) : Good (s.shrinkBlk id newSize) := by
  unfold St.shrinkBlk
  split
  · exact hG
  · rename_i b hf
    have hb := hG.blocks b (findBlk_mem hf)
    split
    · rename_i hleg
      rw [shrink_tail s.a b.beg b.len newSize hleg.2.1]
      refine hG.replace hf List.filter_sublist (hG.inv.withOffset (Nat.le_trans (Nat.add_le_add_left hleg.1 _) hb.inb) _)
        ⟨hb.apos, Nat.le_refl _, hb.aligned,
          fun k hk => hb.content k (Nat.lt_of_lt_of_le hk hleg.1), hleg.2.2⟩ ?_
      intro c hc' hc hd
      exact ⟨hc.frame rfl (mem_below.1 hc').2 (fun _ _ => rfl), hd.shrink rfl hleg.1⟩
    · exact hG

/-- Hypothesis `h` is the proof obligation of the unsafe code: the write stays inside the block and
the new length does not exceed the capacity. -/
theorem good_strWrite (s : St) (hG : Good s) (id : Nat) (w : Nat → Mem → Mem) (used' : Nat)
    (h : ∀ b, findBlk s.live id = some b →
      used' ≤ b.len ∧ ∀ i, (i < b.beg ∨ b.beg + b.len ≤ i) → w b.beg s.a.mem i = s.a.mem i) :
    Good (strWrite s id w used') := by
  unfold strWrite
  split
  · exact hG
  · rename_i b hf
    exact hG.rewrite hf (h b hf).1 (fun _ _ => rfl) (h b hf).2

end NaijaVerif.Bump
