/-
Generic lemmas about `Model/Depth.lean`: the potential function, the depth invariant, pumping along an
unguarded cycle.
-/
import NaijaVerif.Model.Depth

namespace NaijaVerif.Depth

variable {α : Type} [DecidableEq α]

theorem le_listMax {l : List Nat} {x : Nat} (h : x ∈ l) : x ≤ listMax l := by
  induction l with
  | nil => cases h
  | cons y ys ih =>
    simp only [listMax]
    cases h with
    | head => exact Nat.le_max_left _ _
    | tail _ h' => exact Nat.le_trans (ih h') (Nat.le_max_right _ _)

theorem listMax_le {l : List Nat} {b : Nat} (h : ∀ x ∈ l, x ≤ b) : listMax l ≤ b := by
  induction l with
  | nil => exact Nat.zero_le _
  | cons y ys ih =>
    exact Nat.max_le.mpr ⟨h y List.mem_cons_self, ih fun x hx => h x (List.mem_cons_of_mem _ hx)⟩

theorem listMax_map_mono {β : Type} (l : List β) (φ ψ : β → Nat) (h : ∀ x ∈ l, φ x ≤ ψ x) :
    listMax (l.map φ) ≤ listMax (l.map ψ) := by
  refine listMax_le fun v hv => ?_
  obtain ⟨x, hx, rfl⟩ := List.mem_map.mp hv
  exact Nat.le_trans (h x hx) (le_listMax (List.mem_map_of_mem hx))

theorem mem_succ {g : Graph α} {f h : α} (he : (f, h) ∈ g.edges) : h ∈ g.succ f :=
  List.mem_map.mpr ⟨(f, h), List.mem_filter.mpr ⟨he, by simp⟩, rfl⟩

theorem pot_succ (g : Graph α) (c : α → Nat) (n : Nat) (f : α) :
    pot g c (n + 1) f =
      c f + listMax ((g.succ f).map fun h => if g.guarded h then c h else pot g c n h) := rfl

theorem cost_le_pot (g : Graph α) (c : α → Nat) (n : Nat) (f : α) : c f ≤ pot g c n f := by
  cases n with
  | zero => exact Nat.le_refl _
  | succ n => exact Nat.le_add_right _ _

theorem pot_mono (g : Graph α) {c c' : α → Nat} (hc : ∀ f, c f ≤ c' f) :
    ∀ {n m : Nat}, n ≤ m → ∀ f, pot g c n f ≤ pot g c' m f
  | 0, m, _, f => Nat.le_trans (hc f) (cost_le_pot g c' m f)
  | n + 1, m + 1, hnm, f => by
    rw [pot_succ, pot_succ]
    refine Nat.add_le_add (hc f) (listMax_map_mono _ _ _ fun x _ => ?_)
    split
    · exact hc x
    · exact pot_mono g hc (Nat.le_of_succ_le_succ hnm) x

/-- One call `f → h` under `f`'s potential: a guarded callee ends the chain with its own frame, an unguarded
one continues it with one unit of fuel less. -/
theorem pot_edge (g : Graph α) (c : α → Nat) (n : Nat) {f h : α} (he : (f, h) ∈ g.edges) :
    c f + (if g.guarded h then c h else pot g c n h) ≤ pot g c (n + 1) f := by
  rw [pot_succ]
  exact Nat.add_le_add_left
    (le_listMax (List.mem_map_of_mem (f := fun h => if g.guarded h then c h else pot g c n h) (mem_succ he))) _

theorem potR_edge_guarded (g : Graph α) (c r : α → Nat) {f h : α} (he : (f, h) ∈ g.edges)
    (hg : g.guarded h = true) : c f + c h ≤ potR g c r f := by
  have := pot_edge g c (r f) he
  rwa [if_pos hg] at this

/-- Calling an unguarded function: its whole potential fits under the caller's, because the rank — hence the
fuel — goes down along the edge. -/
theorem potR_edge_free (g : Graph α) (c r : α → Nat) (hr : rankOK g r = true) {f h : α}
    (he : (f, h) ∈ g.edges) (hg : g.guarded h = false) : c f + potR g c r h ≤ potR g c r f := by
  have hrank : r h < r f := by simpa [hg] using List.all_eq_true.mp hr (f, h) he
  have := pot_edge g c (r f) he
  rw [if_neg (by simp [hg])] at this
  exact Nat.le_trans (Nat.add_le_add_left (pot_mono g (fun _ => Nat.le_refl _) hrank h) _) this

theorem potR_le_gap (g : Graph α) (c r : α → Nat) (root : α) {f : α} (h : f ∈ anchors g root) :
    potR g c r f ≤ gap g c r root :=
  le_listMax (List.mem_map_of_mem h)

theorem gap_mono_cost (g : Graph α) (c c' : α → Nat) (r : α → Nat) (root : α)
    (hc : ∀ f, c f ≤ c' f) : gap g c r root ≤ gap g c' r root :=
  listMax_map_mono _ _ _ fun x _ => pot_mono g hc (Nat.le_refl _) x

/-- The invariant behind the bound: below the top frame there is room for the top frame's whole
potential (unguarded top), resp. for its own frame (guarded top, which is a guard point itself). -/
def Inv (g : Graph α) (c r : α → Nat) (budget : Nat) (root : α) : List α → Prop
  | [] => True
  | f :: s =>
    (g.guarded f = true → potR g c r f ≤ gap g c r root ∧ depth c s + c f ≤ budget + gap g c r root) ∧
    (g.guarded f = false → depth c s + potR g c r f ≤ budget + gap g c r root)

theorem reachable_inv (g : Graph α) (c r : α → Nat) (budget : Nat) (root : α)
    (hr : rankOK g r = true) {s : List α} (h : Reachable g c budget root s) :
    Inv g c r budget root s := by
  induction h with
  | root =>
    have hroot : potR g c r root ≤ gap g c r root := potR_le_gap g c r root List.mem_cons_self
    have hc : c root ≤ potR g c r root := cost_le_pot g c _ root
    exact ⟨fun _ => ⟨hroot, by simp only [depth]; omega⟩, fun _ => by simp only [depth]; omega⟩
  | @call f h s _ he hguard ih =>
    have hroom : depth c s + potR g c r f ≤ budget + gap g c r root := by
      cases hf : g.guarded f with
      | true => have := (ih.1 hf).1; have := hguard hf; omega
      | false => exact ih.2 hf
    constructor
    · intro hh
      have hanchor : h ∈ anchors g root :=
        List.mem_cons_of_mem _ (List.mem_filter.mpr ⟨List.mem_map_of_mem (f := (·.2)) he, hh⟩)
      have := potR_edge_guarded g c r he hh
      exact ⟨potR_le_gap g c r root hanchor, by simp only [depth]; omega⟩
    · intro hh
      have := potR_edge_free g c r hr he hh
      simp only [depth]; omega

theorem reachable_depth_le (g : Graph α) (c r : α → Nat) (budget : Nat) (root : α)
    (hr : rankOK g r = true) {s : List α} (h : Reachable g c budget root s) :
    depth c s ≤ budget + gap g c r root := by
  have hinv := reachable_inv g c r budget root hr h
  cases s with
  | nil => exact Nat.zero_le _
  | cons f s =>
    simp only [depth]
    cases hf : g.guarded f with
    | true => have := (hinv.1 hf).2; omega
    | false => have := hinv.2 hf; have : c f ≤ potR g c r f := cost_le_pot g c _ f; omega

omit [DecidableEq α] in
theorem exec_reachable (g : Graph α) (c : α → Nat) (budget : Nat) (root : α) {s : List α}
    (h : Exec g c budget root s) : Reachable g c budget root s := by
  induction h with
  | start => exact .root
  | step _ st ih =>
    cases st with
    | push he hg => exact .call ih he hg
    | pop => cases ih with | call h' _ _ => exact h'

omit [DecidableEq α] in
/-- Above the budget a guarded frame cannot call anything: it is the leaf that reports the overflow. -/

theorem guarded_blocks_calls {g : Graph α} {c : α → Nat} {budget : Nat} {f h : α} {s : List α}
    (hf : g.guarded f = true) (hover : budget < depth c s) : ¬ Step g c budget (f :: s) (h :: f :: s) := by
  intro st
  cases st with
  | push _ hg => exact Nat.not_lt.mpr (hg hf) hover

omit [DecidableEq α] in
theorem depth_append (c : α → Nat) (a b : List α) : depth c (a ++ b) = depth c a + depth c b := by
  induction a with
  | nil => simp [depth]
  | cons x xs ih => simp only [List.cons_append, depth, ih]; omega

theorem reachable_walk (g : Graph α) (c : α → Nat) (budget : Nat) (root : α) :
    ∀ (l : List α) (f : α) (s : List α), Reachable g c budget root (f :: s) → freeWalk g f l = true →
      Reachable g c budget root (l.reverse ++ f :: s) := by
  intro l
  induction l with
  | nil => intro f s h _; simpa using h
  | cons x xs ih =>
    intro f s h hw
    simp only [freeWalk, Bool.and_eq_true, Bool.not_eq_true', List.contains_iff_mem] at hw
    obtain ⟨⟨hf, he⟩, hrest⟩ := hw
    have hx : Reachable g c budget root (x :: f :: s) := .call h he (by simp [hf])
    simpa using ih x (f :: s) hx hrest

/-- If a cycle `f → init₁ → … → f` runs through unguarded callers only, the stack can be pumped: every
round of the cycle puts another frame of `f` on top. -/
theorem pump (g : Graph α) (c : α → Nat) (budget : Nat) (root : α) (f : α) (init : List α)
    (hc : 0 < c f) (hw : freeWalk g f (init ++ [f]) = true)
    {s0 : List α} (h0 : Reachable g c budget root (f :: s0)) :
    ∀ B : Nat, ∃ s, Reachable g c budget root (f :: s) ∧ B < depth c (f :: s) := by
  intro B
  induction B with
  | zero => exact ⟨s0, h0, by simp only [depth]; omega⟩
  | succ B ih =>
    obtain ⟨s, hs, hd⟩ := ih
    have hr := reachable_walk g c budget root (init ++ [f]) f s hs hw
    rw [List.reverse_append, List.reverse_singleton, List.singleton_append, List.cons_append] at hr
    refine ⟨_, hr, ?_⟩
    rw [depth, depth_append]
    omega

theorem free_cycle_pumps (g : Graph α) (root f : α) (init pre : List α)
    (hpre : freeWalk g root (pre ++ [f]) = true) (hcyc : freeWalk g f (init ++ [f]) = true)
    (c : α → Nat) (hc : 0 < c f) (budget B : Nat) :
    ∃ s, Reachable g c budget root (f :: s) ∧ B < depth c (f :: s) := by
  have h0 := reachable_walk g c budget root (pre ++ [f]) root [] .root hpre
  rw [List.reverse_append, List.reverse_singleton, List.singleton_append, List.cons_append] at h0
  exact pump g c budget root f init hc hcyc h0 B

end NaijaVerif.Depth
