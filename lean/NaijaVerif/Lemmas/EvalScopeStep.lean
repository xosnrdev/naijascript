import NaijaVerif.Lemmas.EvalScopeSim
import NaijaVerif.Lemmas.EvalLogic
/-
C04, dynamic half — the induction: the instance of `Logic` for `cfg.dyn` against `cfg.lex` with `R` equality,
the invariant `MR`, the tie `Frame` and the side condition `ws…`.  Its laws are the lemmas about `MR`
(`Lemmas/EvalScopeState.lean`): the two lookups agree, `define` and an update keep `MR`, a block and a call
enter a state with `MR` in the inner context and `MR.pop` returns from it.
-/
namespace NaijaVerif.Eval
open NaijaVerif

variable {N : Type} [NumOps N]

/-- `T` and `V` are `True`: no site needs a reason and no flow a condition, since C04 relates the two runs whatever they
end with; hence the `trivial`s among the laws. -/
def agLogic (cfg : RunCfg) : Logic N cfg.dyn cfg.lex (List Binder) where
  R := fun r r' => r = r'
  T := fun _ => True
  Inv := MR cfg
  Fr := Frame
  E := fun Γ e => wsExpr Γ e = true
  S := fun Γ s => wsStmt Γ s = true
  Ss := fun Γ ss => wsStmts Γ ss = true
  B := fun Γ b => wsBlock Γ b = true
  V := fun _ _ => True

/-- The judgment of `agLogic` gives C04's `Ag`: `Ag` reads the second result, which is the first, and has no condition
on the value.  In the same way `WsSel` is `agLogic`'s `Sel` without the half about sites (`T` is `True`) and `AgAll cfg f`
is its `All f f` (`ag_all`). -/
theorem agLogic_J {cfg : RunCfg} {Γ : List Binder} {st0 : State N} {α : Type} {Q : α → Prop} {r r' : Res N α}
    (h : (agLogic cfg).J Γ st0 Q r r') : Ag cfg Γ st0 r r' := by
  obtain ⟨e, h⟩ := h
  cases e
  exact ⟨rfl, fun a st' e => ⟨(h a st' e).1, (h a st' e).2.1⟩⟩

omit [NumOps N] in
theorem hoist_dyn (cfg : RunCfg) (ss : List Stmt) (st : State N) : hoist cfg.dyn ss st = hoist cfg ss st :=
  hoist_congr (cfg := cfg) (cfg' := cfg.dyn) (fun _ => rfl) ss st

omit [NumOps N] in
theorem hoist_lex (cfg : RunCfg) (ss : List Stmt) (st : State N) : hoist cfg.lex ss st = hoist cfg ss st :=
  hoist_congr (cfg := cfg) (cfg' := cfg.lex) (fun _ => rfl) ss st

theorem wsExprs_mem {Γ : List Binder} : ∀ {es : List Expr}, wsExprs Γ es = true → ∀ e ∈ es, wsExpr Γ e = true
  | [], _, _, h => by cases h
  | e :: es, hws, e', h => by
    simp only [wsExprs, Bool.and_eq_true] at hws
    rcases List.mem_cons.1 h with rfl | h
    · exact hws.1
    · exact wsExprs_mem hws.2 e' h

theorem ws_kids {Γ : List Binder} {e : Expr} (h : wsExpr Γ e = true) : ∀ e' ∈ e.kids, wsExpr Γ e' = true := by
  cases e with
  | binary op l r sp | index l r isp sp =>
    simp only [wsExpr, Bool.and_eq_true] at h
    exact List.forall_mem_cons.2 ⟨h.1, List.forall_mem_cons.2 ⟨h.2, nofun⟩⟩
  | unary op x sp => exact List.forall_mem_cons.2 ⟨by simpa only [wsExpr] using h, nofun⟩
  | array es sp => exact wsExprs_mem (es := es) (by simpa only [wsExpr] using h)
  | call callee args fn sp =>
    cases callee with
    | member obj field fsp msp =>
      simp only [wsExpr, Bool.and_eq_true] at h
      exact List.forall_mem_cons.2 ⟨h.1, wsExprs_mem h.2⟩
    | var name b vsp =>
      simp only [wsExpr, Bool.and_eq_true] at h
      exact wsExprs_mem h.1
    | _ => exact wsExprs_mem (es := args) (by simpa only [wsExpr] using h)
  | _ => exact nofun

theorem ws_ref {cfg : RunCfg} {Γ : List Binder} {bind : Option Nat} (h : boundIn Γ bind = true) (name : Bytes) :
    (agLogic (N := N) cfg).Ref Γ name bind := ⟨default, by simpa only [agLogic, wsExpr] using h⟩

theorem agLogic_laws (cfg : RunCfg) : (agLogic (N := N) cfg).Laws where
  toSiteLaws := .ofT fun _ => trivial
  ok _ _ := rfl
  err _ _ _ := rfl
  trap _ _ _ := rfl
  fixedT _ := trivial
  bind := Res.bind_congr
  kids := ws_kids
  seg h hmem := by
    simp only [agLogic, wsExpr] at h
    exact ws_ref (List.all_eq_true.1 h _ hmem) _
  exprs := by
    intro Γ s h
    cases s with
    | assign _ _ e _ _ _ | assignExisting _ _ e _ _ _ =>
      simp only [agLogic, wsStmt, Bool.and_eq_true] at h
      exact List.forall_mem_cons.2 ⟨h.1, nofun⟩
    | assignIndex t e _ _ =>
      simp only [agLogic, wsStmt, Bool.and_eq_true] at h
      exact List.forall_mem_cons.2 ⟨h.1, List.forall_mem_cons.2 ⟨h.2, nofun⟩⟩
    | ifS c t e _ _ =>
      simp only [agLogic, wsStmt, Bool.and_eq_true] at h
      exact List.forall_mem_cons.2 ⟨h.1.1, nofun⟩
    | ret e _ _ =>
      cases e with
      | none => exact nofun
      | some e => exact List.forall_mem_cons.2 ⟨by simpa only [agLogic, wsStmt] using h, nofun⟩
    | expr e _ _ => exact List.forall_mem_cons.2 ⟨by simpa only [agLogic, wsStmt] using h, nofun⟩
    | _ => exact nofun
  blocks := by
    intro Γ s h
    cases s with
    | ifS c t e _ _ =>
      simp only [agLogic, wsStmt, Bool.and_eq_true] at h
      cases e with
      | none => exact List.forall_mem_cons.2 ⟨h.1.2, nofun⟩
      | some eb =>
        exact List.forall_mem_cons.2 ⟨h.1.2, List.forall_mem_cons.2 ⟨by simpa only [agLogic, wsOptBlock] using h.2, nofun⟩⟩
    | block b _ _ => exact List.forall_mem_cons.2 ⟨by simpa only [agLogic, wsStmt] using h, nofun⟩
    | _ => exact nofun
  target h := by
    simp only [agLogic, wsStmt, Bool.and_eq_true] at h
    exact ws_ref h.2 _
  loop h := by
    simp only [agLogic, wsStmt, Bool.and_eq_true] at h
    exact ⟨_, fun _ => Iff.rfl, h.1, h.2⟩
  cons h := by
    simp only [agLogic, wsStmts, Bool.and_eq_true] at h
    exact ⟨fun _ => h.1, h.2⟩
  plain _ := trivial
  jumpBrk _ := trivial
  jumpNext _ := trivial
  refl := Frame.refl
  trans := Frame.trans
  host _ _ _ := rfl
  std := rfl
  prune _ := rfl
  slot hm hr := by
    obtain ⟨sp, h⟩ := hr
    exact (slotOf_agree hm (by simpa only [agLogic, wsExpr] using h) _).symm
  define hm hs v := by
    simp only [agLogic, wsStmt, Bool.and_eq_true] at hs
    exact hm.define hs.2 _ v
  mutE hm _ _ := hm.updateAt
  mutS hm _ := hm.updateAt
  io := by
    intro Γ st name b vsp args fn sp gb hm _ _ out input
    have hf : Frame st { st with out := out, input := input } := ⟨rfl, rfl, Nat.le_refl _⟩
    exact ⟨hm.transfer hf hm.slots, hf⟩
  enterBlock := by
    intro Γ st b hm hws
    obtain ⟨ss, sp⟩ := b
    simp only [agLogic, wsBlock, Bool.and_eq_true] at hws
    obtain ⟨hmT, T, he, hn⟩ := hm.enterBlock (.block sp) ss hws.1 hws.2
    rw [← hoist_dyn cfg] at hmT he hn
    exact ⟨.ofStmts ss :: Γ, (hoist_lex cfg ss _).trans (hoist_dyn cfg ss _).symm, hmT, hws.2, fun st2 hm2 hF2 =>
      have hp := hm.pop he hn hF2 hm2.slots
      ⟨hp.1, hp.2, fun _ _ => trivial⟩⟩
  callFn := by
    intro Γ st name b vsp args fn sp hm hws hg
    simp only [agLogic, wsExpr, Bool.and_eq_true] at hws
    have hfb : fnBoundIn Γ fn = true := by simpa [hg] using hws.2
    have hlk := lookupFn_agree hm hfb name
    refine ⟨hlk.symm, fun _ => trivial, fun fd hfd vs st1 _ hm1 hF1 => ?_⟩
    refine ⟨fun _ => trivial, fun _ => trivial, fun ids hids => ?_⟩
    have hfd1 : lookupFn cfg.lex st1 fn name = some fd := by rw [lookupFn_frame hF1, ← hlk]; exact hfd
    obtain ⟨j, _, hmP, hbody⟩ := hm1.enterCall hfd1 hids vs
    exact ⟨_, hmP, hbody, fun st3 hm3 hF3 => hm1.pop rfl (Nat.le_succ _) hF3 hm3.slots, fun _ _ _ => trivial⟩

theorem agLogic_all (cfg : RunCfg) : ∀ f, (agLogic (N := N) cfg).All f f :=
  Logic.all (agLogic_laws cfg) rfl

theorem ag_all (cfg : RunCfg) : ∀ f, AgAll (N := N) cfg f := fun f =>
  have h := agLogic_all (N := N) cfg f
  ⟨fun Γ e st hm hws => agLogic_J (h.expr Γ e st hm hws),
   fun Γ es st hm hws => agLogic_J (h.sel Γ es st hm ⟨hws, fun _ _ => trivial⟩),
   fun Γ is st hm hws => agLogic_J (h.idxs Γ is st hm hws),
   fun Γ m args sp st hm hws => agLogic_J (h.mutOp Γ m args sp st hm (wsExprs_mem hws)),
   fun Γ s st hm hws => agLogic_J (h.stmt Γ s st hm hws), fun Γ ss st hm hws => agLogic_J (h.stmts Γ ss st hm hws),
   fun Γ b st hm hws => agLogic_J (h.block Γ b st hm hws),
   fun Γ c b sp st hm hc hb => agLogic_J (h.loop Γ c b sp st hm hc hb)⟩

end NaijaVerif.Eval
