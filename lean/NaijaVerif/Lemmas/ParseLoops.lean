import NaijaVerif.Model.Parse
/-
The model writes `synchronize` and the parameter loop of `parse_function_def` by structural recursion on
the remaining tokens (`syncGo`, `paramsGo`).  Here they are given back the form they have in the Rust
source, as loops over parser states: one unfolding equation each (`sync_eq`, `parseParams_eq`) and the
induction along the loop (`sync_induct`, `parseParams_induct`).  Everything proved about the two loops
goes through these.
-/
namespace NaijaVerif.Parse
open NaijaVerif

theorem isSync_eof : isSync Tok.eof = true := by decide

/-- `while !is_sync(cur) { bump }`. -/
theorem sync_eq (st : PState) : st.sync = if isSync st.cur.tok then st else st.bump.sync := by
  obtain ⟨cur, rest, errs⟩ := st
  -- tokens left or not, stop or not: the four cases unfold alike; off the last token `bump` makes up `EOF`, which stops
  cases rest <;> by_cases h : isSync cur.tok = true <;>
    simp [PState.sync, syncGo, h, PState.bump, show isSync (eofAt cur.span.hi).tok = true from isSync_eof]

/-- The bump off the last token fabricates `EOF`, which is a synchronisation token. -/
theorem sync_induct {M : PState → PState → Prop} (stop : ∀ st, isSync st.cur.tok = true → M st st)
    (step : ∀ st, isSync st.cur.tok = false → M st.bump st.bump.sync → M st st.bump.sync) (st : PState) :
    M st st.sync := by
  obtain ⟨cur, rest, errs⟩ := st
  induction rest generalizing cur with
  | nil =>
    rw [sync_eq]
    by_cases h : isSync cur.tok = true
    · rw [if_pos h]; exact stop _ h
    · have he : isSync (PState.bump ⟨cur, [], errs⟩).cur.tok = true := isSync_eof
      rw [if_neg h]
      refine step _ (Bool.not_eq_true _ ▸ h) ?_
      rw [sync_eq, if_pos he]; exact stop _ he
  | cons t ts ih =>
    rw [sync_eq]
    by_cases h : isSync cur.tok = true
    · rw [if_pos h]; exact stop _ h
    · rw [if_neg h]; exact step _ (Bool.not_eq_true _ ▸ h) (ih t)

theorem paramStep_some {st : PState} {p st'} (h : paramStep st = some (p, st')) :
    st'.cur = st.cur ∧ st'.rest = st.rest := by
  unfold paramStep at h
  split at h
  · simp at h; obtain ⟨_, rfl⟩ := h; exact ⟨rfl, rfl⟩
  · split at h
    · simp at h; obtain ⟨_, rfl⟩ := h; exact ⟨rfl, rfl⟩
    · simp at h

/-- `loop { parameter, or break; bump; if Comma { bump } else { break } }`. -/
theorem parseParams_eq (st : PState) : parseParams st =
    match paramStep st with
    | none => ([], st)
    | some (p, st1) =>
      if st1.bump.cur.tok == .comma then
        (p :: (parseParams st1.bump.bump).1, (parseParams st1.bump.bump).2)
      else ([p], st1.bump) := by
  obtain ⟨cur, rest, errs⟩ := st
  unfold parseParams
  rcases rest with _ | ⟨t, _ | ⟨u, us⟩⟩ <;> rw [paramsGo]
  · cases h : paramStep ⟨cur, [], errs⟩ with
    | none => rfl
    | some q =>
      have : (q.2.bump.cur.tok == Tok.comma) = false := by simp [PState.bump, (paramStep_some h).2, eofAt]
      simp only [this]; rfl
  · cases h : paramStep ⟨cur, [t], errs⟩ with
    | none => rfl
    | some q =>
      dsimp only
      by_cases hcm : (q.2.bump.cur.tok == Tok.comma) = true
      · -- the bump over the comma fabricates `EOF`, at which the loop breaks
        have : q.2.bump.bump = ⟨eofAt t.span.hi, [], q.2.errs⟩ := by simp [PState.bump, (paramStep_some h).2]
        simp only [hcm, if_true, this, paramsGo, show ∀ p e, paramStep ⟨eofAt p, [], e⟩ = none from fun _ _ => rfl]
      · simp only [hcm]; rfl
  · cases h : paramStep ⟨cur, t :: u :: us, errs⟩ with
    | none => rfl
    | some q =>
      have h1 : q.2.bump.cur = t := by simp [PState.bump, (paramStep_some h).2]
      have h2 : q.2.bump.bump = ⟨u, us, q.2.errs⟩ := by simp [PState.bump, (paramStep_some h).2]
      simp only [h1, h2]

theorem parseParams_induct {M : PState → List Param × PState → Prop}
    (stop : ∀ st, paramStep st = none → M st ([], st))
    (last : ∀ st p st1, paramStep st = some (p, st1) → (st1.bump.cur.tok == Tok.comma) = false →
      M st ([p], st1.bump))
    (more : ∀ st p st1 r, paramStep st = some (p, st1) → (st1.bump.cur.tok == Tok.comma) = true →
      M st1.bump.bump r → M st (p :: r.1, r.2)) : ∀ st, M st (parseParams st) := by
  have key : ∀ n st, st.rest.length ≤ n → M st (parseParams st) := by
    intro n
    induction n with
    | zero =>
      intro st hn
      rw [parseParams_eq]
      cases h : paramStep st with
      | none => exact stop st h
      | some q =>
        have hr : q.2.rest = [] := by
          rw [(paramStep_some h).2]; exact List.eq_nil_of_length_eq_zero (Nat.le_zero.1 hn)
        have hc : (q.2.bump.cur.tok == Tok.comma) = false := by simp [PState.bump, hr, eofAt]
        simp only [hc]; exact last st q.1 q.2 h hc
    | succ n ih =>
      intro st hn
      rw [parseParams_eq]
      cases h : paramStep st with
      | none => exact stop st h
      | some q =>
        by_cases hc : (q.2.bump.cur.tok == Tok.comma) = true
        · simp only [hc]
          refine more st q.1 q.2 _ h hc (ih _ ?_)
          rw [← (paramStep_some h).2] at hn
          generalize q.2 = s at hn
          obtain ⟨c, r, e⟩ := s
          -- a round that goes on has consumed two tokens (or all that are left), so the bound `n` holds of the rest
          rcases r with _ | ⟨t, _ | ⟨u, us⟩⟩ <;> simp [PState.bump] at hn ⊢ <;> omega
        · simp only [hc]; exact last st q.1 q.2 h (Bool.not_eq_true _ ▸ hc)
  exact fun st => key _ st (Nat.le_refl _)

end NaijaVerif.Parse
