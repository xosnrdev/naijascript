import NaijaVerif.Model.Mem
/-
The unary program logic over the evaluator monad `M` of `Model/Mem.lean`: `Triple P m Q` (every result of `m`
from a `P`-state satisfies `Q`, every stop is benign) and its rules; nothing here knows the invariant.
-/
namespace NaijaVerif.Mem
open NaijaVerif NaijaVerif.Pool

def Stop.benign : Stop → Prop
  | .poisoned _ => False
  | .badFree => False
  | _ => True

def Triple (P : St → Prop) (m : M α) (Q : α → St → Prop) : Prop :=
  ∀ s, P s → (∀ a s', m s = .ok a s' → Q a s') ∧ (∀ o s', m s = .stop o s' → o.benign)

/-- `Triple` read off one result by cases; `Triple.intro` / `Triple.sat` go between the two forms. A primitive's
lemma enters by `Triple.intro`, unfolds the primitive and splits its matches: each branch is then a literal
`.ok` or `.stop` and `Sat` reduces. -/
def Res.Sat (Q : α → St → Prop) : Res α → Prop
  | .ok a s => Q a s
  | .stop o _ => o.benign

theorem Triple.intro {P : St → Prop} {m : M α} {Q : α → St → Prop}
    (h : ∀ s, P s → (m s).Sat Q) : Triple P m Q := by
  intro s hs
  have := h s hs
  constructor
  · intro a s' hm; rw [hm] at this; exact this
  · intro o s' hm; rw [hm] at this; exact this

theorem Triple.sat {P : St → Prop} {m : M α} {Q : α → St → Prop} (h : Triple P m Q) {s : St}
    (hs : P s) : (m s).Sat Q := by
  cases hm : m s with
  | ok a s' => exact (h s hs).1 a s' hm
  | stop o s' => exact (h s hs).2 o s' hm

theorem Triple.bind {P : St → Prop} {m : M α} {Q : α → St → Prop} {k : α → M β}
    {R : β → St → Prop} (h₁ : Triple P m Q) (h₂ : ∀ a, Triple (Q a) (k a) R) :
    Triple P (m >>= k) R := by
  refine Triple.intro fun s hs => ?_
  have hm := h₁.sat hs
  show (M.bind m k s).Sat R
  unfold M.bind
  revert hm
  cases m s with
  | ok a s1 => exact fun hm => (h₂ a).sat hm
  | stop o s1 => exact fun hm => hm

theorem Triple.pure {P : St → Prop} {Q : α → St → Prop} (a : α) (h : ∀ s, P s → Q a s) :
    Triple P (pure a : M α) Q := Triple.intro h

theorem Triple.ret {P : St → Prop} (a : α) : Triple P (Pure.pure a : M α) (fun _ => P) :=
  Triple.pure a (fun _ h => h)

theorem Triple.ite {P : St → Prop} {Q : α → St → Prop} {c : Prop} [Decidable c] {t e : M α}
    (ht : Triple P t Q) (he : Triple P e Q) : Triple P (if c then t else e) Q := by
  split <;> assumption

theorem Triple.iteH {P : St → Prop} {Q : α → St → Prop} {c : Prop} [Decidable c] {t e : M α}
    (ht : c → Triple P t Q) (he : ¬c → Triple P e Q) : Triple P (if c then t else e) Q := by
  by_cases hc : c
  · rw [if_pos hc]; exact ht hc
  · rw [if_neg hc]; exact he hc

theorem Triple.pre {P P' : St → Prop} {m : M α} {Q : α → St → Prop} (h : Triple P m Q)
    (hp : ∀ s, P' s → P s) : Triple P' m Q := fun s hs => h s (hp s hs)

theorem Triple.post {P : St → Prop} {m : M α} {Q Q' : α → St → Prop} (h : Triple P m Q)
    (hq : ∀ a s, Q a s → Q' a s) : Triple P m Q' :=
  fun s hs => ⟨fun a s' hm => hq a s' ((h s hs).1 a s' hm), (h s hs).2⟩

theorem Triple.halt_benign {P : St → Prop} {Q : α → St → Prop} (o : Stop) (h : o.benign) :
    Triple P (halt o : M α) Q := Triple.intro fun _ _ => h

/- Two further rules, read by no proof: the primitives of `Model/Mem.lean` are written with `if` and `match`, so their
lemmas enter by `Triple.intro`. -/
theorem Triple.seq {P : St → Prop} {m : M Unit} {Q : St → Prop} {k : M β}
    {R : β → St → Prop} (h₁ : Triple P m (fun _ => Q)) (h₂ : Triple Q k R) :
    Triple P (do m; k) R := Triple.bind h₁ (fun _ => h₂)

theorem Triple.total {P : St → Prop} {Q : α → St → Prop} (f : St → α × St)
    (h : ∀ s, P s → Q (f s).1 (f s).2) : Triple P (fun s => .ok (f s).1 (f s).2) Q :=
  Triple.intro h

theorem Triple.assume {P : St → Prop} {φ : Prop} {m : M α} {Q : α → St → Prop}
    (h : φ → Triple P m Q) : Triple (fun s => P s ∧ φ) m Q :=
  fun s hs => h hs.2 s hs.1

-- For a proof that takes `Triple` apart itself (`intro s hs; constructor; intro a s' hm`) instead of entering by `Triple.intro`.
/-- Splits every match in the hypothesis `hm : prim s = …` (the primitive already unfolded) and
eliminates `hm` in the branches where `cases` applies. -/
macro "prim_cases" hm:ident : tactic =>
  `(tactic| (repeat' (split at $hm:ident)) <;> (first | cases $hm:ident | skip))

end NaijaVerif.Mem
