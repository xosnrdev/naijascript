import NaijaVerif.Model.Mem
/-
Counting handles: `Sub` (sub-multiset, as an inequality between `countP`s, so that rearrangements are linear
arithmetic), `cnt` (holders of a pool allocation), and what lookup, update, reversal and indexing do to the
handles of an environment or of a list of values.
-/
namespace NaijaVerif.Mem
open NaijaVerif NaijaVerif.Pool

def Sub (ys xs : List Handle) : Prop := ∀ p : Handle → Bool, ys.countP p ≤ xs.countP p

theorem Sub.refl (xs : List Handle) : Sub xs xs := fun _ => Nat.le_refl _

theorem Sub.trans {a b c : List Handle} (h₁ : Sub a b) (h₂ : Sub b c) : Sub a c :=
  fun p => Nat.le_trans (h₁ p) (h₂ p)

theorem Sub.mem {ys xs : List Handle} (h : Sub ys xs) {a : Handle} (ha : a ∈ ys) : a ∈ xs := by
  have h2 : 0 < ys.countP (· == a) := List.countP_pos_iff.mpr ⟨a, ha, beq_self_eq_true a⟩
  obtain ⟨b, hb, hba⟩ := List.countP_pos_iff.mp (Nat.lt_of_lt_of_le h2 (h _))
  exact eq_of_beq hba ▸ hb

theorem Sub.nil (xs : List Handle) : Sub [] xs := fun _ => Nat.zero_le _

def cnt (X : Nat) (hs : List Handle) : Nat := hs.countP (fun h => h.region.isPool && h.cid == X)

theorem Sub.cnt {ys xs : List Handle} (h : Sub ys xs) (X : Nat) : cnt X ys ≤ cnt X xs := h _

def slotsH (sc : List Slot) : List Handle := sc.flatMap (fun sl => sl.val.handles)
def envH (env : List (List Slot)) : List Handle := env.flatMap slotsH

def tempsH : List TE → List Handle
  | [] => []
  | .val v :: r => v.handles ++ tempsH r
  | .mark _ _ :: r => tempsH r

abbrev St.allH (s : St) : List Handle := envH s.env ++ MVal.handlesL s.out ++ tempsH s.temps

theorem slotsH_cons (sl : Slot) (sc : List Slot) : slotsH (sl :: sc) = sl.val.handles ++ slotsH sc :=
  List.flatMap_cons

theorem envH_cons (sc : List Slot) (env : List (List Slot)) : envH (sc :: env) = slotsH sc ++ envH env :=
  List.flatMap_cons

theorem Sub.append {a b c d : List Handle} (h₁ : Sub a b) (h₂ : Sub c d) : Sub (a ++ c) (b ++ d) :=
  fun p => by rw [List.countP_append, List.countP_append]; exact Nat.add_le_add (h₁ p) (h₂ p)

theorem Sub.left (a b : List Handle) : Sub a (a ++ b) :=
  fun p => by rw [List.countP_append]; exact Nat.le_add_right _ _

theorem Sub.right (a b : List Handle) : Sub b (a ++ b) :=
  fun p => by rw [List.countP_append]; exact Nat.le_add_left _ _

theorem Sub.of_eq {a b : List Handle} (h : a = b) : Sub a b := h ▸ Sub.refl a

theorem Sub.comm (a b : List Handle) : Sub (a ++ b) (b ++ a) :=
  fun p => by rw [List.countP_append, List.countP_append]; exact Nat.le_of_eq (Nat.add_comm _ _)

theorem Sub.left_comm (a b c : List Handle) : Sub (a ++ (b ++ c)) (b ++ (a ++ c)) :=
  fun p => by simp only [List.countP_append]; omega

theorem cnt_cons (X : Nat) (a : Handle) (l : List Handle) :
    cnt X (a :: l) = cnt X l + (if a.region.isPool && a.cid == X then 1 else 0) :=
  List.countP_cons

theorem cnt_append (X : Nat) (l₁ l₂ : List Handle) : cnt X (l₁ ++ l₂) = cnt X l₁ + cnt X l₂ :=
  List.countP_append

theorem cnt_eq_zero_of_lt {n : Nat} {l : List Handle}
    (h : ∀ a ∈ l, a.region.isPool = true → a.cid < n) : cnt n l = 0 := by
  refine List.countP_eq_zero.mpr fun a ha hp => ?_
  rw [Bool.and_eq_true, beq_iff_eq] at hp
  exact Nat.lt_irrefl n (hp.2 ▸ h a ha hp.1)

theorem cnt_pos_of_mem {X : Nat} {l : List Handle} {a : Handle} (ha : a ∈ l)
    (hp : a.region.isPool = true) (hc : a.cid = X) : 0 < cnt X l :=
  List.countP_pos_iff.mpr ⟨a, ha, by rw [hp, hc, Bool.true_and, beq_self_eq_true]⟩

theorem slotsH_setSlot : ∀ {sc : List Slot} {id : Nat} {old : MVal} (v : MVal),
    findSlot id sc = some old → ∀ p : Handle → Bool,
      (slotsH (setSlot id v sc)).countP p + old.handles.countP p
        = (slotsH sc).countP p + v.handles.countP p := by
  intro sc id old v
  fun_induction findSlot id sc
  · exact fun h => nomatch h
  · rename_i hid
    intro h p
    cases h
    unfold setSlot
    rw [if_pos hid]
    simp only [slotsH_cons, List.countP_append]
    omega
  · rename_i hid ih
    intro h p
    have := ih h p
    unfold setSlot
    rw [if_neg hid]
    simp only [slotsH_cons, List.countP_append]
    omega

theorem envH_setEnv : ∀ {env : List (List Slot)} {id : Nat} {old : MVal} (v : MVal),
    lookupEnv id env = some old → ∀ p : Handle → Bool,
      (envH (setEnv id v env)).countP p + old.handles.countP p
        = (envH env).countP p + v.handles.countP p := by
  intro env id old v
  fun_induction lookupEnv id env
  · exact fun h => nomatch h
  · rename_i hw
    intro h p
    cases h
    have := slotsH_setSlot v hw p
    unfold setEnv
    rw [hw]
    simp only [envH_cons, List.countP_append]
    omega
  · rename_i hw ih
    intro h p
    have := ih h p
    unfold setEnv
    rw [hw]
    simp only [envH_cons, List.countP_append]
    omega

theorem lookupEnv_sub {env : List (List Slot)} {id : Nat} {v : MVal} (h : lookupEnv id env = some v) :
    Sub v.handles (envH env) := fun p => by
  have := envH_setEnv .scalar h p
  simp only [MVal.handles, List.countP_nil] at this
  omega

theorem slotsH_reverse (sc : List Slot) (p : Handle → Bool) :
    (slotsH sc.reverse).countP p = (slotsH sc).countP p :=
  ((List.reverse_perm sc).flatMap_right _).countP_eq p

theorem handlesL_eq_flatMap : ∀ xs : List MVal, MVal.handlesL xs = xs.flatMap MVal.handles
  | [] => rfl
  | x :: xs => by rw [MVal.handlesL, handlesL_eq_flatMap xs, List.flatMap_cons]

theorem handlesL_append (xs ys : List MVal) :
    MVal.handlesL (xs ++ ys) = MVal.handlesL xs ++ MVal.handlesL ys := by
  simp only [handlesL_eq_flatMap, List.flatMap_append]

theorem handlesL_reverse (xs : List MVal) (p : Handle → Bool) :
    (MVal.handlesL xs.reverse).countP p = (MVal.handlesL xs).countP p := by
  rw [handlesL_eq_flatMap, handlesL_eq_flatMap]
  exact ((List.reverse_perm xs).flatMap_right _).countP_eq p

theorem handlesL_dropLast (xs : List MVal) (p : Handle → Bool) :
    (MVal.handlesL xs.dropLast).countP p + ((xs.getLast?).getD .scalar).handles.countP p
      = (MVal.handlesL xs).countP p := by
  induction xs with
  | nil => simp [MVal.handlesL, MVal.handles]
  | cons a xs ih =>
    cases xs with
    | nil => simp [MVal.handlesL]
    | cons b ys =>
      simp only [List.dropLast_cons_cons, List.getLast?_cons_cons, MVal.handlesL, List.countP_append] at ih ⊢
      omega

theorem handlesL_set : ∀ {els : List MVal} {k : Nat} {x : MVal} (x' : MVal),
    els[k]? = some x → ∀ p : Handle → Bool,
      (MVal.handlesL (els.set k x')).countP p + x.handles.countP p
        = (MVal.handlesL els).countP p + x'.handles.countP p := by
  intro els
  induction els with
  | nil => exact fun _ h => nomatch h
  | cons v els ih =>
    intro k x x' h p
    cases k with
    | zero =>
      cases h
      simp only [List.set_cons_zero, MVal.handlesL, List.countP_append]; omega
    | succ k =>
      have := ih x' h p
      simp only [List.set_cons_succ, MVal.handlesL, List.countP_append]; omega

theorem handlesL_getElem {els : List MVal} {k : Nat} {x : MVal} (h : els[k]? = some x) :
    Sub x.handles (MVal.handlesL els) := fun p => by
  have := handlesL_set .scalar h p
  simp only [MVal.handles, List.countP_nil] at this
  omega

end NaijaVerif.Mem
