import NaijaVerif.Lemmas.EvalCongr
/-
Fuel monotonicity of the evaluator: more fuel never changes a result other than `fuel`.
`Res.le r r'` ("`r` is `fuel` or equals `r'`") is compositional over `Res.bind`, so it passes through the
step of the evaluator (`EvalRel.step`), and the proof is one induction on the fuel.
-/
namespace NaijaVerif.Eval
open NaijaVerif

variable {N : Type}

def Res.le {α : Type} (r r' : Res N α) : Prop := r = .fuel ∨ r = r'

theorem Res.le_refl {α : Type} (r : Res N α) : r.le r := Or.inr rfl

theorem Res.fuel_le {α : Type} (r : Res N α) : (Res.fuel : Res N α).le r := Or.inl rfl

theorem Res.bind_le {α β : Type} {r r' : Res N α} {k k' : α → State N → Res N β}
    (h : r.le r') (hk : ∀ a st, r = .ok a st → (k a st).le (k' a st)) : (r.bind k).le (r'.bind k') := by
  rcases h with h | h
  · subst h; exact Or.inl rfl
  · subst h
    cases r with
    | ok a st => exact hk a st rfl
    | err => exact Or.inr rfl
    | panic => exact Or.inr rfl
    | fuel => exact Or.inl rfl

/-- How `Res.le` is read: a first result other than `fuel` is the second.  (`run_mono` below does the same by cases,
on `Outcome`s.) -/
theorem Res.le_of_ne_fuel {α : Type} {r r' : Res N α} (h : r.le r') (hne : r ≠ .fuel) : r' = r := by
  rcases h with h | h
  · exact absurd h hne
  · exact h.symm

variable [NumOps N]

omit [NumOps N] in
theorem Res.le_bindRel (cfg : RunCfg) : BindRel (N := N) Res.le cfg cfg.panics cfg.plan :=
  ⟨fun _ _ => Res.le_refl _, fun _ _ _ => Res.le_refl _, fun _ _ _ => Res.le_refl _, Res.bind_le⟩

theorem mono_le (cfg : RunCfg) : ∀ {f g : Nat}, f ≤ g → EvalRel (N := N) Res.le cfg cfg f g
  | 0, g, _ => Logic.All.zero g fun r' _ => Res.fuel_le r'
  | f + 1, 0, h => absurd h (Nat.not_succ_le_zero f)
  -- `cfg.alter cfg.panics cfg.plan` is `cfg` by eta for structures, so `step` relates `cfg` to itself
  | _ + 1, _ + 1, h => (mono_le cfg (Nat.le_of_succ_le_succ h)).step (Res.le_bindRel cfg) (.refl _)

theorem run_mono (cfg : RunCfg) {f g : Nat} (hfg : f ≤ g) (prog : Block) (r : Outcome N)
    (h : run cfg f prog = r) (hne : r ≠ .fuelOut) : run cfg g prog = r := by
  unfold run at h ⊢
  have hle := ((mono_le (N := N) cfg hfg).block () prog (State.init cfg) trivial trivial).1
  rcases hle with hf | heq
  · rw [hf] at h; exact absurd h.symm hne
  · rw [← heq]; exact h

end NaijaVerif.Eval
