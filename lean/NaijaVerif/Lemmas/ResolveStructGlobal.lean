import NaijaVerif.Lemmas.ResolveStructScopeWalk
import NaijaVerif.Lemmas.AnalysisLiveTop
/-
Three conjuncts of the plan-independent global conditions `C03.globalOkB` (second conjunct of `structOkB`):
* `usedOkB`, for EVERY program and all facts: true by construction of `usedLocals` (`mem_usedLocals`: the fold collects
  what `usedOkB` asks for, row by row);
* `slOkB`, for every output of the resolver model: `scope_locals[sc]` lists locals declared by `sc` (an invariant of
  the bookkeeping primitives, `Steps.inv`);
* `scOwnB`, for every accepted output: `SOInv` of the final facts, from the scope walk at the root
  (`Lemmas/ResolveStructScopeWalk.lean`).
-/
namespace NaijaVerif.ResolveStruct
open NaijaVerif NaijaVerif.Resolve NaijaVerif.ResolveFacts NaijaVerif.Analysis NaijaVerif.C03

section used
variable (c : Ctx)

theorem mem_usedLocals {x : Nat} : x ∈ c.usedLocals ↔
    ∃ r ∈ c.rows, (r.live && c.bodyReachable.contains (c.fnOf r.sid)) = true ∧
      (x ∈ c.reads r.sid ∨ ∃ g ∈ c.callees r.sid, x ∈ c.transReads g) := by
  refine (mem_foldl_iff _ (fun acc r => ?_) c.rows []).trans (or_iff_right List.not_mem_nil)
  split
  · next hc => rw [mem_foldl_uni, mem_uni_iff, hc]; simp only [true_and, or_comm, or_assoc]
  · next hc => exact (or_iff_left fun h => hc h.1).symm

theorem usedOkB_holds : usedOkB c = true := by
  simp only [usedOkB, List.all_eq_true, Bool.or_eq_true, Bool.not_eq_true', Bool.and_eq_true, List.contains_eq_mem,
    decide_eq_true_eq]
  intro r hr
  cases hc : (r.live && c.bodyReachable.contains (c.fnOf r.sid)) with
  | false => exact Or.inl (by simpa using hc)
  | true =>
    exact Or.inr ⟨fun x hx => (mem_usedLocals c).2 ⟨r, hr, hc, Or.inl hx⟩,
      fun g hg x hx => (mem_usedLocals c).2 ⟨r, hr, hc, Or.inr ⟨g, hg, hx⟩⟩⟩

end used

/-- `C03.slOkB` as an invariant of the history. -/
def SlInv (f : Facts) : Prop :=
  ∀ sc ls, f.scopeLocals[sc]? = some ls → ∀ x ∈ ls, declScopeOf f x = some sc

theorem slInv_root : SlInv rootFacts := by
  intro sc ls h
  simp [rootFacts] at h

theorem slInv_of_eq {f g : Facts} (h1 : g.locals = f.locals) (h2 : g.scopeLocals = f.scopeLocals) (h : SlInv f) : SlInv g := by
  intro sc ls hs x hx
  rw [h2] at hs
  rw [declScopeOf_congr h1]
  exact h sc ls hs x hx

theorem primS_slInv {f g : Facts} (hp : PrimS f g) (h : SlInv f) : SlInv g := by
  cases hp with
  | e he => exact slInv_of_eq (primE_lenE he).locals (primE_lenE he).scopeLocals h
  | pushStmt o s => exact slInv_of_eq rfl rfl h
  | pushFunction name np parent scope => exact slInv_of_eq rfl rfl h
  | setRootScope s => exact slInv_of_eq rfl rfl h
  | setDefStmt fn sid => exact slInv_of_eq rfl rfl h
  | pushScope p o =>
    intro sc ls hs x hx
    simp only [pushScope] at hs
    show declScopeOf f x = some sc
    rcases Nat.lt_or_ge sc f.scopeLocals.length with hlt | hge
    · rw [List.getElem?_append_left hlt] at hs
      exact h sc ls hs x hx
    · rw [List.getElem?_append_right hge] at hs
      cases hi : sc - f.scopeLocals.length with
      | zero => simp [hi] at hs; subst hs; cases hx
      | succ n => simp [hi] at hs
  | pushLocal sl name o s d k =>
    intro sc ls hs x hx
    simp only [pushLocal] at hs
    rw [getElem?_modifyAt] at hs
    have hold : ∀ ls0, f.scopeLocals[sc]? = some ls0 → x ∈ ls0 →
        declScopeOf (pushLocal f sl name o s d k) x = some sc :=
      fun ls0 h0 hx0 => declScopeOf_mono (primS_pre (.pushLocal f sl name o s d k)) (h sc ls0 h0 x hx0)
    split at hs
    · next heq =>
      subst heq
      cases h0 : f.scopeLocals[sc]? with
      | none => simp [h0] at hs
      | some ls0 =>
        simp only [h0, Option.map_some, Option.some.injEq] at hs
        subst hs
        rcases List.mem_append.1 hx with hx | hx
        · exact hold ls0 h0 hx
        · simp only [List.mem_singleton] at hx
          subst hx
          simp [declScopeOf, pushLocal]
    · exact hold ls hs hx

theorem resolveWith_slOk (spanLen : Bool) (q : Block) : slOkB (resolveWith spanLen q).facts = true := by
  have hinv : SlInv (resolveWith spanLen q).facts :=
    Steps.inv (I := SlInv) (fun _ _ hp => primS_slInv hp) (resolveWith_steps spanLen q) slInv_root
  simp only [slOkB, List.all_eq_true, List.mem_range]
  intro sc _
  cases hs : (resolveWith spanLen q).facts.scopeLocals[sc]? with
  | none => rfl
  | some ls =>
    simp only [List.all_eq_true, beq_iff_eq]
    intro x hx
    exact hinv sc ls hs x hx

theorem resolveWith_scOwn (spanLen : Bool) (q : Block) (h : (resolveWith spanLen q).rdiags = []) :
    scOwnB (resolveWith spanLen q).facts = true := by
  -- `numOk` is a dummy: `PRes.so` does not depend on it
  have hb := checkBlock_scope (fun _ => true) (rootEnv spanLen) none q rootFacts soInv_root
    (Bridge.resolve_num spanLen q h)
  have hso : SOInv (resolveWith spanLen q).facts := hb.so
  simp only [scOwnB, List.all_eq_true, beq_iff_eq]
  intro li hli
  obtain ⟨l, hl⟩ := List.getElem?_of_mem hli
  obtain ⟨si, h1, h2⟩ := hso l li hl
  rw [h1]; simp [h2]

end NaijaVerif.ResolveStruct
