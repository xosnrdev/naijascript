import NaijaVerif.Lemmas.ResolveStructScope
import NaijaVerif.Lemmas.BridgeReachNum
/-
The scope walk: for every accepted program the facts of the resolver model satisfy `scOwnB` (last conjunct of
`C03.globalOkB`; `PRes.so` at the root) and its output the ORACLE part `orcBlock` of `C03.okBlock (orcOf numOk facts)`,
the condition of `c03_eval` on the annotated program (`resolveWith_orc`).
The argument: a block / parameter list takes the NEXT scope id (`scopes.length`), every local pushed
while the block's own statements are checked is declared by that scope and written on a `make`, every
local pushed below it is declared by a scope allocated later, and no local pushed after the block is
declared by a scope allocated inside it (`NewS`, `After`).

The oracle `orcOf numOk F` reads the FINAL facts `F`, and whether the locals of `F` that a block's scope declares are
exactly the block's `make` targets depends on what is allocated AFTER the block.  So what a piece of the walk
establishes of the oracle (`SRes.orc`, `PRes.orc`) speaks of ANY later facts `F` (`Pre f' F`) in which no local from
`f'.locals.length` on is declared by a scope of the piece (`After`); the `NewS` of the pieces that FOLLOW it discharge
that (`After.of_new`).  `numOk` only passes through: `o.blk` and `o.par` do not read it.

`check_scope`, `checkStmt_scope` … `checkOptBlock_scope` are also names of `NaijaVerif.Resolve` (well-scopedness,
`Lemmas/ResolveScope.lean`), hidden inside this namespace.
-/
namespace NaijaVerif.ResolveStruct
open NaijaVerif NaijaVerif.Resolve NaijaVerif.ResolveFacts NaijaVerif.Analysis NaijaVerif.C03 NaijaVerif.Bridge

structure PsRes (scope : Nat) (scs : List ScopeInfo) (lo n : Nat) (r : List Param × Scope × Facts) : Prop where
  so : SOInv r.2.2
  scopes : r.2.2.scopes = scs
  nl : r.2.2.locals.length = lo + n
  binds : paramBinds r.1 = List.range' lo n
  decl : ∀ l, lo ≤ l → l < lo + n → declScopeOf r.2.2 l = some scope
  bound : r.1.all (fun p => p.bind.isSome) = true

theorem declareParams_scope (sl : Bool) (owner scope : Nat) : ∀ (ps : List Param) (sc : Scope) (f : Facts),
    ScOwn f scope owner → SOInv f →
    PsRes scope f.scopes f.locals.length ps.length (declareParams sl owner scope ps sc f)
  | [], _, f, _, hso =>
      ⟨hso, rfl, rfl, rfl, fun l h1 h2 => absurd h2 (Nat.not_lt.2 h1), rfl⟩
  | p :: ps, sc, f, hs, hso => by
      have ih := declareParams_scope sl owner scope ps (⟨p.name, .dynamic, f.locals.length⟩ :: sc)
        (pushLocal f sl p.name owner scope none .parameter) (hs.congr rfl)
        (hso.pushLocal hs sl p.name none .parameter)
      have hl : (pushLocal f sl p.name owner scope none .parameter).locals.length = f.locals.length + 1 := by simp
      rw [hl] at ih
      obtain ⟨a1, a2, a3, _⟩ := declareParams_alloc sl owner scope (p :: ps) sc f
      rw [declareParams] at a1 a2 a3 ⊢
      refine ⟨ih.so, ih.scopes, congrArg Prod.fst a1, a2, ?_, a3⟩
      · intro l hl1 hl2
        rw [List.length_cons] at hl2
        rcases Nat.lt_or_ge l (f.locals.length + 1) with hlt | hge
        · have : l = f.locals.length := by omega
          subst this
          exact declScopeOf_mono (declareParams_steps _ _ _ _ _ _).pre
            (declScopeOf_pushLocal_new f sl p.name owner scope none .parameter)
        · exact ih.decl l hge (by omega)

theorem fnIdsOf_single (s : Stmt) : Eval.fnIdsOf [s] = (match s with | .fnDef _ _ _ _ (some i) _ _ => [i] | _ => []) := by
  cases s with
  | fnDef _ _ _ _ fn _ _ => cases fn <;> rfl
  | _ => rfl

theorem checkStmt_fnIds_other (env : Env) (cur : Cur) {s : Stmt} (hd : Spec.definedName s = []) (f : Facts) :
    Eval.fnIdsOf [(checkStmt env cur s f).val] = [] ∧ (checkStmt env cur s f).cur.seenFns = cur.seenFns := by
  obtain ⟨hc, hv⟩ := checkStmt_seenFns_other env cur hd f
  refine ⟨?_, hc⟩
  generalize (checkStmt env cur s f).val = v at hv
  cases v with
  | fnDef => cases hv
  | _ => rfl

theorem checkStmt_fnIds_one (env : Env) (own : List FnSig) (rest : List (List FnSig)) (henv : env.fns = own :: rest)
    (cur : Cur) (s : Stmt) (f : Facts) :
    (Eval.fnIdsOf [(checkStmt env cur s f).val] = [] ∧ (checkStmt env cur s f).cur.seenFns = cur.seenFns) ∨
    ∃ g ∈ own, g.name ∉ cur.seenFns ∧ Eval.fnIdsOf [(checkStmt env cur s f).val] = [g.id] ∧
      (checkStmt env cur s f).cur.seenFns = g.name :: cur.seenFns := by
  cases s using Stmt.make_fnDef_cases with
  | fnDef name nsp ps body a b sp =>
    rw [checkStmt_fnDef]
    cases hsig : sigOf env cur name with
    | none => left; exact ⟨rfl, rfl⟩
    | some g =>
      right
      simp only [sigOf, henv] at hsig
      split at hsig
      · cases hsig
      · next hns =>
        have hn := findFn_name hsig
        refine ⟨g, findFn_mem hsig, ?_, rfl, ?_⟩
        · rw [hn]; simpa using hns
        · simp only; rw [hn]
  | assign x xs e b sid sp => exact .inl (checkStmt_fnIds_other env cur rfl f)
  | other s _ hd => exact .inl (checkStmt_fnIds_other env cur hd f)

theorem checkStmts_fnIds_nodup (env : Env) (own : List FnSig) (rest : List (List FnSig)) (henv : env.fns = own :: rest)
    (hinj : (own.map (·.id)).Nodup) : ∀ (ss : List Stmt) (cur : Cur) (f : Facts),
    (Eval.fnIdsOf (checkStmts env cur ss f).val).Nodup ∧
    ∀ i ∈ Eval.fnIdsOf (checkStmts env cur ss f).val, ∃ g ∈ own, g.id = i ∧ g.name ∉ cur.seenFns
  | [], cur, f => by simp [checkStmts, Eval.fnIdsOf]
  | s :: ss, cur, f => by
      simp only [checkStmts]
      rw [Eval.fnIdsOf_cons]
      obtain ⟨ih1, ih2⟩ := checkStmts_fnIds_nodup env own rest henv hinj ss (checkStmt env cur s f).cur (checkStmt env cur s f).facts
      rcases checkStmt_fnIds_one env own rest henv cur s f with ⟨h1, h2⟩ | ⟨g, hg, hgn, h1, h2⟩
      · rw [h1, List.nil_append]
        rw [h2] at ih2
        exact ⟨ih1, ih2⟩
      · rw [h1]
        rw [h2] at ih2
        refine ⟨?_, ?_⟩
        · simp only [List.singleton_append, List.nodup_cons]
          refine ⟨?_, ih1⟩
          intro hmem
          obtain ⟨g', hg', hid, hn'⟩ := ih2 g.id hmem
          have : g' = g := eq_of_nodup_map hinj g' hg' g hg hid
          subst this
          exact hn' List.mem_cons_self
        · intro i hi
          simp only [List.singleton_append, List.mem_cons] at hi
          rcases hi with rfl | hi
          · exact ⟨g, hg, rfl, hgn⟩
          · obtain ⟨g', hg', hid, hn'⟩ := ih2 i hi
            exact ⟨g', hg', hid, fun h => hn' (List.mem_cons_of_mem _ h)⟩

theorem block_sigs_nodup (env1 : Env) (makes : List Bytes) (ss : List Stmt) (f2 : Facts) (n : Nat) :
    ((retIter env1 makes (predeclare env1 ss [] f2).bodies n (predeclare env1 ss [] f2).sigs).map (·.id)).Nodup := by
  rw [map_of_core (k := (·.id)) (fun _ => rfl) (retIter_core env1 makes _ n _)]
  obtain ⟨_, _, new, e1, e2, _⟩ := predeclare_alloc env1 ss [] f2
  rw [e1, List.nil_append, e2]
  exact List.nodup_range'

theorem stmtScopeOf_of_sImm {F : Facts} {i o sc : Nat} (h : (sImm F)[i]? = some (o, sc)) : stmtScopeOf F i = some sc := by
  simp only [sImm, List.getElem?_map, Option.map_eq_some_iff] at h
  obtain ⟨e, he, heq⟩ := h
  simp only [stmtScopeOf, he, Option.map_some]
  cases heq; rfl

section walk
variable (numOk : Bytes → Bool)

/-- The context of the scope walk (the other walks have `Resolve.SCtx`, well-scopedness, and `ECx` / `TCx`, the call
records; `Bridge.SCfg` holds the parameters of `Bridge.okBlock`). -/
structure SCx (env : Env) (cur : Cur) (f : Facts) : Prop where
  scope : ScOwn f env.scope env.owner
  dslt : DSLt f
  so : SOInv f
  cur : ∀ e ∈ cur.vars, declScopeOf f e.id = some env.scope

/-- Of the statements of ONE block, with output `val`; `orc` is for any later facts (see the head). -/
structure SRes (env : Env) (f : Facts) (val : List Stmt) (cur' : Cur) (f' : Facts) : Prop where
  cx : SCx env cur' f'
  new : NewS f' f.locals.length f'.locals.length env.scope (Eval.declIds val) f.scopes.length f'.scopes.length
  decl : ∀ l ∈ Eval.declIds val, declScopeOf f' l = some env.scope
  tag : ∀ s ∈ val, ∃ i, s.sid = some i ∧ (sImm f')[i]? = some (env.owner, env.scope)
  orc : ∀ F, Pre f' F → After F f'.locals.length f.scopes.length f'.scopes.length →
    orcStmts (orcOf numOk F) val = true

/-- Of a piece below a statement (a block, an optional block, parameters and body of a definition) with oracle condition
`P`.  Such a piece allocates no local in an enclosing scope: `new` has no targets, and the `0` in the place of their
declaring scope is a dummy.  The composition lemmas, stated for any `NewS`, ask that scope to lie below the piece: hence
`hpos` in `PRes.seq`, `he` in `After.of_new`. -/
structure PRes (f : Facts) (P : Orc → Bool) (f' : Facts) : Prop where
  dslt : DSLt f'
  so : SOInv f'
  new : NewS f' f.locals.length f'.locals.length 0 [] f.scopes.length f'.scopes.length
  orc : ∀ F, Pre f' F → After F f'.locals.length f.scopes.length f'.scopes.length → P (orcOf numOk F) = true

abbrev BRes (f : Facts) (val : Block) (f' : Facts) : Prop := PRes numOk f (fun o => orcBlock o val) f'
abbrev ORes (f : Facts) (val : Option Block) (f' : Facts) : Prop := PRes numOk f (fun o => orcOptBlock o val) f'

theorem PRes.nil {f : Facts} (hso : SOInv f) : PRes numOk f (fun _ => true) f :=
  ⟨hso.dslt, hso, NewS.empty _ _ _ _ _ _, fun _ _ _ => rfl⟩

theorem PRes.seq {f f1 f' : Facts} {P Q : Orc → Bool} (h1 : PRes numOk f P f1) (h2 : PRes numOk f1 Q f')
    (hp1 : Pre f f1) (hp2 : Pre f1 f') (hpos : 0 < f.scopes.length) : PRes numOk f (fun o => P o && Q o) f' where
  dslt := h2.dslt
  so := h2.so
  new := h1.new.append h2.new hp2 hp1.nsc hp2.nsc
  orc := by
    intro F hpF hA
    simp only [Bool.and_eq_true]
    exact ⟨h1.orc F (hp2.trans hpF) (After.of_new hpF rfl h2.new hpos hA hp2.nsc),
      h2.orc F hpF (hA.mono (Nat.le_refl _) hp1.nsc (Nat.le_refl _))⟩

/-- What every compound arm of `check_scope` ends with: up to `f2` the statement's entry and whatever else precedes the
piece `f2 → f'`. -/
theorem SRes.ofPiece {env : Env} {cur cur' : Cur} {f f2 f' : Facts} {val : Stmt} {P : Orc → Bool} (hcx : SCx env cur f)
    (hv : cur'.vars = cur.vars) (hpre : Pre (pushStmt f env.owner env.scope) f2) (hl : f2.locals = f.locals) (hs : f2.scopes = f.scopes)
    (hp : PRes numOk f2 P f') (hp2 : Pre f2 f') (hd : Eval.declIds [val] = [])
    (hsid : val.sid = some f.stmtEffects.length) (horc : ∀ o, orcStmt o val = P o) :
    SRes numOk env f [val] cur' f' where
  cx := by
    have hpf : Pre f f' := ((primS_pre (.pushStmt f env.owner env.scope)).trans hpre).trans hp2
    exact ⟨hcx.scope.mono hpf, hp.dslt, hp.so, fun e he => declScopeOf_mono hpf (hcx.cur e (hv ▸ he))⟩
  new := by rw [← hl, ← hs]; exact hp.new.of_nil _ _ (Nat.le_refl _)
  decl := by rw [hd]; intro l hl'; cases hl'
  tag := by
    intro s hs'
    simp only [List.mem_singleton] at hs'
    subst hs'
    exact ⟨_, hsid, (hpre.trans hp2).stmt (sImm_pushStmt f env.owner env.scope)⟩
  orc := by
    intro F hpF hA
    simp only [orcStmts, horc, Bool.and_true]
    exact hp.orc F hpF (by rw [hs]; exact hA)

theorem SRes.simple {env : Env} {cur : Cur} {f f' : Facts} {val : Stmt} (hcx : SCx env cur f)
    (hpre : Pre (pushStmt f env.owner env.scope) f') (hl : f'.locals = f.locals) (hs : f'.scopes = f.scopes)
    (hd : Eval.declIds [val] = []) (hsid : val.sid = some f.stmtEffects.length)
    (horc : ∀ o, orcStmt o val = true) : SRes numOk env f [val] cur f' :=
  SRes.ofPiece numOk hcx rfl hpre hl hs (PRes.nil numOk (hcx.so.congr hl hs)) (Pre.refl _) hd hsid
    horc

theorem SRes.nil {env : Env} {cur : Cur} {f : Facts} (hcx : SCx env cur f) : SRes numOk env f [] cur f where
  cx := hcx
  new := NewS.empty _ _ _ _ _ _
  decl := by intro l hl; cases hl
  tag := by intro s hs; cases hs
  orc := by intro F _ _; rfl

theorem SRes.cons {env : Env} {f f1 f' : Facts} {v : Stmt} {vs : List Stmt} {cur1 cur' : Cur}
    (hsc : env.scope < f.scopes.length) (h1 : SRes numOk env f [v] cur1 f1) (h2 : SRes numOk env f1 vs cur' f')
    (hp1 : Pre f f1) (hp2 : Pre f1 f') : SRes numOk env f (v :: vs) cur' f' where
  cx := h2.cx
  new := by rw [Eval.declIds_cons]; exact h1.new.append h2.new hp2 hp1.nsc hp2.nsc
  decl := by
    intro l hl
    rw [Eval.declIds_cons] at hl
    rcases List.mem_append.1 hl with hl | hl
    · exact declScopeOf_mono hp2 (h1.decl l hl)
    · exact h2.decl l hl
  tag := by
    intro s hs
    rcases List.mem_cons.1 hs with rfl | hs
    · obtain ⟨i, hi, ht⟩ := h1.tag s List.mem_cons_self
      exact ⟨i, hi, hp2.stmt ht⟩
    · exact h2.tag s hs
  orc := by
    intro F hpF hA
    simp only [orcStmts, Bool.and_eq_true]
    refine ⟨?_, h2.orc F hpF (hA.mono (Nat.le_refl _) hp1.nsc (Nat.le_refl _))⟩
    have := h1.orc F (hp2.trans hpF) (After.of_new hpF rfl h2.new hsc hA hp2.nsc)
    simpa [orcStmts] using this

/-- Of the FRESH scope `#scopes f0`, whose piece ends at `f'`: the locals older than the piece are declared by older scopes
(`hd0`), those of the piece are in `decls` or declared by a later scope (`hnew`), those after the piece avoid it (`hA`). -/
theorem tagOk_fresh {f0 f' F : Facts} {tag : Option Nat} {decls : List Nat} (hd0 : DSLt f0) (hp : Pre f0 f') (hpF : Pre f' F)
    (hnew : NewS f' f0.locals.length f'.locals.length f0.scopes.length decls (f0.scopes.length + 1) f'.scopes.length)
    (hin : ∀ l ∈ decls, declScopeOf f' l = some f0.scopes.length)
    (hA : After F f'.locals.length f0.scopes.length (f0.scopes.length + 1))
    (ht : tag = some f0.scopes.length ∨ tag = none ∧ decls = []) :
    tagOkB F.locals.length (declScopeOf F) tag decls = true := by
  rcases ht with ht | ⟨ht, hd⟩
  · apply tagOkB_of
    · exact fun l hl => ⟨_, ht, declScopeOf_mono hpF (hin l hl)⟩
    · intro l tg _ htg hdl
      cases ht ▸ htg
      rcases Nat.lt_or_ge l f0.locals.length with h1 | h1
      · rw [declScopeOf_old (hp.trans hpF) h1] at hdl
        exact absurd (hd0 l _ hdl) (Nat.lt_irrefl _)
      · rcases Nat.lt_or_ge l f'.locals.length with h2 | h2
        · rw [declScopeOf_old hpF h2] at hdl
          rcases hnew l h1 h2 with h | ⟨s, hs, hlt, _⟩
          · exact h.1
          · rw [hs] at hdl
            cases hdl
            exact absurd hlt (Nat.lt_irrefl _)
        · exact absurd ⟨Nat.le_refl _, Nat.lt_succ_self _⟩ (hA l _ h2 hdl)
  · subst ht hd
    exact tagOkB_of (fun _ h => nomatch h) (fun _ _ _ h => nomatch h)

/-- A piece `f0 → f'` that opens the FRESH scope `#scopes f0` (a block, the parameters and body of a definition): `Q` is
the oracle condition of what lies below, `T` that of the fresh scope itself, which holds once `tagOkB` does for the
tag of that scope or, with nothing declared, for no tag (`hT`). -/
theorem PRes.fresh {f0 f' : Facts} {decls : List Nat} {T Q : Orc → Bool} (hd0 : DSLt f0) (hp : Pre f0 f')
    (hso : SOInv f') (hlt : f0.scopes.length < f'.scopes.length)
    (hnew : NewS f' f0.locals.length f'.locals.length f0.scopes.length decls (f0.scopes.length + 1) f'.scopes.length)
    (hin : ∀ l ∈ decls, declScopeOf f' l = some f0.scopes.length)
    (hQ : ∀ F, Pre f' F → After F f'.locals.length (f0.scopes.length + 1) f'.scopes.length → Q (orcOf numOk F) = true)
    (hT : ∀ F, Pre f' F → (∀ tag, tag = some f0.scopes.length ∨ tag = none ∧ decls = [] →
      tagOkB F.locals.length (declScopeOf F) tag decls = true) → T (orcOf numOk F) = true) :
    PRes numOk f0 (fun o => T o && Q o) f' where
  dslt := hso.dslt
  so := hso
  new := hnew.absorb hso.dslt
  orc := by
    intro F hpF hA
    simp only [Bool.and_eq_true]
    exact ⟨hT F hpF fun _ => tagOk_fresh hd0 hp hpF hnew hin (hA.mono (Nat.le_refl _) (Nat.le_refl _) hlt),
      hQ F hpF (hA.mono (Nat.le_refl _) (Nat.le_succ _) (Nat.le_refl _))⟩

theorem blk_tag {env : Env} {f f' F : Facts} {out : List Stmt} {cur' : Cur} (hres : SRes numOk env f out cur' f')
    (hpF : Pre f' F) :
    AEval.blockTag (stmtScopeOf F) out = some env.scope ∨ AEval.blockTag (stmtScopeOf F) out = none ∧ Eval.declIds out = [] := by
  cases out with
  | nil => exact Or.inr ⟨rfl, rfl⟩
  | cons s rest =>
    obtain ⟨i, hi, ht⟩ := hres.tag s List.mem_cons_self
    simp only [AEval.blockTag, hi, Option.bind_some]
    exact Or.inl (stmtScopeOf_of_sImm (hpF.stmt ht))

theorem locals_blkF2 (env : Env) (parent : Option Nat) (f : Facts) : (blkF2 env parent f).locals = f.locals := by
  unfold blkF2; split <;> rfl
theorem scopes_blkF2 (env : Env) (parent : Option Nat) (f : Facts) :
    (blkF2 env parent f).scopes = f.scopes ++ [⟨parent, env.owner⟩] := by
  unfold blkF2; split <;> rfl
theorem pre_blkF2 (env : Env) (parent : Option Nat) (f : Facts) : Pre f (blkF2 env parent f) := by
  unfold blkF2; split
  · exact (primS_pre (.pushScope f parent env.owner)).trans (primS_pre (.setRootScope _ _))
  · exact primS_pre (.pushScope f parent env.owner)

theorem orcStmts_single (o : Orc) (s : Stmt) : orcStmts o [s] = orcStmt o s := by simp [orcStmts]

theorem paramTag_of_bound (ds : Nat → Option Nat) {ps : List Param} (h : ps.all (fun p => p.bind.isSome) = true) :
    AEval.paramTag ds ps = (ps.filterMap (·.bind)).head?.bind ds := by
  cases ps with
  | nil => rfl
  | cons p rest =>
    simp only [List.all_cons, Bool.and_eq_true, Option.isSome_iff_exists] at h
    obtain ⟨⟨b, hb⟩, _⟩ := h
    simp only [AEval.paramTag, List.filterMap_cons, hb, List.head?_cons]

theorem fnPr_scope {env : Env} {cur : Cur} {f : Facts} (hcx : SCx env cur f) (g : FnSig) (ps : List Param) :
    PsRes f.scopes.length (f.scopes ++ [⟨some env.scope, g.id⟩]) f.locals.length ps.length (fnParams env f g ps) :=
  declareParams_scope env.spanLen g.id (fnPscope f) ps [] (fnScopeF env f g)
    (ScOwn.pushScope (setDefStmt (fnEntryF env f) g.id f.stmtEffects.length) (some env.scope) g.id)
    ((hcx.so.congr rfl rfl).pushScope _ _)

theorem fnParams_pre (env : Env) (f : Facts) (g : FnSig) (ps : List Param) :
    Pre (fnEntryF env f) (fnParams env f g ps).2.2 :=
  (Steps.step (.setDefStmt _ _ _) (.step (.pushScope _ _ _) (declareParams_steps _ _ _ _ _ _))).pre

/-- `PRes.fresh` with the parameters as `decls`: the parameter scope is fresh (`#scopes f`) and declares exactly the locals
`range' #locals n` (`fnPr_scope`); those of the body are declared by later scopes (`hb.new`). -/
theorem fnDef_piece {env : Env} {cur : Cur} {f : Facts} {g : FnSig} {ps : List Param} {bval : Block} {f' : Facts}
    (hcx : SCx env cur f)
    (hb : BRes numOk (fnParams env f g ps).2.2 bval f') (hpb : Pre (fnParams env f g ps).2.2 f') :
    PRes numOk (fnEntryF env f) (fun o => o.par (fnParams env f g ps).1 && orcBlock o bval) f' := by
  have hps := fnPr_scope hcx g ps
  have hnsc : (fnParams env f g ps).2.2.scopes.length = f.scopes.length + 1 :=
    (congrArg List.length hps.scopes).trans List.length_append
  have hbinds : (fnParams env f g ps).1.filterMap (·.bind) = List.range' f.locals.length ps.length := hps.binds
  have hbn := hb.new
  rw [hps.nl, hnsc] at hbn
  have hnew := NewS.append (D1 := List.range' f.locals.length ps.length) (slo := f.scopes.length + 1)
    (fun l hlo hhi => Or.inl ⟨List.mem_range'_1.2 ⟨hlo, hhi⟩, hps.decl l hlo hhi⟩)
    (hbn.of_nil f.scopes.length [] (Nat.le_refl _)) hpb (Nat.le_refl _) (hnsc ▸ hpb.nsc)
  rw [List.append_nil] at hnew
  have hin : ∀ l ∈ List.range' f.locals.length ps.length, declScopeOf f' l = some f.scopes.length := fun l hl =>
    declScopeOf_mono hpb (hps.decl l (List.mem_range'_1.1 hl).1 (by have := (List.mem_range'_1.1 hl).2; omega))
  have hlt : f.scopes.length < f'.scopes.length := by have := hpb.nsc; omega
  refine PRes.fresh numOk hcx.dslt ((fnParams_pre env f g ps).trans hpb) hb.so hlt hnew hin
    (fun F hpF hA => hb.orc F hpF (by rw [hnsc]; exact hA)) (fun F hpF hk => ?_)
  simp only [orcOf, Bool.and_eq_true, decide_eq_true_eq]
  refine ⟨⟨hps.bound, by rw [hbinds]; exact List.nodup_range'⟩, ?_⟩
  rw [hbinds]
  apply hk
  rw [paramTag_of_bound _ hps.bound, hbinds]
  cases hn : ps.length with
  | zero => exact Or.inr ⟨rfl, rfl⟩
  | succ k => exact Or.inl (declScopeOf_mono hpF (hin _ (List.mem_range'_1.2 ⟨Nat.le_refl _, by omega⟩)))

theorem check_scope :
    (∀ (s : Stmt) (env : Env) (cur : Cur) (f : Facts), SCx env cur f → numStmt (checkStmt env cur s f).val = true →
      SRes numOk env f [(checkStmt env cur s f).val] (checkStmt env cur s f).cur (checkStmt env cur s f).facts) ∧
    (∀ (ss : List Stmt) (env : Env) (cur : Cur) (f : Facts), SCx env cur f →
      numStmts (checkStmts env cur ss f).val = true →
      SRes numOk env f (checkStmts env cur ss f).val (checkStmts env cur ss f).cur (checkStmts env cur ss f).facts) ∧
    (∀ (b : Block) (env : Env) (parent : Option Nat) (f : Facts), SOInv f →
      numBlock (checkBlock env parent b f).val = true →
      BRes numOk f (checkBlock env parent b f).val (checkBlock env parent b f).facts) ∧
    (∀ (b : Option Block) (env : Env) (parent : Option Nat) (f : Facts), SOInv f →
      numOptBlock (checkOptBlock env parent b f).val = true →
      ORes numOk f (checkOptBlock env parent b f).val (checkOptBlock env parent b f).facts) := by
  apply Stmt.walk
  case assign =>
    intro x xs e a b sp env cur f hcx _
    have hpre := (checkStmt_steps' env cur (.assign x xs e a b sp) f).pre
    have hpf : Pre f (checkStmt env cur (.assign x xs e a b sp) f).facts :=
      (primS_pre (.pushStmt f env.owner env.scope)).trans hpre
    cases hfv : findVar cur.vars x with
    | some ent =>
      -- `make x` where `x` is in the block's own variable scope already re-uses the local: nothing is allocated, the one
      -- target `ent.id` is declared by `env.scope` by `hcx.cur` (what `SCx.cur` is carried for)
      simp only [checkStmt, hfv] at hpre hpf ⊢
      refine ⟨⟨hcx.scope.congr (by simp), SOInv.dslt ?so, ?so, ?_⟩, ?_, ?_, ?_, ?_⟩
      case so => exact hcx.so.congr (by simp) (by simp)
      · intro e' he'
        obtain ⟨e0, h0, hid⟩ := updateTy_mem_id he'
        rw [← hid]
        exact declScopeOf_mono hpf (hcx.cur e0 h0)
      · simp only [locals_recStmtWrite, locals_joinClass, locals_checkExpr, locals_pushStmt]
        exact NewS.empty _ _ _ _ _ _
      · intro l hl
        simp only [Eval.declIds, List.mem_singleton] at hl
        subst hl
        exact declScopeOf_mono hpf (hcx.cur ent (findVar_mem hfv))
      · intro s hs
        simp only [List.mem_singleton] at hs
        subst hs
        exact ⟨_, rfl, hpre.stmt (sImm_pushStmt f env.owner env.scope)⟩
      · intro F _ _; rfl
    | none =>
      simp only [checkStmt, hfv] at hpre hpf ⊢
      generalize hF2 : joinClass (checkExpr env cur.vars f.stmtEffects.length e (pushStmt f env.owner env.scope)).facts
        _ _ = F2 at hpre hpf ⊢
      have hl2 : F2.locals = f.locals := by rw [← hF2]; simp
      have hs2 : F2.scopes = f.scopes := by rw [← hF2]; simp
      have hsc2 : ScOwn F2 env.scope env.owner := hcx.scope.congr hs2
      have hnew := declScopeOf_pushLocal_new F2 env.spanLen x env.owner env.scope (some f.stmtEffects.length) .variable
      rw [← declScopeOf_congr (locals_recStmtWrite _ env.owner f.stmtEffects.length _)] at hnew
      have hlen : F2.locals.length = f.locals.length := congrArg List.length hl2
      refine ⟨⟨hcx.scope.congr (by simp [hs2]), SOInv.dslt ?so, ?so, ?_⟩, ?_, ?_, ?_, ?_⟩
      case so =>
        exact ((hcx.so.congr hl2 hs2).pushLocal hsc2 env.spanLen x (some f.stmtEffects.length) .variable).congr
          (by simp) (by simp)
      · intro e' he'
        rcases List.mem_cons.1 he' with rfl | he'
        · exact hnew
        · exact declScopeOf_mono hpf (hcx.cur e' he')
      · intro l hlo hhi
        simp only [locals_recStmtWrite, locals_pushLocal, hl2, List.length_append, List.length_singleton] at hhi
        have : l = f.locals.length := by omega
        subst this
        left
        rw [hlen] at hnew ⊢
        exact ⟨by simp [Eval.declIds], hnew⟩
      · intro l hl
        simp only [Eval.declIds, List.mem_singleton] at hl
        subst hl
        exact hnew
      · intro s hs
        simp only [List.mem_singleton] at hs
        subst hs
        exact ⟨_, rfl, hpre.stmt (sImm_pushStmt f env.owner env.scope)⟩
      · intro F _ _; rfl
  case assignExisting =>
    intro x xs e a b sp env cur f hcx _
    have hpre := (checkStmt_steps' env cur (.assignExisting x xs e a b sp) f).pre
    cases hl : lookupVar env cur.vars x <;> simp only [checkStmt, hl] at hpre ⊢ <;>
      exact SRes.simple numOk hcx hpre (by simp) (by simp) rfl rfl (fun _ => rfl)
  case assignIndex =>
    intro t e b sp env cur f hcx _
    have hpre := (checkStmt_steps' env cur (.assignIndex t e b sp) f).pre
    simp only [checkStmt] at hpre ⊢
    exact SRes.simple numOk hcx hpre (by split <;> simp) (by split <;> simp) rfl rfl (fun _ => rfl)
  case ifS =>
    intro c t e b sp iht ihe env cur f hcx hn
    simp only [checkStmt, numStmt, Bool.and_eq_true] at hn
    simp only [checkStmt]
    have hl := (condF_steps env cur f c).lenE
    have ht := iht { env with vars := cur.vars :: env.vars } (some env.scope) (condF env cur f c)
      (hcx.so.congr hl.locals hl.scopes) hn.1.2
    have he := ihe { env with vars := cur.vars :: env.vars } (some env.scope) _ ht.so hn.2
    have hpt := (checkBlock_steps { env with vars := cur.vars :: env.vars } (some env.scope) t (condF env cur f c)).pre
    have hpe := (checkOptBlock_steps { env with vars := cur.vars :: env.vars } (some env.scope) e
      (checkBlock { env with vars := cur.vars :: env.vars } (some env.scope) t (condF env cur f c)).facts).pre
    have hpos : 0 < (condF env cur f c).scopes.length := by rw [hl.scopes]; exact Nat.zero_lt_of_lt hcx.scope.lt
    exact SRes.ofPiece numOk hcx rfl (condF_steps env cur f c).toS.pre hl.locals hl.scopes
      (PRes.seq numOk ht he hpt hpe hpos) (hpt.trans hpe) rfl rfl (fun o => by simp [orcStmt, condF])
  case loop =>
    intro c bl b sp ihb env cur f hcx hn
    simp only [checkStmt, numStmt, Bool.and_eq_true] at hn
    simp only [checkStmt]
    have hl := (condF_steps env cur f c).lenE
    have hb := ihb { env with vars := cur.vars :: env.vars, inLoop := env.inLoop + 1 } (some env.scope)
      (condF env cur f c) (hcx.so.congr hl.locals hl.scopes) hn.2
    have hpb := (checkBlock_steps { env with vars := cur.vars :: env.vars, inLoop := env.inLoop + 1 } (some env.scope) bl
      (condF env cur f c)).pre
    exact SRes.ofPiece numOk hcx rfl (condF_steps env cur f c).toS.pre hl.locals hl.scopes hb hpb rfl rfl
      (fun o => by simp [orcStmt, condF])
  case block =>
    intro bl b sp ihb env cur f hcx hn
    simp only [checkStmt, numStmt, Bool.and_eq_true] at hn
    simp only [checkStmt]
    have hb := ihb { env with vars := cur.vars :: env.vars } (some env.scope)
      (pushStmt f env.owner env.scope) (hcx.so.congr rfl rfl) hn.2
    have hpb := (checkBlock_steps { env with vars := cur.vars :: env.vars } (some env.scope) bl
      (pushStmt f env.owner env.scope)).pre
    exact SRes.ofPiece numOk hcx rfl (Pre.refl _) rfl rfl hb hpb rfl rfl (fun o => by simp [orcStmt])
  case fnDef =>
    intro name nsp ps body a b sp ihb env cur f hcx hn
    rw [checkStmt_fnDef] at hn ⊢
    cases hsig : sigOf env cur name with
    | none => simp [hsig, numStmt] at hn
    | some g =>
      simp only [hsig, numStmt, Bool.and_eq_true] at hn
      simp only
      have hps := fnPr_scope hcx g ps
      have hb := ihb (fnEnvB env cur f g ps) (some (fnPscope f)) (fnParams env f g ps).2.2 hps.so hn.2
      have hpb := (checkBlock_steps (fnEnvB env cur f g ps) (some (fnPscope f)) body (fnParams env f g ps).2.2).pre
      exact SRes.ofPiece numOk hcx rfl (primS_pre (.e (.joinClass _ f.stmtEffects.length .impure))) rfl rfl
        (fnDef_piece numOk hcx hb hpb) ((fnParams_pre env f g ps).trans hpb) rfl rfl (fun o => by simp [orcStmt])
  case ret =>
    intro e b sp env cur f hcx _
    have hpre := (checkStmt_steps' env cur (.ret e b sp) f).pre
    cases e <;> simp only [checkStmt] at hpre ⊢ <;>
      exact SRes.simple numOk hcx hpre (by simp) (by simp) rfl rfl (fun _ => rfl)
  case brk =>
    intro b sp env cur f hcx _
    simp only [checkStmt]
    exact SRes.simple numOk hcx (Pre.refl _) rfl rfl rfl rfl (fun _ => rfl)
  case cont =>
    intro b sp env cur f hcx _
    simp only [checkStmt]
    exact SRes.simple numOk hcx (Pre.refl _) rfl rfl rfl rfl (fun _ => rfl)
  case expr =>
    intro e b sp env cur f hcx _
    have hpre := (checkStmt_steps' env cur (.expr e b sp) f).pre
    simp only [checkStmt] at hpre ⊢
    exact SRes.simple numOk hcx hpre (by simp) (by simp) rfl rfl (fun _ => rfl)
  case nil => intro env cur f hcx _; simp only [checkStmts]; exact SRes.nil numOk hcx
  case cons =>
    intro s ss ihs ihss env cur f hcx hn
    simp only [checkStmts, numStmts, Bool.and_eq_true] at hn
    simp only [checkStmts]
    have h1 := ihs env cur f hcx hn.1
    have h2 := ihss env _ _ h1.cx hn.2
    exact SRes.cons numOk hcx.scope.lt h1 h2 (checkStmt_steps env cur s f).pre (checkStmts_steps env ss _ _).pre
  case mk =>
    intro ss sp ih env parent f hso hn
    rw [checkBlock_mk] at hn ⊢
    simp only [numBlock] at hn
    simp only
    have hlp : (blkPre env parent ss f).facts.locals = f.locals := by
      simp only [blkPre, locals_predeclare, locals_blkF2]
    have hsp : (blkPre env parent ss f).facts.scopes = f.scopes ++ [⟨parent, env.owner⟩] := by
      simp only [blkPre, scopes_predeclare, scopes_blkF2]
    have hso1 : SOInv (blkPre env parent ss f).facts := (hso.pushScope parent env.owner).congr hlp hsp
    have hcx : SCx (blkEnvBody env parent ss f) {} (blkPre env parent ss f).facts :=
      ⟨(ScOwn.pushScope f parent env.owner).congr hsp, hso1.dslt, hso1, fun e he => by cases he⟩
    have hres := ih (blkEnvBody env parent ss f) {} (blkPre env parent ss f).facts hcx hn
    have hpf := (checkStmts_steps (blkEnvBody env parent ss f) ss {} (blkPre env parent ss f).facts).pre
    have hnsc : (blkPre env parent ss f).facts.scopes.length = f.scopes.length + 1 := by rw [hsp]; simp
    have hnew := hres.new
    rw [hlp, hnsc] at hnew
    refine PRes.fresh numOk hso.dslt ((walkS.blkPre env parent ss f).pre.trans hpf) hres.cx.so
      (Nat.lt_of_lt_of_le (by omega) hpf.nsc) hnew hres.decl (fun F hpF hA => hres.orc F hpF (by rw [hnsc]; exact hA))
      (fun F hpF hk => ?_)
    simp only [orcOf, Bool.and_eq_true, decide_eq_true_eq]
    exact ⟨hk _ (blk_tag numOk hres hpF), (checkStmts_fnIds_nodup (blkEnvBody env parent ss f) (blkSigs env parent ss f)
      env.fns rfl (block_sigs_nodup _ _ _ _ _) ss {} _).1⟩
  case none => intro env parent f hso _; simp only [checkOptBlock]; exact PRes.nil numOk hso
  case some =>
    intro b ih env parent f hso hn
    simp only [checkOptBlock, numOptBlock] at hn
    simp only [checkOptBlock]
    exact ih env parent f hso hn

/-! The conjuncts of `check_scope`; the results at the root need the one for blocks only. -/

theorem checkStmt_scope (env : Env) (cur : Cur) : ∀ (s : Stmt) (f : Facts), SCx env cur f →
      numStmt (checkStmt env cur s f).val = true →
      SRes numOk env f [(checkStmt env cur s f).val] (checkStmt env cur s f).cur (checkStmt env cur s f).facts :=
  fun s f => (check_scope numOk).1 s env cur f

theorem checkStmts_scope (env : Env) : ∀ (ss : List Stmt) (cur : Cur) (f : Facts), SCx env cur f →
      numStmts (checkStmts env cur ss f).val = true →
      SRes numOk env f (checkStmts env cur ss f).val (checkStmts env cur ss f).cur (checkStmts env cur ss f).facts :=
  fun ss cur f => (check_scope numOk).2.1 ss env cur f

theorem checkBlock_scope (env : Env) (parent : Option Nat) (b : Block) (f : Facts) (hso : SOInv f)
    (hn : numBlock (checkBlock env parent b f).val = true) :
    BRes numOk f (checkBlock env parent b f).val (checkBlock env parent b f).facts :=
  (check_scope numOk).2.2.1 b env parent f hso hn

theorem checkOptBlock_scope (env : Env) (parent : Option Nat) : ∀ (b : Option Block) (f : Facts), DSLt f → SOInv f →
      numOptBlock (checkOptBlock env parent b f).val = true →
      ORes numOk f (checkOptBlock env parent b f).val (checkOptBlock env parent b f).facts :=
  fun b f _ => (check_scope numOk).2.2.2 b env parent f

end walk

theorem resolveWith_orc (numOk : Bytes → Bool) (spanLen : Bool) (q : Block) (h : (resolveWith spanLen q).rdiags = []) :
    orcBlock (orcOf numOk (resolveWith spanLen q).facts) (resolveWith spanLen q).root = true := by
  have hb := checkBlock_scope numOk (rootEnv spanLen) none q rootFacts soInv_root
    (Bridge.resolve_num spanLen q h)
  exact hb.orc _ (Pre.refl _) (After.self _ _ _)

end NaijaVerif.ResolveStruct
