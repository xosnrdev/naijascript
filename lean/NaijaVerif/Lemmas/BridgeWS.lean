import NaijaVerif.Lemmas.BridgeWalk
import NaijaVerif.Lemmas.EvalBasic
/-
Bridge resolver → evaluator: an output of the checker that carries no diagnostic is well scoped
(`Eval.wsBlock`, the hypothesis of C04's dynamic theorem).

The evaluator-side context `Γ` (`Eval.Binder`s: the ids each enclosing block or parameter list of the
output declares, including those of statements later in the text) is tied to the checker's
environment by
* `VarsIn` / `FnsIn`: every scope entry is declared by `Γ` (⇒ `boundIn`, `fnBoundIn` of an annotation
  a successful lookup wrote);
* freshness: an id declared by `Γ` was allocated before the piece being checked, or after it, or,
  for the innermost binder, by one of the piece's own `make` statements (⇒ `freshIn`, `headDecl`).

`check_ws` (like `check_ok`, `check_num`) addresses the cases of `checkStmt.mutual_induct_unfolding` by number: the head of
`Lemmas/ResolveShape.lean` says which arm of the checker each of `case1 … case20` is.  What an arm has to show of the
context is a lemma about the named pieces of ResolveShape (`AtBlock.body`, `AtStmt.params`, `AtStmt.cons`); it applies to
the principle's local definitions (`pr`, `pre`, `sigs`, `r`), which are those pieces by definition.
-/
namespace NaijaVerif.Resolve
open NaijaVerif

def VarsIn (ss : List Scope) (Γ : List Eval.Binder) : Prop :=
  ∀ s ∈ ss, ∀ e ∈ s, Eval.declared Γ e.id = true

def FnsIn (fs : List (List FnSig)) (Γ : List Eval.Binder) : Prop :=
  ∀ s ∈ fs, ∀ g ∈ s, Eval.fnDeclared Γ g.id = true

theorem VarsIn.weaken {ss : List Scope} {Γ : List Eval.Binder} (h : VarsIn ss Γ) (β : Eval.Binder) :
    VarsIn ss (β :: Γ) := by
  intro s hs e he
  rw [Eval.declared_cons, h s hs e he, Bool.or_true]

theorem FnsIn.weaken {fs : List (List FnSig)} {Γ : List Eval.Binder} (h : FnsIn fs Γ) (β : Eval.Binder) :
    FnsIn fs (β :: Γ) := by
  intro s hs g hg
  rw [Eval.fnDeclared_cons, h s hs g hg, Bool.or_true]

theorem VarsIn.cons {s : Scope} {ss : List Scope} {Γ : List Eval.Binder}
    (h1 : ∀ e ∈ s, Eval.declared Γ e.id = true) (h2 : VarsIn ss Γ) : VarsIn (s :: ss) Γ := by
  intro s' hs'
  rcases List.mem_cons.1 hs' with rfl | hs'
  · exact h1
  · exact h2 s' hs'

theorem FnsIn.cons {s : List FnSig} {fs : List (List FnSig)} {Γ : List Eval.Binder}
    (h1 : ∀ g ∈ s, Eval.fnDeclared Γ g.id = true) (h2 : FnsIn fs Γ) : FnsIn (s :: fs) Γ := by
  intro s' hs'
  rcases List.mem_cons.1 hs' with rfl | hs'
  · exact h1
  · exact h2 s' hs'

theorem declared_head {β : Eval.Binder} {Γ : List Eval.Binder} {l : Nat} (h : l ∈ β.decls) :
    Eval.declared (β :: Γ) l = true := by
  rw [Eval.declared_cons]; simp [h]

theorem fnDeclared_head {β : Eval.Binder} {Γ : List Eval.Binder} {i : Nat} (h : i ∈ β.fnIds) :
    Eval.fnDeclared (β :: Γ) i = true := by
  rw [Eval.fnDeclared_cons]; simp [h]

theorem VarsIn.lookup {env : Env} {cur : Scope} {Γ : List Eval.Binder} (h : VarsIn (cur :: env.vars) Γ)
    {x : Bytes} {e : VarEntry} (hl : lookupVar env cur x = some e) : Eval.boundIn Γ (some e.id) = true := by
  obtain ⟨s, hs, he⟩ := lookupScopes_mem hl
  exact h s hs e he

theorem FnsIn.lookup {env : Env} {Γ : List Eval.Binder} (h : FnsIn env.fns Γ)
    {x : Bytes} {g : FnSig} (hl : lookupFn env x = some g) : Eval.fnBoundIn Γ (some g.id) = true := by
  obtain ⟨s, hs, hg⟩ := lookupFns_mem hl
  exact h s hs g hg

/-- `GlobalBuiltin::from_name` as the resolver model and as the evaluator model spell it. -/
theorem global_tables_agree (n : Bytes) :
    (GlobalB.ofName n).isSome = (Eval.GlobalB.ofName n).isSome := by
  rcases Eval.GlobalB.ofName_cases n with ⟨rfl, h⟩ | ⟨rfl, h⟩ | ⟨rfl, h⟩ | ⟨rfl, h⟩ | ⟨rfl, h⟩ | ⟨e1, e2, e3, e4, e5, h⟩
  -- the resolver model is a `find?` over `GlobalB.all` that tests `b!"…" == n`
  all_goals rw [h]
  · rfl
  · rfl
  · rfl
  · rfl
  · rfl
  · simp only [GlobalB.ofName, GlobalB.all, GlobalB.nameOf, List.find?, e1, e2, e3, e4, e5]; rfl

theorem annSegs_ws {env : Env} {cur : Scope} {Γ : List Eval.Binder} (hv : VarsIn (cur :: env.vars) Γ) (span : Span) :
    ∀ segs : List Seg, segsDiags env cur span segs = [] → (annSegs env cur segs).all (Eval.wsSeg Γ) = true
  | [], _ => rfl
  | .lit _ :: rest, h => annSegs_ws hv span rest h
  | .var n _ :: rest, h => by
      rw [segsDiags, List.append_eq_nil_iff] at h
      rw [annSegs, List.all_cons, annSegs_ws hv span rest h.2, Bool.and_true]
      cases hl : lookupVar env cur n with
      | some e => exact hv.lookup hl
      | none => rw [hl] at h; cases h.1

theorem annExpr_ws {env : Env} {cur : Scope} {Γ : List Eval.Binder} (hv : VarsIn (cur :: env.vars) Γ)
    (hf : FnsIn env.fns Γ) :
    (∀ e, exprDiags env cur e = [] → Eval.wsExpr Γ (annExpr env cur e) = true) ∧
    (∀ es, exprsDiags env cur es = [] → Eval.wsExprs Γ (annExprs env cur es) = true) := by
  apply Expr.clean_walk (P := fun _ e' => Eval.wsExpr Γ e' = true) (Q := fun _ es' => Eval.wsExprs Γ es' = true)
  case num | bool | null | str | nil => intros; rfl
  case interp => exact fun segs s h => annSegs_ws hv s segs h
  case array => exact fun _ _ _ h => h
  case index => exact fun _ _ _ _ _ _ _ _ ha hi => Bool.and_eq_true_iff.2 ⟨ha, hi⟩
  case var => exact fun _ _ _ _ hl => hv.lookup hl
  case binary => exact fun _ _ _ _ _ _ _ hl hr => Bool.and_eq_true_iff.2 ⟨hl, hr⟩
  case unary => exact fun _ _ _ _ _ h => h
  case callGlobal =>
    intro fname vb vs args args' fn s g hg _ ha
    have hg' : (Eval.GlobalB.ofName fname).isSome = true := by rw [← global_tables_agree, hg]; rfl
    show (Eval.wsExprs Γ _ && ((Eval.GlobalB.ofName fname).isSome || _)) = true
    rw [hg', Bool.true_or, Bool.and_true]
    exact ha
  case callUser =>
    exact fun _ _ _ _ _ _ _ _ _ hl _ ha => Bool.and_eq_true_iff.2 ⟨ha, Bool.or_eq_true_iff.2 (Or.inr (hf.lookup hl))⟩
  case callMember => exact fun _ _ _ _ _ _ _ _ _ _ ho ha => Bool.and_eq_true_iff.2 ⟨ho, ha⟩
  case cons => exact fun _ _ _ _ he hes => Bool.and_eq_true_iff.2 ⟨he, hes⟩

theorem checkExpr_ws (env : Env) (cur : Scope) (sid : Nat) (Γ : List Eval.Binder)
    (hv : VarsIn (cur :: env.vars) Γ) (hf : FnsIn env.fns Γ) :
    ∀ (e : Expr) (f : Facts), (checkExpr env cur sid e f).ds = [] →
      Eval.wsExpr Γ (checkExpr env cur sid e f).val = true := by
  intro e f h
  rw [checkExpr_ds] at h
  rw [checkExpr_val]
  exact (annExpr_ws hv hf).1 e h

theorem checkExprs_ws (env : Env) (cur : Scope) (sid : Nat) (Γ : List Eval.Binder)
    (hv : VarsIn (cur :: env.vars) Γ) (hf : FnsIn env.fns Γ) :
    ∀ (es : List Expr) (f : Facts), (checkExprs env cur sid es f).ds = [] →
      Eval.wsExprs Γ (checkExprs env cur sid es f).val = true := by
  intro es f h
  rw [checkExprs_ds] at h
  rw [checkExprs_val]
  exact (annExpr_ws hv hf).2 es h

/-- Freshness of the `LocalId`s `[lo, hi)` that checking a piece allocates: what `Γ` declares was allocated before or
after the piece, or is in `own`, the targets of the piece's own `make` statements (which the innermost binder of `Γ`,
the block the piece stands in, declares as well: a binder lists the declarations of the whole block, so without the
exception no statement of a block that declares anything would be fresh in its own context).  `own = []` for a piece that
opens a binder of its own (`AtBlock`, `freshIn_of_range`). -/
def FreshL (Γ : List Eval.Binder) (lo hi : Nat) (own : List Nat) : Prop :=
  ∀ l, Eval.declared Γ l = true → l < lo ∨ hi ≤ l ∨ l ∈ own

/-- The same for `FunctionId`s; a piece's own definitions were predeclared before it, so there is no exception. -/
def FreshF (Γ : List Eval.Binder) (lo hi : Nat) : Prop :=
  ∀ i, Eval.fnDeclared Γ i = true → i < lo ∨ hi ≤ i

/-- The checker's state at a statement of a block against the evaluator-side context `B :: Γ0`, `B` the binder of that
block.  `curLt` is what makes a re-declaration harmless: a `make` that re-declares an entry of `cur.vars`
writes an id that `B` declares and that is not in the range the statement allocates, and `curLt` puts it below that range
(`AtStmt.cons`).  (`ResolveStruct.SCx` is the context of the facts-side scope walk, `Bridge.SCfg` the
static configuration of `okBlock`.) -/
structure SCtx (env : Env) (cur : Cur) (f : Facts) (B : Eval.Binder) (Γ0 : List Eval.Binder) : Prop where
  vars : VarsIn env.vars (B :: Γ0)
  curIn : ∀ e ∈ cur.vars, e.id ∈ B.decls
  curLt : ∀ e ∈ cur.vars, e.id < f.locals.length
  fns : FnsIn env.fns (B :: Γ0)

/-- `Γ` is the context of a block that is checked with the scopes `vars` and `fns` of an environment in sight, from the
facts `f` to the facts `f'`. -/
structure AtBlock (vars : List Scope) (fns : List (List FnSig)) (f f' : Facts) (Γ : List Eval.Binder) : Prop where
  vars : VarsIn vars Γ
  fns : FnsIn fns Γ
  freshL : FreshL Γ f.locals.length f'.locals.length []
  freshF : FreshF Γ f.functions.length f'.functions.length

/-- `B :: Γ0` is the context of a piece (a statement, the rest of the statements) of the block of `B`, checked from
`env cur f` to the facts `f'`; `D`, `F` are the ids the piece's own `make`s and definitions are annotated with. -/
structure AtStmt (env : Env) (cur : Cur) (f f' : Facts) (D F : List Nat) (B : Eval.Binder) (Γ0 : List Eval.Binder) : Prop
    extends SCtx env cur f B Γ0 where
  decls : ∀ l ∈ D, l ∈ B.decls
  fnIds : ∀ i ∈ F, i ∈ B.fnIds
  freshL : FreshL (B :: Γ0) f.locals.length f'.locals.length D
  freshF : FreshF (B :: Γ0) f.functions.length f'.functions.length

section
variable {Γ : List Eval.Binder} {β : Eval.Binder} {lo hi lo2 hi2 : Nat} {own : List Nat}

theorem FreshL.mono {own2 : List Nat} (h : FreshL Γ lo hi own) (h1 : lo ≤ lo2) (h2 : hi2 ≤ hi)
    (h3 : ∀ l ∈ own, l < lo2 ∨ hi2 ≤ l ∨ l ∈ own2) : FreshL Γ lo2 hi2 own2 := by
  intro l hl
  rcases h l hl with a | a | a
  · exact Or.inl (Nat.lt_of_lt_of_le a h1)
  · exact Or.inr (Or.inl (Nat.le_trans h2 a))
  · exact h3 l a

theorem FreshF.mono (h : FreshF Γ lo hi) (h1 : lo ≤ lo2) (h2 : hi2 ≤ hi) : FreshF Γ lo2 hi2 := by
  intro l hl
  rcases h l hl with a | a
  · exact Or.inl (Nat.lt_of_lt_of_le a h1)
  · exact Or.inr (Nat.le_trans h2 a)

theorem FreshL.push (h : FreshL Γ lo hi []) (hm : lo ≤ lo2) (hβ : ∀ l ∈ β.decls, l < lo2 ∨ l ∈ own) :
    FreshL (β :: Γ) lo2 hi own := by
  intro l hl
  rw [Eval.declared_cons, Bool.or_eq_true] at hl
  rcases hl with hl | hl
  · exact (hβ l (by simpa using hl)).imp_right Or.inr
  · exact h.mono hm (Nat.le_refl _) (fun _ a => nomatch a) l hl

theorem FreshF.push (h : FreshF Γ lo hi) (hm : lo ≤ lo2) (hβ : ∀ i ∈ β.fnIds, i < lo2) : FreshF (β :: Γ) lo2 hi := by
  intro i hi
  rw [Eval.fnDeclared_cons, Bool.or_eq_true] at hi
  rcases hi with hi | hi
  · exact Or.inl (hβ i (by simpa using hi))
  · exact h.mono hm (Nat.le_refl _) i hi

theorem freshIn_of_range {lo' hi' : Nat} (hL : FreshL Γ lo hi []) (hF : FreshF Γ lo' hi')
    (h1 : ∀ l ∈ β.decls, lo ≤ l ∧ l < hi) (h2 : ∀ i ∈ β.fnIds, lo' ≤ i ∧ i < hi') :
    Eval.freshIn Γ β = true := by
  simp only [Eval.freshIn, Bool.and_eq_true, List.all_eq_true, Bool.not_eq_true']
  refine ⟨?_, ?_⟩
  · intro l hl
    cases hd : Eval.declared Γ l with
    | false => rfl
    | true =>
      have := h1 l hl
      rcases hL l hd with a | a | a
      · omega
      · omega
      · cases a
  · intro i hi
    cases hd : Eval.fnDeclared Γ i with
    | false => rfl
    | true =>
      have := h2 i hi
      rcases hF i hd with a | a <;> omega

end

section
variable {env : Env} {cur : Cur} {f f' : Facts} {B : Eval.Binder} {Γ Γ0 : List Eval.Binder}

theorem SCtx.exprVars (h : SCtx env cur f B Γ0) : VarsIn (cur.vars :: env.vars) (B :: Γ0) :=
  VarsIn.cons (fun e he => declared_head (h.curIn e he)) h.vars

theorem SCtx.expr (h : SCtx env cur f B Γ0) {sid : Nat} {e : Expr} {g : Facts}
    (hds : (checkExpr env cur.vars sid e g).ds = []) : Eval.wsExpr (B :: Γ0) (checkExpr env cur.vars sid e g).val = true :=
  checkExpr_ws env cur.vars sid (B :: Γ0) h.exprVars h.fns e g hds

/-- A block nested in a statement that declares nothing itself: checked from `g` to `g'`, in between. -/
theorem AtStmt.inner {g g' : Facts} {F : List Nat} (h : AtStmt env cur f f' [] F B Γ0) (h1 : FLe f g) (h2 : FLe g' f') :
    AtBlock (cur.vars :: env.vars) env.fns g g' (B :: Γ0) :=
  ⟨h.exprVars, h.fns, h.freshL.mono h1.nl h2.nl (fun _ a => nomatch a), h.freshF.mono h1.nf h2.nf⟩

open ResolveStruct in
/-- The body of a definition: the parameters open a binder, fresh because they are allocated by the statement. -/
theorem AtStmt.params {i : Nat} (h : AtStmt env cur f f' [] [i] B Γ0) (g : FnSig) (ps : List Param)
    (hg : FLe (fnParams env f g ps).2.2 f') :
    Eval.freshIn (B :: Γ0) (.ofParams (fnParams env f g ps).1) = true ∧
    AtBlock ((fnParams env f g ps).2.1 :: cur.vars :: env.vars) env.fns (fnParams env f g ps).2.2 f'
      (.ofParams (fnParams env f g ps).1 :: B :: Γ0) := by
  obtain ⟨hnl, hnf, _, _, hp4, hp5⟩ := fnParams_spec env f g ps
  have := hg.nl
  refine ⟨freshIn_of_range h.freshL h.freshF (fun l hl => ⟨(hp4 l hl).1, by have := (hp4 l hl).2; omega⟩)
    (fun _ hi => nomatch hi), ?_⟩
  exact
    { vars := VarsIn.cons (fun e he => declared_head (hp5 e he)) (h.exprVars.weaken _)
      fns := h.fns.weaken _
      freshL := h.freshL.push (by omega) (fun l hl => Or.inl (by have := (hp4 l hl).2; omega))
      freshF := h.freshF.push (Nat.le_of_eq hnf.symm) (fun _ hi => nomatch hi) }

open ResolveStruct in
/-- The statements `r` of a block: the block opens the binder `ofStmts r.val`.  It is fresh in `Γ` because what it
declares was allocated inside the block, the function ids by predeclaring, the local ids by the statements.  The statements
are checked under it from an empty own scope: the block's signatures are declared by the new binder (`block_fnIds`), and
what the new binder declares is exempt as `own` (locals) or lies below the range of the statements, which starts after
predeclaring (function ids).  (`r` comes with its equation `hr`, here and in `AtStmt.cons`, so that the statement spells the
call of the checker once; an arm of the walk passes `rfl`.) -/
theorem AtBlock.body {parent : Option Nat} {ss : List Stmt} {r : SsOut}
    (hr : r = checkStmts (blkEnvBody env parent ss f) {} ss (blkPre env parent ss f).facts)
    (h : AtBlock env.vars env.fns f r.facts Γ) (hds : (blkPre env parent ss f).ds = []) :
    Eval.freshIn Γ (.ofStmts r.val) = true ∧
    AtStmt (blkEnvBody env parent ss f) {} (blkPre env parent ss f).facts r.facts (Eval.declIds r.val)
      (Eval.fnIdsOf r.val) (.ofStmts r.val) Γ := by
  obtain ⟨hpg, hpnl, hsig⟩ := blkPre_spec env parent ss f
  have hgrow : FLe (blkPre env parent ss f).facts r.facts :=
    hr ▸ steps_fle (checkStmts_steps (blkEnvBody env parent ss f) ss {} _)
  have hids := block_fnIds hds (blkPre env parent ss f).facts
  have hdecl := checkStmts_decl (blkEnvBody env parent ss f) ss {} (blkPre env parent ss f).facts
  rw [← hr] at hids hdecl
  have hfn : ∀ i ∈ Eval.fnIdsOf r.val, f.functions.length ≤ i ∧ i < (blkPre env parent ss f).facts.functions.length := by
    intro i hi
    obtain ⟨g, hg, rfl⟩ := List.mem_map.1 (hids ▸ hi)
    exact ⟨(hsig g hg).1, (hsig g hg).2.1⟩
  refine ⟨freshIn_of_range h.freshL h.freshF (fun l hl => ?_)
    (fun i hi => ⟨(hfn i hi).1, Nat.lt_of_lt_of_le (hfn i hi).2 hgrow.nf⟩), ?_⟩
  · rcases hdecl l hl with ⟨e, he, _⟩ | a
    · cases he
    · exact hpnl ▸ a
  · exact
      { vars := h.vars.weaken _
        curIn := fun _ he => nomatch he
        curLt := fun _ he => nomatch he
        fns := FnsIn.cons (fun g hg => fnDeclared_head (hids.symm ▸ List.mem_map_of_mem hg :)) (h.fns.weaken _)
        decls := fun _ a => a
        fnIds := fun _ a => a
        freshL := h.freshL.push (Nat.le_of_eq hpnl.symm) (fun _ hl => Or.inr hl)
        freshF := h.freshF.push hpg.nf (fun i hi => (hfn i hi).2) }

/-- `s :: ss`: head and tail get the freshness of their own range from that of the whole; the one place where the
exception `own` of `FreshL` is split, and where `curIn` / `curLt` are carried to the scope after `s`. -/
theorem AtStmt.cons {s : Stmt} {ss : List Stmt} {r : SOut} {rs : SsOut} (hr : r = checkStmt env cur s f)
    (hrs : rs = checkStmts env r.cur ss r.facts)
    (h : AtStmt env cur f rs.facts (Eval.declIds (r.val :: rs.val)) (Eval.fnIdsOf (r.val :: rs.val)) B Γ0) :
    AtStmt env cur f r.facts (Eval.declIds [r.val]) (Eval.fnIdsOf [r.val]) B Γ0 ∧
    AtStmt env r.cur r.facts rs.facts (Eval.declIds rs.val) (Eval.fnIdsOf rs.val) B Γ0 := by
  have hB1 := h.decls
  have hB2 := h.fnIds
  have hfr := h.freshL
  rw [Eval.declIds_cons] at hB1 hfr
  rw [Eval.fnIdsOf_cons] at hB2
  have hdecl := checkStmt_decl env cur s f
  have hrest := checkStmts_decl env ss r.cur r.facts
  rw [← hr] at hdecl
  rw [← hrs] at hrest
  have hg1 : FLe f r.facts := hr ▸ steps_fle (ResolveStruct.checkStmt_steps env cur s f)
  have hg2 : FLe r.facts rs.facts := hrs ▸ steps_fle (ResolveStruct.checkStmts_steps env ss r.cur r.facts)
  -- an entry of the scope after `s` was allocated before `s`, or is the target of `s`
  have hcur : ∀ e ∈ r.cur.vars, (e.id ∈ B.decls ∧ e.id < f.locals.length) ∨
      (e.id ∈ Eval.declIds [r.val] ∧ e.id < r.facts.locals.length) := by
    intro e he
    rcases hdecl.2 e he with ⟨e', he', hid⟩ | a
    · exact Or.inl (hid ▸ ⟨h.curIn e' he', h.curLt e' he'⟩)
    · exact Or.inr ⟨a.1, a.2.2⟩
  -- for the head: a target of the tail was allocated after `s`, or it re-declares an entry of the scope after `s`
  have hD2 : ∀ l ∈ Eval.declIds rs.val,
      l < f.locals.length ∨ r.facts.locals.length ≤ l ∨ l ∈ Eval.declIds [r.val] := by
    intro l a
    rcases hrest l a with ⟨e, he, rfl⟩ | b
    · exact (hcur e he).elim (fun b => Or.inl b.2) (fun b => Or.inr (Or.inr b.1))
    · exact Or.inr (Or.inl b.1)
  -- for the tail: the target of `s` was allocated by `s` or before, so below the tail's range
  have hD1 : ∀ l ∈ Eval.declIds [r.val], l < r.facts.locals.length := by
    intro l a
    rcases hdecl.1 l a with ⟨e, he, rfl⟩ | b
    · exact Nat.lt_of_lt_of_le (h.curLt e he) hg1.nl
    · exact b.2
  exact ⟨{ h.toSCtx with
      decls := fun l hl => hB1 l (List.mem_append_left _ hl)
      fnIds := fun i hi => hB2 i (List.mem_append_left _ hi)
      freshL := hfr.mono (Nat.le_refl _) hg2.nl fun l a =>
        (List.mem_append.1 a).elim (fun a => Or.inr (Or.inr a)) (hD2 l)
      freshF := h.freshF.mono (Nat.le_refl _) hg2.nf },
    { vars := h.vars
      fns := h.fns
      curIn := fun e he => (hcur e he).elim (·.1) (fun b => hB1 _ (List.mem_append_left _ b.1))
      curLt := fun e he => (hcur e he).elim (fun b => Nat.lt_of_lt_of_le b.2 hg1.nl) (·.2)
      decls := fun l hl => hB1 l (List.mem_append_right _ hl)
      fnIds := fun i hi => hB2 i (List.mem_append_right _ hi)
      freshL := hfr.mono hg1.nl (Nat.le_refl _) fun l a =>
        (List.mem_append.1 a).elim (fun a => Or.inl (hD1 l a)) (fun a => Or.inr (Or.inr a))
      freshF := h.freshF.mono hg1.nf (Nat.le_refl _) }⟩

end

def WsS (env : Env) (cur : Cur) (s : Stmt) (f : Facts) (out : SOut) : Prop :=
  ∀ (B : Eval.Binder) (Γ0 : List Eval.Binder),
    AtStmt env cur f out.facts (Eval.declIds [out.val]) (Eval.fnIdsOf [out.val]) B Γ0 → DefsOK env cur.seenFns [s] →
    out.ds = [] → Eval.wsStmt (B :: Γ0) out.val = true

def WsL (env : Env) (cur : Cur) (ss : List Stmt) (f : Facts) (out : SsOut) : Prop :=
  ∀ (B : Eval.Binder) (Γ0 : List Eval.Binder),
    AtStmt env cur f out.facts (Eval.declIds out.val) (Eval.fnIdsOf out.val) B Γ0 → DefsOK env cur.seenFns ss →
    out.ds = [] → Eval.wsStmts (B :: Γ0) out.val = true

/-- `ws` is `Eval.wsBlock` or `Eval.wsOptBlock`.  The arguments after `ws` are those of the principle's motive that the
statement reads; the others (`parent`, the block) are dropped where the motive is given. -/
def WsB {α : Type} (ws : List Eval.Binder → α → Bool) (env : Env) (f : Facts) (out : Out α) : Prop :=
  ∀ Γ : List Eval.Binder, AtBlock env.vars env.fns f out.facts Γ → out.ds = [] → ws Γ out.val = true

theorem check_ws :
    (∀ env cur s f, WsS env cur s f (checkStmt env cur s f)) ∧
    (∀ env parent b f, WsB Eval.wsOptBlock env f (checkOptBlock env parent b f)) ∧
    (∀ env parent b f, WsB Eval.wsBlock env f (checkBlock env parent b f)) ∧
    (∀ env cur ss f, WsL env cur ss f (checkStmts env cur ss f)) := by
  apply checkStmt.mutual_induct_unfolding (motive_1 := WsS) (motive_2 := fun env _ _ => WsB Eval.wsOptBlock env)
    (motive_3 := fun env _ _ => WsB Eval.wsBlock env) (motive_4 := WsL)
  case case1 =>
    intro env cur x xs e _ _ sp f0 sid f1 d1 r f2 ty ent _ B Γ0 hc _ h
    simp only [Eval.wsStmt, Bool.and_eq_true, Eval.headDecl]
    exact ⟨hc.expr (List.append_eq_nil_iff.1 h).2, by simpa [Eval.declIds] using hc.decls⟩
  case case2 =>
    intro env cur x xs e _ _ sp f0 sid f1 d1 r f2 ty _ id f3 B Γ0 hc _ h
    simp only [Eval.wsStmt, Bool.and_eq_true, Eval.headDecl]
    exact ⟨hc.expr (List.append_eq_nil_iff.1 h).2, by simpa [Eval.declIds] using hc.decls⟩
  case case3 =>
    intro env cur x xs e _ _ sp f0 sid f1 ent hl f2 r B Γ0 hc _ h
    simp only [Eval.wsStmt, Bool.and_eq_true]
    exact ⟨hc.expr h, hc.exprVars.lookup hl⟩
  case case4 => intro env cur x xs e _ _ sp f0 sid f1 _ r B Γ0 _ _ h; cases h
  case case5 =>
    intro env cur t e _ sp f0 sid f1 rt re f2 B Γ0 hc _ h
    simp only [List.append_eq_nil_iff] at h
    simp only [Eval.wsStmt, Bool.and_eq_true]
    exact ⟨hc.expr h.1.1, hc.expr h.1.2⟩
  case case6 =>
    intro env cur c t e _ sp f0 sid f1 rc d f2 envB rt re iht ihe B Γ0 hc _ h
    simp only [List.append_eq_nil_iff] at h
    have hk : FLe f0 f2 := FLe.of_eq (fkey_condF env cur f0 c)
    simp only [Eval.wsStmt, Bool.and_eq_true]
    exact ⟨⟨hc.expr h.1.1.1, iht _ (hc.inner hk (steps_fle (ResolveStruct.checkOptBlock_steps _ _ _ _))) h.1.2⟩,
      ihe _ (hc.inner (hk.trans (steps_fle (ResolveStruct.checkBlock_steps _ _ _ _))) (FLe.refl _)) h.2⟩
  case case7 =>
    intro env cur c b _ sp f0 sid f1 rc d f2 envB rb ih B Γ0 hc _ h
    simp only [List.append_eq_nil_iff] at h
    simp only [Eval.wsStmt, Bool.and_eq_true]
    exact ⟨hc.expr h.1.1, ih _ (hc.inner (FLe.of_eq (fkey_condF env cur f0 c)) (FLe.refl _)) h.2⟩
  case case8 =>
    intro env cur b _ sp f0 sid f1 rb ih B Γ0 hc _ h
    exact ih _ (hc.inner (FLe.of_eq (fkey_pushStmt _ _ _)) (FLe.refl _)) h
  case case9 =>
    exact fun env cur name nsp ps body _ _ sp f0 hsig B Γ0 _ hd _ => absurd hsig (sigOf_ne_none hd)
  case case10 =>
    intro env cur name nsp ps body _ _ sp f0 sid f1 sig g hsig f2 pscope f3 pr envB rb ih B Γ0 hc _ h
    obtain ⟨hfresh, hin⟩ := hc.params g ps (steps_fle (ResolveStruct.checkBlock_steps envB (some pscope) body _))
    simp only [Eval.wsStmt, Bool.and_eq_true, Eval.headFn]
    exact ⟨⟨⟨by simpa [Eval.fnIdsOf] using hc.fnIds, (fnParams_spec env f0 g ps).2.2.1⟩, hfresh⟩, ih _ hin h⟩
  case case11 =>
    intro env cur _ sp f0 sid f1 d e r B Γ0 hc _ h
    exact hc.expr (List.append_eq_nil_iff.1 h).2
  case case15 =>
    intro env cur e _ sp f0 sid f1 r B Γ0 hc _ h
    exact hc.expr h
  case case16 =>
    intro env parent ss sp f scope f1 f2 env1 pre sigs r ih Γ hΓ h
    obtain ⟨h1, h2⟩ := List.append_eq_nil_iff.1 h
    obtain ⟨hfresh, hin⟩ := hΓ.body (parent := parent) rfl h1
    simp only [Eval.wsBlock, Bool.and_eq_true]
    exact ⟨hfresh, ih _ Γ hin (defsOK_block h1) h2⟩
  case case18 => intro env parent b f r ih Γ hΓ h; exact ih Γ hΓ h
  case case20 =>
    intro env cur s ss f r rs ih1 ih2 B Γ0 hc hd h
    obtain ⟨h1, h2⟩ := List.append_eq_nil_iff.1 h
    obtain ⟨a1, a2⟩ := hc.cons rfl rfl
    simp only [Eval.wsStmts, Bool.and_eq_true]
    exact ⟨ih1 B Γ0 a1 hd.head h1, ih2 B Γ0 a2 (hd.tail f) h2⟩
  case case12 | case13 | case14 | case19 => intros; exact fun _ _ _ _ _ => rfl
  case case17 => intros; exact fun _ _ _ => rfl

/-! The conjuncts of `check_ws` for statements, statement lists and optional blocks, each with its motive written out;
`resolve_wellScoped` needs the one for blocks only. -/

theorem checkStmt_ws (env : Env) (cur : Cur) (B : Eval.Binder) (Γ0 : List Eval.Binder) :
    ∀ (s : Stmt) (f : Facts), SCtx env cur f B Γ0 → DefsOK env cur.seenFns [s] →
      (∀ l ∈ Eval.declIds [(checkStmt env cur s f).val], l ∈ B.decls) →
      (∀ i ∈ Eval.fnIdsOf [(checkStmt env cur s f).val], i ∈ B.fnIds) →
      FreshL (B :: Γ0) f.locals.length (checkStmt env cur s f).facts.locals.length
        (Eval.declIds [(checkStmt env cur s f).val]) →
      FreshF (B :: Γ0) f.functions.length (checkStmt env cur s f).facts.functions.length →
      (checkStmt env cur s f).ds = [] → Eval.wsStmt (B :: Γ0) (checkStmt env cur s f).val = true :=
  fun s f hc hd h1 h2 h3 h4 => check_ws.1 env cur s f B Γ0 ⟨hc, h1, h2, h3, h4⟩ hd

theorem checkStmts_ws (env : Env) (B : Eval.Binder) (Γ0 : List Eval.Binder) :
    ∀ (ss : List Stmt) (cur : Cur) (f : Facts), SCtx env cur f B Γ0 → DefsOK env cur.seenFns ss →
      (∀ l ∈ Eval.declIds (checkStmts env cur ss f).val, l ∈ B.decls) →
      (∀ i ∈ Eval.fnIdsOf (checkStmts env cur ss f).val, i ∈ B.fnIds) →
      FreshL (B :: Γ0) f.locals.length (checkStmts env cur ss f).facts.locals.length
        (Eval.declIds (checkStmts env cur ss f).val) →
      FreshF (B :: Γ0) f.functions.length (checkStmts env cur ss f).facts.functions.length →
      (checkStmts env cur ss f).ds = [] → Eval.wsStmts (B :: Γ0) (checkStmts env cur ss f).val = true :=
  fun ss cur f hc hd h1 h2 h3 h4 => check_ws.2.2.2 env cur ss f B Γ0 ⟨hc, h1, h2, h3, h4⟩ hd

theorem checkOptBlock_ws (env : Env) (parent : Option Nat) (Γ : List Eval.Binder)
    (hv : VarsIn env.vars Γ) (hf : FnsIn env.fns Γ) :
    ∀ (b : Option Block) (f : Facts),
      FreshL Γ f.locals.length (checkOptBlock env parent b f).facts.locals.length [] →
      FreshF Γ f.functions.length (checkOptBlock env parent b f).facts.functions.length →
      (checkOptBlock env parent b f).ds = [] → Eval.wsOptBlock Γ (checkOptBlock env parent b f).val = true :=
  fun b f h1 h2 => check_ws.2.1 env parent b f Γ ⟨hv, hf, h1, h2⟩

theorem resolve_wellScoped (spanLen : Bool) (q : Block) (h : (resolveWith spanLen q).rdiags = []) :
    Eval.WellScoped (resolveWith spanLen q).root := by
  unfold Eval.WellScoped
  refine check_ws.2.2.1 (rootEnv spanLen) none q rootFacts [Eval.Binder.root] ⟨?_, ?_, ?_, ?_⟩ h
  · intro s hs; cases hs
  · intro s hs; cases hs
  · intro l hl; simp [Eval.declared, Eval.Binder.root] at hl
  · intro i hi; simp [Eval.fnDeclared, Eval.Binder.root] at hi

end NaijaVerif.Resolve
