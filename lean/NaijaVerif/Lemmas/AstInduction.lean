import NaijaVerif.Model.Ast
/-
`Expr` is nested with `List Expr`, `Stmt` with `Block`, `Option Block` and `List Stmt`; a proof about a
function defined by recursion over such a family proves one statement per type.  `Expr.walk` and
`Stmt.walk` take the cases of the recursor once and return all conclusions; after `apply`, each case is
a goal named after its constructor.  Where the statement is "a Boolean check that passes implies another" and both
checks are conjunctions over the same components, `band_imp` / `and_imp2` at the end make such a case a term that names
the hypotheses of the components.
-/
namespace NaijaVerif

/-- A call is split by its callee.  For a method call `o.fld(args)` the case `callMember` gives the hypothesis for the
object `o`, a component of a component, and none for the callee `.member o fld fs ms`: the resolver, the analysis and
the evaluator go from a method call straight into `o` and report a member access that is not called (`bareMember`), so
the hypothesis for the callee would speak of the rejecting branch.  The case `call` is every other callee
(`c ≠ .member …`).  A proof that treats all calls alike and needs the hypothesis for every callee uses `Expr.rec`
itself: so the parser's round trip (`Lemmas/ParseRoundTrip`, `Lemmas/ParseImage`), for which `o.fld(…)` is a call whose
callee is the member access. -/
theorem Expr.walk {P : Expr → Prop} {Q : List Expr → Prop}
    (index : ∀ a i isp s, P a → P i → P (.index a i isp s))
    (str : ∀ p s, P (.str p s))
    (num : ∀ l s, P (.num l s))
    (var : ∀ v b s, P (.var v b s))
    (binary : ∀ op l r s, P l → P r → P (.binary op l r s))
    (callMember : ∀ o fld fs ms args fn s, P o → Q args → P (.call (.member o fld fs ms) args fn s))
    (call : ∀ c args fn s, (∀ o fld fs ms, c ≠ .member o fld fs ms) → P c → Q args → P (.call c args fn s))
    (array : ∀ es s, Q es → P (.array es s))
    (unary : ∀ op e s, P e → P (.unary op e s))
    (bool : ∀ b s, P (.bool b s))
    (member : ∀ o fld fs s, P o → P (.member o fld fs s))
    (null : ∀ s, P (.null s))
    (nil : Q [])
    (cons : ∀ e es, P e → Q es → Q (e :: es)) :
    (∀ e, P e) ∧ (∀ es, Q es) := by
  have key : ∀ e, P e ∧ ∀ o fld fs ms, e = .member o fld fs ms → P o := by
    intro e
    induction e using Expr.rec (motive_2 := Q) with
    | index a i isp s iha ihi => exact ⟨index a i isp s iha.1 ihi.1, nofun⟩
    | str p s => exact ⟨str p s, nofun⟩
    | num l s => exact ⟨num l s, nofun⟩
    | var v b s => exact ⟨var v b s, nofun⟩
    | binary op l r s ihl ihr => exact ⟨binary op l r s ihl.1 ihr.1, nofun⟩
    | call c args fn s ihc iha =>
      refine ⟨?_, nofun⟩
      cases c with
      | member o fld fs ms => exact callMember o fld fs ms args fn s (ihc.2 o fld fs ms rfl) iha
      | _ => exact call _ args fn s nofun ihc.1 iha
    | array es s ih => exact ⟨array es s ih, nofun⟩
    | unary op e s ih => exact ⟨unary op e s ih.1, nofun⟩
    | bool b s => exact ⟨bool b s, nofun⟩
    | member o fld fs s ih => exact ⟨member o fld fs s ih.1, fun _ _ _ _ h => by cases h; exact ih.1⟩
    | null s => exact ⟨null s, nofun⟩
    | nil => exact nil
    | cons e es ihe ihes => exact cons e es ihe.1 ihes
  exact ⟨fun e => (key e).1, fun es => List.rec nil (fun e es ih => cons e es (key e).1 ih) es⟩

theorem Stmt.walk {P : Stmt → Prop} {PL : List Stmt → Prop} {PB : Block → Prop} {PO : Option Block → Prop}
    (fnDef : ∀ name nsp ps body fn sid sp, PB body → P (.fnDef name nsp ps body fn sid sp))
    (assign : ∀ x xs e b sid sp, P (.assign x xs e b sid sp))
    (assignExisting : ∀ x xs e b sid sp, P (.assignExisting x xs e b sid sp))
    (assignIndex : ∀ t e sid sp, P (.assignIndex t e sid sp))
    (ifS : ∀ c t e sid sp, PB t → PO e → P (.ifS c t e sid sp))
    (loop : ∀ c b sid sp, PB b → P (.loop c b sid sp))
    (block : ∀ b sid sp, PB b → P (.block b sid sp))
    (ret : ∀ e sid sp, P (.ret e sid sp))
    (brk : ∀ sid sp, P (.brk sid sp))
    (cont : ∀ sid sp, P (.cont sid sp))
    (expr : ∀ e sid sp, P (.expr e sid sp))
    (mk : ∀ ss sp, PL ss → PB (.mk ss sp))
    (none : PO none)
    (some : ∀ b, PB b → PO (some b))
    (nil : PL [])
    (cons : ∀ s ss, P s → PL ss → PL (s :: ss)) :
    (∀ s, P s) ∧ (∀ ss, PL ss) ∧ (∀ b, PB b) ∧ (∀ o, PO o) :=
  ⟨Stmt.rec (motive_2 := PB) (motive_3 := PO) (motive_4 := PL) fnDef assign assignExisting assignIndex ifS loop
      block ret brk cont expr mk none some nil cons,
   Stmt.rec_2 (motive_1 := P) (motive_2 := PB) (motive_3 := PO) fnDef assign assignExisting assignIndex ifS loop
      block ret brk cont expr mk none some nil cons,
   Block.rec (motive_1 := P) (motive_3 := PO) (motive_4 := PL) fnDef assign assignExisting assignIndex ifS loop
      block ret brk cont expr mk none some nil cons,
   Stmt.rec_1 (motive_1 := P) (motive_2 := PB) (motive_4 := PL) fnDef assign assignExisting assignIndex ifS loop
      block ret brk cont expr mk none some nil cons⟩

/-- For functions that open the blocks of a statement themselves and recurse into the statement lists
(`clsStmt`, `afterStmt`, `rowsStmt`, `lvStmt`, `bodiesStmt`). -/
theorem Stmt.walkLists {P : Stmt → Prop} {PL : List Stmt → Prop}
    (fnDef : ∀ name nsp ps ss bs fn sid sp, PL ss → P (.fnDef name nsp ps (.mk ss bs) fn sid sp))
    (assign : ∀ x xs e b sid sp, P (.assign x xs e b sid sp))
    (assignExisting : ∀ x xs e b sid sp, P (.assignExisting x xs e b sid sp))
    (assignIndex : ∀ t e sid sp, P (.assignIndex t e sid sp))
    (ifS : ∀ c t ts sid sp, PL t → P (.ifS c (.mk t ts) none sid sp))
    (ifElse : ∀ c t ts e es sid sp, PL t → PL e → P (.ifS c (.mk t ts) (some (.mk e es)) sid sp))
    (loop : ∀ c ss bs sid sp, PL ss → P (.loop c (.mk ss bs) sid sp))
    (block : ∀ ss bs sid sp, PL ss → P (.block (.mk ss bs) sid sp))
    (ret : ∀ e sid sp, P (.ret e sid sp))
    (brk : ∀ sid sp, P (.brk sid sp))
    (cont : ∀ sid sp, P (.cont sid sp))
    (expr : ∀ e sid sp, P (.expr e sid sp))
    (nil : PL [])
    (cons : ∀ s ss, P s → PL ss → PL (s :: ss)) :
    (∀ s, P s) ∧ (∀ ss, PL ss) := by
  have h := Stmt.walk (P := P) (PL := PL) (PB := fun b => PL b.stmts) (PO := fun o => ∀ b ∈ o, PL b.stmts)
    (fun name nsp ps ⟨ss, bs⟩ fn sid sp h => fnDef name nsp ps ss bs fn sid sp h) assign assignExisting assignIndex
    (fun c ⟨t, ts⟩ e sid sp ht he =>
      match e, he with
      | none, _ => ifS c t ts sid sp ht
      | some ⟨e, es⟩, he => ifElse c t ts e es sid sp ht (he _ rfl))
    (fun c ⟨ss, bs⟩ sid sp h => loop c ss bs sid sp h) (fun ⟨ss, bs⟩ sid sp h => block ss bs sid sp h)
    ret brk cont expr (fun _ _ h => h) nofun (fun _ hb _ h => Option.some.inj h ▸ hb) nil cons
  exact ⟨h.1, h.2.1⟩

/-! `&&` and `!` are monotone; `and_imp2` is `band_imp` with two premises, for the walks that combine two passed checks
(`Atoms.Imp2`, `pureStmtB`, `Bridge.ok_transfer_walk`).  The checks unfold to their `&&` by reduction. -/

theorem band_imp {a1 a2 b1 b2 : Bool} (h1 : a1 = true → b1 = true) (h2 : a2 = true → b2 = true)
    (h : (a1 && a2) = true) : (b1 && b2) = true :=
  Bool.and_eq_true_iff.mpr ⟨h1 (Bool.and_eq_true_iff.mp h).1, h2 (Bool.and_eq_true_iff.mp h).2⟩

theorem and_imp2 {a1 a2 b1 b2 c1 c2 : Bool} (h1 : a1 = true → b1 = true → c1 = true)
    (h2 : a2 = true → b2 = true → c2 = true) (ha : (a1 && a2) = true) (hb : (b1 && b2) = true) : (c1 && c2) = true :=
  Bool.and_eq_true_iff.mpr ⟨h1 (Bool.and_eq_true_iff.mp ha).1 (Bool.and_eq_true_iff.mp hb).1,
    h2 (Bool.and_eq_true_iff.mp ha).2 (Bool.and_eq_true_iff.mp hb).2⟩

theorem bnot_imp {d e : Bool} (hd : e = true → d = true) (h : (!d) = true) : (!e) = true := by
  cases e with
  | false => rfl
  | true => rw [hd rfl] at h; exact h

end NaijaVerif
