import NaijaVerif.Lemmas.AnalysisLiveTop
import NaijaVerif.Lemmas.AnalysisLiveAtoms
/- The liveness conditions are monotone in the plan: evaluated once for the model's own plan, they cover every plan
contained in it. -/
namespace NaijaVerif.C03
open NaijaVerif NaijaVerif.Analysis NaijaVerif.AEval

def LSetup.withCfg (L : LSetup) (cfg : Cfg) : LSetup := { L with cfg := cfg }

theorem lsetupOf_withCfg (root : Block) (facts : Facts) (p0 p : Option Plan) (q : Nat → Expr → Bool) :
    lsetupOf root facts p q = (lsetupOf root facts p0 q).withCfg (Cfg.ofPlan p) := rfl

section mono
variable {L : LSetup} {cfg : Cfg}

/- `withCfg` changes the plan only: the tables and every condition that does not read the plan compute to the same. -/
theorem withCfg_baseB (f : Nat) (σ : List (Option Nat)) (i : Nat) (es : List Expr) :
    (L.withCfg cfg).baseB f σ i es = L.baseB f σ i es := rfl
theorem withCfg_writesOkB (i : Nat) : (L.withCfg cfg).writesOkB i = L.writesOkB i := rfl
theorem withCfg_blockOkB (f : Nat) (σ : List (Option Nat)) (b : List Stmt) :
    (L.withCfg cfg).blockOkB f σ b = L.blockOkB f σ b := rfl
theorem withCfg_scopeOwner (tg : Nat) : (L.withCfg cfg).scopeOwner tg = L.scopeOwner tg := rfl
theorem withCfg_inTags (σ : List (Option Nat)) (x : Nat) : (L.withCfg cfg).inTags σ x = L.inTags σ x := rfl
theorem withCfg_c : (L.withCfg cfg).c = L.c := rfl
theorem withCfg_ss : (L.withCfg cfg).ss = L.ss := rfl
theorem withCfg_ds : (L.withCfg cfg).ds = L.ds := rfl
theorem withCfg_nl : (L.withCfg cfg).nl = L.nl := rfl

theorem otherB_withCfg {i : Nat} (h : L.otherB i = true) (hsk : cfg.skip i = true → L.deadB i = true) :
    (L.withCfg cfg).otherB i = true := by
  simp only [LSetup.otherB, Bool.and_eq_true] at h ⊢
  refine ⟨⟨?_, h.1.2⟩, h.2⟩
  cases hc : (L.withCfg cfg).cfg.skip i with
  | false => rfl
  | true => exact hsk hc

theorem ownStoreB_withCfg {f : Nat} {σ : List (Option Nat)} {i : Nat} {d : Bool} {l : Nat} {e : Expr} {st : LS} {rest : List Stmt}
    (h : L.ownStoreB f σ i d l e st rest = true)
    (hsk : cfg.skip i = true →
      (L.deadB i || (L.q f e && (!st.live.contains l || L.D2 l) && (!d || noRefListB L.c l rest))) = true) :
    (L.withCfg cfg).ownStoreB f σ i d l e st rest = true := by
  simp only [LSetup.ownStoreB, Bool.and_eq_true] at h ⊢
  refine ⟨h.1, ?_⟩
  cases hc : (L.withCfg cfg).cfg.skip i with
  | false => rfl
  | true => exact hsk hc

theorem otherB_sub (hsub : ∀ i, cfg.skip i = true → L.cfg.skip i = true) {i : Nat} (h : L.otherB i = true) :
    (L.withCfg cfg).otherB i = true := by
  refine otherB_withCfg h fun hc => ?_
  simp only [LSetup.otherB, Bool.and_eq_true, hsub i hc] at h
  exact h.1.1

theorem ownStoreB_sub (hsub : ∀ i, cfg.skip i = true → L.cfg.skip i = true) {f : Nat} {σ : List (Option Nat)} {i : Nat}
    {isDecl : Bool} {l : Nat} {e : Expr} {st : LS} {rest : List Stmt} (h : L.ownStoreB f σ i isDecl l e st rest = true) :
    (L.withCfg cfg).ownStoreB f σ i isDecl l e st rest = true := by
  refine ownStoreB_withCfg h fun hc => ?_
  simp only [LSetup.ownStoreB, Bool.and_eq_true, hsub i hc] at h
  exact h.2

theorem atoms_withCfg (hother : ∀ i, L.otherB i = true → (L.withCfg cfg).otherB i = true)
    (hstore : ∀ f σ i d l e st rest, L.baseB f σ i [e] = true → L.ownStoreB f σ i d l e st rest = true →
      (L.withCfg cfg).ownStoreB f σ i d l e st rest = true) :
    ResolveStruct.Atoms.Imp2 (ResolveStruct.atomsOf L) (ResolveStruct.atomsOf L) (ResolveStruct.atomsOf (L.withCfg cfg)) where
  base h _ := h
  wok h _ := h
  other h _ := hother _ h
  blk h _ := h
  own h _ := h
  store hb _ h _ := hstore _ _ _ _ _ _ _ _ hb h
  cap h _ := h
  fix h _ := h
  fnh h _ := h

/-- `_trans`: the walk transfers from `L` to `L.withCfg cfg` once the two atoms that read the plan, `otherB` and `ownStoreB`,
do; `lokListB_mono` is the case of a smaller plan, `rootOkB_model` (`AnalysisLiveModel`) that of the model's own plan. -/
theorem lokB_trans (hother : ∀ i, L.otherB i = true → (L.withCfg cfg).otherB i = true)
      (hstore : ∀ f σ i d l e st rest, L.baseB f σ i [e] = true → L.ownStoreB f σ i d l e st rest = true →
        (L.withCfg cfg).ownStoreB f σ i d l e st rest = true) : ∀ (f : Nat) (σ : List (Option Nat)) (lc : LoopCtx)
      (s : Stmt) (st : LS) (rest : List Stmt), lokB L f σ lc s st rest = true → lokB (L.withCfg cfg) f σ lc s st rest = true :=
  fun f σ lc s st rest h => by
    rw [ResolveStruct.lokB_eq_lokG] at h ⊢
    exact (ResolveStruct.lok_imp2 (L := L) (L' := L.withCfg cfg) rfl rfl rfl (atoms_withCfg hother hstore)).1 f σ lc s st rest h h

theorem lokListB_trans (hother : ∀ i, L.otherB i = true → (L.withCfg cfg).otherB i = true)
    (hstore : ∀ f σ i d l e st rest, L.baseB f σ i [e] = true → L.ownStoreB f σ i d l e st rest = true →
      (L.withCfg cfg).ownStoreB f σ i d l e st rest = true) (f : Nat) (σ : List (Option Nat)) (lc : LoopCtx)
    (ss : List Stmt) (post : LS) (h : lokListB L f σ lc ss post = true) : lokListB (L.withCfg cfg) f σ lc ss post = true := by
  rw [ResolveStruct.lokListB_eq_lokListG] at h ⊢
  exact (ResolveStruct.lok_imp2 (L := L) (L' := L.withCfg cfg) rfl rfl rfl (atoms_withCfg hother hstore)).2 f σ lc ss post h h

theorem lokListB_mono (hsub : ∀ i, cfg.skip i = true → L.cfg.skip i = true) (f : Nat) (σ : List (Option Nat)) (lc : LoopCtx)
    (ss : List Stmt) (post : LS) (h : lokListB L f σ lc ss post = true) : lokListB (L.withCfg cfg) f σ lc ss post = true :=
  lokListB_trans (fun _ => otherB_sub hsub) (fun _ _ _ _ _ _ _ _ _ => ownStoreB_sub hsub) f σ lc ss post h

end mono

theorem rootOkB_sub (root : Block) (facts : Facts) (plan big : Plan) (q : Nat → Expr → Bool)
    (hsub : ∀ i ∈ plan.stmts, i ∈ big.stmts)
    (h : rootOkB (lsetupOf root facts (some big) q) root = true) :
    rootOkB (lsetupOf root facts (some plan) q) root = true := by
  rw [lsetupOf_withCfg root facts (some big)]
  simp only [rootOkB, Bool.and_eq_true, withCfg_blockOkB, withCfg_ss] at h ⊢
  refine ⟨h.1, lokListB_mono ?_ _ _ _ _ _ h.2⟩
  intro i hi
  simp only [Cfg.ofPlan, lsetupOf, List.contains_eq_mem, decide_eq_true_eq] at hi ⊢
  exact hsub i hi

end NaijaVerif.C03
