import NaijaVerif.Model.Pipeline
import NaijaVerif.Lemmas.Limits
/-
`Pipeline.frontEnd` and `Pipeline.runSource` as one `if` chain over the stages' results: stop on a
lexical / syntax diagnostic, stop on a resolver error, else hand `handOver` of the parse to the runtime.
The limit preflight is a Boolean (`overLimit`) that selects plan and warnings.
-/
namespace NaijaVerif.Pipeline
open NaijaVerif

/-- A program that `countProgram` gives no counts for is not over a limit. -/
def overLimit (caps : Limits.Caps) (root : Block) (facts : Facts) : Bool :=
  match CfgCount.countProgram root facts with
  | none => false
  | some c => (Limits.firstExceeded caps c).isSome

/-- What the front end hands to the runtime for a parse `p` the resolver found no error in.  The record under `some` in
`plan` is the `planOf` of `frontEnd`; it is also `C03.toEvalPlan (Analysis.planModel …)`, `PipelinePrune.passPlan`,
`C01Accept.analysisPlan` and, with its `some`, `Bridge.modelPlan`, each by `rfl`. -/
def handOver (caps : Limits.Caps) (p : Block) : Accepted where
  root := (Resolve.resolve p).root
  facts := (Resolve.resolve p).facts
  warnings := (Resolve.resolve p).diags ++
    if overLimit caps (Resolve.resolve p).root (Resolve.resolve p).facts then [Limits.limitWarning p.span]
    else (Analysis.analyse (Resolve.resolve p).root (Resolve.resolve p).facts).warns.map warnDiag
  plan :=
    if overLimit caps (Resolve.resolve p).root (Resolve.resolve p).facts then none
    else some { stmts := (Analysis.analyse (Resolve.resolve p).root (Resolve.resolve p).facts).plan.stmts,
                fns := (Analysis.analyse (Resolve.resolve p).root (Resolve.resolve p).facts).plan.fns }

theorem handOver_cases (caps : Limits.Caps) (p : Block) :
    (overLimit caps (Resolve.resolve p).root (Resolve.resolve p).facts = false ∧
      (handOver caps p).plan = some
        { stmts := (Analysis.analyse (Resolve.resolve p).root (Resolve.resolve p).facts).plan.stmts,
          fns := (Analysis.analyse (Resolve.resolve p).root (Resolve.resolve p).facts).plan.fns } ∧
      (handOver caps p).warnings = (Resolve.resolve p).diags ++
        (Analysis.analyse (Resolve.resolve p).root (Resolve.resolve p).facts).warns.map warnDiag) ∨
    (overLimit caps (Resolve.resolve p).root (Resolve.resolve p).facts = true ∧ (handOver caps p).plan = none ∧
      (handOver caps p).warnings = (Resolve.resolve p).diags ++ [Limits.limitWarning p.span]) := by
  unfold handOver
  cases overLimit caps (Resolve.resolve p).root (Resolve.resolve p).facts
  · exact Or.inl ⟨rfl, rfl, rfl⟩
  · exact Or.inr ⟨rfl, rfl, rfl⟩

/-- The preflight step of `frontEnd`, over variables. -/
theorem preflight_eq {ε : Type} (caps : Limits.Caps) (root : Block) (facts : Facts) (ds ws : List Diag) (sp : Span)
    (planOf : Eval.Plan) :
    (match CfgCount.countProgram root facts with
      | none => (.ok { root := root, facts := facts, warnings := ds ++ ws, plan := some planOf } : Except ε Accepted)
      | some c => .ok { root := root, facts := facts, warnings := ds ++ (Limits.emitAnalysis caps c sp planOf ws).warnings,
                        plan := (Limits.emitAnalysis caps c sp planOf ws).plan }) =
      .ok { root := root, facts := facts,
            warnings := ds ++ if overLimit caps root facts then [Limits.limitWarning sp] else ws,
            plan := if overLimit caps root facts then none else some planOf } := by
  unfold overLimit
  cases CfgCount.countProgram root facts with
  | none => rfl
  | some c =>
    dsimp only
    rw [Limits.emitAnalysis_eq]
    by_cases h : (Limits.firstExceeded caps c).isSome = true
    · rw [if_pos h, if_pos h, if_pos h]
    · rw [if_neg h, if_neg h, if_neg h]

/-- `sd`: the merged lexical / syntax diagnostics.  `p` and `sd` are variables, so that the right side can be split and
rewritten without the scanner's and parser's terms in it; a caller passes `rfl rfl`. -/
theorem frontEnd_eq (caps : Limits.Caps) (src : Bytes) {p : Block} {sd : List Diag}
    (hp : (Parse.parseProgram (Lex.lex src).1).1 = p)
    (hsd : (Lex.lex src).2 ++ (Parse.parseProgram (Lex.lex src).1).2 = sd) :
    frontEnd caps src =
      if !sd.isEmpty then .error (true, sd)
      else if hasErrors (Resolve.resolve p).diags then .error (false, (Resolve.resolve p).diags)
      else .ok (handOver caps p) := by
  subst hp hsd
  exact congrArg (ite _ _) (congrArg (ite _ _) (preflight_eq ..))

/-- Which of the three a text gets does not depend on the caps. -/
theorem frontEnd_cases (src : Bytes) {p : Block} {sd : List Diag}
    (hp : (Parse.parseProgram (Lex.lex src).1).1 = p)
    (hsd : (Lex.lex src).2 ++ (Parse.parseProgram (Lex.lex src).1).2 = sd) :
    (∀ caps, frontEnd caps src = .error (true, sd)) ∨
    (∀ caps, frontEnd caps src = .error (false, (Resolve.resolve p).diags)) ∨
    (∀ caps, frontEnd caps src = .ok (handOver caps p)) := by
  cases h1 : sd.isEmpty
  · exact Or.inl fun caps => by rw [frontEnd_eq caps src hp hsd, h1]; rfl
  cases h2 : hasErrors (Resolve.resolve p).diags
  · exact Or.inr (Or.inr fun caps => by rw [frontEnd_eq caps src hp hsd, h1, h2]; rfl)
  · exact Or.inr (Or.inl fun caps => by rw [frontEnd_eq caps src hp hsd, h1, h2]; rfl)

theorem frontEnd_ok_iff {caps : Limits.Caps} {src : Bytes} {a : Accepted} :
    frontEnd caps src = .ok a ↔
      (Lex.lex src).2 = [] ∧ (Parse.parseProgram (Lex.lex src).1).2 = [] ∧
        hasErrors (Resolve.resolve (Parse.parseProgram (Lex.lex src).1).1).diags = false ∧
        a = handOver caps (Parse.parseProgram (Lex.lex src).1).1 := by
  rw [frontEnd_eq caps src rfl rfl, ← and_assoc, ← List.append_eq_nil_iff, ← List.isEmpty_iff]
  cases ((Lex.lex src).2 ++ (Parse.parseProgram (Lex.lex src).1).2).isEmpty
  · exact ⟨nofun, nofun⟩
  cases hasErrors (Resolve.resolve (Parse.parseProgram (Lex.lex src).1).1).diags
  · exact ⟨fun h => ⟨rfl, rfl, (Except.ok.inj h).symm⟩, fun h => congrArg Except.ok h.2.2.symm⟩
  · exact ⟨nofun, nofun⟩

theorem runSource_eq {N : Type} [NumOps N] (caps : Limits.Caps) (cfg : Eval.RunCfg) (fuel : Nat) (src : Bytes)
    {p : Block} {sd : List Diag} (hp : (Parse.parseProgram (Lex.lex src).1).1 = p)
    (hsd : (Lex.lex src).2 ++ (Parse.parseProgram (Lex.lex src).1).2 = sd) :
    (runSource caps cfg fuel src : Result N) =
      if !sd.isEmpty then .syntax sd
      else if hasErrors (Resolve.resolve p).diags then .semantic (Resolve.resolve p).diags
      else .ran (handOver caps p).warnings (Eval.run { cfg with plan := (handOver caps p).plan } fuel (handOver caps p).root) := by
  unfold runSource
  rw [frontEnd_eq caps src hp hsd]
  cases sd.isEmpty
  · rfl
  cases hasErrors (Resolve.resolve p).diags <;> rfl

end NaijaVerif.Pipeline
