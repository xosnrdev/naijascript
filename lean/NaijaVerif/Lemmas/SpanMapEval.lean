import NaijaVerif.Model.Eval
import NaijaVerif.Lemmas.SpanMapAst
import NaijaVerif.Lemmas.ListFacts
/-
The evaluator is natural in the spans of its input: for any `φ : Span → Span`, running the program with every span
replaced by its image, in the state treated likewise (hoisted function bodies are ASTs; the ghost
`ScopeKind.block span` tag is a span), yields the image of the result — same value, output, ending class,
runtime-error kind / panic site, the span of a runtime error mapped by `φ`.  By induction on the fuel, all eight
mutually recursive functions of `Model/Eval.lean` at once.  A constant `φ` is C10's span erasure
(`Lemmas/SpanEraseEval.lean`); a `φ` that is the identity exactly on a set `S` gives C07 (`Lemmas/SpanSafeEval.lean`).
This is a walk of its own beside the one of `Lemmas/EvalLogic.lean`: that one follows two runs on the SAME syntax
and state, here syntax, state and result are all mapped (values of each result type in their own way), and the
statement is an equation, proved by rewriting with the induction hypothesis.
-/
namespace NaijaVerif.SpanMap
open NaijaVerif NaijaVerif.Parse NaijaVerif.Eval

variable {N : Type}

variable (φ : Span → Span)

def mapFn (fd : FnEntry) : FnEntry :=
  { fd with params := fd.params.map (mapParam φ), body := mapBlock φ fd.body }

def mapKind : ScopeKind → ScopeKind
  | .root => .root
  | .block sp => .block (φ sp)
  | .params fn => .params fn

def mapScope (s : Scope N) : Scope N := { s with kind := mapKind φ s.kind, fns := s.fns.map (mapFn φ) }

def mapState (st : State N) : State N := { st with env := st.env.map (mapScope φ) }

def mapFault : Fault → Fault
  | .rt k sp => .rt k (φ sp)
  | .panic s => .panic s

def mapEx {α : Type} : Except Fault α → Except Fault α
  | .ok a => .ok a
  | .error flt => .error (mapFault φ flt)

def mapRes {α : Type} (g : α → α) : Res N α → Res N α
  | .ok a st => .ok (g a) (mapState φ st)
  | .err k sp st => .err k (φ sp) (mapState φ st)
  | .panic site st => .panic site (mapState φ st)
  | .fuel => .fuel

def mapPath (p : List (Nat × Span)) : List (Nat × Span) := p.map fun q => (q.1, φ q.2)

def mapIdx (q : Expr × Span) : Expr × Span := (mapExpr φ q.1, φ q.2)

def mapSelE : Except (PanicSite × Span) Expr → Except (PanicSite × Span) Expr
  | .ok e => .ok (mapExpr φ e)
  | .error q => .error (q.1, φ q.2)

def mapLv : Lv → Lv
  | .path n b idxs => .path n b (idxs.map (mapIdx φ))
  | .badRoot => .badRoot
  | .other => .other

def mapOutcome : Outcome N → Outcome N
  | .ok out => .ok out
  | .rt k sp out => .rt k (φ sp) out
  | .panic site out => .panic site out
  | .fuelOut => .fuelOut

theorem findPos_map (cfg : RunCfg) (chain : List Nat) (p : Slot N → Bool) : ∀ env : List (Scope N),
    findPos (visible cfg chain) p (env.map (mapScope φ)) = findPos (visible cfg chain) p env
  | [] => rfl
  | s :: r => by
    rw [List.map_cons, findPos, findPos, findPos_map cfg chain p r]
    rfl

theorem findOwned_map (l : Nat) : ∀ env : List (Scope N),
    findOwned l (env.map (mapScope φ)) = findOwned l env
  | [] => rfl
  | s :: r => by
    rw [List.map_cons, findOwned, findOwned, findOwned_map l r]
    rfl

theorem slotOf_map (cfg : RunCfg) (st : State N) (bind : Option Nat) (name : Bytes) :
    slotOf cfg (mapState φ st) bind name = slotOf cfg st bind name := by
  unfold slotOf
  simp only [mapState, findOwned_map, findPos_map]

theorem getAt_map (env : List (Scope N)) (pos : Nat × Nat) :
    getAt (env.map (mapScope φ)) pos = getAt env pos := by
  simp only [getAt, List.getElem?_map]
  cases env[pos.1]? <;> rfl

theorem lookupVal_map (cfg : RunCfg) (st : State N) (bind : Option Nat) (name : Bytes) :
    lookupVal cfg (mapState φ st) bind name = lookupVal cfg st bind name := by
  rw [lookupVal, slotOf_map, lookupVal]
  exact congrArg _ (funext (getAt_map φ st.env))

theorem updateAt_map (env : List (Scope N)) (pos : Nat × Nat) (f : Value N → Value N) :
    updateAt (env.map (mapScope φ)) pos f = (updateAt env pos f).map (mapScope φ) := by
  unfold updateAt
  refine modify_map (mapScope φ) _ _ ?_ env pos.1
  exact fun _ => rfl

theorem define_map (st : State N) (bind : Option Nat) (name : Bytes) (v : Value N) :
    define (mapState φ st) bind name v = mapState φ (define st bind name v) := by
  obtain ⟨env, out, chain, next, input⟩ := st
  cases env with
  | nil => rfl
  | cons s r =>
    simp only [define, mapState, List.map_cons]
    show (match s.slots.findIdx? (Slot.matches bind name) with | some j => _ | none => _) = _
    cases s.slots.findIdx? (Slot.matches bind name) <;> rfl

theorem assign_map (cfg : RunCfg) (st : State N) (bind : Option Nat) (name : Bytes) (v : Value N) :
    assign cfg (mapState φ st) bind name v = (assign cfg st bind name v).map (mapState φ) := by
  simp only [assign, slotOf_map]
  cases slotOf cfg st bind name with
  | none => rfl
  | some pos => exact congrArg (fun e => some { st with env := e }) (updateAt_map φ st.env pos _)

theorem findFn_map (cfg : RunCfg) (chain : List Nat) (p : FnEntry → Bool)
    (hp : ∀ fd, p (mapFn φ fd) = p fd) : ∀ env : List (Scope N),
    Eval.findFn (visible cfg chain) p (env.map (mapScope φ))
      = (Eval.findFn (visible cfg chain) p env).map (mapFn φ)
  | [] => rfl
  | s :: r => by
    have hf : (mapScope φ s).fns.find? p = (s.fns.find? p).map (mapFn φ) := by
      simp only [mapScope, List.find?_map, Function.comp_def, hp]
    have hv : visible cfg chain (mapScope φ s) = visible cfg chain s := rfl
    rw [List.map_cons, Eval.findFn, Eval.findFn, hf, hv, findFn_map cfg chain p hp r]
    cases visible cfg chain s with
    | false => rfl
    | true => cases s.fns.find? p <;> rfl

theorem lookupFn_map (cfg : RunCfg) (st : State N) (fnAnn : Option Nat) (name : Bytes) :
    Eval.lookupFn cfg (mapState φ st) fnAnn name = (Eval.lookupFn cfg st fnAnn name).map (mapFn φ) := by
  cases fnAnn <;> exact findFn_map φ cfg st.chain _ (fun _ => rfl) st.env

theorem popScope_map (st : State N) (chain : List Nat) :
    popScope (mapState φ st) chain = mapState φ (popScope st chain) := by
  simp only [popScope, mapState, List.map_tail]

theorem declIds_map : ∀ ss : List Stmt, declIds (mapStmts φ ss) = declIds ss
  | [] => rfl
  | s :: rest => by
    have ih := declIds_map rest
    cases s with
    | assign v vsp e b sid sp => cases b <;> simp only [mapStmts, mapStmt, declIds, ih]
    | ifS c t e sid sp => cases e <;> exact ih
    | ret e sid sp => cases e <;> exact ih
    | _ => exact ih

theorem hoist_map (cfg : RunCfg) : ∀ (ss : List Stmt) (st : State N),
    hoist cfg (mapStmts φ ss) (mapState φ st) = mapState φ (hoist cfg ss st)
  | [], st => rfl
  | s :: rest, st => by
    have ih := hoist_map cfg rest
    cases s with
    | fnDef name nsp params body fn sid sp =>
      simp only [mapStmts, mapStmt, hoist]
      split
      · exact ih st
      · obtain ⟨env, out, chain, next, input⟩ := st
        cases env with
        | nil => exact ih _
        | cons s r => exact ih ⟨{ s with fns := ⟨fn, name, params, body, chain⟩ :: s.fns } :: r, out, chain, next, input⟩
    | ifS c t e sid sp => cases e <;> exact ih st
    | ret e sid sp => cases e <;> exact ih st
    | _ => exact ih st

theorem paramIds_map (fd : FnEntry) : paramIds (mapFn φ fd) = paramIds fd := by
  simp only [paramIds, mapFn, List.all_map, List.map_map, Function.comp_def, mapParam]

theorem paramSlots_map (params : List Param) (ids : List (Option Nat)) (vs : List (Value N)) :
    paramSlots (params.map (mapParam φ)) ids vs = paramSlots params ids vs := by
  unfold paramSlots
  congr 1
  induction params generalizing ids vs with
  | nil => rfl
  | cons p ps ih =>
    cases ids with
    | nil => rfl
    | cons i is =>
      cases vs with
      | nil => rfl
      | cons v vs =>
        simp only [List.map_cons, List.zip_cons_cons, ih is vs]
        rfl

theorem flattenIdx_map : ∀ (e : Expr) (acc : List (Expr × Span)),
    flattenIdx (mapExpr φ e) (acc.map (mapIdx φ))
      = (mapExpr φ (flattenIdx e acc).1, (flattenIdx e acc).2.map (mapIdx φ))
  | .index a i isp _, acc => flattenIdx_map a ((i, isp) :: acc)
  | .num _ _, _ | .str _ _, _ | .bool _ _, _ | .null _, _ | .var _ _ _, _ | .array _ _, _ | .unary _ _ _, _
  | .binary _ _ _ _, _ | .member _ _ _ _, _ | .call _ _ _ _, _ => rfl

theorem lvOf_map (e : Expr) : lvOf (mapExpr φ e) = mapLv φ (lvOf e) := by
  cases e with
  | index a i isp sp =>
    have h : flattenIdx (mapExpr φ (.index a i isp sp)) [] = _ := flattenIdx_map φ (.index a i isp sp) []
    simp only [lvOf, mapExpr] at h ⊢
    rw [h]
    generalize flattenIdx (.index a i isp sp) [] = q
    obtain ⟨r, idxs⟩ := q
    cases r <;> rfl
  | _ => rfl

section Pure
variable [NumOps N]

theorem arith_map (op : ArithOp) (l r : Value N) (sp : Span) :
    arith op l r (φ sp) = mapEx φ (arith op l r sp) := by
  unfold arith
  -- `arith` is given values and no syntax, so `sp` is the only span in its reach: a leaf is `.ok _`, a panic or
  -- `.error (.rt _ sp)`, and both sides are the same leaf once the matches, up to three deep, are split
  split <;> first | rfl | (split <;> first | rfl | (split <;> rfl))

/-- Used for `strMethod`, which has too many leaves to go through; the small span-free steps below it are checked leaf
by leaf, by `rfl`. -/
theorem mapEx_of_noRt {α : Type} (x : Except Fault α) (h : ∀ k sp, x ≠ .error (.rt k sp)) : mapEx φ x = x := by
  cases x with
  | ok a => rfl
  | error flt =>
    cases flt with
    | rt k sp => exact absurd rfl (h k sp)
    | panic s => rfl

omit [NumOps N] in
theorem logicRhs_map (site : PanicSite) (v : Value N) : mapEx φ (logicRhs site v) = logicRhs site v := by
  cases v <;> rfl

theorem unary_map (op : UnOp) (v : Value N) : mapEx φ (unary op v) = unary op v := by
  cases op <;> cases v <;> rfl

omit [NumOps N] in
theorem truthy_map (site : PanicSite) (v : Value N) : mapEx φ (truthy site v) = truthy site v := by
  cases v <;> rfl

theorem strMethod_map (std : StdOps) (m : StrM) (s : Bytes) (args : List (Value N)) :
    mapEx φ (strMethod std m s args) = strMethod std m s args := by
  apply mapEx_of_noRt
  intro k sp
  unfold strMethod
  -- `strMethod` is given no span, so no leaf is a runtime error: each is `.ok _` or `.error (.panic _)`, and `simp`
  -- closes `leaf ≠ .error (.rt k sp)` by the distinctness of constructors
  cases m <;> dsimp only <;> (repeat' split) <;> simp

theorem indexRead_map (b i : Value N) (sp : Span) : indexRead b i (φ sp) = mapEx φ (indexRead b i sp) := by
  unfold indexRead
  cases b <;> try rfl
  cases i <;> try rfl
  dsimp only
  split
  · rfl
  · split
    · rfl
    · split <;> rfl

theorem indexValue_map (v : Value N) (sp : Span) : indexValue v (φ sp) = mapEx φ (indexValue v sp) := by
  unfold indexValue
  cases v <;> try rfl
  dsimp only
  split
  · rfl
  · split <;> rfl

omit [NumOps N] in
theorem requiredString_map (v : Value N) (sp : Span) :
    requiredString v (φ sp) = mapEx φ (requiredString v sp) := by
  cases v <;> rfl

theorem timeoutMs_map (v : Value N) (sp : Span) : timeoutMs v (φ sp) = mapEx φ (timeoutMs v sp) := by
  unfold timeoutMs
  cases v <;> try rfl
  dsimp only
  split <;> rfl

omit [NumOps N] in
theorem mutApply_map (op : MutOp N) (cell : Value N) (sp : Span) :
    op.apply cell (φ sp) = mapEx φ (op.apply cell sp) := by
  unfold MutOp.apply
  split <;> rfl

theorem mapPath_map_fst (p : List (Nat × Span)) : (mapPath φ p).map (·.1) = p.map (·.1) := by
  simp only [mapPath, List.map_map, Function.comp_def]

theorem mapPath_isEmpty (p : List (Nat × Span)) : (mapPath φ p).isEmpty = p.isEmpty := by
  cases p <;> rfl

omit [NumOps N] in
theorem walkMut_map : ∀ (v : Value N) (p : List (Nat × Span)),
    walkMut v (mapPath φ p) = mapEx φ (walkMut v p)
  | v, [] => by cases v <;> rfl
  | .arr xs, (i, sp) :: p => by
    simp only [mapPath, List.map_cons, walkMut]
    cases xs[i]? with
    | none => rfl
    | some x => exact walkMut_map x p
  | .num _, _ :: _ | .str _, _ :: _ | .bool _, _ :: _ | .host _, _ :: _ | .null, _ :: _ => rfl

omit [NumOps N] in
theorem walkAssign_map (ssp : Span) : ∀ (v : Value N) (p : List (Nat × Span)),
    walkAssign (φ ssp) v (mapPath φ p) = mapEx φ (walkAssign ssp v p)
  | v, [] => by cases v <;> rfl
  | .arr xs, [(i, sp)] => by
    simp only [mapPath, List.map_cons, List.map_nil, walkAssign]
    split <;> rfl
  | .arr xs, (i, sp) :: q :: p => by
    simp only [mapPath, List.map_cons, walkAssign]
    cases xs[i]? with
    | none => rfl
    | some x => exact walkAssign_map ssp x (q :: p)
  | .num _, _ :: p | .str _, _ :: p | .bool _, _ :: p | .host _, _ :: p | .null, _ :: p => by cases p <;> rfl

end Pure

section ResLevel
variable [NumOps N]

omit [NumOps N] in
theorem trap_map {α : Type} (g : α → α) (cfg : RunCfg) (site : PanicSite) (sp : Span) (st : State N) :
    (trap cfg site (φ sp) (mapState φ st) : Res N α) = mapRes φ g (trap cfg site sp st) := by
  unfold trap
  split <;> rfl

omit [NumOps N] in
theorem ofFault_map {α : Type} (g : α → α) (cfg : RunCfg) (flt : Fault) (sp : Span) (st : State N) :
    (Res.ofFault cfg (mapFault φ flt) (φ sp) (mapState φ st) : Res N α)
      = mapRes φ g (Res.ofFault cfg flt sp st) := by
  cases flt with
  | rt k s => rfl
  | panic site => exact trap_map φ g cfg site sp st

omit [NumOps N] in
theorem ofExcept_map {α : Type} (cfg : RunCfg) {x' x : Except Fault α} (sp : Span) (st : State N)
    (hx : x' = mapEx φ x) :
    Res.ofExcept cfg x' (φ sp) (mapState φ st) = mapRes φ id (Res.ofExcept cfg x sp st) := by
  subst hx
  cases x with
  | ok a => rfl
  | error flt => exact ofFault_map φ id cfg flt sp st

omit [NumOps N] in
theorem bind_map {α β : Type} (g : α → α) (h : β → β) (r : Res N α) (k k' : α → State N → Res N β)
    (hk : ∀ a st, k' (g a) (mapState φ st) = mapRes φ h (k a st)) :
    (mapRes φ g r).bind k' = mapRes φ h (r.bind k) := by
  cases r with
  | ok a st => exact hk a st
  | err kd sp st => rfl
  | panic site st => rfl
  | fuel => rfl

omit [NumOps N] in
theorem bind_map_id {α β : Type} (h : β → β) (r : Res N α) (k k' : α → State N → Res N β)
    (hk : ∀ a st, k' a (mapState φ st) = mapRes φ h (k a st)) :
    (mapRes φ id r).bind k' = mapRes φ h (r.bind k) :=
  bind_map φ id h r k k' hk

omit [NumOps N] in
theorem single_map {β : Type} (h : β → β) (cfg : RunCfg) (site : PanicSite) (sp : Span) (vs : List (Value N))
    (st : State N) (k k' : Value N → Res N β) (hk : ∀ v, k' v = mapRes φ h (k v)) :
    (match vs with
      | [v] => k' v
      | _ => trap cfg site (φ sp) (mapState φ st))
      = mapRes φ h (match vs with
        | [v] => k v
        | _ => trap cfg site sp st) := by
  rcases vs with _ | ⟨v, _ | ⟨w, t⟩⟩
  · exact trap_map φ h cfg site sp st
  · exact hk v
  · exact trap_map φ h cfg site sp st

theorem interp_map (cfg : RunCfg) (st : State N) : ∀ (segs : List Seg) (acc : Bytes),
    interp cfg (mapState φ st) segs acc = interp cfg st segs acc
  | [], acc => rfl
  | .lit s :: rest, acc => by simp only [interp, interp_map cfg st rest]
  | .var name bind :: rest, acc => by
    simp only [interp, lookupVal_map]
    cases lookupVal cfg st bind name with
    | none => rfl
    | some v => exact interp_map cfg st rest _

omit [NumOps N] in
theorem applyMut_map (cfg : RunCfg) (st : State N) (name : Bytes) (bind : Option Nat)
    (path : List (Nat × Span)) (op : MutOp N) (sp : Span) :
    applyMut cfg (mapState φ st) name bind (mapPath φ path) op (φ sp)
      = mapRes φ id (applyMut cfg st name bind path op sp) := by
  unfold applyMut
  simp only [slotOf_map, mapPath_isEmpty, mapPath_map_fst]
  cases slotOf cfg st bind name with
  | none => exact trap_map φ id cfg _ sp st
  | some pos =>
    simp only [show (mapState φ st).env = st.env.map (mapScope φ) from rfl, getAt_map]
    cases getAt st.env pos with
    | none => exact trap_map φ id cfg _ sp st
    | some root =>
      simp only [walkMut_map]
      cases walkMut root path with
      | error flt => exact ofFault_map φ id cfg flt sp st
      | ok cell =>
        simp only [mapEx, mutApply_map φ op cell sp]
        cases op.apply cell sp with
        | error flt => exact ofFault_map φ id cfg flt sp st
        | ok r => simp only [updateAt_map]; rfl

omit [NumOps N] in
theorem assignIndex_map (cfg : RunCfg) (st : State N) (name : Bytes) (bind : Option Nat)
    (path : List (Nat × Span)) (v : Value N) (sp : Span) :
    Eval.assignIndex cfg (mapState φ st) name bind (mapPath φ path) v (φ sp)
      = mapRes φ id (Eval.assignIndex cfg st name bind path v sp) := by
  unfold Eval.assignIndex
  simp only [slotOf_map, mapPath_map_fst]
  cases slotOf cfg st bind name with
  | none => exact trap_map φ id cfg _ sp st
  | some pos =>
    simp only [show (mapState φ st).env = st.env.map (mapScope φ) from rfl, getAt_map]
    cases getAt st.env pos with
    | none => exact trap_map φ id cfg _ sp st
    | some root =>
      simp only [walkAssign_map φ sp]
      cases walkAssign sp root path with
      | error flt => exact ofFault_map φ id cfg flt sp st
      | ok u => simp only [mapEx, updateAt_map]; rfl

omit [NumOps N] in
theorem runCommand_map (cfg : RunCfg) (c : Proc.Cmd) (sp : Span) (st : State N) :
    runCommand cfg c (φ sp) (mapState φ st) = mapRes φ id (runCommand cfg c sp st) := by
  unfold runCommand
  split
  · rfl
  · cases Proc.validate c cfg.policy.caps with
    | error e => rfl
    | ok spec =>
      dsimp only
      cases cfg.runProc spec <;> rfl

theorem globalCall_map (cfg : RunCfg) (b : Eval.GlobalB) (v : Value N) (sp : Span) (st : State N) :
    globalCall cfg b v (φ sp) (mapState φ st) = mapRes φ id (globalCall cfg b v sp st) := by
  cases b with
  | shout => rfl
  | typeOf => rfl
  | readLine =>
    simp only [globalCall, show (mapState φ st).input = st.input from rfl]
    cases st.input <;> rfl
  | toString => rfl
  | command =>
    cases v with
    | str p => rfl
    | _ => exact trap_map φ id cfg _ sp st

theorem pick_map (args : List Expr) (idx : List (Nat × PanicSite)) (sp : Span) :
    pick (mapExprs φ args) idx (φ sp) = (pick args idx sp).map (mapSelE φ) := by
  simp only [pick, List.map_map, mapExprs_eq_map]
  apply List.map_congr_left
  intro q _
  simp only [Function.comp, List.getElem?_map]
  cases args[q.1]? <;> rfl

theorem map_ok_map (es : List Expr) :
    (mapExprs φ es).map (Except.ok : Expr → Except (PanicSite × Span) Expr)
      = (es.map Except.ok).map (mapSelE φ) := by
  simp only [mapExprs_eq_map, List.map_map, Function.comp_def, mapSelE]

end ResLevel

section Evaluator
variable [NumOps N]

structure AllMap (cfg : RunCfg) (f : Nat) : Prop where
  expr : ∀ (e : Expr) (st : State N),
    evalExpr cfg f (mapExpr φ e) (mapState φ st) = mapRes φ id (evalExpr cfg f e st)
  sel : ∀ (es : List (Except (PanicSite × Span) Expr)) (st : State N),
    evalSel cfg f (es.map (mapSelE φ)) (mapState φ st) = mapRes φ id (evalSel cfg f es st)
  idxs : ∀ (is : List (Expr × Span)) (st : State N),
    evalIdxs cfg f (is.map (mapIdx φ)) (mapState φ st) = mapRes φ (mapPath φ) (evalIdxs cfg f is st)
  mutOp : ∀ (m : MutM) (args : List Expr) (sp : Span) (st : State N),
    evalMutOp cfg f m (mapExprs φ args) (φ sp) (mapState φ st) = mapRes φ id (evalMutOp cfg f m args sp st)
  stmt : ∀ (s : Stmt) (st : State N),
    execStmt cfg f (mapStmt φ s) (mapState φ st) = mapRes φ id (execStmt cfg f s st)
  stmts : ∀ (ss : List Stmt) (st : State N),
    execStmts cfg f (mapStmts φ ss) (mapState φ st) = mapRes φ id (execStmts cfg f ss st)
  block : ∀ (b : Block) (st : State N),
    execBlock cfg f (mapBlock φ b) (mapState φ st) = mapRes φ id (execBlock cfg f b st)
  loop : ∀ (c : Expr) (b : Block) (sp : Span) (st : State N),
    loopW cfg f (mapExpr φ c) (mapBlock φ b) (φ sp) (mapState φ st) = mapRes φ id (loopW cfg f c b sp st)

variable {φ}

theorem allMap_zero (cfg : RunCfg) : AllMap (N := N) φ cfg 0 :=
  ⟨fun _ _ => rfl, fun _ _ => rfl, fun _ _ => rfl, fun _ _ _ _ => rfl, fun _ _ => rfl, fun _ _ => rfl,
   fun _ _ => rfl, fun _ _ _ _ => rfl⟩

theorem sel_step {cfg : RunCfg} {f : Nat} (ih : AllMap (N := N) φ cfg f)
    (es : List (Except (PanicSite × Span) Expr)) (st : State N) :
    evalSel cfg (f + 1) (es.map (mapSelE φ)) (mapState φ st) = mapRes φ id (evalSel cfg (f + 1) es st) := by
  cases es with
  | nil => simp only [List.map_nil, evalSel]; rfl
  | cons e rest =>
    cases e with
    | error s => simp only [List.map_cons, mapSelE, evalSel]; exact trap_map φ _ cfg _ _ st
    | ok e =>
      simp only [List.map_cons, mapSelE, evalSel, ih.expr]
      refine bind_map_id φ _ _ _ _ (fun v st1 => ?_)
      rw [ih.sel]
      exact bind_map_id φ _ _ _ _ (fun vs st2 => rfl)

theorem idxs_step {cfg : RunCfg} {f : Nat} (ih : AllMap (N := N) φ cfg f)
    (is : List (Expr × Span)) (st : State N) :
    evalIdxs cfg (f + 1) (is.map (mapIdx φ)) (mapState φ st)
      = mapRes φ (mapPath φ) (evalIdxs cfg (f + 1) is st) := by
  cases is with
  | nil => simp only [List.map_nil, evalIdxs]; rfl
  | cons q rest =>
    obtain ⟨e, isp⟩ := q
    simp only [List.map_cons, mapIdx, evalIdxs, ih.expr]
    refine bind_map_id φ _ _ _ _ (fun v st1 => ?_)
    rw [ofExcept_map φ cfg isp st1 (indexValue_map φ v isp)]
    refine bind_map_id φ _ _ _ _ (fun i st1' => ?_)
    rw [ih.idxs]
    exact bind_map φ _ _ _ _ _ (fun is st2 => rfl)

theorem stmts_step {cfg : RunCfg} {f : Nat} (ih : AllMap (N := N) φ cfg f)
    (ss : List Stmt) (st : State N) :
    execStmts cfg (f + 1) (mapStmts φ ss) (mapState φ st) = mapRes φ id (execStmts cfg (f + 1) ss st) := by
  cases ss with
  | nil => simp only [mapStmts, execStmts]; rfl
  | cons s rest =>
    simp only [mapStmts, execStmts, mapStmt_sid]
    split
    · exact ih.stmts rest st
    · rw [ih.stmt]
      refine bind_map_id φ _ _ _ _ (fun flow st1 => ?_)
      cases flow with
      | cont => exact ih.stmts rest st1
      | ret v => rfl
      | brk => rfl
      | next => rfl

theorem block_step {cfg : RunCfg} {f : Nat} (ih : AllMap (N := N) φ cfg f) (b : Block) (st : State N) :
    execBlock cfg (f + 1) (mapBlock φ b) (mapState φ st) = mapRes φ id (execBlock cfg (f + 1) b st) := by
  obtain ⟨ss, bsp⟩ := b
  have hpush : pushScope (mapState φ st) (.block (φ bsp)) st.chain [] (declIds ss)
      = mapState φ (pushScope st (.block bsp) st.chain [] (declIds ss)) := rfl
  simp only [execBlock, mapBlock, Block.stmts, Block.span, declIds_map,
    show (mapState φ st).chain = st.chain from rfl, hpush, hoist_map, ih.stmts]
  refine bind_map_id φ _ _ _ _ (fun flow st2 => ?_)
  rw [popScope_map]
  rfl

theorem loop_step {cfg : RunCfg} {f : Nat} (ih : AllMap (N := N) φ cfg f) (c : Expr) (b : Block) (sp : Span)
    (st : State N) :
    loopW cfg (f + 1) (mapExpr φ c) (mapBlock φ b) (φ sp) (mapState φ st)
      = mapRes φ id (loopW cfg (f + 1) c b sp st) := by
  simp only [loopW, ih.expr]
  refine bind_map_id φ _ _ _ _ (fun v st1 => ?_)
  rw [ofExcept_map φ cfg sp st1 (truthy_map φ .loopCond v).symm]
  refine bind_map_id φ _ _ _ _ (fun cnd st1' => ?_)
  cases cnd with
  | false => rfl
  | true =>
    simp only [if_true, ih.block]
    refine bind_map_id φ _ _ _ _ (fun flow st2 => ?_)
    cases flow with
    | brk => rfl
    | ret v => rfl
    | cont => exact ih.loop c b sp st2
    | next => exact ih.loop c b sp st2

theorem stmt_step {cfg : RunCfg} {f : Nat} (ih : AllMap (N := N) φ cfg f) (s : Stmt) (st : State N) :
    execStmt cfg (f + 1) (mapStmt φ s) (mapState φ st) = mapRes φ id (execStmt cfg (f + 1) s st) := by
  cases s with
  | assign var vsp e bind sid sp =>
    simp only [mapStmt, execStmt, ih.expr]
    refine bind_map_id φ _ _ _ _ (fun v st1 => ?_)
    rw [define_map]
    rfl
  | assignExisting var vsp e bind sid sp =>
    simp only [mapStmt, execStmt, ih.expr]
    refine bind_map_id φ _ _ _ _ (fun v st1 => ?_)
    simp only [assign_map]
    cases assign cfg st1 bind var v with
    | some st2 => rfl
    | none => exact trap_map φ _ _ _ vsp _
  | assignIndex target e sid sp =>
    simp only [mapStmt, execStmt, ih.expr]
    refine bind_map_id φ _ _ _ _ (fun v st1 => ?_)
    rw [lvOf_map]
    cases lvOf target with
    | other => exact trap_map φ _ _ _ sp _
    | badRoot => exact trap_map φ _ _ _ sp _
    | path name bind idxs =>
      simp only [mapLv]
      rw [ih.idxs]
      refine bind_map φ _ _ _ _ _ (fun path st2 => ?_)
      rw [assignIndex_map φ cfg st2 name bind path v sp]
      exact bind_map_id φ _ _ _ _ (fun _ st3 => rfl)
  | ifS cond thenB elseB sid sp =>
    rw [mapStmt_ifS]
    simp only [execStmt, ih.expr, mapExpr_span]
    refine bind_map_id φ _ _ _ _ (fun v st1 => ?_)
    rw [ofExcept_map φ cfg cond.span st1 (truthy_map φ .ifCond v).symm]
    refine bind_map_id φ _ _ _ _ (fun c st1' => ?_)
    cases c with
    | true => exact ih.block thenB st1'
    | false =>
      cases elseB with
      | none => rfl
      | some eb => exact ih.block eb st1'
  | loop cond body sid sp =>
    simp only [mapStmt, execStmt, mapExpr_span]
    exact ih.loop cond body cond.span st
  | block b sid sp =>
    simp only [mapStmt, execStmt]
    exact ih.block b st
  | fnDef name nsp ps body fn sid sp => simp only [mapStmt, execStmt]; rfl
  | ret e sid sp =>
    cases e with
    | none => simp only [mapStmt, execStmt]; rfl
    | some e =>
      simp only [mapStmt, execStmt, ih.expr]
      exact bind_map_id φ _ _ _ _ (fun v st1 => rfl)
  | brk sid sp => simp only [mapStmt, execStmt]; rfl
  | cont sid sp => simp only [mapStmt, execStmt]; rfl
  | expr e sid sp =>
    simp only [mapStmt, execStmt, ih.expr]
    exact bind_map_id φ _ _ _ _ (fun v st1 => rfl)

/-- One selected argument, then a continuation: the shape of every name-directed method with one argument. -/
theorem sel1_step {cfg : RunCfg} {f : Nat} (ih : AllMap (N := N) φ cfg f) {β : Type} (h : β → β)
    (args : List Expr) (i : Nat) (site : PanicSite) (sp : Span) (st : State N)
    (k k' : List (Value N) → State N → Res N β)
    (hk : ∀ vs st1, k' vs (mapState φ st1) = mapRes φ h (k vs st1)) :
    (evalSel cfg f (pick (mapExprs φ args) [(i, site)] (φ sp)) (mapState φ st)).bind k'
      = mapRes φ h ((evalSel cfg f (pick args [(i, site)] sp) st).bind k) := by
  rw [pick_map, ih.sel]
  exact bind_map_id φ h _ _ _ hk

theorem mutOp_step {cfg : RunCfg} {f : Nat} (ih : AllMap (N := N) φ cfg f) (m : MutM) (args : List Expr)
    (sp : Span) (st : State N) :
    evalMutOp cfg (f + 1) m (mapExprs φ args) (φ sp) (mapState φ st)
      = mapRes φ id (evalMutOp cfg (f + 1) m args sp st) := by
  have one : ∀ (i : Nat) (site site' : PanicSite) (st : State N) (k k' : Value N → State N → Res N (MutOp N)),
      (∀ v st1, k' v (mapState φ st1) = mapRes φ id (k v st1)) →
      ((evalSel cfg f (pick (mapExprs φ args) [(i, site)] (φ sp)) (mapState φ st)).bind fun vs st1 =>
          match vs with
          | [v] => k' v st1
          | _ => trap cfg site' (φ sp) st1)
        = mapRes φ id ((evalSel cfg f (pick args [(i, site)] sp) st).bind fun vs st1 =>
          match vs with
          | [v] => k v st1
          | _ => trap cfg site' sp st1) :=
    fun i site site' st k k' hk => sel1_step ih id args i site sp st _ _ fun vs st1 =>
      single_map φ id cfg site' sp vs st1 _ _ fun v => hk v st1
  cases m with
  | push => simp only [evalMutOp]; exact one _ _ _ st _ _ fun v st1 => rfl
  | pop => simp only [evalMutOp]; rfl
  | reverse => simp only [evalMutOp]; rfl
  | cmd c =>
    cases c with
    | arg => simp only [evalMutOp]; exact one _ _ _ st _ _ fun v st1 => rfl
    | cwd =>
      simp only [evalMutOp]
      refine one _ _ _ st _ _ fun v st1 => ?_
      rw [ofExcept_map φ cfg sp st1 (requiredString_map φ v sp)]
      exact bind_map_id φ _ _ _ _ (fun s st2 => rfl)
    | env =>
      simp only [evalMutOp]
      refine one _ _ _ st _ _ fun kv st1 => ?_
      rw [ofExcept_map φ cfg sp st1 (requiredString_map φ kv sp)]
      exact bind_map_id φ _ _ _ _ fun key st1' => one _ _ _ st1' _ _ fun v st2 => rfl
    | stdinText => simp only [evalMutOp]; exact one _ _ _ st _ _ fun v st1 => rfl
    | timeoutMs =>
      simp only [evalMutOp]
      refine one _ _ _ st _ _ fun v st1 => ?_
      rw [ofExcept_map φ cfg sp st1 (timeoutMs_map φ v sp)]
      exact bind_map_id φ _ _ _ _ (fun ms st2 => rfl)
    | _ => simp only [evalMutOp]; rfl

theorem expr_step {cfg : RunCfg} {f : Nat} (ih : AllMap (N := N) φ cfg f) (e : Expr) (st : State N) :
    evalExpr cfg (f + 1) (mapExpr φ e) (mapState φ st) = mapRes φ id (evalExpr cfg (f + 1) e st) := by
  cases e with
  | num lex sp =>
    simp only [mapExpr, evalExpr]
    cases NumOps.ofLit (N := N) lex with
    | some n => rfl
    | none => exact trap_map φ _ _ _ sp _
  | str parts sp =>
    cases parts with
    | static s => simp only [mapExpr, evalExpr]; rfl
    | interp segs =>
      simp only [mapExpr, evalExpr, interp_map]
      cases interp cfg st segs [] with
      | some s => rfl
      | none => exact trap_map φ _ _ _ sp _
  | bool b sp => simp only [mapExpr, evalExpr]; rfl
  | null sp => simp only [mapExpr, evalExpr]; rfl
  | var name bind sp =>
    simp only [mapExpr, evalExpr, lookupVal_map]
    cases lookupVal cfg st bind name with
    | some v => rfl
    | none => exact trap_map φ _ _ _ sp _
  | binary op l r sp =>
    simp only [mapExpr, evalExpr, ih.expr, mapExpr_span]
    refine bind_map_id φ _ _ _ _ (fun lv st1 => ?_)
    cases op with
    | and =>
      dsimp only
      cases andStops lv with
      | true => rfl
      | false =>
        simp only [Bool.false_eq_true, if_false, ih.expr]
        exact bind_map_id φ _ _ _ _ (fun rv st2 => ofExcept_map φ cfg r.span st2 (logicRhs_map φ _ rv).symm)
    | or =>
      dsimp only
      cases orStops lv with
      | true => rfl
      | false =>
        simp only [Bool.false_eq_true, if_false, ih.expr]
        exact bind_map_id φ _ _ _ _ (fun rv st2 => ofExcept_map φ cfg r.span st2 (logicRhs_map φ _ rv).symm)
    | _ =>
      simp only [ih.expr]
      exact bind_map_id φ _ _ _ _ (fun rv st2 => ofExcept_map φ cfg sp st2 (arith_map φ _ lv rv sp))
  | unary op x sp =>
    simp only [mapExpr, evalExpr, ih.expr]
    exact bind_map_id φ _ _ _ _ (fun v st1 => ofExcept_map φ cfg sp st1 (unary_map φ op v).symm)
  | array es sp =>
    simp only [mapExpr, evalExpr, map_ok_map, ih.sel]
    exact bind_map_id φ _ _ _ _ (fun vs st1 => rfl)
  | index a i isp sp =>
    simp only [mapExpr, evalExpr, ih.expr]
    refine bind_map_id φ _ _ _ _ (fun av st1 => ?_)
    rw [ih.expr]
    exact bind_map_id φ _ _ _ _ (fun iv st2 => ofExcept_map φ cfg sp st2 (indexRead_map φ av iv isp))
  | member o fld fs sp =>
    simp only [mapExpr, evalExpr]
    exact trap_map φ _ _ _ sp _
  | call callee args fnAnn sp =>
    cases callee with
    | member obj field fs ms =>
      simp only [mapExpr, evalExpr]
      cases MutM.ofName field with
      | some m =>
        simp only [ih.mutOp m args sp st]
        refine bind_map_id φ _ _ _ _ (fun op st1 => ?_)
        rw [lvOf_map]
        cases lvOf obj with
        | other => rfl
        | badRoot => exact trap_map φ _ _ _ sp _
        | path name bind idxs =>
          simp only [mapLv]
          rw [ih.idxs]
          exact bind_map φ _ _ _ _ _ (fun path st2 => applyMut_map φ cfg st2 name bind path op sp)
      | none =>
        simp only [ih.expr]
        refine bind_map_id φ _ _ _ _ (fun recv st1 => ?_)
        cases recv with
        | str s =>
          dsimp only
          cases StrM.ofName field with
          | none => rfl
          | some m =>
            simp only [pick_map φ args _ sp, ih.sel]
            exact bind_map_id φ _ _ _ _
              (fun vs st2 => ofExcept_map φ cfg sp st2 (strMethod_map φ cfg.std m s vs).symm)
        | num n =>
          dsimp only
          cases NumM.ofName field <;> rfl
        | arr xs =>
          dsimp only
          cases ArrM.ofName field with
          | none => rfl
          | some a =>
            cases a with
            | join =>
              refine sel1_step ih id args _ _ sp st1 _ _ (fun vs st2 => ?_)
              -- one string is the separator; anything else is the site `joinSep`
              rcases vs with _ | ⟨v, _ | ⟨w, t⟩⟩
              · exact trap_map φ _ _ _ sp _
              · cases v with
                | str sep => rfl
                | _ => exact trap_map φ _ _ _ sp _
              · cases v <;> exact trap_map φ _ _ _ sp _
            | _ => rfl
        | host h =>
          cases h with
          | command c =>
            dsimp only
            cases CmdM.ofName field with
            | none => rfl
            | some m =>
              cases m with
              | run => exact runCommand_map φ cfg c sp st1
              | _ => rfl
          | result r =>
            dsimp only
            cases ResM.ofName field <;> rfl
        | bool b => exact trap_map φ _ _ _ sp _
        | null => rfl
    | var name vb vsp =>
      simp only [mapExpr, evalExpr]
      cases Eval.GlobalB.ofName name with
      | some b =>
        simp only [map_ok_map, ih.sel]
        refine bind_map_id φ _ _ _ _ (fun vs st1 => ?_)
        exact single_map φ id cfg _ sp vs st1 _ _ fun v => globalCall_map φ cfg b v sp st1
      | none =>
        simp only [lookupFn_map]
        cases Eval.lookupFn cfg st fnAnn name with
        | none => exact trap_map φ _ _ _ sp _
        | some fd =>
          simp only [Option.map_some, map_ok_map, ih.sel]
          refine bind_map_id φ _ _ _ _ (fun vs st1 => ?_)
          have hpar : (mapFn φ fd).params.length = fd.params.length := List.length_map _
          simp only [hpar, paramIds_map]
          by_cases hlen : vs.length ≠ fd.params.length
          · simp only [if_pos hlen]
            exact trap_map φ _ _ _ sp _
          · simp only [if_neg hlen]
            cases paramIds fd with
            | none => exact trap_map φ _ _ _ sp _
            | some ids =>
              -- the callee's scope: same ids, chain and slots, the body mapped
              have hpush : pushScope (mapState φ st1) (.params fd.id) fd.chain (paramSlots fd.params ids vs)
                    (ids.filterMap id)
                  = mapState φ (pushScope st1 (.params fd.id) fd.chain (paramSlots fd.params ids vs)
                    (ids.filterMap id)) := rfl
              simp only [show (mapFn φ fd).body = mapBlock φ fd.body from rfl,
                show (mapFn φ fd).id = fd.id from rfl, show (mapFn φ fd).chain = fd.chain from rfl,
                show (mapFn φ fd).params = fd.params.map (mapParam φ) from rfl, paramSlots_map, hpush,
                ih.block]
              refine bind_map_id φ _ _ _ _ (fun flow st3 => ?_)
              simp only [show (mapState φ st1).chain = st1.chain from rfl, popScope_map]
              cases flow with
              | cont => rfl
              | ret v => rfl
              | brk => exact trap_map φ _ _ _ sp _
              | next => exact trap_map φ _ _ _ sp _
    | _ => exact trap_map φ _ _ _ sp _

theorem allMap (φ : Span → Span) (cfg : RunCfg) : ∀ f : Nat, AllMap (N := N) φ cfg f
  | 0 => allMap_zero cfg
  | f + 1 =>
    have ih := allMap φ cfg f
    ⟨expr_step ih, sel_step ih, idxs_step ih, mutOp_step ih, stmt_step ih, stmts_step ih, block_step ih,
     loop_step ih⟩

theorem run_map (φ : Span → Span) (cfg : RunCfg) (fuel : Nat) (prog : Block) :
    (run cfg fuel (mapBlock φ prog) : Outcome N) = mapOutcome φ (run cfg fuel prog) := by
  -- `mapState φ (State.init cfg)` is `State.init cfg` by unfolding: the root scope alone, no hoisted function, no block tag
  have h : execBlock cfg fuel (mapBlock φ prog) (State.init cfg : State N) = _ :=
    (allMap (N := N) φ cfg fuel).block prog (State.init cfg)
  simp only [run, h]
  cases execBlock cfg fuel prog (State.init cfg : State N) <;> rfl

end Evaluator

end NaijaVerif.SpanMap
