import NaijaVerif.Spec.WF
import NaijaVerif.Lemmas.ListFacts
/-
The shapes in which the proofs about `Model/Resolve.lean` take its functions apart.

* The catch-all arms of the model and of the specification, as equations.  A `match` with a catch-all arm only reduces once
  the constructor is known, so a proof about it would go through every constructor.  For a call whose callee is neither a
  name nor a method (`f()()`, `1()`) the equations are stated for a callee known only to be `otherCallee`, so that a walk over
  `checkExpr` splits a call three ways (name, method, other) and not eleven.  In the same way the passes that only look at
  function definitions skip a statement with `definedName s = []` (`stmts_fnDef_induction`), and only `make` changes the
  variable scope of a block and only a function definition the definitions passed (`Stmt.make_fnDef_cases`).
* The arm of a function definition and the arm of a block as equations over named pieces (`checkStmt_fnDef`,
  `checkBlock_mk`).  Every walk that unfolds one of the two arms does it by these equations, and a lemma about the
  environment or the facts in which a body or the statements of a block are checked is stated about the pieces.  A lemma
  about `predeclare` or `retIter` themselves holds at ANY environment and facts and is stated so; the `mk` arm instantiates it
  at `blkEnvScope` and `blkF2`.  The pieces, and `Lemmas/ResolveSteps.lean`, are in namespace `NaijaVerif.ResolveStruct`, which
  they share with their main users, the `Lemmas/ResolveStruct*.lean` files.

The statement walks over `checkStmt` come in two kinds, on purpose (DESIGN.md §10.4 lists which walk is of which kind).
* Those that reason arm by arm with TERMS apply the induction principle Lean derives from the model,
  `checkStmt.mutual_induct_unfolding`: motives over `env cur s f` and the result, the model's `let`s as local definitions
  (definitionally the named pieces above), the result of the arm written out, the induction hypotheses at the nested
  environment and facts.  Its cases are the arms in the order of `Model/Resolve.lean`: 1–2 `assign` (re-declaration, new
  local), 3–4 `assignExisting` (declared, undeclared), 5 `assignIndex`, 6 `ifS`, 7 `loop`, 8 `block`, 9–10 `fnDef` (no
  signature of its own, signature `g`), 11–12 `ret` (some, none), 13 `brk`, 14 `cont`, 15 `expr`, 16 `checkBlock`, 17–18
  `checkOptBlock` (none, some), 19–20 `checkStmts` (nil, cons); the conclusions come in the order statement, optional block,
  block, statements.  A case introduces the arguments of the function (the fields of the statement between the block
  state and the facts), then the `let`s and matched values of the arm in the model's order (a matched value with its
  equation), then the induction hypotheses, then the hypothesis of the motive.
* Those that rewrite the checker's diagnostics into a specification's by `simp` with the induction hypotheses as rewrite
  rules (`Resolve.check_scope`, `check_lock`, `ResolveStruct.check_scope`) go over the SYNTAX (`Stmt.walk`) and unfold the
  arm: under the principle the local definitions stand between the rules and the goal and each arm needs a line to restate
  its hypothesis.  So does naturality in spans (`checkStmt_map`, `checkExpr_map`): it relates TWO runs, and the principle
  follows one.
-/
namespace NaijaVerif.Resolve
open NaijaVerif NaijaVerif.Spec

theorem modifyAt_eq_modify {α : Type} (g : α → α) : ∀ (l : List α) (i : Nat), modifyAt l i g = l.modify i g
  | [], _ => (List.modify_nil g _).symm
  | _ :: _, 0 => rfl
  | a :: as, i + 1 => congrArg (a :: ·) (modifyAt_eq_modify g as i)

theorem modifyAt_length {α : Type} (g : α → α) (l : List α) (i : Nat) : (modifyAt l i g).length = l.length := by
  rw [modifyAt_eq_modify, List.length_modify]

theorem modifyAt_map_key {α β : Type} (key : α → β) (g : α → α) (hk : ∀ a, key (g a) = key a) (l : List α) (i : Nat) :
    (modifyAt l i g).map key = l.map key := by
  rw [modifyAt_eq_modify, modify_map_eq key g hk]


theorem modifyAt_map {α β : Type} (k : α → β) (g : α → α) (g' : β → β) (h : ∀ a, k (g a) = g' (k a))
    (l : List α) (i : Nat) : (modifyAt l i g).map k = modifyAt (l.map k) i g' := by
  rw [modifyAt_eq_modify, modifyAt_eq_modify, modify_map k g g' (fun a => (h a).symm)]

def otherCallee : Expr → Bool
  | .var _ _ _ | .member _ _ _ _ => false
  | _ => true

theorem Expr.callee_cases {motive : Expr → Prop} (var : ∀ v b s, motive (.var v b s))
    (member : ∀ o fld fs ms, motive (.member o fld fs ms)) (other : ∀ c, otherCallee c = true → motive c) :
    ∀ c, motive c := by
  intro c
  cases c with
  | var => apply var
  | member => apply member
  | _ => exact other _ rfl

theorem checkExpr_call_other (env : Env) (cur : Scope) (sid : Nat) (c : Expr) (args : List Expr) (fn : Option Nat)
    (s : Span) (f : Facts) (hc : otherCallee c = true) :
    checkExpr env cur sid (.call c args fn s) f =
      ⟨.call (checkExpr env cur sid c f).val (checkExprs env cur sid args (checkExpr env cur sid c f).facts).val none s,
       (checkExpr env cur sid c f).ds ++ [RDiag.at .badCallee s] ++
         (checkExprs env cur sid args (checkExpr env cur sid c f).facts).ds,
       (checkExprs env cur sid args (checkExpr env cur sid c f).facts).facts⟩ := by
  cases c with
  | var => cases hc
  | member => cases hc
  | _ => rw [checkExpr.eq_def]

theorem exprV_call_other (c : Ctx) (f : Expr) (args : List Expr) (fn : Option Nat) (s : Span)
    (hf : otherCallee f = true) : exprV c (.call f args fn s) = exprV c f ++ exprsV c args := by
  cases f with
  | var => cases hf
  | member => cases hf
  | _ => rw [exprV.eq_def]

theorem exprT_call_other (te : TEnv) (f : Expr) (args : List Expr) (fn : Option Nat) (s : Span)
    (hf : otherCallee f = true) :
    exprT te (.call f args fn s) = exprT te f ++ [(Rule.badCallee, s)] ++ exprsT te args := by
  cases f with
  | var => cases hf
  | member => cases hf
  | _ => rw [exprT.eq_def]

theorem predeclare_cons_other (env : Env) {s : Stmt} (hs : definedName s = []) (rest : List Stmt)
    (sigs : List FnSig) (f : Facts) : predeclare env (s :: rest) sigs f = predeclare env rest sigs f := by
  cases s with
  | fnDef => cases hs
  | _ => rfl

theorem blockFns_cons_other {s : Stmt} (hs : definedName s = []) (rest : List Stmt) (acc : List (Bytes × Nat)) :
    blockFns (s :: rest) acc = blockFns rest acc := by
  cases s with
  | fnDef => cases hs
  | _ => rfl

theorem headersV_cons_other (seen : List Bytes) {s : Stmt} (hs : definedName s = []) (rest : List Stmt) :
    headersV seen (s :: rest) = headersV seen rest := by
  cases s with
  | fnDef => cases hs
  | _ => rfl

theorem blockDefs_cons_other {s : Stmt} (hs : definedName s = []) (rest : List Stmt) (seen : List Bytes) :
    blockDefs (s :: rest) seen = blockDefs rest seen := by
  cases s with
  | fnDef => cases hs
  | _ => rfl

theorem stmts_fnDef_induction {motive : List Stmt → Prop} (nil : motive [])
    (fnDef : ∀ name nsp ps body fn sid sp rest, motive rest → motive (.fnDef name nsp ps body fn sid sp :: rest))
    (other : ∀ s rest, definedName s = [] → motive rest → motive (s :: rest)) : ∀ ss, motive ss
  | [] => nil
  | s :: rest => by
      have ih := stmts_fnDef_induction nil fnDef other rest
      cases hs : definedName s with
      | nil => exact other s rest hs ih
      | cons =>
        cases s with
        | fnDef => exact fnDef _ _ _ _ _ _ _ rest ih
        | _ => cases hs

theorem Stmt.make_fnDef_cases {motive : Stmt → Prop}
    (assign : ∀ x xs e b sid sp, motive (.assign x xs e b sid sp))
    (fnDef : ∀ name nsp ps body fn sid sp, motive (.fnDef name nsp ps body fn sid sp))
    (other : ∀ s, madeName s = [] → definedName s = [] → motive s) : ∀ s, motive s := by
  intro s
  cases s with
  | assign => apply assign
  | fnDef => apply fnDef
  | _ => exact other _ rfl rfl

theorem checkStmt_cur_other (env : Env) (cur : Cur) {s : Stmt} (hm : madeName s = []) (hd : definedName s = [])
    (f : Facts) : (checkStmt env cur s f).cur = cur ∧ madeName (checkStmt env cur s f).val = [] ∧
      definedName (checkStmt env cur s f).val = [] := by
  cases s with
  | assign => cases hm
  | fnDef => cases hd
  | assignExisting x => rw [checkStmt]; cases lookupVar env cur.vars x <;> exact ⟨rfl, rfl, rfl⟩
  | ret e => cases e <;> exact ⟨rfl, rfl, rfl⟩
  | _ => exact ⟨rfl, rfl, rfl⟩

theorem checkStmt_seenFns_other (env : Env) (cur : Cur) {s : Stmt} (hd : definedName s = []) (f : Facts) :
    (checkStmt env cur s f).cur.seenFns = cur.seenFns ∧ definedName (checkStmt env cur s f).val = [] := by
  cases s using Stmt.make_fnDef_cases with
  | assign x => rw [checkStmt]; cases findVar cur.vars x <;> exact ⟨rfl, rfl⟩
  | fnDef => cases hd
  | other s hm hd =>
    exact ⟨congrArg Cur.seenFns (checkStmt_cur_other env cur hm hd f).1, (checkStmt_cur_other env cur hm hd f).2.2⟩

theorem nextCur_other (cur : List Bytes) {s : Stmt} (hm : madeName s = []) : nextCur cur s = cur := by
  cases s with
  | assign => cases hm
  | _ => rfl

theorem nextSeen_other (seen : List Bytes) {s : Stmt} (hd : definedName s = []) : nextSeen seen s = seen := by
  cases s with
  | fnDef => cases hd
  | _ => rfl


theorem inferExprSh_nil (env : Env) (cur : Scope) : ∀ e : Expr, inferExprSh {} env cur e = inferExpr env cur e
  | .num _ _ | .null _ | .str _ _ | .bool _ _ | .array _ _ | .index _ _ _ _ | .member _ _ _ _ => rfl
  | .var v _ _ => rfl
  | .binary op l r _ => by
      simp only [inferExprSh, inferExpr, inferExprSh_nil env cur l, inferExprSh_nil env cur r]
  | .unary op e _ => by simp only [inferExprSh, inferExpr, inferExprSh_nil env cur e]
  | .call callee args fn s => by
      cases callee with
      | var fname vb vs => simp [inferExprSh, inferExpr]
      | member obj field fs ms => simp only [inferExprSh, inferExpr, inferExprSh_nil env cur obj]
      | _ => rfl

section lookup

theorem lookupScopes_eq (x : Bytes) : ∀ ss : List Scope, lookupScopes ss x = ss.findSome? (findVar · x)
  | [] => rfl
  | s :: ss => by
      rw [lookupScopes, List.findSome?_cons, lookupScopes_eq x ss]
      cases findVar s x <;> rfl

theorem lookupFns_eq (x : Bytes) : ∀ fs : List (List FnSig), lookupFns fs x = fs.findSome? (findFn · x)
  | [] => rfl
  | s :: fs => by
      rw [lookupFns, List.findSome?_cons, lookupFns_eq x fs]
      cases findFn s x <;> rfl

theorem fnArity_eq (x : Bytes) : ∀ ts : List (List (Bytes × Nat)), fnArity ts x = ts.findSome? (findSig · x)
  | [] => rfl
  | t :: ts => by
      rw [fnArity, List.findSome?_cons, fnArity_eq x ts]
      cases findSig t x <;> rfl

end lookup

theorem findVar_mem {s : Scope} {x : Bytes} {e : VarEntry} (h : findVar s x = some e) : e ∈ s :=
  List.mem_of_find?_eq_some h

theorem lookupScopes_mem {ss : List Scope} {x : Bytes} {e : VarEntry} (h : lookupScopes ss x = some e) :
    ∃ s ∈ ss, e ∈ s := by
  rw [lookupScopes_eq] at h
  obtain ⟨s, hs, he⟩ := List.exists_of_findSome?_eq_some h
  exact ⟨s, hs, findVar_mem he⟩

theorem findFn_mem {s : List FnSig} {x : Bytes} {g : FnSig} (h : findFn s x = some g) : g ∈ s :=
  List.mem_of_find?_eq_some h

theorem findFn_name {s : List FnSig} {x : Bytes} {g : FnSig} (h : findFn s x = some g) : g.name = x := by
  have := List.find?_some h
  simpa using this

theorem lookupFns_mem {fs : List (List FnSig)} {x : Bytes} {g : FnSig} (h : lookupFns fs x = some g) :
    ∃ s ∈ fs, g ∈ s := by
  rw [lookupFns_eq] at h
  obtain ⟨s, hs, he⟩ := List.exists_of_findSome?_eq_some h
  exact ⟨s, hs, findFn_mem he⟩

theorem updateTy_map {β : Type} (k : VarEntry → β) (hk : ∀ e t, k { e with ty := t } = k e) (x : Bytes) (t : VType) :
    ∀ s : Scope, (updateTy s x t).map k = s.map k
  | [] => rfl
  | e :: es => by
      rw [updateTy]
      split
      · rw [List.map_cons, hk]; rfl
      · rw [List.map_cons, updateTy_map k hk x t es]; rfl

theorem updateTy_mem_id {s : Scope} {x : Bytes} {t : VType} {e : VarEntry} (h : e ∈ updateTy s x t) :
    ∃ e' ∈ s, e'.id = e.id := by
  have : e.id ∈ (updateTy s x t).map (·.id) := List.mem_map_of_mem h
  rw [updateTy_map _ (fun _ _ => rfl)] at this
  obtain ⟨e', h1, h2⟩ := List.mem_map.1 this
  exact ⟨e', h1, h2⟩

theorem findVar_cons (s : Scope) (e : VarEntry) (y : Bytes) :
    findVar (e :: s) y = if e.name == y then some e else findVar s y := by
  simp only [findVar, List.find?_cons]
  cases e.name == y <;> rfl

theorem findFn_append (sigs : List FnSig) (g : FnSig) (x : Bytes) :
    findFn (sigs ++ [g]) x = (findFn sigs x).or (if g.name == x then some g else none) := by
  simp only [findFn, List.find?_append, List.find?_cons]
  cases g.name == x <;> rfl

theorem findFn_of_mem_nodup : ∀ {l : List FnSig} {g : FnSig}, (l.map (·.name)).Nodup → g ∈ l →
    findFn l g.name = some g
  | [], _, _, h => by cases h
  | a :: l, g, hn, hg => by
      simp only [List.map_cons, List.nodup_cons] at hn
      simp only [findFn, List.find?_cons]
      rcases List.mem_cons.1 hg with rfl | hg
      · simp
      · have : (a.name == g.name) = false := by
          apply Bool.eq_false_iff.2
          intro h
          have : a.name = g.name := by simpa using h
          exact hn.1 (by rw [this]; exact List.mem_map_of_mem hg)
        simp only [this]
        exact findFn_of_mem_nodup hn.2 hg

theorem findFn_none_of_append {sigs : List FnSig} {g : FnSig} {x : Bytes}
    (h : findFn (sigs ++ [g]) x = none) : findFn sigs x = none ∧ g.name ≠ x := by
  rw [findFn_append, Option.or_eq_none_iff] at h
  exact ⟨h.1, fun e => by rw [if_pos (beq_iff_eq.mpr e)] at h; cases h.2⟩

theorem findVar_updateTy_eq (x : Bytes) (t : VType) (y : Bytes) : ∀ s : Scope,
    findVar (updateTy s x t) y = if x = y then (findVar s y).map ({ · with ty := t }) else findVar s y
  | [] => by rw [updateTy]; split <;> rfl
  | e :: es => by
      rw [updateTy]
      by_cases hx : e.name = x
      · subst hx
        rw [if_pos (beq_self_eq_true _), findVar_cons, findVar_cons]
        by_cases hy : e.name = y
        · rw [if_pos hy, if_pos (beq_iff_eq.mpr hy), if_pos (beq_iff_eq.mpr hy)]; rfl
        · rw [if_neg hy, if_neg (mt beq_iff_eq.mp hy), if_neg (mt beq_iff_eq.mp hy)]
      · rw [if_neg (mt beq_iff_eq.mp hx), findVar_cons, findVar_cons, findVar_updateTy_eq x t y es]
        by_cases hy : e.name = y
        · rw [if_pos (beq_iff_eq.mpr hy), if_pos (beq_iff_eq.mpr hy), if_neg (fun h => hx (hy.trans h.symm))]
        · rw [if_neg (mt beq_iff_eq.mp hy), if_neg (mt beq_iff_eq.mp hy)]

end NaijaVerif.Resolve

namespace NaijaVerif.ResolveStruct
open NaijaVerif NaijaVerif.Resolve

/-- `predeclared_function_id(body)`: the signature pushed for this very definition — the one of its name in the
block's own function scope, unless an earlier definition of the block has the name (`seenFns`).  The walks of
`Lemmas/ResolveScope.lean` and `Lemmas/ResolveTypesStmt.lean` assume `ownHas env name` (`isSome` of the inner lookup alone)
of every definition; `ownHas_sigOf` there turns it into a value of `sigOf`. -/
def sigOf (env : Env) (cur : Cur) (name : Bytes) : Option FnSig :=
  if cur.seenFns.contains name then none else
    match env.fns with
    | own :: _ => findFn own name
    | [] => none

theorem sigOf_mem {env : Env} {cur : Cur} {name : Bytes} {g : FnSig} (h : sigOf env cur name = some g) :
    ∃ own rest, env.fns = own :: rest ∧ g ∈ own := by
  unfold sigOf at h
  split at h
  · cases h
  · split at h
    · next own rest heq => exact ⟨own, rest, heq, List.mem_of_find?_eq_some h⟩
    · cases h

/-- The facts after a definition has pushed its own statement entry (of class `impure`). -/
def fnEntryF (env : Env) (f : Facts) : Facts := joinClass (pushStmt f env.owner env.scope) f.stmtEffects.length .impure
/-- The `ScopeId` of the parameter scope, and the facts after it is opened for the function `g`. -/
def fnPscope (f : Facts) : Nat := f.scopes.length
def fnScopeF (env : Env) (f : Facts) (g : FnSig) : Facts :=
  pushScope (setDefStmt (fnEntryF env f) g.id f.stmtEffects.length) (some env.scope) g.id
/-- The parameters annotated, the parameter scope, and the facts in which the body is checked. -/
def fnParams (env : Env) (f : Facts) (g : FnSig) (ps : List Param) : List Param × Scope × Facts :=
  declareParams env.spanLen g.id (fnPscope f) ps [] (fnScopeF env f g)
def fnEnvB (env : Env) (cur : Cur) (f : Facts) (g : FnSig) (ps : List Param) : Env :=
  { env with vars := (fnParams env f g ps).2.1 :: cur.vars :: env.vars, curFn := some g.id, owner := g.id, inLoop := 0,
             scope := fnPscope f }

theorem checkStmt_fnDef (env : Env) (cur : Cur) (name : Bytes) (nsp : Span) (ps : List Param) (body : Block)
    (a b : Option Nat) (sp : Span) (f : Facts) :
    checkStmt env cur (.fnDef name nsp ps body a b sp) f =
      match sigOf env cur name with
      | none => ⟨.fnDef name nsp ps body none (some f.stmtEffects.length) sp, [], fnEntryF env f, cur⟩
      | some g =>
          ⟨.fnDef name nsp (fnParams env f g ps).1 (checkBlock (fnEnvB env cur f g ps) (some (fnPscope f)) body (fnParams env f g ps).2.2).val
              (some g.id) (some f.stmtEffects.length) sp,
           (checkBlock (fnEnvB env cur f g ps) (some (fnPscope f)) body (fnParams env f g ps).2.2).ds,
           (checkBlock (fnEnvB env cur f g ps) (some (fnPscope f)) body (fnParams env f g ps).2.2).facts,
           { cur with seenFns := name :: cur.seenFns }⟩ := by
  simp only [checkStmt, sigOf]
  rfl

/-- The facts after the condition `c` of an `if` / `jasi` is checked and its class joined: what the first block of
the statement is checked in. -/
def condF (env : Env) (cur : Cur) (f : Facts) (c : Expr) : Facts :=
  joinClass (checkExpr env cur.vars f.stmtEffects.length c (pushStmt f env.owner env.scope)).facts f.stmtEffects.length
    (condClass env cur.vars (checkExpr env cur.vars f.stmtEffects.length c (pushStmt f env.owner env.scope)).facts c)

/-- Facts and environment after a block has opened its scope (the root block also records it as the script's). -/
def blkF2 (env : Env) (parent : Option Nat) (f : Facts) : Facts :=
  if parent.isNone && env.owner == 0 then setRootScope (pushScope f parent env.owner) f.scopes.length
  else pushScope f parent env.owner
def blkEnvScope (env : Env) (f : Facts) : Env := { env with scope := f.scopes.length }
/-- The predeclaration of the block's definitions, its signatures after return-type inference, and the environment
of the block's statements. -/
def blkPre (env : Env) (parent : Option Nat) (ss : List Stmt) (f : Facts) : Resolve.Pre :=
  predeclare (blkEnvScope env f) ss [] (blkF2 env parent f)
def blkSigs (env : Env) (parent : Option Nat) (ss : List Stmt) (f : Facts) : List FnSig :=
  retIter (blkEnvScope env f) (ownMakes ss) (blkPre env parent ss f).bodies (blkPre env parent ss f).bodies.length
    (blkPre env parent ss f).sigs
def blkEnvBody (env : Env) (parent : Option Nat) (ss : List Stmt) (f : Facts) : Env :=
  { blkEnvScope env f with fns := blkSigs env parent ss f :: env.fns }

theorem checkBlock_mk (env : Env) (parent : Option Nat) (ss : List Stmt) (sp : Span) (f : Facts) :
    checkBlock env parent (.mk ss sp) f =
      ⟨.mk (checkStmts (blkEnvBody env parent ss f) {} ss (blkPre env parent ss f).facts).val sp,
       (blkPre env parent ss f).ds ++ (checkStmts (blkEnvBody env parent ss f) {} ss (blkPre env parent ss f).facts).ds,
       (checkStmts (blkEnvBody env parent ss f) {} ss (blkPre env parent ss f).facts).facts⟩ := by
  simp only [checkBlock]
  rfl

end NaijaVerif.ResolveStruct
