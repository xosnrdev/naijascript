import NaijaVerif.Lemmas.ParseMap
/-
`Tok.str content escaped`: `escaped` says that the lexeme held an escape sequence (the Rust lexer then
hands over `ArenaCow::Owned` instead of a slice of the source).  The parser reads the flag in one place,
`parse_string_literal` (`strParts`): a content without `{` is a static string whatever the flag; a
content with a `{` is split as a template only when the flag is off.  `flagErase` sets the flag where it
is not read, so it is a token map the parser cannot see (`unseen_flagErase`) and `Lemmas/ParseMap.lean`
applies with `ν = id` (`parseProgram_flag`).
-/
namespace NaijaVerif.Parse
open NaijaVerif NaijaVerif.SpanMap

def flagErase : Tok → Tok
  | .str c esc => .str c (esc || !c.contains lbrace)
  | t => t

def flagTok (t : SpTok) : SpTok := ⟨flagErase t.tok, t.span⟩

def flagSt (st : PState) : PState := ⟨flagTok st.cur, st.rest.map flagTok, st.errs⟩

theorem flagErase_other {t : Tok} (h : isStrTok t = false) : flagErase t = t := by
  unfold flagErase
  split
  · cases h
  · rfl

theorem flagErase_idem (t : Tok) : flagErase (flagErase t) = flagErase t := by
  cases hs : isStrTok t with
  | false => rw [flagErase_other hs, flagErase_other hs]
  | true =>
    obtain ⟨c, e, rfl⟩ := isStrTok_true hs
    cases e <;> cases c.contains lbrace <;> simp [flagErase]

theorem strParts_flag (c : Bytes) (esc : Bool) : strParts c (esc || !c.contains lbrace) = strParts c esc := by
  unfold strParts
  cases h : c.contains lbrace <;> simp

theorem unseen_flagErase : Unseen flagErase :=
  ⟨fun c e => ⟨_, rfl, strParts_flag c e⟩, fun _ => flagErase_other⟩

/-! `flagSt` is the token map on parser states (`mapSt flagErase id`, the diagnostics left as they are).  It and the
equations after `flagTok_tok` say what the map does on the parts of a state; `parseProgram_flag` needs none of them, it
instantiates `parseProgram_map`, which speaks of token lists.  `flagTok_tok` is what `Props/C10Parse.lean` rewrites
with. -/

@[simp] theorem isReserved_flag (t : Tok) : (flagErase t).isReserved = t.isReserved :=
  unseen_flagErase.app Tok.isReserved (fun _ _ _ => rfl) t

@[simp] theorem flagTok_tok (t : SpTok) : (flagTok t).tok = flagErase t.tok := rfl
@[simp] theorem flagTok_span (t : SpTok) : (flagTok t).span = t.span := rfl
@[simp] theorem flagSt_cur (st : PState) : (flagSt st).cur = flagTok st.cur := rfl
@[simp] theorem flagSt_rest (st : PState) : (flagSt st).rest = st.rest.map flagTok := rfl
@[simp] theorem flagSt_errs (st : PState) : (flagSt st).errs = st.errs := rfl

@[simp] theorem flagTok_eofAt (p : Nat) : flagTok (eofAt p) = eofAt p := rfl

@[simp] theorem flagSt_err (st : PState) (k : DiagKind) (sp : Span) (labels : List Span) :
    flagSt (st.err k sp labels) = (flagSt st).err k sp labels := rfl

theorem mapSpan_id : mapSpan id = id := rfl

theorem mapBlock_id (b : Block) : mapBlock (mapSpan id) b = b := mapBlock_fix b fun _ _ => rfl

theorem mapDiag_id : mapDiag id = id := by
  funext d; simp [mapDiag, mapSpan_id]

theorem parseProgram_flag (toks : List SpTok) : parseProgram (toks.map flagTok) = parseProgram toks := by
  have h := parseProgram_map (ν := id) rfl unseen_flagErase toks
  rw [mapBlock_id, mapDiag_id, List.map_id] at h
  exact h

end NaijaVerif.Parse
