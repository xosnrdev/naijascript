import NaijaVerif.Spec.Utf8
import NaijaVerif.Model.Lex
import NaijaVerif.Model.StrsStd
import NaijaVerif.Lemmas.ListFacts
/-
`Utf8.validUtf8` reads the text one `Strs.validChar` at a time (`valid_cons`), so a valid text concatenates
and can be cut in front of any byte that is not a continuation byte (`valid_split`).  `Strs.ValidUtf8`
(a concatenation of `validChar`s) is tied to it in `Lemmas/StrsUtf8`; the byte automata of `Model/ReadLine`
and `Model/Capture` are separate formulations that no theorem relates to it.
-/
namespace NaijaVerif.Utf8
open NaijaVerif
open NaijaVerif.Bytes (isCont isBoundary)
open NaijaVerif.Strs (validChar)

theorem valid_nil : validUtf8 [] = true := by rw [validUtf8.eq_def]

theorem valid_cons_ascii {b : Nat} {r : Bytes} (hb : b < 128) : validUtf8 (b :: r) = validUtf8 r := by
  rw [validUtf8.eq_def]; simp [hb]

theorem valid_tail_ascii {b : Nat} {r : Bytes} (h : validUtf8 (b :: r) = true) (hb : b < 128) :
    validUtf8 r = true := by
  rwa [valid_cons_ascii hb] at h

theorem isCont_iff {b : Nat} : isCont b = true ↔ 128 ≤ b ∧ b < 192 := by
  simp only [isCont, Bool.and_eq_true, decide_eq_true_eq]

/-! Row by row, the table of `validUtf8` (lead byte, then exclusions on the second byte) is the table of
`Strs.validChar` (lead byte with the range of the second byte). -/

theorem valid_cons2 {b b1 : Nat} (r : Bytes) (h1 : 128 ≤ b) (h2 : b < 224) :
    validUtf8 (b :: b1 :: r) = (validChar [b, b1] && validUtf8 r) := by
  rw [validUtf8.eq_def]
  simp only [validChar, if_neg (Nat.not_lt.mpr h1), if_pos h2]
  by_cases h : b < 194
  · rw [if_pos h, decide_eq_false (by omega : ¬ 194 ≤ b)]; rfl
  · rw [if_neg h, decide_eq_true (by omega : 194 ≤ b), decide_eq_true (by omega : b ≤ 223)]; rfl

theorem valid_cons3 {b b1 b2 : Nat} (r : Bytes) (h1 : 224 ≤ b) (h2 : b < 240) :
    validUtf8 (b :: b1 :: b2 :: r) = (validChar [b, b1, b2] && validUtf8 r) := by
  rw [validUtf8.eq_def]
  simp only [if_neg (by omega : ¬ b < 128), if_neg (by omega : ¬ b < 194), if_neg (by omega : ¬ b < 224), if_pos h2]
  congr 1
  rw [Bool.eq_iff_iff]
  simp only [validChar, isCont, Bool.and_eq_true, Bool.or_eq_true, Bool.not_eq_true', decide_eq_true_eq, beq_iff_eq,
    Bool.and_eq_false_iff, decide_eq_false_iff_not, beq_eq_false_iff_ne]
  -- `omega` does not split an `↔`
  constructor <;> intro _ <;> omega

theorem valid_cons4 {b b1 b2 b3 : Nat} (r : Bytes) (h1 : 240 ≤ b) :
    validUtf8 (b :: b1 :: b2 :: b3 :: r) = (validChar [b, b1, b2, b3] && validUtf8 r) := by
  rw [validUtf8.eq_def]
  simp only [if_neg (by omega : ¬ b < 128), if_neg (by omega : ¬ b < 194), if_neg (by omega : ¬ b < 224),
    if_neg (by omega : ¬ b < 240)]
  by_cases h : b < 245
  · rw [if_pos h]
    congr 1
    rw [Bool.eq_iff_iff]
    simp only [validChar, isCont, Bool.and_eq_true, Bool.or_eq_true, Bool.not_eq_true', decide_eq_true_eq, beq_iff_eq,
      Bool.and_eq_false_iff, decide_eq_false_iff_not, beq_eq_false_iff_ne]
    constructor <;> intro _ <;> omega
  · rw [if_neg h]
    symm
    simp only [validChar, Bool.and_eq_false_iff, Bool.or_eq_false_iff, decide_eq_false_iff_not, beq_eq_false_iff_ne]
    omega

theorem validChar_shape {a : Nat} {tl : Bytes} (h : validChar (a :: tl) = true) :
    isCont a = false ∧ tl.all isCont = true ∧ tl.length + 1 = Lex.charLen a := by
  rw [← Bool.not_eq_true, isCont_iff, Lex.charLen]
  match tl, h with
  | [], h =>
    have := of_decide_eq_true h
    exact ⟨by omega, rfl, by rw [if_pos this]; rfl⟩
  | [b], h =>
    simp only [validChar, Bool.and_eq_true, decide_eq_true_eq] at h
    refine ⟨by omega, by rw [List.all_cons, h.2]; rfl, ?_⟩
    rw [if_neg (by omega), if_pos (by omega)]; rfl
  | [b, c], h =>
    simp only [validChar, isCont_iff, Bool.and_eq_true, Bool.or_eq_true, decide_eq_true_eq, beq_iff_eq] at h
    have hr : (224 ≤ a ∧ a < 240) ∧ (128 ≤ b ∧ b < 192) := by omega
    refine ⟨by omega, ?_, ?_⟩
    · simp only [List.all_cons, List.all_nil, Bool.and_true, Bool.and_eq_true, isCont_iff]; exact ⟨hr.2, h.1⟩
    · rw [if_neg (by omega), if_neg (by omega), if_pos hr.1.2]; rfl
  | [b, c, d], h =>
    simp only [validChar, isCont_iff, Bool.and_eq_true, Bool.or_eq_true, decide_eq_true_eq, beq_iff_eq] at h
    have hr : 240 ≤ a ∧ (128 ≤ b ∧ b < 192) := by omega
    refine ⟨by omega, ?_, ?_⟩
    · simp only [List.all_cons, List.all_nil, Bool.and_true, Bool.and_eq_true, isCont_iff]; exact ⟨hr.2, h.1⟩
    · rw [if_neg (by omega), if_neg (by omega), if_neg (by omega)]; rfl

theorem validChar_short {a : Nat} {tl : Bytes} (h : tl.length + 1 < Lex.charLen a) : validChar (a :: tl) = false := by
  rw [← Bool.not_eq_true]
  exact fun hv => absurd (validChar_shape hv).2.2 (by omega)

theorem valid_cons (b : Nat) (r : Bytes) :
    validUtf8 (b :: r) =
      (validChar (b :: r.take (Lex.charLen b - 1)) && validUtf8 (r.drop (Lex.charLen b - 1))) := by
  by_cases h1 : b < 128
  · rw [Lex.charLen, if_pos h1, valid_cons_ascii h1]
    exact (Bool.and_eq_right_iff_imp.mpr fun _ => decide_eq_true h1).symm
  by_cases h3 : b < 224
  · have hc : Lex.charLen b = 2 := by rw [Lex.charLen, if_neg h1, if_pos h3]
    match r with
    | [] =>
      rw [validUtf8.eq_def, validChar_short (by rw [hc]; exact Nat.lt_succ_self 1)]
      simp only [if_neg h1, if_pos h3, ite_self, Bool.false_and]
    | b1 :: r' => rw [hc]; exact valid_cons2 r' (by omega) h3
  by_cases h4 : b < 240
  · have hc : Lex.charLen b = 3 := by rw [Lex.charLen, if_neg h1, if_neg h3, if_pos h4]
    match r with
    | [] | [_] =>
      rw [validUtf8.eq_def, validChar_short (by rw [hc]; simp)]
      simp only [if_neg h1, if_neg h3, if_pos h4, ite_self, Bool.false_and]
    | b1 :: b2 :: r' => rw [hc]; exact valid_cons3 r' (by omega) h4
  · have hc : Lex.charLen b = 4 := by rw [Lex.charLen, if_neg h1, if_neg h3, if_neg h4]
    match r with
    | [] | [_] | [_, _] =>
      rw [validUtf8.eq_def, validChar_short (by rw [hc]; simp)]
      simp only [if_neg h1, if_neg h3, if_neg h4, ite_self, Bool.false_and]
    | b1 :: b2 :: b3 :: r' => rw [hc]; exact valid_cons4 r' (by omega)

theorem validChar_append {c : Bytes} (h : validChar c = true) (x : Bytes) : validUtf8 (c ++ x) = validUtf8 x := by
  match c, h with
  | a :: tl, h =>
    have hl : Lex.charLen a - 1 = tl.length := by have := (validChar_shape h).2.2; omega
    rw [List.cons_append, valid_cons, hl, List.take_left, List.drop_left, h, Bool.true_and]

theorem valid_first {b : Nat} {r : Bytes} (h : validUtf8 (b :: r) = true) :
    ∃ tl r', r = tl ++ r' ∧ validChar (b :: tl) = true ∧ validUtf8 r' = true := by
  rw [valid_cons, Bool.and_eq_true] at h
  exact ⟨_, _, (List.take_append_drop _ r).symm, h⟩

theorem valid_head_not_cont {b : Nat} {r : Bytes} (h : validUtf8 (b :: r) = true) : isCont b = false := by
  obtain ⟨_, _, -, hc, -⟩ := valid_first h
  exact (validChar_shape hc).1

theorem charLen_pos (b : Nat) : 0 < Lex.charLen b := by
  rw [Lex.charLen]
  -- every arm of `charLen` is a literal, 1 to 4
  repeat' split
  all_goals decide

theorem valid_char {b : Nat} {r : Bytes} (h : validUtf8 (b :: r) = true) :
    Lex.charLen b ≤ (b :: r).length ∧ validUtf8 ((b :: r).take (Lex.charLen b)) = true ∧
      validUtf8 ((b :: r).drop (Lex.charLen b)) = true := by
  obtain ⟨tl, r', rfl, hc, hr⟩ := valid_first h
  rw [← (validChar_shape hc).2.2, List.take_succ_cons, List.drop_succ_cons, List.take_left, List.drop_left]
  refine ⟨by simp, ?_, hr⟩
  rw [← List.append_nil (b :: tl), validChar_append hc]
  exact valid_nil

theorem valid_append_eq {a : Bytes} (ha : validUtf8 a = true) (b : Bytes) : validUtf8 (a ++ b) = validUtf8 b := by
  induction hn : a.length using Nat.strongRecOn generalizing a with
  | ind n ih =>
    cases a with
    | nil => rfl
    | cons x a0 =>
      obtain ⟨tl, r', rfl, hc, hr⟩ := valid_first ha
      rw [← List.cons_append, List.append_assoc, validChar_append hc]
      exact ih r'.length (by rw [← hn]; simp only [List.length_cons, List.length_append]; omega) hr rfl

theorem valid_append (a : Bytes) (ha : validUtf8 a = true) (b : Bytes) (hb : validUtf8 b = true) :
    validUtf8 (a ++ b) = true :=
  (valid_append_eq ha b).trans hb

theorem valid_ascii : ∀ (l : Bytes), (∀ b ∈ l, b < 128) → validUtf8 l = true := by
  intro l
  induction l with
  | nil => intro _; exact valid_nil
  | cons b r ih =>
    intro h
    rw [valid_cons_ascii (h b (by simp))]
    exact ih (fun x hx => h x (by simp [hx]))

theorem valid_flatten : ∀ (ls : List Bytes), (∀ x ∈ ls, validUtf8 x = true) → validUtf8 ls.flatten = true := by
  intro ls
  induction ls with
  | nil => intro _; exact valid_nil
  | cons x r ih =>
    intro h
    rw [List.flatten_cons]
    exact valid_append _ (h x (by simp)) _ (ih (fun y hy => h y (by simp [hy])))

/-- The cut, for a text given as `a ++ r` (so at `takeWhile` / `dropWhile`: `valid_takeWhile_dropWhile`).  For a text
cut at a position, `valid_cut` asks `Bytes.isBoundary` of it and `valid_cut_at`, its step to here, only that the byte
there is no continuation byte. -/
theorem valid_split (l : Bytes) (hl : validUtf8 l = true) (a r : Bytes) (h : l = a ++ r)
    (hr : ∀ b r', r = b :: r' → isCont b = false) : validUtf8 a = true ∧ validUtf8 r = true := by
  subst h
  suffices ha : validUtf8 a = true from ⟨ha, by rwa [valid_append_eq ha] at hl⟩
  induction hn : a.length using Nat.strongRecOn generalizing a with
  | ind n ih =>
    cases a with
    | nil => exact valid_nil
    | cons x a0 =>
      obtain ⟨tl, l', he, hc, hv⟩ := valid_first (r := a0 ++ r) hl
      -- a byte of `r` there would be a continuation byte
      obtain ⟨m, rfl, rfl⟩ : ∃ m, a0 = tl ++ m ∧ l' = m ++ r := by
        rcases List.append_eq_append_iff.mp he with ⟨m, h1, h2⟩ | h
        · cases m with
          | nil => exact ⟨[], by rw [h1]; simp, by simpa using h2.symm⟩
          | cons c m' =>
            have := List.all_eq_true.mp (validChar_shape hc).2.1 c (by rw [h1]; simp)
            rw [hr c _ h2] at this; cases this
        · exact h
      rw [← List.cons_append, validChar_append hc]
      exact ih m.length (by rw [← hn]; simp only [List.length_cons, List.length_append]; omega) m hv rfl

theorem valid_cut_at {s : Bytes} (hv : validUtf8 s = true) {i : Nat} (hi : ∀ b, s[i]? = some b → isCont b = false) :
    validUtf8 (s.take i) = true ∧ validUtf8 (s.drop i) = true :=
  valid_split s hv _ _ (List.take_append_drop i s).symm fun b r' hr =>
    hi b (by rw [← Nat.add_zero i, ← List.getElem?_drop, hr]; rfl)

theorem isBoundary_iff {s : Bytes} {i : Nat} :
    isBoundary s i = true ↔ i = 0 ∨ i = s.length ∨ ∃ b, s[i]? = some b ∧ isCont b = false := by
  rw [isBoundary, Bool.or_eq_true, Bool.or_eq_true, beq_iff_eq, beq_iff_eq, or_assoc]
  refine or_congr_right (or_congr_right ?_)
  cases s[i]? with
  | none => simp
  | some b => simp

theorem isBoundary_le_length {src : Bytes} {p : Nat} (h : isBoundary src p = true) : p ≤ src.length := by
  rcases isBoundary_iff.mp h with rfl | rfl | ⟨b, hb, -⟩
  · exact Nat.zero_le _
  · exact Nat.le_refl _
  · exact Nat.le_of_lt (List.getElem?_eq_some_iff.mp hb).1

theorem isBoundary_of_not_cont {src : Bytes} {p b : Nat} (h : src[p]? = some b) (hb : isCont b = false) :
    isBoundary src p = true :=
  isBoundary_iff.mpr (.inr (.inr ⟨b, h, hb⟩))

theorem valid_cut {src : Bytes} (hv : validUtf8 src = true) {p : Nat} (hp : isBoundary src p = true) :
    validUtf8 (src.take p) = true ∧ validUtf8 (src.drop p) = true := by
  refine valid_cut_at hv fun b hb => ?_
  rcases isBoundary_iff.mp hp with rfl | rfl | ⟨b', hb', hnc⟩
  · cases src with
    | nil => cases hb
    | cons x xs => cases hb; exact valid_head_not_cont hv
  · rw [List.getElem?_eq_none (Nat.le_refl _)] at hb; cases hb
  · rw [hb'] at hb; cases hb; exact hnc

theorem isBoundary_of_valid_drop {s : Bytes} {i : Nat} (hi : i ≤ s.length) (h : validUtf8 (s.drop i) = true) :
    isBoundary s i = true := by
  by_cases hl : i = s.length
  · exact isBoundary_iff.mpr (.inr (.inl hl))
  · have hlt : i < s.length := by omega
    rw [List.drop_eq_getElem_cons hlt] at h
    exact isBoundary_of_not_cont (List.getElem?_eq_getElem hlt) (valid_head_not_cont h)

theorem valid_takeWhile_dropWhile {l : Bytes} (p : Nat → Bool) (h : validUtf8 l = true)
    (hp : ∀ b, p b = false → isCont b = false) :
    validUtf8 (l.takeWhile p) = true ∧ validUtf8 (l.dropWhile p) = true :=
  valid_split l h _ _ (List.takeWhile_append_dropWhile (p := p) (l := l)).symm fun b _ hb =>
    hp b (dropWhile_head_not hb)

theorem valid_dropWhile_ascii {l : Bytes} (p : Nat → Bool) (h : validUtf8 l = true)
    (hp : ∀ b, p b = true → b < 128) : validUtf8 (l.dropWhile p) = true := by
  induction l with
  | nil => simpa using h
  | cons b r ih =>
    simp only [List.dropWhile_cons]
    split
    next hb => exact ih (valid_tail_ascii h (hp b hb))
    next => exact h

end NaijaVerif.Utf8
