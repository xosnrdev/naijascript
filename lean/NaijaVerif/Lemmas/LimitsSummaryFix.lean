/-
For `Props/C18.lean`: the event accounting of the summary fixpoint (`Model/Limits.lean`, namespace `Summary`).  Every
event (`note_event`) is paid for by growth: an element pushed onto a duplicate-free list of ids below a known bound
(`push_unique_bounded`, `extend_unique`), or a strict increase of a class level that cannot pass 2.  `room nf nl s` is what
the summary `s` can still grow by.  Every event is paid out of the room of the summary being written (`Pays`), so a budget that
covers the total room of the state never runs out (the failure branch of every `*_spec`: `Fail.budget` implies
`b < room`), and a sweep that changes something shrinks the total room, which bounds the number of sweeps.  The class
level needs an invariant of the whole state (`StOK.inv`): the code charges an event whenever the recomputed class
*differs* from the stored one, so the recomputed class must never be smaller.
-/
import NaijaVerif.Lemmas.ListFacts
import NaijaVerif.Lemmas.Limits

namespace NaijaVerif.Limits.Summary

/-- Budget `b → b'`, room `r → r'`: every event is paid out of the room, and a step that reports a change
has cost at least one event. -/
structure Pays (b r b' r' : Nat) (ch : Bool) : Prop where
  paid : b + r' ≤ b' + r
  lt : ch = true → b' < b
  le : b' ≤ b

namespace Pays
variable {b b₁ b₂ b₃ r r₁ r₂ A A' B B' C C' : Nat} {c c₁ c₂ c₃ : Bool}

theorem refl (b r : Nat) : Pays b r b r false := ⟨Nat.le_refl _, (nomatch ·), Nat.le_refl _⟩

theorem trans (h₁ : Pays b r b₁ r₁ c₁) (h₂ : Pays b₁ r₁ b₂ r₂ c₂) : Pays b r b₂ r₂ (c₁ || c₂) := by
  refine ⟨by have := h₁.paid; have := h₂.paid; omega, fun h => ?_, Nat.le_trans h₂.le h₁.le⟩
  rcases Bool.or_eq_true _ _ ▸ h with h | h
  · exact Nat.lt_of_le_of_lt h₂.le (h₁.lt h)
  · exact Nat.lt_of_lt_of_le (h₂.lt h) h₁.le

theorem weaken {c' : Bool} (h : Pays b r b₁ r₁ c) (hc : c' = true → c = true) :
    Pays b r b₁ r₁ c' :=
  ⟨h.paid, fun h' => h.lt (hc h'), h.le⟩

theorem short (h : Pays b r b₁ r₁ c) (h₁ : b₁ < r₁) : b < r := by
  have := h.paid; omega

/-- `R' + r = R + r'`: the rest of the room is untouched. -/
theorem lift {R R' r' : Nat} (h : Pays b r b₁ r' c) (heq : R' + r = R + r') : Pays b R b₁ R' c :=
  ⟨by have := h.paid; omega, h.lt, h.le⟩

theorem add3 (K : Nat) (h₁ : Pays b A b₁ A' c₁) (h₂ : Pays b₁ B b₂ B' c₂) (h₃ : Pays b₂ C b₃ C' c₃) :
    Pays b (A + B + C + K) b₃ (A' + B' + C' + K) (c₁ || c₂ || c₃) :=
  ((h₁.lift (R := A + B + C + K) (R' := A' + B + C + K) (by omega)).trans
    (h₂.lift (R' := A' + B' + C + K) (by omega))).trans (h₃.lift (by omega))

end Pays

/-! The room of a duplicate-free list of ids below `n` is `n - length`: a push pays one event for one element. -/

theorem pushUnique_spec {dst : List Nat} {x n : Nat} (b : Nat) (hn : dst.Nodup)
    (hd : ∀ y ∈ dst, y < n) (hx : x < n) :
    match pushUnique dst x b with
    | .ok (d, ch, b') =>
      d.Nodup ∧ (∀ y ∈ d, y < n) ∧ Pays b (n - dst.length) b' (n - d.length) ch
    | .error e => e = .budget ∧ b < n - dst.length := by
  unfold pushUnique
  by_cases hmem : x ∈ dst
  · simp only [hmem, if_true]
    exact ⟨hn, hd, Pays.refl _ _⟩
  · have hn' : (dst ++ [x]).Nodup :=
      List.nodup_append.mpr ⟨hn, List.nodup_cons.mpr ⟨List.not_mem_nil, List.nodup_nil⟩, by
        intro a ha c hc e
        subst e
        exact hmem (List.mem_singleton.mp hc ▸ ha)⟩
    have hd' : ∀ y ∈ dst ++ [x], y < n := fun y hy =>
      (List.mem_append.mp hy).elim (hd y) fun h => List.mem_singleton.mp h ▸ hx
    have hlen := length_le_of_nodup_lt hn' hd'
    rw [List.length_append, List.length_singleton] at hlen
    simp only [hmem, if_false]
    cases b with
    | zero => exact ⟨rfl, by omega⟩
    | succ b =>
      refine ⟨hn', hd', by rw [List.length_append, List.length_singleton]; omega, fun _ => ?_, ?_⟩ <;>
        omega

theorem extendUnique_spec {src dst : List Nat} {n : Nat} (b : Nat) (hn : dst.Nodup)
    (hd : ∀ y ∈ dst, y < n) (hs : ∀ y ∈ src, y < n) :
    match extendUnique dst src b with
    | .ok (d, ch, b') =>
      d.Nodup ∧ (∀ y ∈ d, y < n) ∧ Pays b (n - dst.length) b' (n - d.length) ch
    | .error e => e = .budget ∧ b < n - dst.length := by
  induction src generalizing dst b with
  | nil => exact ⟨hn, hd, Pays.refl _ _⟩
  | cons x xs ih =>
    have h₁ := pushUnique_spec b hn hd (hs x List.mem_cons_self)
    unfold extendUnique
    cases hp : pushUnique dst x b with
    | error e => simp only [hp] at h₁; exact h₁
    | ok r₁ =>
      obtain ⟨d₁, c₁, b₁⟩ := r₁
      simp only [hp] at h₁ ⊢
      obtain ⟨hn₁, hd₁, p₁⟩ := h₁
      have h₂ := ih b₁ hn₁ hd₁ fun y hy => hs y (List.mem_cons_of_mem _ hy)
      cases he : extendUnique d₁ xs b₁ with
      | error e => simp only [he] at h₂; exact ⟨h₂.1, p₁.short h₂.2⟩
      | ok r₂ =>
        obtain ⟨d₂, c₂, b₂⟩ := r₂
        simp only [he] at h₂
        exact ⟨h₂.1, h₂.2.1, p₁.trans h₂.2.2⟩

/-- A summary that `room` measures honestly. The body's class is bounded as well (`b2`): the recomputed class is
`joinOf` started at `s.body`, and `joinOf_le_two` keeps it within 2 only from a start within 2. -/
structure SummOK (nf nl : Nat) (s : Summ) : Prop where
  cn : s.callees.Nodup
  cb : ∀ x ∈ s.callees, x < nf
  rn : s.reads.Nodup
  rb : ∀ x ∈ s.reads, x < nl
  wn : s.writes.Nodup
  wb : ∀ x ∈ s.writes, x < nl
  c2 : s.cls ≤ 2
  b2 : s.body ≤ 2

def room (nf nl : Nat) (s : Summ) : Nat :=
  (nf - s.callees.length) + (nl - s.reads.length) + (nl - s.writes.length) + (2 - s.cls)

theorem room_le (nf nl : Nat) (s : Summ) : room nf nl s ≤ nf + 2 * nl + 2 := by
  have h₁ := Nat.sub_le nf s.callees.length
  have h₂ := Nat.sub_le nl s.reads.length
  have h₃ := Nat.sub_le nl s.writes.length
  have h₄ := Nat.sub_le 2 s.cls
  unfold room
  generalize nf - s.callees.length = A at *
  generalize nl - s.reads.length = B at *
  generalize nl - s.writes.length = C at *
  generalize 2 - s.cls = K at *
  omega

theorem absorb_spec {nf nl : Nat} {self callee : Summ} (b : Nat) (hs : SummOK nf nl self)
    (hc : SummOK nf nl callee) :
    match absorb self callee b with
    | .ok (s', ch, b') =>
      SummOK nf nl s' ∧ s'.cls = self.cls ∧ s'.body = self.body ∧
        s'.available = self.available ∧ Pays b (room nf nl self) b' (room nf nl s') ch
    | .error e =>
      (e = .unavailable ∧ callee.available = false) ∨ (e = .budget ∧ b < room nf nl self) := by
  have h₁ := extendUnique_spec b hs.cn hs.cb hc.cb
  fun_cases absorb self callee b
  case case1 hav => exact Or.inl ⟨rfl, by simpa using hav⟩
  case case2 hav e e₁ =>
    rw [e₁] at h₁
    exact Or.inr ⟨h₁.1, Nat.lt_of_lt_of_le h₁.2 (by unfold room; omega)⟩
  case case3 hav cs c₁ b₁ e₁ e e₂ =>
    rw [e₁] at h₁
    have h₂ := extendUnique_spec b₁ hs.rn hs.rb hc.rb
    rw [e₂] at h₂
    exact Or.inr ⟨h₂.1, by have := h₁.2.2.paid; have := h₂.2; unfold room; omega⟩
  case case4 hav cs c₁ b₁ e₁ rs c₂ b₂ e₂ e e₃ =>
    rw [e₁] at h₁
    have h₂ := extendUnique_spec b₁ hs.rn hs.rb hc.rb
    rw [e₂] at h₂
    have h₃ := extendUnique_spec b₂ hs.wn hs.wb hc.wb
    rw [e₃] at h₃
    exact Or.inr ⟨h₃.1, by have := h₁.2.2.paid; have := h₂.2.2.paid; have := h₃.2; unfold room; omega⟩
  case case5 hav cs c₁ b₁ e₁ rs c₂ b₂ e₂ ws c₃ b₃ e₃ =>
    rw [e₁] at h₁
    have h₂ := extendUnique_spec b₁ hs.rn hs.rb hc.rb
    rw [e₂] at h₂
    have h₃ := extendUnique_spec b₂ hs.wn hs.wb hc.wb
    rw [e₃] at h₃
    exact ⟨⟨h₁.1, h₁.2.1, h₂.1, h₂.2.1, h₃.1, h₃.2.1, hs.c2, hs.b2⟩, rfl, rfl, rfl,
      Pays.add3 _ h₁.2.2 h₂.2.2 h₃.2.2⟩

/-- The class the callee loop computes from `tc`: joined with the stored class of every direct
callee other than `f` itself. -/
def joinOf (st : List Summ) (f : Nat) : List Nat → Nat → Nat
  | [], tc => tc
  | c :: cs, tc =>
    if c = f then joinOf st f cs tc
    else
      match st[c]? with
      | none => tc
      | some s => joinOf st f cs (max tc s.cls)

theorem calleeLoop_spec {nf nl : Nat} {st : List Summ} {f : Nat} (hst : ∀ s ∈ st, SummOK nf nl s)
    (direct : List Nat) (self : Summ) (tc b : Nat) (hs : SummOK nf nl self) :
    match calleeLoop st f direct self tc b with
    | .ok (s', tc', ch, b') =>
      SummOK nf nl s' ∧ s'.cls = self.cls ∧ s'.body = self.body ∧
        s'.available = self.available ∧ Pays b (room nf nl self) b' (room nf nl s') ch ∧
        tc' = joinOf st f direct tc
    | .error e =>
      (∀ s ∈ st, s.available = true) → (∀ c ∈ direct, c < st.length) →
        e = .budget ∧ b < room nf nl self := by
  fun_induction calleeLoop st f direct self tc b with
  | case1 self tc b => exact ⟨hs, rfl, rfl, rfl, Pays.refl _ _, rfl⟩
  | case2 cs self tc b ih =>
    rw [joinOf, if_pos rfl]
    have h := ih hs
    revert h
    cases calleeLoop st f cs self tc b with
    | error e => exact fun h hav hrg => h hav fun c' hc' => hrg c' (List.mem_cons_of_mem _ hc')
    | ok r => exact id
  | case3 c cs self tc b hcf hl =>
    exact fun _ hrg => absurd hl (by
      rw [List.getElem?_eq_getElem (hrg c List.mem_cons_self)]; exact Option.some_ne_none _)
  | case4 c cs self tc b hcf callee hl e ea =>
    have hmem := List.mem_of_getElem? hl
    have ha := absorb_spec b hs (hst callee hmem)
    rw [ea] at ha
    intro hav _
    rcases ha with ⟨_, hu⟩ | hb
    · rw [hav callee hmem] at hu; cases hu
    · exact hb
  | case5 c cs self tc b hcf callee hl s₁ c₁ b₁ ea e hr ih =>
    have ha := absorb_spec b hs (hst callee (List.mem_of_getElem? hl))
    rw [ea] at ha
    have h := ih ha.1
    rw [hr] at h
    intro hav hrg
    obtain ⟨he, hlt⟩ := h hav fun c' hc' => hrg c' (List.mem_cons_of_mem _ hc')
    exact ⟨he, ha.2.2.2.2.short hlt⟩
  | case6 c cs self tc b hcf callee hl s₁ c₁ b₁ ea s₂ tc₂ c₂ b₂ hr ih =>
    have ha := absorb_spec b hs (hst callee (List.mem_of_getElem? hl))
    rw [ea] at ha
    obtain ⟨o₁, o₂, o₃, o₄, p₁⟩ := ha
    have h := ih o₁
    rw [hr] at h
    obtain ⟨q₁, q₂, q₃, q₄, p₂, q₅⟩ := h
    rw [joinOf, if_neg hcf, hl]
    exact ⟨q₁, q₂.trans o₂, q₃.trans o₃, q₄.trans o₄, p₁.trans p₂, q₅⟩

theorem joinOf_ge (st : List Summ) (f : Nat) : ∀ (direct : List Nat) (tc : Nat),
    tc ≤ joinOf st f direct tc := by
  intro direct tc
  fun_induction joinOf st f direct tc with
  | case1 tc => exact Nat.le_refl _
  | case2 cs tc ih => exact ih
  | case3 c cs tc _ _ => exact Nat.le_refl _
  | case4 c cs tc _ s _ ih => exact Nat.le_trans (Nat.le_max_left _ _) ih

theorem joinOf_le_two {st : List Summ} (f : Nat) (hst : ∀ s ∈ st, s.cls ≤ 2) :
    ∀ (direct : List Nat) (tc : Nat), tc ≤ 2 → joinOf st f direct tc ≤ 2 := by
  intro direct tc
  fun_induction joinOf st f direct tc with
  | case1 tc => exact id
  | case2 cs tc ih => exact ih
  | case3 c cs tc _ _ => exact id
  | case4 c cs tc _ s hl ih =>
    exact fun h => ih (Nat.max_le.mpr ⟨h, hst s (List.mem_of_getElem? hl)⟩)

/-- The order in which `StOK.inv` is monotone (`joinOf_mono`): writing a summary whose class did not go down
keeps the invariant of every other function (`ClsLe_set`, `StOK_set`). -/
def ClsLe (st st' : List Summ) : Prop :=
  st.length = st'.length ∧ ∀ (i : Nat) (s s' : Summ), st[i]? = some s → st'[i]? = some s' → s.cls ≤ s'.cls

theorem ClsLe.refl (st : List Summ) : ClsLe st st :=
  ⟨rfl, fun i s s' h h' => by rw [h] at h'; cases h'; exact Nat.le_refl _⟩

theorem ClsLe.trans {a b c : List Summ} (h1 : ClsLe a b) (h2 : ClsLe b c) : ClsLe a c := by
  refine ⟨h1.1.trans h2.1, fun i s s'' ha hc => ?_⟩
  have hi : i < b.length := by
    have := (List.getElem?_eq_some_iff.mp ha).1
    rw [← h1.1]; exact this
  exact Nat.le_trans (h1.2 i s b[i] ha (List.getElem?_eq_getElem hi))
    (h2.2 i b[i] s'' (List.getElem?_eq_getElem hi) hc)

theorem joinOf_mono {st st' : List Summ} (f : Nat) (hle : ClsLe st st') :
    ∀ (direct : List Nat) (tc tc' : Nat), tc ≤ tc' →
      joinOf st f direct tc ≤ joinOf st' f direct tc' := by
  intro direct tc
  fun_induction joinOf st f direct tc with
  | case1 tc => exact fun _ h => h
  | case2 cs tc ih =>
    intro tc' h
    rw [joinOf, if_pos rfl]
    exact ih tc' h
  | case3 c cs tc hcf hl =>
    intro tc' h
    rw [joinOf, if_neg hcf, List.getElem?_eq_none (hle.1 ▸ List.getElem?_eq_none_iff.mp hl)]
    exact h
  | case4 c cs tc hcf s hl ih =>
    intro tc' h
    have hc' : c < st'.length := hle.1 ▸ (List.getElem?_eq_some_iff.mp hl).1
    rw [joinOf, if_neg hcf, List.getElem?_eq_getElem hc']
    exact ih _ (Nat.max_le.mpr ⟨Nat.le_trans h (Nat.le_max_left _ _),
      Nat.le_trans (hle.2 c s _ hl (List.getElem?_eq_getElem hc')) (Nat.le_max_right _ _)⟩)

theorem room_pos {nf nl : Nat} {s : Summ} (h : s.cls < 2) : 0 < room nf nl s :=
  Nat.lt_of_lt_of_le (Nat.sub_pos_of_lt h) (Nat.le_add_left _ _)

theorem pays_cls {nf nl : Nat} {s : Summ} {tc : Nat} (b : Nat) (h : s.cls < tc) (h2 : tc ≤ 2) :
    Pays (b + 1) (room nf nl s) b (room nf nl { s with cls := tc }) true := by
  refine ⟨?_, fun _ => Nat.lt_succ_self b, Nat.le_succ b⟩
  simp only [room]
  omega

/-- The class is charged for only when it differs from the stored one; the invariant `hinv` (the
stored class is never above the recomputed one) makes every such event a strict increase. -/
theorem summFn_spec {nf nl : Nat} {st : List Summ} {f : Nat} {direct : List Nat} {self : Summ}
    (b : Nat) (hst : ∀ s ∈ st, SummOK nf nl s) (hs : SummOK nf nl self)
    (hinv : self.cls ≤ joinOf st f direct self.body) :
    match summFn st f direct self b with
    | .ok (s', ch, b') =>
      SummOK nf nl s' ∧ s'.body = self.body ∧ s'.available = self.available ∧
        s'.cls = joinOf st f direct self.body ∧ self.cls ≤ s'.cls ∧
        Pays b (room nf nl self) b' (room nf nl s') ch
    | .error e =>
      (∀ s ∈ st, s.available = true) → (∀ c ∈ direct, c < st.length) →
        e = .budget ∧ b < room nf nl self := by
  unfold summFn
  have h := calleeLoop_spec (f := f) hst direct self self.body b hs
  cases hl : calleeLoop st f direct self self.body b with
  | error e => simp only [hl] at h ⊢; exact h
  | ok r =>
    obtain ⟨s₁, tc, c₁, b₁⟩ := r
    simp only [hl] at h ⊢
    obtain ⟨p₁, p₂, p₃, p₄, pay, rfl⟩ := h
    by_cases heq : s₁.cls = joinOf st f direct self.body
    · rw [if_pos heq]
      exact ⟨p₁, p₃, p₄, heq, Nat.le_of_eq p₂.symm, pay⟩
    · rw [if_neg heq]
      have hlt : s₁.cls < joinOf st f direct self.body :=
        Nat.lt_of_le_of_ne (p₂ ▸ hinv) heq
      have h2 := joinOf_le_two f (fun s hs' => (hst s hs').c2) direct _ hs.b2
      cases b₁ with
      | zero => exact fun _ _ => ⟨rfl, pay.short (room_pos (Nat.lt_of_lt_of_le hlt h2))⟩
      | succ b₂ =>
        exact ⟨⟨p₁.cn, p₁.cb, p₁.rn, p₁.rb, p₁.wn, p₁.wb, h2, p₁.b2⟩, p₃, p₄, rfl,
          p₂ ▸ Nat.le_of_lt hlt, Bool.or_true c₁ ▸ pay.trans (pays_cls b₂ hlt h2)⟩

def roomAll (nf nl : Nat) (st : List Summ) : Nat := (st.map (room nf nl)).sum

theorem roomAll_cons (nf nl : Nat) (x : Summ) (xs : List Summ) :
    roomAll nf nl (x :: xs) = room nf nl x + roomAll nf nl xs := rfl

theorem roomAll_split {nf nl : Nat} : ∀ {st : List Summ} {f : Nat} {self : Summ}, st[f]? = some self →
    ∃ R, roomAll nf nl st = R + room nf nl self ∧
      ∀ s', roomAll nf nl (st.set f s') = R + room nf nl s'
  | [], _, _, h => nomatch h
  | x :: xs, 0, _, h =>
    ⟨roomAll nf nl xs, by cases h; exact Nat.add_comm _ _, fun _ => Nat.add_comm _ _⟩
  | x :: xs, f + 1, _, h => by
    obtain ⟨R, hR, hset⟩ := roomAll_split (st := xs) (f := f) h
    refine ⟨room nf nl x + R, ?_, fun s' => ?_⟩
    · rw [roomAll_cons, hR, Nat.add_assoc]
    · rw [List.set_cons_succ, roomAll_cons, hset, Nat.add_assoc]

theorem roomAll_le (nf nl : Nat) (st : List Summ) : roomAll nf nl st ≤ st.length * (nf + 2 * nl + 2) := by
  induction st with
  | nil => simp [roomAll]
  | cons x xs ih =>
    have := room_le nf nl x
    simp only [roomAll, List.map_cons, List.sum_cons, List.length_cons] at ih ⊢
    rw [Nat.add_mul]
    omega

/-- The direct-call graph of `nf` functions. -/

structure GraphOK (nf : Nat) (g : List (List Nat)) : Prop where
  len : g.length = nf
  rng : ∀ d ∈ g, ∀ c ∈ d, c < nf

/-- A state of the fixpoint over the graph `g`: one `SummOK` summary per function, and `inv` (see the head). -/
structure StOK (nf nl : Nat) (g : List (List Nat)) (st : List Summ) : Prop where
  len : st.length = nf
  ok : ∀ s ∈ st, SummOK nf nl s
  /-- a stored class never exceeds what the next visit of the function recomputes -/
  inv : ∀ i s direct, st[i]? = some s → g[i]? = some direct → s.cls ≤ joinOf st i direct s.body

theorem ClsLe_set {st : List Summ} {f : Nat} {self s' : Summ} (hf : st[f]? = some self)
    (hle : self.cls ≤ s'.cls) : ClsLe st (st.set f s') := by
  refine ⟨by simp, fun i s t hs ht => ?_⟩
  by_cases hif : f = i
  · subst hif
    have hlt := (List.getElem?_eq_some_iff.mp hf).1
    rw [List.getElem?_set_self hlt] at ht
    rw [hf] at hs
    cases hs; cases ht
    exact hle
  · rw [List.getElem?_set_ne hif, hs] at ht
    cases ht
    exact Nat.le_refl _

theorem StOK_set {nf nl : Nat} {g : List (List Nat)} {st : List Summ} {f : Nat} {direct : List Nat}
    {self s' : Summ} (hok : StOK nf nl g st) (hf : st[f]? = some self) (hd : g[f]? = some direct)
    (hs' : SummOK nf nl s') (hbody : s'.body = self.body)
    (hcls : s'.cls = joinOf st f direct self.body) (hle : self.cls ≤ s'.cls) :
    StOK nf nl g (st.set f s') := by
  have hmono := ClsLe_set hf hle
  refine ⟨by simpa using hok.len, fun s hs => ?_, fun i s d hi hg => ?_⟩
  · rcases List.mem_or_eq_of_mem_set hs with h | rfl
    · exact hok.ok s h
    · exact hs'
  · by_cases hif : f = i
    · subst hif
      have hlt := (List.getElem?_eq_some_iff.mp hf).1
      rw [List.getElem?_set_self hlt] at hi
      cases hi
      rw [hd] at hg
      cases hg
      rw [hcls, hbody]
      exact joinOf_mono f hmono direct _ _ (Nat.le_refl _)
    · rw [List.getElem?_set_ne hif] at hi
      exact Nat.le_trans (hok.inv i s d hi hg) (joinOf_mono i hmono d _ _ (Nat.le_refl _))

/-- `sweep` folds the incoming flag `changed` into the flag it returns, but only a change made in this sweep
has cost an event: hence `ch' && !changed`. -/
theorem sweep_spec {nf nl : Nat} {g : List (List Nat)} (comp : List Nat) (st : List Summ)
    (changed : Bool) (b : Nat) (hok : StOK nf nl g st) :
    match sweep g comp st changed b with
    | .ok (st', ch', b') =>
      StOK nf nl g st' ∧ ((∀ s ∈ st, s.available = true) → ∀ s ∈ st', s.available = true) ∧
        Pays b (roomAll nf nl st) b' (roomAll nf nl st') (ch' && !changed)
    | .error e =>
      GraphOK nf g → (∀ s ∈ st, s.available = true) →
        (e = .index ∧ ∃ i ∈ comp, nf ≤ i) ∨ (e = .budget ∧ b < roomAll nf nl st) := by
  induction comp generalizing st changed b with
  | nil => exact ⟨hok, id, (Pays.refl _ _).weaken (by cases changed <;> decide)⟩
  | cons f rest ih =>
    unfold sweep
    cases hsf : st[f]? with
    | none =>
      exact fun _ _ => Or.inl ⟨rfl, f, List.mem_cons_self,
        hok.len ▸ List.getElem?_eq_none_iff.mp hsf⟩
    | some self =>
    cases hgf : g[f]? with
    | none =>
      exact fun hg _ => Or.inl ⟨rfl, f, List.mem_cons_self,
        hg.len ▸ List.getElem?_eq_none_iff.mp hgf⟩
    | some direct =>
      have hmem := List.mem_of_getElem? hsf
      obtain ⟨R, hR, hset⟩ := roomAll_split (nf := nf) (nl := nl) hsf
      have hfn := summFn_spec b hok.ok (hok.ok self hmem) (hok.inv f self direct hsf hgf)
      cases efn : summFn st f direct self b with
      | error e =>
        simp only [efn] at hfn ⊢
        intro hg hav
        obtain ⟨he, hlt⟩ := hfn hav fun c hc =>
          hok.len ▸ hg.rng direct (List.mem_of_getElem? hgf) c hc
        exact Or.inr ⟨he, Nat.lt_of_lt_of_le hlt (hR ▸ Nat.le_add_left _ R)⟩
      | ok r =>
        obtain ⟨s₁, c₁, b₁⟩ := r
        simp only [efn] at hfn ⊢
        obtain ⟨q₁, q₂, q₃, q₄, q₅, pay⟩ := hfn
        have pay' := pay.lift (R := roomAll nf nl st) (R' := roomAll nf nl (st.set f s₁))
          (by rw [hset, hR, Nat.add_right_comm])
        have hav₁ : (∀ s ∈ st, s.available = true) → ∀ s ∈ st.set f s₁, s.available = true :=
          fun hav s hs => (List.mem_or_eq_of_mem_set hs).elim (hav s) fun e =>
            e ▸ q₃ ▸ hav self hmem
        have h := ih (st.set f s₁) (changed || c₁) b₁ (StOK_set hok hsf hgf q₁ q₂ q₄ q₅)
        cases er : sweep g rest (st.set f s₁) (changed || c₁) b₁ with
        | error e =>
          simp only [er] at h ⊢
          intro hg hav
          rcases h hg (hav₁ hav) with ⟨he, i, hi, hle⟩ | ⟨he, hlt⟩
          · exact Or.inl ⟨he, i, List.mem_cons_of_mem _ hi, hle⟩
          · exact Or.inr ⟨he, pay'.short hlt⟩
        | ok r' =>
          obtain ⟨st', ch', b'⟩ := r'
          simp only [er] at h ⊢
          exact ⟨h.1, fun hav => h.2.1 (hav₁ hav), (pay'.trans h.2.2).weaken (by
            cases ch' <;> cases changed <;> cases c₁ <;> decide)⟩

/-- Every sweep that changes something pays at least one event out of the room of the state, so with
more fuel than the room the loop ends by itself (the flag is `true`), never by the fuel. -/
theorem summarizeComponent_spec {nf nl : Nat} {g : List (List Nat)} {comp : List Nat} (fuel : Nat)
    (st : List Summ) (b : Nat) (hok : StOK nf nl g st) :
    match summarizeComponent g comp fuel st b with
    | .ok (st', b', fl) =>
      StOK nf nl g st' ∧ ((∀ s ∈ st, s.available = true) → ∀ s ∈ st', s.available = true) ∧
        Pays b (roomAll nf nl st) b' (roomAll nf nl st') false ∧
        (roomAll nf nl st < fuel → fl = true)
    | .error e =>
      GraphOK nf g → (∀ s ∈ st, s.available = true) →
        (e = .index ∧ ∃ i ∈ comp, nf ≤ i) ∨ (e = .budget ∧ b < roomAll nf nl st) := by
  have hsw := sweep_spec comp st false b hok
  fun_induction summarizeComponent g comp fuel st b with
  | case1 st b => exact ⟨hok, id, Pays.refl _ _, fun h => absurd h (Nat.not_lt_zero _)⟩
  | case2 fuel st b e esw => rw [esw] at hsw; exact hsw
  | case3 fuel st b st₁ b₁ esw ih =>
    rw [esw] at hsw
    obtain ⟨r₁, r₂, pay⟩ := hsw
    have h := ih r₁ (sweep_spec comp st₁ false b₁ r₁)
    revert h
    cases summarizeComponent g comp fuel st₁ b₁ with
    | error e => exact fun h hg hav => (h hg (r₂ hav)).imp id fun ⟨he, hlt⟩ => ⟨he, pay.short hlt⟩
    | ok r' =>
      obtain ⟨st', b', fl⟩ := r'
      intro h
      refine ⟨h.1, fun hav => h.2.1 (r₂ hav), (pay.trans h.2.2.1).weaken (nomatch ·), fun hf => ?_⟩
      exact h.2.2.2 (by have := pay.paid; have := pay.lt rfl; omega)
  | case4 fuel st b st₁ ch b₁ esw hch =>
    rw [esw] at hsw
    cases ch with
    | true => exact absurd rfl hch
    | false => exact ⟨hsw.1, hsw.2.1, hsw.2.2, fun _ => rfl⟩

theorem summarizeComponent_fuel {nf nl : Nat} {g : List (List Nat)} {comp : List Nat} :
    ∀ (fuel₁ fuel₂ : Nat) (st : List Summ) (b : Nat), StOK nf nl g st →
      roomAll nf nl st < fuel₁ → roomAll nf nl st < fuel₂ →
      summarizeComponent g comp fuel₁ st b = summarizeComponent g comp fuel₂ st b
  | 0, _, _, _, _, h, _ | _, 0, _, _, _, _, h => absurd h (Nat.not_lt_zero _)
  | fuel₁ + 1, fuel₂ + 1, st, b, hok, h₁, h₂ => by
    unfold summarizeComponent
    have hsw := sweep_spec comp st false b hok
    cases esw : sweep g comp st false b with
    | error e => rfl
    | ok r =>
      obtain ⟨st₁, ch, b₁⟩ := r
      simp only [esw] at hsw ⊢
      cases ch with
      | false => rfl
      | true =>
        have := hsw.2.2.paid
        have := hsw.2.2.lt rfl
        exact summarizeComponent_fuel fuel₁ fuel₂ st₁ b₁ hsw.1 (by omega) (by omega)

/-- The only failure left is the index panic of a component that names something that is not a function. -/
theorem firstFailure_sufficient {nf nl : Nat} {g : List (List Nat)} (hg : GraphOK nf g) (fuel : Nat)
    (comps : List (List Nat)) (st : List Summ) (b : Nat) : StOK nf nl g st →
      (∀ s ∈ st, s.available = true) → roomAll nf nl st ≤ b →
      firstFailure g fuel comps st b = none ∨
        (firstFailure g fuel comps st b = some .index ∧ ∃ comp ∈ comps, ∃ i ∈ comp, nf ≤ i) := by
  fun_induction firstFailure g fuel comps st b with
  | case1 => exact fun _ _ _ => Or.inl rfl
  | case2 comp rest st b st' b' fl hsc ih =>
    intro hok hav hb
    have h := summarizeComponent_spec (comp := comp) fuel st b hok
    rw [hsc] at h
    have := h.2.2.1.paid
    exact (ih h.1 (h.2.1 hav) (by omega)).imp id
      fun ⟨hf, c, hc, hi⟩ => ⟨hf, c, List.mem_cons_of_mem _ hc, hi⟩
  | case3 comp rest st b e hsc =>
    intro hok hav hb
    have h := summarizeComponent_spec (comp := comp) fuel st b hok
    rw [hsc] at h
    rcases h hg hav with ⟨rfl, i, hi, hle⟩ | ⟨_, hlt⟩
    · exact Or.inr ⟨rfl, comp, List.mem_cons_self, i, hi, hle⟩
    · exact absurd hlt (Nat.not_lt.mpr hb)

theorem runGlobal_of_noFailure {nf nl : Nat} {g : List (List Nat)} (fuel : Nat) (comps : List (List Nat))
    (st : List Summ) (b : Nat) : StOK nf nl g st →
      (∀ s ∈ st, s.available = true) → firstFailure g fuel comps st b = none →
      ∃ st', runGlobal g fuel comps st b = .ok st' ∧ StOK nf nl g st' ∧
        ∀ s ∈ st', s.available = true := by
  fun_induction firstFailure g fuel comps st b with
  | case1 st b => exact fun hok hav _ => ⟨st, rfl, hok, hav⟩
  | case2 comp rest st b st' b' fl hsc ih =>
    intro hok hav hff
    have h := summarizeComponent_spec (comp := comp) fuel st b hok
    rw [hsc] at h
    rw [runGlobal, hsc]
    exact ih h.1 (h.2.1 hav) hff
  | case3 comp rest st b e hsc => exact fun _ _ h => nomatch h

theorem runGlobal_fuel {nf nl : Nat} {g : List (List Nat)} {fuel₁ fuel₂ : Nat} (comps : List (List Nat))
    (st : List Summ) (b : Nat) : StOK nf nl g st →
      roomAll nf nl st < fuel₁ → roomAll nf nl st < fuel₂ →
      runGlobal g fuel₁ comps st b = runGlobal g fuel₂ comps st b := by
  fun_induction runGlobal g fuel₂ comps st b with
  | case1 => exact fun _ _ _ => rfl
  | case2 comp rest st b st₁ b₁ fl hsc ih =>
    intro hok h₁ h₂
    have h := summarizeComponent_spec (comp := comp) fuel₂ st b hok
    rw [hsc] at h
    have := h.2.2.1.paid
    have := h.2.2.1.le
    rw [runGlobal, summarizeComponent_fuel fuel₁ fuel₂ st b hok h₁ h₂, hsc]
    exact ih h.1 (by omega) (by omega)
  | case3 comp rest st b hsc =>
    intro hok h₁ h₂
    rw [runGlobal, summarizeComponent_fuel fuel₁ fuel₂ st b hok h₁ h₂, hsc]
  | case4 comp rest st b e he hsc =>
    intro hok h₁ h₂
    rw [runGlobal, summarizeComponent_fuel fuel₁ fuel₂ st b hok h₁ h₂, hsc]
    cases e with
    | budget => rfl
    | unavailable => rfl
    | index => exact (he rfl).elim

theorem runGlobal_of_index {g : List (List Nat)} (fuel : Nat) (comps : List (List Nat)) (st : List Summ)
    (b : Nat) : firstFailure g fuel comps st b = some .index → runGlobal g fuel comps st b = .error .index := by
  fun_induction firstFailure g fuel comps st b with
  | case1 => exact nofun
  | case2 comp rest st b st' b' fl hsc ih => rw [runGlobal, hsc]; exact ih
  | case3 comp rest st b e hsc => intro h; cases h; rw [runGlobal, hsc]

/-- What the resolver guarantees of the direct facts (`record_direct_callee`,
`record_capture_read`, `record_capture_write` push only what is not yet there; ids index
`functions` / `locals`; a statement class is one of the three levels). -/
structure DirectsOK (nl : Nat) (ds : List Direct) : Prop where
  cn : ∀ d ∈ ds, d.callees.Nodup
  cb : ∀ d ∈ ds, ∀ x ∈ d.callees, x < ds.length
  rn : ∀ d ∈ ds, d.reads.Nodup
  rb : ∀ d ∈ ds, ∀ x ∈ d.reads, x < nl
  wn : ∀ d ∈ ds, d.writes.Nodup
  wb : ∀ d ∈ ds, ∀ x ∈ d.writes, x < nl
  sb : ∀ d ∈ ds, ∀ c ∈ d.stmts, c ≤ 2

theorem bodyClass_le_two (d : Direct) (h : ∀ c ∈ d.stmts, c ≤ 2) : bodyClass d ≤ 2 := by
  unfold bodyClass
  by_cases hw : d.writes.isEmpty
  · rw [if_pos hw]
    rcases foldl_max_mem d.stmts 0 with e | e
    · rw [e]; exact Nat.zero_le 2
    · exact h _ e
  · rw [if_neg hw]; exact Nat.le_refl 2

theorem initial_ok {nl : Nat} {ds : List Direct} (h : DirectsOK nl ds) (g : List (List Nat)) :
    StOK ds.length nl g (initial ds) := by
  refine ⟨by simp [initial], fun s hs => ?_, fun i s d hi _ => ?_⟩
  · simp only [initial, List.mem_map] at hs
    obtain ⟨d, hd, rfl⟩ := hs
    exact ⟨h.cn d hd, h.cb d hd, h.rn d hd, h.rb d hd, h.wn d hd, h.wb d hd,
      bodyClass_le_two d (h.sb d hd), bodyClass_le_two d (h.sb d hd)⟩
  · have hs := List.mem_of_getElem? hi
    simp only [initial, List.mem_map] at hs
    obtain ⟨d', _, rfl⟩ := hs
    exact joinOf_ge _ _ _ _

theorem initial_available (ds : List Direct) : ∀ s ∈ initial ds, s.available = true := by
  intro s hs
  simp only [initial, List.mem_map] at hs
  obtain ⟨d, _, rfl⟩ := hs
  rfl

theorem roomAll_initial_le (nl : Nat) (ds : List Direct) :
    roomAll ds.length nl (initial ds) ≤ ds.length * (ds.length + 2 * nl + 2) := by
  have := roomAll_le ds.length nl (initial ds)
  simpa [initial] using this

theorem firstFailure_initial {nl : Nat} {ds : List Direct} {g : List (List Nat)} (hd : DirectsOK nl ds)
    (hg : GraphOK ds.length g) (fuel : Nat) (comps : List (List Nat)) {b : Nat}
    (hb : ds.length * (ds.length + 2 * nl + 2) ≤ b) :
    firstFailure g fuel comps (initial ds) b = none ∨
      (firstFailure g fuel comps (initial ds) b = some .index ∧ ∃ comp ∈ comps, ∃ i ∈ comp, ds.length ≤ i) :=
  firstFailure_sufficient hg fuel comps (initial ds) b (initial_ok hd g) (initial_available ds)
    (Nat.le_trans (roomAll_initial_le nl ds) hb)

theorem graph_ok {nl : Nat} {ds : List Direct} (h : DirectsOK nl ds) : GraphOK ds.length (graph ds) := by
  refine ⟨by simp [graph], fun d hd c hc => ?_⟩
  simp only [graph, List.mem_map] at hd
  obtain ⟨d', hd', rfl⟩ := hd
  exact h.cb d' hd' c hc

end NaijaVerif.Limits.Summary
