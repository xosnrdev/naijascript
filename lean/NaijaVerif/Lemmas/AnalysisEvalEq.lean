import NaijaVerif.Model.AnalysisEval
/-
The evaluator of `Model/AnalysisEval.lean` read as a sequence of steps.  `andThen r k` stops at an error, keeping the
state the error was raised in, and otherwise continues with `k`; one unit of fuel deeper, every evaluator function is a
chain of `andThen`s over the calls it makes (`evalExpr_var` … `execLoop_succ`).  A simulation over the evaluator then
needs one lemma, that its relation is kept by `andThen`, and per form only what that form does between the calls.
`andThen`, `St.push`, `St.pop`, `callValue`, `readVar`, `logicSeq`, `userCall`, `updateRoot` and `nodeValue` are not names
of the model: they are declared here, in its namespace, for the pieces of its function bodies that the equations mention.
The `setSlot` / `findSlot` facts are shared by the liveness simulation (`Lemmas/AnalysisLive.lean`) and the bridge to
`Model/Eval.lean` (`Lemmas/AnalysisRefineState.lean`).
-/
namespace NaijaVerif.AEval
open NaijaVerif NaijaVerif.Analysis

variable {V α β : Type}

theorem findSlot_setSlot {x : Nat} {v : V} (y : Nat) : ∀ (s s' : List (Slot V)), setSlot x v s = some s' →
    findSlot y s' = if x = y then some v else findSlot y s
  | [], _, h => by cases h
  | p :: ps, s', h => by
      simp only [setSlot] at h
      by_cases hp : (p.id == x) = true
      · rw [if_pos hp] at h
        cases h
        cases beq_iff_eq.mp hp
        simp only [findSlot, beq_iff_eq]
        by_cases hy : p.id = y
        · rw [if_pos hy, if_pos hy]
        · rw [if_neg hy, if_neg hy, if_neg hy]
      · rw [if_neg hp] at h
        obtain ⟨t, ht, rfl⟩ := Option.map_eq_some_iff.mp h
        simp only [findSlot]
        by_cases hpy : (p.id == y) = true
        · rw [if_pos hpy, if_pos hpy, if_neg fun e => hp (by rw [e]; exact hpy)]
        · rw [if_neg hpy, if_neg hpy]
          exact findSlot_setSlot y ps t ht

theorem findSlot_setSlot_ne {x y : Nat} {v : V} (hne : y ≠ x) (s s' : List (Slot V)) (h : setSlot x v s = some s') :
    findSlot y s' = findSlot y s := by
  rw [findSlot_setSlot y s s' h, if_neg (Ne.symm hne)]

theorem findSlot_setSlot_eq {x : Nat} {v : V} (s s' : List (Slot V)) (h : setSlot x v s = some s') :
    findSlot x s' = some v := by
  rw [findSlot_setSlot x s s' h, if_pos rfl]

theorem setSlot_isSome {x : Nat} {v : V} : ∀ (s : List (Slot V)), (setSlot x v s).isSome = (findSlot x s).isSome
  | [] => rfl
  | p :: ps => by
      simp only [setSlot, findSlot]
      by_cases hp : (p.id == x) = true
      · rw [if_pos hp, if_pos hp]; rfl
      · rw [if_neg hp, if_neg hp, Option.isSome_map, setSlot_isSome ps]

def andThen (r : R V α) (k : α → St V → R V β) : R V β :=
  match r with
  | (.error e, st) => (.error e, st)
  | (.ok v, st) => k v st

def St.push (st : St V) (sc : Scope V) (fs : List FnDef) : St V :=
  { st with env := sc :: st.env, fns := fs :: st.fns }

def St.pop (st : St V) : St V := { st with env := st.env.drop 1, fns := st.fns.drop 1 }

/-- `comot`/`next` cannot leave a function. -/
def callValue (P : Prims V) : Flow V → Except Err V
  | .normal => .ok P.null
  | .ret v => .ok v
  | _ => .error .panic

def readVar (P : Prims V) (b : Option Nat) (env : List (Scope V)) : Except Err V :=
  match b.bind fun id => lookupEnv P.dscope id env with
  | some v => .ok v
  | none => .error .unbound

variable (P : Prims V) (cfg : Cfg) (n : Nat)

def logicSeq (stop : V → Bool) (short : V) (l r : Expr) (st : St V) : R V V :=
  andThen (evalExpr P cfg n l st) fun lv st1 =>
    if stop lv then (.ok short, st1) else
    andThen (evalExpr P cfg n r st1) fun rv st2 => (P.logicRhs rv, st2)

def userCall (f : Nat) (args : List Expr) (st : St V) : R V V :=
  match findFnC cfg f st.fns with
  | none => (.error .panic, { st with looked := f :: st.looked })
  | some fd =>
      andThen (evalList P cfg n args { st with looked := f :: st.looked }) fun vs st1 =>
        match bindParams fd.params vs with
        | none => (.error .panic, st1)
        | some slots =>
            let r := execBlock P cfg n fd.body (st1.push ⟨paramTag P.dscope fd.params, slots⟩ [])
            (r.1.bind (callValue P), r.2.pop)

/-- Writing through the l-value `root[path…]` (index assignment, mutating method). -/
def updateRoot (root : Nat) (path : List Expr) (f : V → List V → Except Err (V × α)) (st : St V) : R V α :=
  andThen (evalChecked (evalExpr P cfg n) P.argMissing (pathItems P.idx path) st) fun pvs st2 =>
    match lookupEnv P.dscope root st2.env with
    | none => (.error .unbound, st2)
    | some old =>
        andThen (f old pvs, st2) fun nr st2 =>
          match assignEnv P.dscope root nr.1 st2.env with
          | none => (.error .panic, st2)
          | some env' => (.ok nr.2, { st2 with env := env' })

/-- The five forms with an evaluator branch of their own; every other expression is `finishNode` over its `children`
(`evalExpr_node`).  Every walk over expressions splits on it. -/
inductive Special : Expr → Prop
  | var (nm b sp) : Special (.var nm b sp)
  | and (l r sp) : Special (.binary .and l r sp)
  | or (l r sp) : Special (.binary .or l r sp)
  | callName (nm s1 s2 args fn sp) : Special (.call (.var nm s1 s2) args fn sp)
  | callMember (o field fs s1 args fn sp) : Special (.call (.member o field fs s1) args fn sp)

variable {P cfg n}

theorem andThen_ok (v : α) (st : St V) (k : α → St V → R V β) : andThen (.ok v, st) k = k v st := rfl

theorem findFnC_kept {cfg : Cfg} {f : Nat} (h : cfg.dropFn f = false) (fns : List (List FnDef)) :
    findFnC cfg f fns = findFn f fns := by
  simp only [findFnC, h, Bool.false_eq_true, ↓reduceIte]

theorem evalExpr_zero (e : Expr) (st : St V) : evalExpr P cfg 0 e st = (.error .fuel, st) := rfl
theorem evalList_zero (es : List Expr) (st : St V) : evalList P cfg 0 es st = (.error .fuel, st) := rfl
theorem execBlock_zero (ss : List Stmt) (st : St V) : execBlock P cfg 0 ss st = (.error .fuel, st) := rfl
theorem execStmts_zero (ss : List Stmt) (st : St V) : execStmts P cfg 0 ss st = (.error .fuel, st) := rfl
theorem execStmt_zero (s : Stmt) (st : St V) : execStmt P cfg 0 s st = (.error .fuel, st) := rfl
theorem execLoop_zero (c : Expr) (b : List Stmt) (st : St V) : execLoop P cfg 0 c b st = (.error .fuel, st) := rfl

theorem andThen_ok_inv {r : R V α} {k : α → St V → R V β} {x : β} (h : (andThen r k).1 = .ok x) :
    ∃ v st, r = (.ok v, st) ∧ (k v st).1 = .ok x := by
  rcases r with ⟨_ | v, st⟩
  · cases h
  · exact ⟨v, st, rfl, h⟩

/- Each equation below is the evaluator's own branch with its `match`es on intermediate results read as `andThen`:
after a case split on each of these results, in the order they are computed, both sides are the same term.  The branch
is exposed by `unfold` on the left side only (the right side mentions the same function one unit of fuel deeper);
`rw [evalExpr]` would derive the equation lemmas of the whole mutual block again in every proof. -/

theorem evalExpr_var (nm : Bytes) (b : Option Nat) (sp : Span) (st : St V) :
    evalExpr P cfg (n + 1) (.var nm b sp) st = (readVar P b st.env, st) := by
  conv => lhs; unfold evalExpr
  rw [readVar]
  cases b.bind fun id => lookupEnv P.dscope id st.env <;> rfl

theorem logic_eq (stop : V → Bool) (short : V) (l r : Expr) (st : St V) :
    (match evalExpr P cfg n l st with
      | (.error e, st1) => (.error e, st1)
      | (.ok lv, st1) =>
          if stop lv then (.ok short, st1) else
          match evalExpr P cfg n r st1 with
          | (.error e, st2) => (.error e, st2)
          | (.ok rv, st2) => (P.logicRhs rv, st2)) = logicSeq P cfg n stop short l r st := by
  rw [logicSeq]
  rcases evalExpr P cfg n l st with ⟨_ | lv, st1⟩
  · rfl
  dsimp only [andThen]
  cases stop lv
  · rcases evalExpr P cfg n r st1 with ⟨_ | rv, st2⟩ <;> rfl
  · rfl

theorem evalExpr_and (l r : Expr) (sp : Span) (st : St V) :
    evalExpr P cfg (n + 1) (.binary .and l r sp) st = logicSeq P cfg n P.falsy (P.logicShort .and) l r st := by
  conv => lhs; unfold evalExpr
  exact logic_eq ..

theorem evalExpr_or (l r : Expr) (sp : Span) (st : St V) :
    evalExpr P cfg (n + 1) (.binary .or l r sp) st = logicSeq P cfg n P.truthy (P.logicShort .or) l r st := by
  conv => lhs; unfold evalExpr
  exact logic_eq ..

theorem evalExpr_callName (nm : Bytes) (b : Option Nat) (s1 : Span) (args : List Expr) (fn : Option Nat) (sp : Span)
    (st : St V) :
    evalExpr P cfg (n + 1) (.call (.var nm b s1) args fn sp) st =
      if P.isGlobal nm then
        andThen (evalList P cfg n args st) fun vs st1 =>
          if P.isShout nm then
            match vs with
            | [v] => (.ok P.null, { st1 with out := v :: st1.out })
            | _ => (.error .panic, st1)
          else (P.global nm vs, st1)
      else
        match fn with
        | none => (.error .panic, st)
        | some f => userCall P cfg n f args st := by
  conv => lhs; unfold evalExpr
  by_cases hg : P.isGlobal nm = true
  · rw [if_pos hg, if_pos hg]
    rcases evalList P cfg n args st with ⟨_ | vs, st1⟩
    · rfl
    dsimp only [andThen]
    by_cases hs : P.isShout nm = true
    · rw [if_pos hs, if_pos hs]
      rcases vs with _ | ⟨v, _ | _⟩ <;> rfl
    · rw [if_neg hs, if_neg hs]
  · rw [if_neg hg, if_neg hg]
    cases fn with
    | none => rfl
    | some f =>
      dsimp only [userCall]
      cases findFnC cfg f st.fns with
      | none => rfl
      | some fd =>
        dsimp only
        rcases evalList P cfg n args { st with looked := f :: st.looked } with ⟨_ | vs, st1⟩
        · rfl
        dsimp only [andThen]
        cases bindParams fd.params vs with
        | none => rfl
        | some slots =>
          dsimp only [St.push]
          rcases execBlock P cfg n fd.body
            { st1 with env := ⟨paramTag P.dscope fd.params, slots⟩ :: st1.env, fns := [] :: st1.fns } with ⟨_ | fl, st3⟩
          · rfl
          · cases fl <;> rfl

theorem evalExpr_callMember (o : Expr) (field : Bytes) (fs s1 : Span) (args : List Expr) (fn : Option Nat) (sp : Span)
    (st : St V) :
    evalExpr P cfg (n + 1) (.call (.member o field fs s1) args fn sp) st =
      if P.isMut field then
        andThen (evalChecked (evalExpr P cfg n) P.argMissing (stepArgs args (P.mutSteps field)) st) fun vs st1 =>
          match lvalue o with
          | none => (.error P.lvErr, st1)
          | some (root, path) => updateRoot P cfg n root path (fun old pvs => P.mutMember field old pvs vs) st1
      else
        andThen (evalExpr P cfg n o st) fun recv st1 =>
          andThen (P.memberSel field recv, st1) fun idx st1 =>
            andThen (evalChecked (evalExpr P cfg n) P.argMissing (selArgs args idx) st1) fun vs st2 =>
              (P.member (.call (.member o field fs s1) args fn sp) recv vs, st2) := by
  conv => lhs; unfold evalExpr
  by_cases hm : P.isMut field = true
  · rw [if_pos hm, if_pos hm]
    rcases evalChecked (evalExpr P cfg n) P.argMissing (stepArgs args (P.mutSteps field)) st with ⟨_ | vs, st1⟩
    · rfl
    dsimp only [andThen]
    rcases lvalue o with _ | ⟨root, path⟩
    · rfl
    dsimp only [updateRoot]
    rcases evalChecked (evalExpr P cfg n) P.argMissing (pathItems P.idx path) st1 with ⟨_ | pvs, st2⟩
    · rfl
    dsimp only [andThen]
    cases lookupEnv P.dscope root st2.env with
    | none => rfl
    | some old =>
      dsimp only
      rcases P.mutMember field old pvs vs with _ | ⟨new, res⟩
      · rfl
      dsimp only
      cases assignEnv P.dscope root new st2.env <;> rfl
  · rw [if_neg hm, if_neg hm]
    rcases evalExpr P cfg n o st with ⟨_ | recv, st1⟩
    · rfl
    dsimp only [andThen]
    cases P.memberSel field recv with
    | error _ => rfl
    | ok idx =>
      dsimp only
      rcases evalChecked (evalExpr P cfg n) P.argMissing (selArgs args idx) st1 with ⟨_ | vs, st2⟩ <;> rfl

theorem evalExpr_node {e : Expr} (h : ¬ Special e) (st : St V) :
    evalExpr P cfg (n + 1) e st = finishNode P e (evalList P cfg n (children e) st) := by
  cases e with
  | var nm b sp => exact absurd (.var nm b sp) h
  | binary op l r sp =>
    cases op with
    | and => exact absurd (.and l r sp) h
    | or => exact absurd (.or l r sp) h
    | _ => rfl
  | call c args fn sp =>
    cases c with
    | var nm b s1 => exact absurd (.callName nm b s1 args fn sp) h
    | member o field fs s1 => exact absurd (.callMember o field fs s1 args fn sp) h
    | _ => rfl
  | _ => rfl

/-- What `finishNode` computes once the children are evaluated to `vs`. -/
def nodeValue (P : Prims V) (e : Expr) (vs : List V) (env : List (Scope V)) : Except Err V :=
  match readAll P.dscope env (interpIds e) with
  | none => .error .unbound
  | some rs => P.node e (vs ++ rs)

theorem finishNode_eq (e : Expr) (r : R V (List V)) :
    finishNode P e r = andThen r fun vs st => (nodeValue P e vs st.env, st) := by
  rcases r with ⟨_ | vs, st⟩
  · rfl
  rw [finishNode, andThen, nodeValue]
  cases readAll P.dscope st.env (interpIds e) <;> rfl

theorem evalList_nil (st : St V) : evalList P cfg (n + 1) [] st = (.ok [], st) := rfl

theorem evalList_cons (e : Expr) (es : List Expr) (st : St V) :
    evalList P cfg (n + 1) (e :: es) st =
      andThen (evalExpr P cfg n e st) fun v st1 =>
        andThen (evalList P cfg n es st1) fun vs st2 => (.ok (v :: vs), st2) := by
  conv => lhs; unfold evalList
  rcases evalExpr P cfg n e st with ⟨_ | v, st1⟩
  · rfl
  dsimp only [andThen]
  rcases evalList P cfg n es st1 with ⟨_ | vs, st2⟩ <;> rfl

theorem evalChecked_cons (ev : Expr → St V → R V V) (miss : Err) (e : Expr) (chk : V → Except Err V)
    (rest : List (Option Expr × (V → Except Err V))) (st : St V) :
    evalChecked ev miss ((some e, chk) :: rest) st =
      andThen (ev e st) fun v st1 =>
        andThen (chk v, st1) fun v' st1 =>
          andThen (evalChecked ev miss rest st1) fun vs st2 => (.ok (v' :: vs), st2) := by
  conv => lhs; unfold evalChecked
  rcases ev e st with ⟨_ | v, st1⟩
  · rfl
  dsimp only [andThen]
  cases chk v with
  | error _ => rfl
  | ok v' =>
    dsimp only
    rcases evalChecked ev miss rest st1 with ⟨_ | vs, st2⟩ <;> rfl

theorem selArgs_mem {args : List Expr} {idx : List Nat} {e : Expr} {chk : V → Except Err V}
    (h : (some e, chk) ∈ selArgs (V := V) args idx) : e ∈ args := by
  simp only [selArgs, List.mem_map, Prod.mk.injEq] at h
  obtain ⟨i, _, hi, _⟩ := h
  exact List.mem_of_getElem? hi

theorem stepArgs_mem {args : List Expr} {steps : List (Nat × (V → Except Err V))} {e : Expr} {chk : V → Except Err V}
    (h : (some e, chk) ∈ stepArgs args steps) : e ∈ args := by
  simp only [stepArgs, List.mem_map, Prod.mk.injEq] at h
  obtain ⟨q, _, hi, _⟩ := h
  exact List.mem_of_getElem? hi

theorem pathItems_mem {c : V → Except Err V} {path : List Expr} {e : Expr} {chk : V → Except Err V}
    (h : (some e, chk) ∈ pathItems c path) : e ∈ path := by
  simp only [pathItems, List.mem_map, Prod.mk.injEq, Option.some.injEq] at h
  obtain ⟨x, hx, rfl, _⟩ := h
  exact hx

theorem execBlock_succ (ss : List Stmt) (st : St V) :
    execBlock P cfg (n + 1) ss st =
      ((execStmts P cfg n ss (st.push ⟨blockTag P.sscope ss, []⟩ (hoist ss))).1,
       (execStmts P cfg n ss (st.push ⟨blockTag P.sscope ss, []⟩ (hoist ss))).2.pop) := rfl

theorem execStmts_nil (st : St V) : execStmts P cfg (n + 1) [] st = (.ok .normal, st) := rfl

theorem execStmts_cons (s : Stmt) (ss : List Stmt) (st : St V) :
    execStmts P cfg (n + 1) (s :: ss) st =
      match s.sid with
      | none => (.error .panic, st)
      | some i =>
          if cfg.skip i then execStmts P cfg n ss st else
          andThen (execStmt P cfg n s { st with trace := i :: st.trace }) fun fl st1 =>
            match fl with
            | .normal => execStmts P cfg n ss st1
            | fl => (.ok fl, st1) := by
  conv => lhs; unfold execStmts
  cases s.sid with
  | none => rfl
  | some i =>
    dsimp only
    by_cases hk : cfg.skip i = true
    · rw [if_pos hk, if_pos hk]
    · rw [if_neg hk, if_neg hk]
      rcases execStmt P cfg n s { st with trace := i :: st.trace } with ⟨_ | fl, st1⟩
      · rfl
      · cases fl <;> rfl

theorem execStmt_assign (vr : Bytes) (vs : Span) (e : Expr) (b : Option Nat) (sid : Option Nat) (sp : Span) (st : St V) :
    execStmt P cfg (n + 1) (.assign vr vs e b sid sp) st =
      andThen (evalExpr P cfg n e st) fun v st1 =>
        match b with
        | some id => (.ok .normal, { st1 with env := defineEnv id v st1.env })
        | none => (.error .panic, st1) := by
  conv => lhs; unfold execStmt
  rcases evalExpr P cfg n e st with ⟨_ | v, st1⟩
  · rfl
  · cases b <;> rfl

theorem execStmt_assignExisting (vr : Bytes) (vs : Span) (e : Expr) (b : Option Nat) (sid : Option Nat) (sp : Span)
    (st : St V) :
    execStmt P cfg (n + 1) (.assignExisting vr vs e b sid sp) st =
      andThen (evalExpr P cfg n e st) fun v st1 =>
        match b.bind (fun id => assignEnv P.dscope id v st1.env) with
        | some env' => (.ok .normal, { st1 with env := env' })
        | none => (.error .unbound, st1) := by
  conv => lhs; unfold execStmt
  rcases evalExpr P cfg n e st with ⟨_ | v, st1⟩
  · rfl
  dsimp only [andThen]
  cases b.bind fun id => assignEnv P.dscope id v st1.env <;> rfl

theorem execStmt_assignIndex (t e : Expr) (sid : Option Nat) (sp : Span) (st : St V) :
    execStmt P cfg (n + 1) (.assignIndex t e sid sp) st =
      andThen (evalExpr P cfg n e st) fun v st1 =>
        match lvalue t with
        | none => (.error P.lvErr, st1)
        | some (root, path) =>
            updateRoot P cfg n root path (fun old pvs => (P.setPath old pvs v).map fun new => (new, Flow.normal)) st1 := by
  conv => lhs; unfold execStmt
  rcases evalExpr P cfg n e st with ⟨_ | v, st1⟩
  · rfl
  dsimp only [andThen]
  rcases lvalue t with _ | ⟨root, path⟩
  · rfl
  dsimp only [updateRoot]
  rcases evalChecked (evalExpr P cfg n) P.argMissing (pathItems P.idx path) st1 with ⟨_ | pvs, st2⟩
  · rfl
  dsimp only [andThen]
  cases lookupEnv P.dscope root st2.env with
  | none => rfl
  | some old =>
    dsimp only
    cases P.setPath old pvs v with
    | error _ => rfl
    | ok new =>
      dsimp only [Except.map]
      cases assignEnv P.dscope root new st2.env <;> rfl

theorem execStmt_ifS (c : Expr) (t : List Stmt) (ts : Span) (els : Option Block) (sid : Option Nat) (sp : Span)
    (st : St V) :
    execStmt P cfg (n + 1) (.ifS c (.mk t ts) els sid sp) st =
      andThen (evalExpr P cfg n c st) fun v st1 =>
        andThen (P.cond v, st1) fun bv st1 =>
          if bv then execBlock P cfg n t st1 else
          match els with
          | some (.mk e _) => execBlock P cfg n e st1
          | none => (.ok .normal, st1) := by
  conv => lhs; unfold execStmt
  rcases evalExpr P cfg n c st with ⟨_ | v, st1⟩
  · rfl
  dsimp only [andThen]
  rcases P.cond v with _ | _ | _
  · rfl
  · rcases els with _ | ⟨e, _⟩ <;> rfl
  · rfl

theorem execStmt_loop (c : Expr) (b : List Stmt) (bs : Span) (sid : Option Nat) (sp : Span) (st : St V) :
    execStmt P cfg (n + 1) (.loop c (.mk b bs) sid sp) st = execLoop P cfg n c b st := rfl

theorem execStmt_block (b : List Stmt) (bs : Span) (sid : Option Nat) (sp : Span) (st : St V) :
    execStmt P cfg (n + 1) (.block (.mk b bs) sid sp) st = execBlock P cfg n b st := rfl

theorem execStmt_fnDef (nm : Bytes) (ns : Span) (ps : List Param) (body : Block) (f sid : Option Nat) (sp : Span)
    (st : St V) :
    execStmt P cfg (n + 1) (.fnDef nm ns ps body f sid sp) st = (.ok .normal, st) := rfl

theorem execStmt_ret (e : Expr) (sid : Option Nat) (sp : Span) (st : St V) :
    execStmt P cfg (n + 1) (.ret (some e) sid sp) st =
      andThen (evalExpr P cfg n e st) fun v st1 => (.ok (.ret v), st1) := by
  conv => lhs; unfold execStmt
  rcases evalExpr P cfg n e st with ⟨_ | v, st1⟩ <;> rfl

theorem execStmt_retNone (sid : Option Nat) (sp : Span) (st : St V) :
    execStmt P cfg (n + 1) (.ret none sid sp) st = (.ok (.ret P.null), st) := rfl

theorem execStmt_brk (sid : Option Nat) (sp : Span) (st : St V) :
    execStmt P cfg (n + 1) (.brk sid sp) st = (.ok .brk, st) := rfl

theorem execStmt_cont (sid : Option Nat) (sp : Span) (st : St V) :
    execStmt P cfg (n + 1) (.cont sid sp) st = (.ok .cont, st) := rfl

theorem execStmt_expr (e : Expr) (sid : Option Nat) (sp : Span) (st : St V) :
    execStmt P cfg (n + 1) (.expr e sid sp) st =
      andThen (evalExpr P cfg n e st) fun _ st1 => (.ok .normal, st1) := by
  conv => lhs; unfold execStmt
  rcases evalExpr P cfg n e st with ⟨_ | v, st1⟩ <;> rfl

theorem execLoop_succ (c : Expr) (b : List Stmt) (st : St V) :
    execLoop P cfg (n + 1) c b st =
      andThen (evalExpr P cfg n c st) fun v st1 =>
        andThen (P.cond v, st1) fun bv st1 =>
          if bv then
            andThen (execBlock P cfg n b st1) fun fl st2 =>
              match fl with
              | .brk => (.ok .normal, st2)
              | .ret w => (.ok (.ret w), st2)
              | _ => execLoop P cfg n c b st2
          else (.ok .normal, st1) := by
  conv => lhs; unfold execLoop
  rcases evalExpr P cfg n c st with ⟨_ | v, st1⟩
  · rfl
  dsimp only [andThen]
  rcases P.cond v with _ | _ | _
  · rfl
  · rfl
  · dsimp only [if_true]
    rcases execBlock P cfg n b st1 with ⟨_ | fl, st2⟩
    · rfl
    · cases fl <;> rfl

end NaijaVerif.AEval
