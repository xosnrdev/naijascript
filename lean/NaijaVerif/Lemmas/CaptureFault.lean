/-
Read faults (C16): a reader thread that has finished — with `Ok` or with `Err` — stays as it is for
the rest of the execution, and an `ok` result is produced only when both reader threads have
finished with `Ok`.  Together: an execution in which a `read` of a captured stream fails never ends
in an `ok` result (it ends, if it ends, in an error).
-/
import NaijaVerif.Lemmas.Capture
namespace NaijaVerif.Capture

/-- No step changes the reader state of a side whose thread has ended: the child's steps leave every
reader's position alone, and a reader's own steps need it to be running. -/
theorem step_finished_stable {cfg : Cfg} {plan : Plan} {s s' : State} {l : Label} (x : Strm)
    (hs : step cfg plan s l = some s') (hf : (s.side x).finished = true) :
    (s'.side x).rd = (s.side x).rd := by
  by_cases hm : l = .main
  · subst hm; rw [stepMain_frame (step_inv hs)]; cases x <;> rfl
  by_cases ht : l = .tick
  · subst ht; obtain ⟨_, rfl⟩ := step_inv hs; cases x <;> rfl
  cases Effect.of_step hs hm ht with
  | childSide y d' _ _ hrd =>
    rw [side_setSide]; split
    · next hxy => rw [hrd, hxy]
    · rfl
  | reader y d' f' hnf =>
    have : State.side { s.setSide y d' with flag := f' } x = (s.setSide y d').side x := by cases x <;> rfl
    rw [this, side_setSide, if_neg fun hxy => by rw [hxy, hnf] at hf; cases hf]
  | _ => cases x <;> rfl

theorem Side.finished_of_rd_eq {d d' : Side} (h : d'.rd = d.rd) (hf : d.finished = true) :
    d'.finished = true := by
  unfold Side.finished at hf ⊢; rw [h]; exact hf

theorem run_failed_stable {cfg : Cfg} {plan : Plan} {ls : List Label} {s s' : State} (x : Strm)
    (hr : run cfg plan s ls = some s') (hf : (s.side x).rd = .failed) : (s'.side x).rd = .failed := by
  induction ls generalizing s with
  | nil => exact run_nil hr ▸ hf
  | cons l ls ih =>
    obtain ⟨s₁, hs, hr⟩ := run_cons hr
    refine ih hr ?_
    rw [step_finished_stable x hs (by simp [Side.finished, hf]), hf]

theorem run_failed_of_mem {cfg : Cfg} {plan : Plan} {ls : List Label} {s s' : State} {x : Strm}
    (hr : run cfg plan s ls = some s') (hm : Label.rdFail x ∈ ls) : (s'.side x).rd = .failed := by
  induction ls generalizing s with
  | nil => cases hm
  | cons l ls ih =>
    obtain ⟨s₁, hs, hr'⟩ := run_cons hr
    rcases List.mem_cons.mp hm with hm | hm
    · subst hm
      refine run_failed_stable x hr' ?_
      obtain ⟨d, hd, rfl⟩ := step_inv hs
      obtain ⟨_, rfl⟩ := Side.fail_some hd
      rw [side_setSide, if_pos rfl]
    · exact ih hr' hm

/-- An invariant of its own, kept beside `Inv` of `Lemmas/Capture.lean` (`OkJoined.step` assumes `Inv`): an `ok`
has only been produced with both reader threads finished with `Ok`. Kept by every step because a finished
reader never changes (`step_finished_stable`). -/
def OkJoined (s : State) : Prop :=
  ∀ st o e, s.pc = .done (.ok st o e) → s.o.joined = true ∧ s.e.joined = true

theorem Side.joined_of_rd_eq {d d' : Side} (h : d'.rd = d.rd) (hf : d.joined = true) :
    d'.joined = true := by
  unfold Side.joined at hf ⊢; rw [h]; exact hf

theorem stepMain_done_ok {cfg plan} {s s' : State} (hi : Inv cfg plan s)
    (hs : stepMain cfg s = some s') {st o e} (hd : s'.pc = .done (.ok st o e)) :
    s'.o.joined = true ∧ s'.e.joined = true := by
  obtain ⟨p₀, c, p, hpc, hm, rfl⟩ := MainStep.of_stepMain hs
  -- only the last two statements of the success path produce an `ok`
  cases hm with
  | errAbsent hrd => exact ⟨(hi.pcInv.row hpc).2.1, by unfold Side.joined; rw [hrd]⟩
  | errText => exact ⟨(hi.pcInv.row hpc).2.1, (hi.pcInv.row hpc).2.2.2.2.1⟩
  | _ => cases hd

theorem OkJoined.step {cfg plan} {s s' : State} {l : Label} (hi : Inv cfg plan s) (h : OkJoined s)
    (hs : Capture.step cfg plan s l = some s') : OkJoined s' := by
  intro st o e hd
  by_cases hm : l = .main
  · subst hm
    simp only [Capture.step] at hs
    exact stepMain_done_ok hi hs hd
  · have hpc : s'.pc = s.pc := step_pc hs hm
    obtain ⟨hjo, hje⟩ := h st o e (hpc ▸ hd)
    have h1 := step_finished_stable .out hs (Side.finished_of_joined hjo)
    have h2 := step_finished_stable .err hs (Side.finished_of_joined hje)
    exact ⟨Side.joined_of_rd_eq h1 hjo, Side.joined_of_rd_eq h2 hje⟩

theorem OkJoined.run {cfg plan} {s s' : State} {ls : List Label} (hi : Inv cfg plan s)
    (h : OkJoined s) (hr : Capture.run cfg plan s ls = some s') : OkJoined s' := by
  induction ls generalizing s with
  | nil => exact run_nil hr ▸ h
  | cons l ls ih => obtain ⟨s₁, hs, hr⟩ := run_cons hr; exact ih (hi.step hs) (h.step hi hs) hr

theorem OkJoined.init (cfg : Cfg) (plan : Plan) : OkJoined (init cfg plan) := by
  intro st o e h; simp [Capture.init] at h

end NaijaVerif.Capture
