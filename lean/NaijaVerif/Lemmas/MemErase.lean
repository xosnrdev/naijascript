import NaijaVerif.Lemmas.MemCfg
import NaijaVerif.Lemmas.ListFacts
/-
Erasure (`c02_erasure`; `Props/C02.lean` numbers its theorems T1 no read after recycling, T2 only live slots are
released, T3 erasure): the evaluator with reclamation (`Cfg.fixed`) and the evaluator with one arena and
nothing ever reset or reused (`Cfg.noReclaim`) run in lock step on the same control oracle: same shapes
and content ids in corresponding places, same printed contents, same contents at every read — until one
of them stops for a reason that is not a runtime error (fuel, an oracle that does not fit, or — excluded
for `Cfg.fixed` by T1/T2 — a poisoned read / illegal free). Relational Hoare logic over pairs of
runs; the heaps of the two runs are not related at all. A read whose site is below 50 is a copy made by the
discipline itself and leaves `obs` alone (`observed` in `Model/Mem.lean`): those are the `site < 50` hypotheses.
-/
namespace NaijaVerif.Mem
open NaijaVerif NaijaVerif.Pool

mutual
  /-- The same shape, the same content id at every handle and, at a leaf, the same kind (string or host value);
  regions, ownership and `cid`s are not compared. `c02_erasure` is stated with this recursive form; it is the kernel
  of `MVal.erase` (`VRel.iff_erase`), and the algebra of the relation (equivalence, `length`, `set`,
  `append`, `reverse` …) goes through that, not by recursion over it. -/
  def VRel : MVal → MVal → Prop
    | .scalar, .scalar => True
    | .leaf h₁, .leaf h₂ => h₁.ct = h₂.ct ∧ h₁.isStr = h₂.isStr
    | .arr b₁ xs₁, .arr b₂ xs₂ => b₁.ct = b₂.ct ∧ VRelL xs₁ xs₂
    | _, _ => False
  def VRelL : List MVal → List MVal → Prop
    | [], [] => True
    | a :: as, b :: bs => VRel a b ∧ VRelL as bs
    | _, _ => False
end

mutual
  def MVal.erase : MVal → MVal
    | .scalar => .scalar
    | .leaf h => .leaf ⟨.static, false, 0, h.isStr, h.ct⟩
    | .arr b xs => .arr ⟨.static, false, 0, false, b.ct⟩ (MVal.eraseL xs)
  def MVal.eraseL : List MVal → List MVal
    | [] => []
    | v :: vs => v.erase :: MVal.eraseL vs
end

theorem MVal.eraseL_eq_map : ∀ vs : List MVal, MVal.eraseL vs = vs.map MVal.erase
  | [] => rfl
  | v :: vs => congrArg (v.erase :: ·) (MVal.eraseL_eq_map vs)

mutual
  theorem VRel.iff_erase : ∀ a b : MVal, VRel a b ↔ a.erase = b.erase
    | .scalar, .scalar => by simp [VRel, MVal.erase]
    | .leaf h₁, .leaf h₂ => by simp [VRel, MVal.erase, and_comm]
    | .arr b₁ xs₁, .arr b₂ xs₂ => by
      simp only [VRel, MVal.erase, MVal.eraseL_eq_map, MVal.arr.injEq, Handle.mk.injEq, true_and,
        VRelL.iff_erase xs₁ xs₂]
    | .scalar, .leaf _ | .scalar, .arr _ _ | .leaf _, .scalar | .leaf _, .arr _ _
    | .arr _ _, .scalar | .arr _ _, .leaf _ => by simp [VRel, MVal.erase]
  theorem VRelL.iff_erase : ∀ as bs : List MVal, VRelL as bs ↔ as.map MVal.erase = bs.map MVal.erase
    | [], [] => by simp [VRelL]
    | a :: as, b :: bs => by
      simp only [VRelL, List.map_cons, List.cons.injEq, VRel.iff_erase a b, VRelL.iff_erase as bs]
    | [], _ :: _ | _ :: _, [] => by simp [VRelL]
end

theorem VRel.refl (v : MVal) : VRel v v := (VRel.iff_erase v v).mpr rfl

theorem VRelL.refl : ∀ vs : List MVal, VRelL vs vs := fun vs => (VRelL.iff_erase vs vs).mpr rfl

theorem VRel.symm : ∀ {a b : MVal}, VRel a b → VRel b a := fun {a b} h =>
  (VRel.iff_erase b a).mpr ((VRel.iff_erase a b).mp h).symm

theorem VRelL.symm : ∀ {as bs : List MVal}, VRelL as bs → VRelL bs as := fun {as bs} h =>
  (VRelL.iff_erase bs as).mpr ((VRelL.iff_erase as bs).mp h).symm

theorem VRel.trans : ∀ {a b c : MVal}, VRel a b → VRel b c → VRel a c := fun {a b c} h₁ h₂ =>
  (VRel.iff_erase a c).mpr (((VRel.iff_erase a b).mp h₁).trans ((VRel.iff_erase b c).mp h₂))

theorem VRelL.trans : ∀ {as bs cs : List MVal}, VRelL as bs → VRelL bs cs → VRelL as cs :=
  fun {as bs cs} h₁ h₂ =>
    (VRelL.iff_erase as cs).mpr (((VRelL.iff_erase as bs).mp h₁).trans ((VRelL.iff_erase bs cs).mp h₂))

def cts (hs : List Handle) : List Nat := hs.map (·.ct)

mutual
  theorem MVal.cts_erase : ∀ v : MVal, Mem.cts v.erase.handles = Mem.cts v.handles
    | .scalar => rfl
    | .leaf _ => rfl
    | .arr b xs => congrArg (b.ct :: ·) (MVal.ctsL_erase xs)
  theorem MVal.ctsL_erase : ∀ vs : List MVal,
      Mem.cts (MVal.handlesL (MVal.eraseL vs)) = Mem.cts (MVal.handlesL vs)
    | [] => rfl
    | v :: vs => by
      simp only [MVal.eraseL, MVal.handlesL, Mem.cts, List.map_append]
      exact congr (congrArg _ (MVal.cts_erase v)) (MVal.ctsL_erase vs)
end

theorem VRel.cts {a b : MVal} (h : VRel a b) : Mem.cts a.handles = Mem.cts b.handles := by
  rw [← MVal.cts_erase a, ← MVal.cts_erase b, (VRel.iff_erase a b).mp h]

theorem VRelL.cts {as bs : List MVal} (h : VRelL as bs) :
    Mem.cts (MVal.handlesL as) = Mem.cts (MVal.handlesL bs) := by
  rw [← MVal.ctsL_erase as, ← MVal.ctsL_erase bs, MVal.eraseL_eq_map, MVal.eraseL_eq_map,
    (VRelL.iff_erase as bs).mp h]

theorem VRelL.length : ∀ {as bs : List MVal}, VRelL as bs → as.length = bs.length := fun {as bs} h => by
  simpa only [List.length_map] using congrArg List.length ((VRelL.iff_erase as bs).mp h)

theorem VRelL.getElem? {as bs : List MVal} (h : VRelL as bs) (k : Nat) : ORel VRel as[k]? bs[k]? := by
  have := congrArg (·[k]?) ((VRelL.iff_erase as bs).mp h)
  simp only [List.getElem?_map] at this
  match as[k]?, bs[k]?, this with
  | none, none, _ => trivial
  | some a, some b, h => exact (VRel.iff_erase a b).mpr (Option.some.inj h)

theorem VRelL.set {as bs : List MVal} {a b : MVal} (h : VRelL as bs) (hab : VRel a b) (k : Nat) :
    VRelL (as.set k a) (bs.set k b) := by
  rw [VRelL.iff_erase] at h ⊢
  rw [List.map_set, List.map_set, h, (VRel.iff_erase a b).mp hab]

theorem VRelL.append {as bs cs ds : List MVal} (h₁ : VRelL as bs) (h₂ : VRelL cs ds) :
    VRelL (as ++ cs) (bs ++ ds) := by
  rw [VRelL.iff_erase] at h₁ h₂ ⊢
  rw [List.map_append, List.map_append, h₁, h₂]

theorem VRelL.reverse {as bs : List MVal} (h : VRelL as bs) : VRelL as.reverse bs.reverse := by
  rw [VRelL.iff_erase] at h ⊢
  rw [List.map_reverse, List.map_reverse, h]

theorem VRelL.dropLast {as bs : List MVal} (h : VRelL as bs) : VRelL as.dropLast bs.dropLast := by
  rw [VRelL.iff_erase] at h ⊢
  rw [List.map_dropLast, List.map_dropLast, h]

theorem VRelL.getLast {as bs : List MVal} (h : VRelL as bs) :
    VRel ((as.getLast?).getD .scalar) ((bs.getLast?).getD .scalar) := by
  rw [List.getLast?_eq_getElem?, List.getLast?_eq_getElem?, h.length]
  obtain ⟨h₁, h₂⟩ | ⟨x, y, h₁, h₂, hxy⟩ := (h.getElem? (bs.length - 1)).cases <;> rw [h₁, h₂]
  · trivial
  · exact hxy

def SlotsRel : List Slot → List Slot → Prop
  | [], [] => True
  | a :: as, b :: bs => a.id = b.id ∧ VRel a.val b.val ∧ SlotsRel as bs
  | _, _ => False

def EnvRel : List (List Slot) → List (List Slot) → Prop
  | [], [] => True
  | a :: as, b :: bs => SlotsRel a b ∧ EnvRel as bs
  | _, _ => False

def TempsRel : List TE → List TE → Prop
  | [], [] => True
  | .val a :: as, .val b :: bs => VRel a b ∧ TempsRel as bs
  | .mark _ _ :: as, .mark _ _ :: bs => TempsRel as bs
  | _, _ => False

theorem EnvRel.cases : ∀ {a b : List (List Slot)}, EnvRel a b →
    (a = [] ∧ b = []) ∨ ∃ x a' y b', a = x :: a' ∧ b = y :: b' ∧ SlotsRel x y ∧ EnvRel a' b' := by
  intro a b
  fun_cases EnvRel a b
  · exact fun _ => .inl ⟨rfl, rfl⟩
  · exact fun h => .inr ⟨_, _, _, _, rfl, rfl, h.1, h.2⟩
  · exact False.elim

theorem TempsRel.cases : ∀ {ts₁ ts₂ : List TE}, TempsRel ts₁ ts₂ →
    (ts₁ = [] ∧ ts₂ = []) ∨
    (∃ a b r₁ r₂, ts₁ = .val a :: r₁ ∧ ts₂ = .val b :: r₂ ∧ VRel a b ∧ TempsRel r₁ r₂) ∨
    (∃ m l m' l' r₁ r₂, ts₁ = .mark m l :: r₁ ∧ ts₂ = .mark m' l' :: r₂ ∧ TempsRel r₁ r₂) := by
  intro ts₁ ts₂
  fun_cases TempsRel ts₁ ts₂
  · exact fun _ => .inl ⟨rfl, rfl⟩
  · exact fun h => .inr (.inl ⟨_, _, _, _, rfl, rfl, h.1, h.2⟩)
  · exact fun h => .inr (.inr ⟨_, _, _, _, _, _, rfl, rfl, h⟩)
  · exact False.elim

/-- The logical (heap-independent) parts of the two states correspond. -/
structure R (s₁ s₂ : St) : Prop where
  ctl : s₁.ctl = s₂.ctl
  env : EnvRel s₁.env s₂.env
  fns : s₁.fns = s₂.fns
  out : VRelL s₁.out s₂.out
  temps : TempsRel s₁.temps s₂.temps
  obs : s₁.obs = s₂.obs
  nextCt : s₁.nextCt = s₂.nextCt

/-- The step from `s` to `s'` changed nothing that `R` looks at (`R.same`). -/
structure SameL (s s' : St) : Prop where
  ctl : s'.ctl = s.ctl
  env : s'.env = s.env
  fns : s'.fns = s.fns
  out : s'.out = s.out
  temps : s'.temps = s.temps
  obs : s'.obs = s.obs
  nextCt : s'.nextCt = s.nextCt

theorem SameL.refl (s : St) : SameL s s := ⟨rfl, rfl, rfl, rfl, rfl, rfl, rfl⟩

theorem SameL.trans {a b c : St} (h₁ : SameL a b) (h₂ : SameL b c) : SameL a c :=
  ⟨h₂.ctl.trans h₁.ctl, h₂.env.trans h₁.env, h₂.fns.trans h₁.fns, h₂.out.trans h₁.out,
   h₂.temps.trans h₁.temps, h₂.obs.trans h₁.obs, h₂.nextCt.trans h₁.nextCt⟩

theorem R.same {s₁ s₁' s₂ s₂' : St} (h : R s₁ s₂) (e₁ : SameL s₁ s₁') (e₂ : SameL s₂ s₂') : R s₁' s₂' :=
  ⟨e₁.ctl ▸ e₂.ctl ▸ h.ctl, e₁.env ▸ e₂.env ▸ h.env, e₁.fns ▸ e₂.fns ▸ h.fns, e₁.out ▸ e₂.out ▸ h.out,
   e₁.temps ▸ e₂.temps ▸ h.temps, e₁.obs ▸ e₂.obs ▸ h.obs, e₁.nextCt ▸ e₂.nextCt ▸ h.nextCt⟩

/-- What two runs that both end in a runtime error agree on: the reads observed and the output. Inside this
namespace the name hides `Fin` of core (`_root_.Fin`). -/
def Fin (t₁ t₂ : St) : Prop := t₁.obs = t₂.obs ∧ VRelL t₁.out t₂.out

theorem R.fin {s₁ s₂ : St} (h : R s₁ s₂) : Fin s₁ s₂ := ⟨h.obs, h.out⟩

/-- Two runs from `P`-related states: both go on with `Q`-related results; or both stop, and if both with a
runtime error then they agree on `Fin`; or one stops alone, and then not with a runtime error (fuel, an oracle
that does not fit, a check of the reclaiming side). After a stop that is not a runtime error nothing is claimed. -/
def RTriple (P : St → St → Prop) (m₁ m₂ : M α) (Q : α → α → St → St → Prop) : Prop :=
  ∀ s₁ s₂, P s₁ s₂ →
    match m₁ s₁, m₂ s₂ with
    | .ok a₁ t₁, .ok a₂ t₂ => Q a₁ a₂ t₁ t₂
    | .stop o₁ t₁, .stop o₂ t₂ => o₁ = .rtError → o₂ = .rtError → Fin t₁ t₂
    | .stop o₁ _, .ok _ _ => o₁ ≠ .rtError
    | .ok _ _, .stop o₂ _ => o₂ ≠ .rtError

theorem RTriple.bind {P : St → St → Prop} {m₁ m₂ : M α} {Q : α → α → St → St → Prop}
    {k₁ k₂ : α → M β} {S : β → β → St → St → Prop}
    (h₁ : RTriple P m₁ m₂ Q) (h₂ : ∀ a₁ a₂, RTriple (Q a₁ a₂) (k₁ a₁) (k₂ a₂) S) :
    RTriple P (m₁ >>= k₁) (m₂ >>= k₂) S := by
  show RTriple P (M.bind m₁ k₁) (M.bind m₂ k₂) S
  intro s₁ s₂ hp
  have h := h₁ s₁ s₂ hp
  unfold M.bind
  revert h
  cases m₁ s₁ <;> cases m₂ s₂ <;> dsimp only <;> intro h
  · exact h₂ _ _ _ _ h
  · -- the right side has stopped, for a reason that is not a runtime error
    cases k₁ _ _
    · exact h
    · exact fun _ ho => absurd ho h
  · cases k₂ _ _
    · exact h
    · exact fun ho _ => absurd ho h
  · exact h

theorem RTriple.pure {P : St → St → Prop} {Q : α → α → St → St → Prop} (a₁ a₂ : α)
    (h : ∀ s₁ s₂, P s₁ s₂ → Q a₁ a₂ s₁ s₂) : RTriple P (pure a₁ : M α) (pure a₂) Q :=
  fun s₁ s₂ hp => h s₁ s₂ hp

theorem RTriple.ite {P : St → St → Prop} {Q : α → α → St → St → Prop} {c : Prop} [Decidable c]
    {t₁ t₂ e₁ e₂ : M α} (ht : RTriple P t₁ t₂ Q) (he : RTriple P e₁ e₂ Q) :
    RTriple P (if c then t₁ else e₁) (if c then t₂ else e₂) Q := by
  split <;> assumption

theorem RTriple.post {P : St → St → Prop} {m₁ m₂ : M α} {Q Q' : α → α → St → St → Prop}
    (h : RTriple P m₁ m₂ Q) (hq : ∀ a₁ a₂ t₁ t₂, Q a₁ a₂ t₁ t₂ → Q' a₁ a₂ t₁ t₂) :
    RTriple P m₁ m₂ Q' := by
  intro s₁ s₂ hp
  have := h s₁ s₂ hp
  cases hm₁ : m₁ s₁ <;> cases hm₂ : m₂ s₂ <;> rw [hm₁, hm₂] at this <;> simp only at this ⊢
  · exact hq _ _ _ _ this
  · exact this
  · exact this
  · exact this

theorem RTriple.assume {P : St → St → Prop} {φ : Prop} {m₁ m₂ : M α}
    {Q : α → α → St → St → Prop} (h : φ → RTriple P m₁ m₂ Q) :
    RTriple (fun s₁ s₂ => P s₁ s₂ ∧ φ) m₁ m₂ Q :=
  fun s₁ s₂ hs => h hs.2 s₁ s₂ hs.1

theorem RTriple.halt {Q : α → α → St → St → Prop} (o₁ o₂ : Stop) :
    RTriple R (halt o₁ : M α) (halt o₂) Q :=
  fun _ _ hr _ _ => hr.fin

/-- A step that touches the heap, the layout oracle and the event log only, and never ends the run
with a runtime error. -/
def HeapOnly (m : M α) (Qv : α → Prop) : Prop :=
  ∀ s, (∀ a s', m s = .ok a s' → SameL s s' ∧ Qv a) ∧ (∀ o s', m s = .stop o s' → o ≠ .rtError)

/-- `HeapOnly` read off one result, as `Res.Sat` is for `Triple`. -/
def Res.HSat (s : St) (Qv : α → Prop) : Res α → Prop
  | .ok a s' => SameL s s' ∧ Qv a
  | .stop o _ => o ≠ .rtError

theorem HeapOnly.intro {m : M α} {Qv : α → Prop} (h : ∀ s, (m s).HSat s Qv) : HeapOnly m Qv := by
  intro s
  have := h s
  constructor
  · intro a s' hm; rw [hm] at this; exact this
  · intro o s' hm; rw [hm] at this; exact this

theorem HeapOnly.sat {m : M α} {Qv : α → Prop} (h : HeapOnly m Qv) (s : St) : (m s).HSat s Qv := by
  cases hm : m s with
  | ok a s' => exact (h s).1 a s' hm
  | stop o s' => exact (h s).2 o s' hm

theorem HeapOnly.bind {m : M α} {Qv : α → Prop} {k : α → M β} {Qw : β → Prop}
    (h₁ : HeapOnly m Qv) (h₂ : ∀ a, Qv a → HeapOnly (k a) Qw) : HeapOnly (m >>= k) Qw := by
  refine HeapOnly.intro (m := M.bind m k) fun s => ?_
  have hm := h₁.sat s
  unfold M.bind
  revert hm
  cases m s <;> intro hm
  · rename_i a s1
    show (k a s1).HSat s Qw
    have hk := (h₂ a hm.2).sat s1
    revert hk
    cases k a s1 <;> intro hk
    · exact ⟨hm.1.trans hk.1, hk.2⟩
    · exact hk
  · exact hm

theorem HeapOnly.pure (a : α) {Qv : α → Prop} (h : Qv a) : HeapOnly (pure a : M α) Qv :=
  HeapOnly.intro fun s => ⟨SameL.refl s, h⟩

theorem HeapOnly.post {m : M α} {Qv Qw : α → Prop} (h : HeapOnly m Qv) (hq : ∀ a, Qv a → Qw a) :
    HeapOnly m Qw := fun s =>
  ⟨fun a s' hm => ⟨((h s).1 a s' hm).1, hq a ((h s).1 a s' hm).2⟩, (h s).2⟩

/-- The asymmetric rule: the left (reclaiming) run takes a heap-only step that the other run does not take
(promotion before a store, the staging of a returned string). -/
theorem RTriple.left {m : M α} {Qv : α → Prop} {k : α → M β} {m₂ : M β}
    {S : β → β → St → St → Prop} (h₁ : HeapOnly m Qv) (h₂ : ∀ a, Qv a → RTriple R (k a) m₂ S) :
    RTriple R (m >>= k) m₂ S := by
  show RTriple R (M.bind m k) m₂ S
  intro s₁ s₂ hr
  have hm := h₁.sat s₁
  unfold M.bind
  revert hm
  cases m s₁ <;> intro hm
  · exact h₂ _ hm.2 _ s₂ (hr.same hm.1 (SameL.refl s₂))
  · cases m₂ s₂
    · exact hm
    · exact fun ho => absurd ho hm

theorem RTriple.both {m₁ m₂ : M α} {Q₁ Q₂ : α → Prop} (h₁ : HeapOnly m₁ Q₁) (h₂ : HeapOnly m₂ Q₂) :
    RTriple R m₁ m₂ (fun a₁ a₂ t₁ t₂ => R t₁ t₂ ∧ Q₁ a₁ ∧ Q₂ a₂) := by
  intro s₁ s₂ hr
  have hm₁ := h₁.sat s₁
  have hm₂ := h₂.sat s₂
  revert hm₁ hm₂
  cases m₁ s₁ <;> cases m₂ s₂ <;> intro hm₁ hm₂
  · exact ⟨hr.same hm₁.1 hm₂.1, hm₁.2, hm₂.2⟩
  · exact hm₂
  · exact hm₁
  · exact fun ho => absurd ho hm₁

theorem emit_heapOnly (e : Ev) : HeapOnly (emit e) (fun _ => True) :=
  HeapOnly.intro fun _ => ⟨⟨rfl, rfl, rfl, rfl, rfl, rfl, rfl⟩, trivial⟩

theorem readH_heapOnly (site : Nat) (h : Handle) (hs : site < 50) :
    HeapOnly (readH site h) (fun _ => True) := by
  refine HeapOnly.intro fun s => ?_
  unfold readH
  split
  · exact ⟨⟨rfl, rfl, rfl, rfl, rfl, if_neg (Nat.not_le.mpr hs), rfl⟩, trivial⟩
  · exact Stop.noConfusion

theorem readHs_heapOnly (site : Nat) (hs : site < 50) : ∀ l : List Handle,
    HeapOnly (readHs site l) (fun _ => True)
  | [] => HeapOnly.pure () trivial
  | a :: l => by
    unfold readHs
    exact HeapOnly.bind (readH_heapOnly site a hs) (fun _ _ => readHs_heapOnly site hs l)

theorem allocFrame_heapOnly (b : Bool) (ct : Nat) :
    HeapOnly (allocFrame b ct) (fun h => h.ct = ct ∧ h.isStr = b) :=
  HeapOnly.intro fun _ => ⟨⟨rfl, rfl, rfl, rfl, rfl, rfl, rfl⟩, rfl, rfl⟩

theorem allocPersist_heapOnly (b : Bool) (ct : Nat) :
    HeapOnly (allocPersist b ct) (fun h => h.ct = ct ∧ h.isStr = b) :=
  HeapOnly.intro fun _ => ⟨⟨rfl, rfl, rfl, rfl, rfl, rfl, rfl⟩, rfl, rfl⟩

theorem allocPool_heapOnly (ct : Nat) :
    HeapOnly (allocPool ct) (fun h => h.ct = ct ∧ h.isStr = true) := by
  refine HeapOnly.intro fun s => ?_
  fun_cases allocPool ct s
  · exact Stop.noConfusion
  all_goals exact ⟨⟨rfl, rfl, rfl, rfl, rfl, rfl, rfl⟩, rfl, rfl⟩

theorem freeH_heapOnly (h : Handle) : HeapOnly (freeH h) (fun _ => True) := by
  refine HeapOnly.intro fun s => ?_
  fun_cases freeH h s
  · exact ⟨⟨rfl, rfl, rfl, rfl, rfl, rfl, rfl⟩, trivial⟩
  · exact Stop.noConfusion
  · exact Stop.noConfusion
  · exact Stop.noConfusion
  · exact ⟨SameL.refl s, trivial⟩
  · exact ⟨SameL.refl s, trivial⟩

theorem freeTop_heapOnly (v : MVal) : HeapOnly (freeTop v) (fun _ => True) := by
  cases v with
  | scalar => exact HeapOnly.pure () trivial
  | leaf h => exact freeH_heapOnly h
  | arr _ _ => exact HeapOnly.pure () trivial

theorem freeSlots_heapOnly : ∀ sl : List Slot, HeapOnly (freeSlots sl) (fun _ => True)
  | [] => HeapOnly.pure () trivial
  | a :: sl => by
    unfold freeSlots
    exact HeapOnly.bind (freeTop_heapOnly a.val) (fun _ _ => freeSlots_heapOnly sl)

theorem copyLeaf_heapOnly (site : Nat) (hs : site < 50) (a : Handle) {alloc : M Handle} {b : Bool}
    (ha : HeapOnly alloc (fun h => h.ct = a.ct ∧ h.isStr = b)) (hstr : a.isStr = b) :
    HeapOnly (do readH site a; let h' ← alloc; pure (MVal.leaf h')) (fun v' => VRel v' (.leaf a)) := by
  refine HeapOnly.bind (readH_heapOnly site a hs) (fun _ _ => ?_)
  refine HeapOnly.bind ha (fun h' hq => ?_)
  exact HeapOnly.pure _ ⟨hq.1, hq.2.trans hstr.symm⟩

mutual
  theorem promote_heapOnly : ∀ v : MVal, HeapOnly (promote v) (fun v' => VRel v' v)
    | .scalar => by simp only [promote]; exact HeapOnly.pure _ trivial
    | .leaf a => by
      have hkeep : HeapOnly (pure (MVal.leaf a)) (fun v' => VRel v' (.leaf a)) :=
        HeapOnly.pure _ (VRel.refl _)
      unfold promote
      by_cases hstr : a.isStr = true
      · rw [if_pos hstr]
        by_cases hown : a.owned = true
        · rw [if_pos hown]
          by_cases hf : a.region.isFrame = true
          · rw [if_pos hf]; exact copyLeaf_heapOnly 30 (by decide) a (allocPool_heapOnly a.ct) hstr
          · rw [if_neg hf]; exact hkeep
        · rw [if_neg hown]
          by_cases hf : (a.region.isFrame || a.region.isPool) = true
          · rw [if_pos hf]; exact copyLeaf_heapOnly 31 (by decide) a (allocPool_heapOnly a.ct) hstr
          · rw [if_neg hf]; exact hkeep
      · rw [if_neg hstr]
        refine HeapOnly.bind (emit_heapOnly _) (fun _ _ => ?_)
        by_cases hf : a.region.isFrame = true
        · rw [if_pos hf]
          exact copyLeaf_heapOnly 32 (by decide) a (allocPersist_heapOnly false a.ct)
            (Bool.eq_false_iff.mpr hstr)
        · rw [if_neg hf]; exact hkeep
    | .arr b xs => by
      simp only [promote]
      refine HeapOnly.bind (emit_heapOnly _) (fun _ _ => ?_)
      refine HeapOnly.bind (readH_heapOnly 33 b (by decide)) (fun _ _ => ?_)
      refine HeapOnly.bind (allocPersist_heapOnly false b.ct) (fun b' hq => ?_)
      refine HeapOnly.bind (promoteL_heapOnly xs) (fun xs' hx => ?_)
      exact HeapOnly.pure _ ⟨hq.1, hx⟩
  theorem promoteL_heapOnly : ∀ vs : List MVal, HeapOnly (promoteL vs) (fun vs' => VRelL vs' vs)
    | [] => by simp only [promoteL]; exact HeapOnly.pure _ trivial
    | v :: vs => by
      simp only [promoteL]
      refine HeapOnly.bind (promote_heapOnly v) (fun v' hv => ?_)
      refine HeapOnly.bind (promoteL_heapOnly vs) (fun vs' hvs => ?_)
      exact HeapOnly.pure _ ⟨hv, hvs⟩
end

theorem copyFrame_heapOnly (e : Ev) (site : Nat) (hs : site < 50) (a : Handle) (b : Bool)
    {k : Handle → M β} {Q : β → Prop} (hk : ∀ h', h'.ct = a.ct ∧ h'.isStr = b → HeapOnly (k h') Q) :
    HeapOnly (do emit e; readH site a; let h' ← allocFrame b a.ct; k h') Q :=
  HeapOnly.bind (emit_heapOnly e) (fun _ _ =>
    HeapOnly.bind (readH_heapOnly site a hs) (fun _ _ => HeapOnly.bind (allocFrame_heapOnly b a.ct) hk))

mutual
  /-- Copy on read is, like promotion, a step of the discipline itself (sites below 50): it touches the heap
  only, whatever the configuration, so that the two runs need not even agree on which handles are owned. -/
  theorem copyRead_heapOnly (c : Cfg) : ∀ v : MVal, HeapOnly (copyRead c v) (fun v' => VRel v' v)
    | .scalar => by simp only [copyRead]; exact HeapOnly.pure _ trivial
    | .leaf a => by
      unfold copyRead
      by_cases hstr : a.isStr = true
      · rw [if_pos hstr]
        by_cases hown : a.owned = true
        · rw [if_pos hown]
          by_cases hal : c.aliasOnRead = true
          · rw [if_pos hal]; exact HeapOnly.pure _ ⟨rfl, rfl⟩
          · rw [if_neg hal]
            exact copyFrame_heapOnly _ 20 (by decide) a true
              (fun h' hq => HeapOnly.pure _ ⟨hq.1, hq.2.trans hstr.symm⟩)
        · rw [if_neg hown]; exact HeapOnly.pure _ (VRel.refl _)
      · rw [if_neg hstr]
        exact copyFrame_heapOnly _ 21 (by decide) a false
          (fun h' hq => HeapOnly.pure _ ⟨hq.1, hq.2.trans (Bool.eq_false_iff.mpr hstr).symm⟩)
    | .arr b xs => by
      unfold copyRead
      refine copyFrame_heapOnly _ 22 (by decide) b false (fun b' hq => ?_)
      exact HeapOnly.bind (copyReadL_heapOnly c xs) (fun xs' hx => HeapOnly.pure _ ⟨hq.1, hx⟩)
  theorem copyReadL_heapOnly (c : Cfg) : ∀ vs : List MVal,
      HeapOnly (copyReadL c vs) (fun vs' => VRelL vs' vs)
    | [] => by simp only [copyReadL]; exact HeapOnly.pure _ trivial
    | v :: vs => by
      simp only [copyReadL]
      refine HeapOnly.bind (copyRead_heapOnly c v) (fun v' hv => ?_)
      exact HeapOnly.bind (copyReadL_heapOnly c vs) (fun vs' hvs => HeapOnly.pure _ ⟨hv, hvs⟩)
end

theorem promoteIf_heapOnly (c : Cfg) (v : MVal) : HeapOnly (promoteIf c v) (fun v' => VRel v' v) := by
  unfold promoteIf
  by_cases hr : c.reclaim = true
  · rw [if_pos hr]; exact promote_heapOnly v
  · rw [if_neg hr]; exact HeapOnly.pure _ (VRel.refl v)

theorem bindArg_heapOnly (c : Cfg) (v : MVal) : HeapOnly (bindArg c v) (fun v' => VRel v' v) := by
  have hkeep : HeapOnly (pure v) (fun v' => VRel v' v) := HeapOnly.pure _ (VRel.refl v)
  unfold bindArg
  by_cases hr : c.reclaim = true
  · rw [if_pos hr]
    by_cases hp : c.promoteParams = true
    · rw [if_pos hp]; exact promote_heapOnly v
    · rw [if_neg hp]
      cases v with
      | leaf h =>
        dsimp only
        by_cases hc : (h.isStr && !h.owned && h.region.isPool) = true
        · rw [if_pos hc]
          rw [Bool.and_eq_true, Bool.and_eq_true] at hc
          exact copyLeaf_heapOnly 34 (by decide) h (allocPool_heapOnly h.ct) hc.1.1
        · rw [if_neg hc]; exact hkeep
      | _ => exact hkeep
  · rw [if_neg hr]; exact hkeep

theorem freeIf_heapOnly (c : Cfg) (old : MVal) : HeapOnly (freeIf c old) (fun _ => True) := by
  unfold freeIf
  by_cases hr : c.reclaim = true
  · rw [if_pos hr]; exact freeTop_heapOnly old
  · rw [if_neg hr]; exact HeapOnly.pure () trivial

abbrev REq {α : Type} : α → α → St → St → Prop := fun a₁ a₂ t₁ t₂ => R t₁ t₂ ∧ a₁ = a₂

abbrev RVal : MVal → MVal → St → St → Prop := fun v₁ v₂ t₁ t₂ => R t₁ t₂ ∧ VRel v₁ v₂

abbrev REval (m₁ m₂ : M MVal) : Prop := RTriple R m₁ m₂ RVal
abbrev RStep {α : Type} (m₁ m₂ : M α) : Prop := RTriple R m₁ m₂ REq

theorem RTriple.heapBoth {m₁ m₂ : M MVal} {v₁ v₂ : MVal} (h₁ : HeapOnly m₁ (fun v' => VRel v' v₁))
    (h₂ : HeapOnly m₂ (fun v' => VRel v' v₂)) (hv : VRel v₁ v₂) : REval m₁ m₂ :=
  (RTriple.both h₁ h₂).post
    (fun _ _ _ _ h => ⟨h.1, VRel.trans h.2.1 (VRel.trans hv (VRel.symm h.2.2))⟩)

theorem tokWith_rel (pick : CTok → Option α) (ev₁ ev₂ : α → Ev) (why : Nat) :
    RTriple R (tokWith pick ev₁ why) (tokWith pick ev₂ why) REq := by
  intro s₁ s₂ hr
  unfold tokWith
  rw [← hr.ctl]
  cases s₁.ctl with
  | nil => exact fun _ _ => hr.fin
  | cons t r =>
    dsimp only
    cases pick t with
    | none => exact fun _ _ => hr.fin
    | some a => exact ⟨{ hr with ctl := rfl }, rfl⟩

theorem errAt_rel (k : Nat) (sp : Span) : RTriple R (errAt k sp) (errAt k sp) REq := by
  intro s₁ s₂ hr
  unfold errAt
  rw [← hr.ctl]
  cases s₁.ctl with
  | nil => exact ⟨hr, rfl⟩
  | cons t r =>
    cases t with
    | err k' lo hi =>
      dsimp only
      by_cases hk : k' = k ∧ lo = sp.lo ∧ hi = sp.hi
      · rw [if_pos hk, if_pos hk]; exact fun _ _ => hr.fin
      · rw [if_neg hk, if_neg hk]; exact ⟨hr, rfl⟩
    | _ => exact ⟨hr, rfl⟩

theorem shapeError_rel {Q : α → α → St → St → Prop} :
    RTriple R (shapeError : M α) (shapeError : M α) Q := by
  intro s₁ s₂ hr
  unfold shapeError
  rw [← hr.ctl]
  cases s₁.ctl with
  | nil => exact fun _ _ => hr.fin
  | cons t r => cases t <;> exact fun _ _ => hr.fin

theorem freshCt_rel : RTriple R freshCt freshCt REq := by
  intro s₁ s₂ hr
  exact ⟨{ hr with nextCt := congrArg (· + 1) hr.nextCt }, hr.nextCt⟩

theorem readH_rel (site : Nat) {h₁ h₂ : Handle} (hct : h₁.ct = h₂.ct) :
    RTriple R (readH site h₁) (readH site h₂) (fun _ _ => R) := by
  intro s₁ s₂ hr
  unfold readH
  by_cases hv₁ : s₁.valid h₁ = true <;> by_cases hv₂ : s₂.valid h₂ = true
  · rw [if_pos hv₁, if_pos hv₂]
    exact { hr with obs := by simp [observed, hct, hr.obs] }
  · rw [if_pos hv₁, if_neg hv₂]; exact fun h => Stop.noConfusion h
  · rw [if_neg hv₁, if_pos hv₂]; exact fun h => Stop.noConfusion h
  · rw [if_neg hv₁, if_neg hv₂]; intro h; cases h

theorem readHs_rel (site : Nat) : ∀ {hs₁ hs₂ : List Handle}, cts hs₁ = cts hs₂ →
    RTriple R (readHs site hs₁) (readHs site hs₂) (fun _ _ => R)
  | [], [], _ => RTriple.pure _ _ (fun _ _ h => h)
  | a :: as, b :: bs, h => by
    simp only [cts, List.map_cons, List.cons.injEq] at h
    unfold readHs
    exact RTriple.bind (readH_rel site h.1) (fun _ _ => readHs_rel site h.2)
  | [], _ :: _, h => by simp [cts] at h
  | _ :: _, [], h => by simp [cts] at h

theorem alloc_rel {m : M Handle} {b : Bool} {ct : Nat} (h : HeapOnly m (fun h => h.ct = ct ∧ h.isStr = b)) :
    RTriple R m m (fun h₁ h₂ t₁ t₂ => R t₁ t₂ ∧ h₁.ct = h₂.ct ∧ h₁.isStr = h₂.isStr) :=
  (RTriple.both h h).post
    (fun _ _ _ _ h => ⟨h.1, h.2.1.1.trans h.2.2.1.symm, h.2.1.2.trans h.2.2.2.symm⟩)

theorem pushT_rel {v₁ v₂ : MVal} (h : VRel v₁ v₂) :
    RTriple R (pushT v₁) (pushT v₂) (fun _ _ => R) := by
  intro s₁ s₂ hr
  exact { hr with temps := ⟨h, hr.temps⟩ }

theorem popT_rel : RTriple R popT popT RVal := by
  intro s₁ s₂ hr
  unfold popT
  obtain ⟨h₁, h₂⟩ | ⟨a, b, r₁, r₂, h₁, h₂, hab, ht⟩ | ⟨_, _, _, _, _, _, h₁, h₂, _⟩ := hr.temps.cases <;>
    rw [h₁, h₂]
  · exact fun _ _ => hr.fin
  · exact ⟨{ hr with temps := ht }, hab⟩
  · exact fun _ _ => hr.fin

/-- The check of the reclaiming run can only end it for a reason outside the language. -/
theorem popClean_rel : RTriple R (popClean Cfg.fixed) (popClean Cfg.noReclaim) RVal := by
  rw [popClean_fixed, popClean_noReclaim]
  intro s₁ s₂ hr
  unfold popCleanChecked popT
  obtain ⟨h₁, h₂⟩ | ⟨a, b, r₁, r₂, h₁, h₂, hab, ht⟩ | ⟨_, _, _, _, _, _, h₁, h₂, _⟩ := hr.temps.cases <;>
    rw [h₁, h₂]
  · exact fun _ _ => hr.fin
  · dsimp only
    by_cases hall : (a.handles.all fun h => !h.region.isFrame) = true
    · rw [if_pos hall]
      exact ⟨{ hr with temps := ht }, hab⟩
    · rw [if_neg hall]
      exact Stop.noConfusion
  · exact fun _ _ => hr.fin

theorem popN_rel : ∀ (n : Nat) {acc₁ acc₂ : List MVal}, VRelL acc₁ acc₂ →
    RTriple R (popN n acc₁) (popN n acc₂) (fun vs₁ vs₂ t₁ t₂ => R t₁ t₂ ∧ VRelL vs₁ vs₂)
  | 0, _, _, h => RTriple.pure _ _ (fun _ _ hr => ⟨hr, h⟩)
  | n + 1, _, _, h => by
    unfold popN
    exact RTriple.bind popT_rel (fun v₁ v₂ => RTriple.assume (fun hv => popN_rel n ⟨hv, h⟩))

theorem pushMark_rel (kind : Nat) :
    RTriple R (pushMark Cfg.fixed kind) (pushMark Cfg.noReclaim kind) (fun _ _ => R) := by
  intro s₁ s₂ hr
  unfold pushMark
  simp only [Cfg.fixed, Cfg.noReclaim, if_true, Bool.false_eq_true, if_false]
  cases s₁.lay with
  | nil => exact fun h => Stop.noConfusion h
  | cons l lay =>
    -- both stacks get a mark on top, and `TempsRel` of two marks is by definition `TempsRel` of what is under them:
    -- `hr.temps` is the new field as it stands, the update only restates the record for the new states
    exact { hr with temps := hr.temps }

theorem dropToMark_rel : ∀ {ts₁ ts₂ : List TE}, TempsRel ts₁ ts₂ →
    ORel (fun x y => TempsRel x.2.2 y.2.2) (dropToMark ts₁) (dropToMark ts₂) := by
  intro ts₁ ts₂
  fun_induction TempsRel ts₁ ts₂
  · exact fun _ => trivial
  · rename_i ih
    exact fun h => ih h.2
  · exact fun h => h
  · exact False.elim

theorem resetToMark_rel (c₁ c₂ : Cfg) (k₁ k₂ : Nat) :
    RTriple R (resetToMark c₁ k₁) (resetToMark c₂ k₂) (fun _ _ => R) := by
  intro s₁ s₂ hr
  unfold resetToMark
  obtain ⟨h₁, h₂⟩ | ⟨⟨_, _, r₁⟩, ⟨_, _, r₂⟩, h₁, h₂, hd⟩ := (dropToMark_rel hr.temps).cases <;> rw [h₁, h₂]
  · exact fun _ _ => hr.fin
  · cases c₁.reclaim <;> cases c₂.reclaim <;> exact { hr with temps := hd }

theorem dropMark_eq (kind : Nat) : dropMark = resetToMark Cfg.noReclaim kind := by
  funext s
  unfold dropMark resetToMark
  cases dropToMark s.temps <;> rfl

theorem dropMark_rel : RTriple R dropMark dropMark (fun _ _ => R) := by
  rw [dropMark_eq 0]
  exact resetToMark_rel _ _ _ _

/-- The mark of a call is reset by the reclaiming run and merely forgotten by the other. -/
theorem resetDrop_rel (kind : Nat) :
    RTriple R (resetToMark Cfg.fixed kind) dropMark (fun _ _ => R) := by
  rw [dropMark_eq 0]
  exact resetToMark_rel _ _ _ _

theorem valOverMark_rel {ts₁ ts₂ : List TE} (h : TempsRel ts₁ ts₂) :
    ORel (fun x y => VRel x.1 y.1 ∧ TempsRel x.2 y.2) (valOverMark ts₁) (valOverMark ts₂) := by
  obtain ⟨rfl, rfl⟩ | ⟨a, b, r₁, r₂, rfl, rfl, hab, hr⟩ | ⟨_, _, _, _, _, _, rfl, rfl, _⟩ := h.cases
  · trivial
  · obtain ⟨rfl, rfl⟩ | ⟨_, _, _, _, rfl, rfl, _, _⟩ | ⟨_, _, _, _, _, _, rfl, rfl, hr'⟩ := hr.cases
    · trivial
    · trivial
    · exact ⟨hab, hr'⟩
  · trivial

theorem dropMarkUnderTop_rel : RTriple R dropMarkUnderTop dropMarkUnderTop (fun _ _ => R) := by
  intro s₁ s₂ hr
  unfold dropMarkUnderTop
  obtain ⟨h₁, h₂⟩ | ⟨⟨_, _⟩, ⟨_, _⟩, h₁, h₂, hd⟩ := (valOverMark_rel hr.temps).cases <;> rw [h₁, h₂]
  · exact fun _ _ => hr.fin
  · exact { hr with temps := hd }

theorem findSlot_rel : ∀ {a b : List Slot} (id : Nat), SlotsRel a b →
    ORel VRel (findSlot id a) (findSlot id b) := by
  intro a b id
  fun_induction SlotsRel a b
  · exact fun _ => trivial
  · rename_i x a y b ih
    intro h
    unfold findSlot
    rw [← h.1]
    by_cases hid : x.id = id
    · rw [if_pos hid, if_pos hid]; exact h.2.1
    · rw [if_neg hid, if_neg hid]; exact ih h.2.2
  · exact False.elim

theorem lookupEnv_rel : ∀ {a b : List (List Slot)} (id : Nat), EnvRel a b →
    ORel VRel (lookupEnv id a) (lookupEnv id b) := by
  intro a b id
  fun_induction EnvRel a b
  · exact fun _ => trivial
  · rename_i ih
    intro h
    unfold lookupEnv
    obtain ⟨h₁, h₂⟩ | ⟨_, _, h₁, h₂, hv⟩ := (findSlot_rel id h.1).cases <;> rw [h₁, h₂]
    · exact ih h.2
    · exact hv
  · exact False.elim

theorem setSlot_rel : ∀ {a b : List Slot} (id : Nat) {v₁ v₂ : MVal}, SlotsRel a b → VRel v₁ v₂ →
    SlotsRel (setSlot id v₁ a) (setSlot id v₂ b) := by
  intro a b id v₁ v₂
  fun_induction SlotsRel a b
  · exact fun _ _ => trivial
  · rename_i x a y b ih
    intro h hv
    unfold setSlot
    rw [← h.1]
    by_cases hid : x.id = id
    · rw [if_pos hid, if_pos hid]; exact ⟨rfl, hv, h.2.2⟩
    · rw [if_neg hid, if_neg hid]; exact ⟨h.1, h.2.1, ih h.2.2 hv⟩
  · exact fun h => h.elim

theorem setEnv_rel : ∀ {a b : List (List Slot)} (id : Nat) {v₁ v₂ : MVal}, EnvRel a b → VRel v₁ v₂ →
    EnvRel (setEnv id v₁ a) (setEnv id v₂ b) := by
  intro a b id v₁ v₂
  fun_induction EnvRel a b
  · exact fun _ _ => trivial
  · rename_i ih
    intro h hv
    unfold setEnv
    obtain ⟨h₁, h₂⟩ | ⟨_, _, h₁, h₂, _⟩ := (findSlot_rel id h.1).cases <;> rw [h₁, h₂]
    · exact ⟨h.1, ih h.2 hv⟩
    · exact ⟨setSlot_rel id h.1 hv, h.2⟩
  · exact fun h => h.elim

theorem getVar_rel (id : Nat) : RTriple R (getVar id) (getVar id) RVal := by
  intro s₁ s₂ hr
  unfold getVar
  obtain ⟨h₁, h₂⟩ | ⟨_, _, h₁, h₂, hv⟩ := (lookupEnv_rel id hr.env).cases <;> rw [h₁, h₂]
  · exact fun _ _ => hr.fin
  · exact ⟨hr, hv⟩

theorem swapVar_rel (id : Nat) {v₁ v₂ : MVal} (hv : VRel v₁ v₂) :
    RTriple R (swapVar id v₁) (swapVar id v₂) RVal := by
  intro s₁ s₂ hr
  unfold swapVar
  obtain ⟨h₁, h₂⟩ | ⟨_, _, h₁, h₂, hold⟩ := (lookupEnv_rel id hr.env).cases <;> rw [h₁, h₂]
  · exact fun _ _ => hr.fin
  · exact ⟨{ hr with env := setEnv_rel id hr.env hv }, hold⟩

theorem addSlot_rel (id : Nat) {v₁ v₂ : MVal} (hv : VRel v₁ v₂) :
    RTriple R (addSlot id v₁) (addSlot id v₂) (fun _ _ => R) := by
  intro s₁ s₂ hr
  unfold addSlot
  obtain ⟨h₁, h₂⟩ | ⟨_, _, _, _, h₁, h₂, hsc, he⟩ := hr.env.cases <;> rw [h₁, h₂]
  · exact fun _ _ => hr.fin
  · exact { hr with env := ⟨⟨rfl, hv, hsc⟩, he⟩ }

theorem storeOut_rel {v₁ v₂ : MVal} (hv : VRel v₁ v₂) :
    RTriple R (storeOut v₁) (storeOut v₂) (fun _ _ => R) := by
  intro s₁ s₂ hr
  exact { hr with out := ⟨hv, hr.out⟩ }

theorem pushScope_rel : RTriple R pushScope pushScope (fun _ _ => R) := by
  intro s₁ s₂ hr
  exact { hr with env := ⟨trivial, hr.env⟩, fns := congrArg ([] :: ·) hr.fns }

theorem addFns_rel (ds : List FnDef) : RTriple R (addFns ds) (addFns ds) (fun _ _ => R) := by
  intro s₁ s₂ hr
  unfold addFns
  rw [hr.fns]
  cases s₂.fns with
  | nil => exact hr
  | cons sc r => exact { hr with fns := rfl }

theorem getFn_rel (fid : Nat) : RTriple R (getFn fid) (getFn fid) REq := by
  intro s₁ s₂ hr
  unfold getFn
  rw [hr.fns]
  cases lookupFn fid s₂.fns with
  | none => exact fun _ _ => hr.fin
  | some d => exact ⟨hr, rfl⟩

theorem inCurrentScope_rel (id : Nat) : RTriple R (inCurrentScope id) (inCurrentScope id) REq := by
  intro s₁ s₂ hr
  unfold inCurrentScope
  obtain ⟨h₁, h₂⟩ | ⟨_, _, _, _, h₁, h₂, hsc, _⟩ := hr.env.cases <;> rw [h₁, h₂]
  · exact fun _ _ => hr.fin
  · exact ⟨hr, (findSlot_rel id hsc).isSome_eq⟩

theorem popScope_rel : RTriple R popScope popScope (fun _ _ => R) := by
  intro s₁ s₂ hr
  unfold popScope
  obtain ⟨h₁, h₂⟩ | ⟨sc₁, r₁, sc₂, r₂, h₁, h₂, _, he⟩ := hr.env.cases <;> rw [h₁, h₂]
  · exact { hr with env := trivial, fns := congrArg List.tail hr.fns }
  · -- the states after dropping the scope are related; the frees touch the heaps only
    exact (RTriple.both (freeSlots_heapOnly _) (freeSlots_heapOnly _)).post (fun _ _ _ _ h => h.1) _ _
      { hr with env := he, fns := congrArg List.tail hr.fns }

/-- The updates given to `modifyAt` on the two sides. -/
def GRel (g₁ g₂ : MVal → Option (MVal × MVal)) : Prop :=
  ∀ a₁ a₂, VRel a₁ a₂ → ORel (fun x y => VRel x.1 y.1 ∧ VRel x.2 y.2) (g₁ a₁) (g₂ a₂)

theorem modifyAt_rel {g₁ g₂ : MVal → Option (MVal × MVal)} (hg : GRel g₁ g₂) :
    ∀ (path : List Nat) {v₁ v₂ : MVal}, VRel v₁ v₂ →
      ORel (fun x y => VRel x.1 y.1 ∧ VRel x.2.1 y.2.1) (modifyAt path v₁ g₁) (modifyAt path v₂ g₂) := by
  intro path
  induction path with
  | nil =>
    intro v₁ v₂ hv
    unfold modifyAt
    obtain ⟨h₁, h₂⟩ | ⟨_, _, h₁, h₂, hxy⟩ := (hg v₁ v₂ hv).cases <;> rw [h₁, h₂]
    · trivial
    · exact hxy
  | cons k ks ih =>
    intro v₁ v₂
    fun_cases VRel v₁ v₂
    · exact fun _ => trivial
    · exact fun _ => trivial
    · intro hv
      unfold modifyAt
      obtain ⟨h₁, h₂⟩ | ⟨x₁, x₂, h₁, h₂, hk⟩ := (hv.2.getElem? k).cases <;> rw [h₁, h₂]
      · trivial
      · obtain ⟨h₃, h₄⟩ | ⟨⟨_, _, _⟩, ⟨_, _, _⟩, h₃, h₄, hy⟩ := (ih hk).cases <;>
          simp only [h₃, h₄]
        · trivial
        · exact ⟨⟨hv.1, hv.2.set hy.1 k⟩, hy.2⟩
    · exact False.elim

theorem modifyVar_rel (id : Nat) (path : List Nat) {g₁ g₂ : MVal → Option (MVal × MVal)}
    (hg : GRel g₁ g₂) : RTriple R (modifyVar id path g₁) (modifyVar id path g₂) RVal := by
  intro s₁ s₂ hr
  unfold modifyVar
  obtain ⟨h₁, h₂⟩ | ⟨root₁, root₂, h₁, h₂, hl⟩ := (lookupEnv_rel id hr.env).cases <;> rw [h₁, h₂]
  · exact fun _ _ => hr.fin
  · obtain ⟨h₃, h₄⟩ | ⟨⟨a₁, r₁, hs₁⟩, ⟨a₂, r₂, hs₂⟩, h₃, h₄, hm⟩ := (modifyAt_rel hg path hl).cases <;>
      simp only [h₃, h₄]
    · exact shapeError_rel s₁ s₂ hr
    · -- the buffers on the way are read (a heap-only step), then the new root is stored
      have hb := RTriple.both (readHs_heapOnly 40 (by decide) hs₁) (readHs_heapOnly 40 (by decide) hs₂)
        s₁ s₂ hr
      revert hb
      cases readHs 40 hs₁ s₁ <;> cases readHs 40 hs₂ s₂
      · exact fun hb => ⟨{ hb.1 with env := setEnv_rel id hb.1.env hm.1 }, hm.2⟩
      all_goals exact fun hb => hb

theorem emit_rel (e₁ e₂ : Ev) : RTriple R (emit e₁) (emit e₂) (fun _ _ => R) :=
  (RTriple.both (emit_heapOnly e₁) (emit_heapOnly e₂)).post (fun _ _ _ _ h => h.1)

theorem copyReadL_rel : ∀ {vs₁ vs₂ : List MVal}, VRelL vs₁ vs₂ →
    RTriple R (copyReadL Cfg.fixed vs₁) (copyReadL Cfg.noReclaim vs₂)
      (fun ys₁ ys₂ t₁ t₂ => R t₁ t₂ ∧ VRelL ys₁ ys₂) := fun {vs₁ vs₂} h =>
  (RTriple.both (copyReadL_heapOnly _ vs₁) (copyReadL_heapOnly _ vs₂)).post
    (fun _ _ _ _ hh => ⟨hh.1, VRelL.trans hh.2.1 (VRelL.trans h (VRelL.symm hh.2.2))⟩)

theorem RTriple.bindV {m₁ m₂ : M MVal} {k₁ k₂ : MVal → M β} {S : β → β → St → St → Prop}
    (h₁ : REval m₁ m₂) (h₂ : ∀ a₁ a₂, VRel a₁ a₂ → RTriple R (k₁ a₁) (k₂ a₂) S) :
    RTriple R (m₁ >>= k₁) (m₂ >>= k₂) S :=
  RTriple.bind h₁ (fun a₁ a₂ => RTriple.assume (fun hv => h₂ a₁ a₂ hv))

theorem RTriple.bindE {m₁ m₂ : M α} {k₁ k₂ : α → M β} {S : β → β → St → St → Prop}
    (h₁ : RStep m₁ m₂) (h₂ : ∀ a, RTriple R (k₁ a) (k₂ a) S) :
    RTriple R (m₁ >>= k₁) (m₂ >>= k₂) S :=
  RTriple.bind h₁ (fun a₁ a₂ => RTriple.assume (fun he => by subst he; exact h₂ a₁))

theorem promoteIf_rel {c₁ c₂ : Cfg} {v₁ v₂ : MVal} (hv : VRel v₁ v₂) :
    REval (promoteIf c₁ v₁) (promoteIf c₂ v₂) :=
  RTriple.heapBoth (promoteIf_heapOnly c₁ v₁) (promoteIf_heapOnly c₂ v₂) hv

theorem freeIf_rel {c₁ c₂ : Cfg} (old₁ old₂ : MVal) :
    RTriple R (freeIf c₁ old₁) (freeIf c₂ old₂) (fun _ _ => R) :=
  (RTriple.both (freeIf_heapOnly c₁ old₁) (freeIf_heapOnly c₂ old₂)).post (fun _ _ _ _ h => h.1)

theorem overwrite_rel (id : Nat) {v₁ v₂ : MVal} (hv : VRel v₁ v₂) :
    RTriple R (overwrite Cfg.fixed id v₁) (overwrite Cfg.noReclaim id v₂) (fun _ _ => R) := by
  rw [overwrite_fixed, overwrite_noReclaim]
  refine RTriple.left (promote_heapOnly v₁) (fun v' hv' => ?_)
  refine RTriple.bindV (swapVar_rel id (VRel.trans hv' hv)) (fun old₁ old₂ _ => ?_)
  exact (RTriple.both (freeTop_heapOnly old₁) (HeapOnly.pure (Qv := fun _ => True) () trivial)).post
    (fun _ _ _ _ h => h.1)

theorem define_rel (id : Nat) {v₁ v₂ : MVal} (hv : VRel v₁ v₂) :
    RTriple R (define Cfg.fixed id v₁) (define Cfg.noReclaim id v₂) (fun _ _ => R) := by
  unfold define
  refine RTriple.bindE (inCurrentScope_rel id) (fun there => RTriple.ite (overwrite_rel id hv) ?_)
  exact RTriple.bindV (promoteIf_rel hv) (fun a₁ a₂ ha => addSlot_rel id ha)

theorem isStrLeaf_rel {v₁ v₂ : MVal} (h : VRel v₁ v₂) : isStrLeaf v₁ = isStrLeaf v₂ := by
  cases v₁ <;> cases v₂ <;> simp only [VRel] at h <;> simp [isStrLeaf, h]

theorem errIf_rel (c : Prop) [Decidable c] (k : Nat) (sp : Span) :
    RTriple R (if c then errAt k sp else pure ()) (if c then errAt k sp else pure ()) (fun _ _ => R) :=
  RTriple.ite ((errAt_rel k sp).post (fun _ _ _ _ h => h.1)) (RTriple.pure _ _ (fun _ _ h => h))

theorem newLeaf_rel (b : Bool) : REval (do let ct ← freshCt; let h ← allocFrame b ct; pure (MVal.leaf h))
    (do let ct ← freshCt; let h ← allocFrame b ct; pure (MVal.leaf h)) := by
  refine RTriple.bindE freshCt_rel (fun ct => ?_)
  refine RTriple.bind (alloc_rel (allocFrame_heapOnly b ct)) (fun h₁ h₂ => ?_)
  exact RTriple.pure _ _ (fun _ _ h => h)

theorem scalar_rel : REval (pure .scalar) (pure .scalar) :=
  RTriple.pure _ _ (fun _ _ h => ⟨h, trivial⟩)

theorem pure_rel (a : α) : RStep (pure a : M α) (pure a) :=
  RTriple.pure _ _ (fun _ _ h => ⟨h, rfl⟩)

theorem binop_rel (op : BinOp) (sp : Span) {l₁ l₂ r₁ r₂ : MVal} (hl : VRel l₁ l₂) (hr : VRel r₁ r₂) :
    REval (binop op l₁ r₁ sp) (binop op l₂ r₂ sp) := by
  unfold binop
  refine RTriple.bind (readHs_rel 50 hl.cts) (fun _ _ => ?_)
  refine RTriple.bind (readHs_rel 51 hr.cts) (fun _ _ => ?_)
  refine RTriple.bind (errIf_rel _ 2 sp) (fun _ _ => ?_)
  rw [isStrLeaf_rel hl, isStrLeaf_rel hr]
  exact RTriple.ite (newLeaf_rel true) scalar_rel

theorem readSegs_rel : ∀ segs : List Seg, RTriple R (readSegs segs) (readSegs segs) (fun _ _ => R)
  | [] => RTriple.pure _ _ (fun _ _ h => h)
  | .lit _ :: r => by simp only [readSegs]; exact readSegs_rel r
  | .var _ (some id) :: r => by
    simp only [readSegs]
    refine RTriple.bindV (getVar_rel id) (fun v₁ v₂ hv => ?_)
    exact RTriple.bind (readHs_rel 52 hv.cts) (fun _ _ => readSegs_rel r)
  | .var _ none :: _ => by simp only [readSegs]; exact RTriple.halt _ _

theorem allocStrs_rel : ∀ n : Nat, RTriple R (allocStrs n) (allocStrs n)
    (fun vs₁ vs₂ t₁ t₂ => R t₁ t₂ ∧ VRelL vs₁ vs₂)
  | 0 => RTriple.pure _ _ (fun _ _ h => ⟨h, trivial⟩)
  | n + 1 => by
    simp only [allocStrs]
    refine RTriple.bindE freshCt_rel (fun ct => ?_)
    refine RTriple.bind (alloc_rel (allocFrame_heapOnly true ct)) (fun h₁ h₂ => RTriple.assume (fun hh => ?_))
    refine RTriple.bind (allocStrs_rel n) (fun vs₁ vs₂ => ?_)
    exact RTriple.pure _ _ (fun _ _ h => ⟨h.1, hh, h.2⟩)

theorem bindArg_rel {c₁ c₂ : Cfg} {v₁ v₂ : MVal} (hv : VRel v₁ v₂) :
    REval (bindArg c₁ v₁) (bindArg c₂ v₂) :=
  RTriple.heapBoth (bindArg_heapOnly c₁ v₁) (bindArg_heapOnly c₂ v₂) hv

theorem bindParams_rel : ∀ (ps : List (Option Nat)) {vs₁ vs₂ : List MVal}, VRelL vs₁ vs₂ →
    RTriple R (bindParams Cfg.fixed ps vs₁) (bindParams Cfg.noReclaim ps vs₂) (fun _ _ => R)
  | some id :: ps, v₁ :: vs₁, v₂ :: vs₂, h => by
    simp only [VRelL] at h
    simp only [bindParams]
    refine RTriple.bindV (bindArg_rel h.1) (fun a₁ a₂ ha => ?_)
    exact RTriple.bind (addSlot_rel id ha) (fun _ _ => bindParams_rel ps h.2)
  | [], [], [], _ => RTriple.pure _ _ (fun _ _ h => h)
  | none :: _, _, _, _ => by simp only [bindParams]; exact RTriple.halt _ _
  | some _ :: _, [], [], _ => by simp only [bindParams]; exact RTriple.halt _ _
  | [], _ :: _, _ :: _, _ => by simp only [bindParams]; exact RTriple.halt _ _
  | _, [], _ :: _, h | _, _ :: _, [], h => h.elim

/-- `relocate_return_value` against simply forgetting the call's mark. -/
theorem relocate_rel {v₁ v₂ : MVal} (hv : VRel v₁ v₂) :
    REval (relocate Cfg.fixed v₁) (do dropMark; pure v₂) := by
  have hprom : ∀ v : MVal, VRel v v₂ →
      REval (do let v' ← promote v; resetToMark Cfg.fixed 2; pure v') (do dropMark; pure v₂) := by
    intro v hvv
    refine RTriple.left (promote_heapOnly v) (fun v' hv' => ?_)
    refine RTriple.bind (resetDrop_rel 2) (fun _ _ => ?_)
    exact RTriple.pure _ _ (fun _ _ h => ⟨h, VRel.trans hv' hvv⟩)
  have hplain : ∀ v : MVal, VRel v v₂ →
      REval (do resetToMark Cfg.fixed 3; pure v) (do dropMark; pure v₂) := by
    intro v hvv
    refine RTriple.bind (resetDrop_rel 3) (fun _ _ => ?_)
    exact RTriple.pure _ _ (fun _ _ h => ⟨h, hvv⟩)
  cases v₁ with
  | scalar => simp only [relocate]; exact hplain _ hv
  | arr b els => simp only [relocate]; exact hprom _ hv
  | leaf a =>
    simp only [relocate, Cfg.fixed, Bool.or_true, Bool.and_true, if_true]
    by_cases hstr : a.isStr = true
    · rw [if_pos hstr]
      by_cases hf : a.region.isFrame = true
      · rw [if_pos hf]
        refine RTriple.left (readH_heapOnly 35 a (by decide)) (fun _ _ => ?_)
        refine RTriple.left (emit_heapOnly _) (fun _ _ => ?_)
        refine RTriple.bind (resetDrop_rel 1) (fun _ _ => ?_)
        refine RTriple.left (allocFrame_heapOnly true a.ct) (fun h' hq => ?_)
        refine RTriple.left (emit_heapOnly _) (fun _ _ => ?_)
        exact RTriple.pure _ _ (fun _ _ h =>
          ⟨h, VRel.trans (a := .leaf h') (b := .leaf a) ⟨hq.1, hq.2.trans hstr.symm⟩ hv⟩)
      · rw [if_neg hf]; exact hplain _ hv
    · rw [if_neg hstr]; exact hprom _ hv

end NaijaVerif.Mem
