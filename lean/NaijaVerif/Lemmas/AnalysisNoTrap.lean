import NaijaVerif.Lemmas.AnalysisPure
import NaijaVerif.Lemmas.AnalysisRel
/-
T2, no-trap half: under the laws `Lawful` about the primitive operations (what the runtime's operator / builtin match
arms guarantee on the operand types the classification with the D-03 fixes insists on), an expression classed
`PureNoTrap` that calls no user function evaluates to a value, unless the fuel runs out or a variable it reads has no
slot (`Bad2`).  Together with the state half this is `Quiet`.
-/
namespace NaijaVerif.C03
open NaijaVerif NaijaVerif.Analysis NaijaVerif.AEval

variable {V : Type}

/-- What the runtime guarantees for the operations the classification calls `PureNoTrap`; `ty v t` = the value `v`
has the literal type `t`. -/
structure Lawful (P : Prims V) (ty : V → LTy → Prop) : Prop extends TablesAgree P where
  num : ∀ l sp, ∃ v, P.node (.num l sp) [] = .ok v ∧ ty v .num
  bool : ∀ b sp, ∃ v, P.node (.bool b sp) [] = .ok v ∧ ty v .bool
  null : ∀ sp, ∃ v, P.node (.null sp) [] = .ok v ∧ ty v .null
  str : ∀ p sp rs, ∃ v, P.node (.str p sp) rs = .ok v ∧ ty v .str
  array : ∀ es sp vs, ∃ v, P.node (.array es sp) vs = .ok v
  unary : ∀ op x sp a ta t, ty a ta → litUnary op ta = some t → ∃ v, P.node (.unary op x sp) [a] = .ok v ∧ ty v t
  binary : ∀ op l r sp a b ta tb t, Analysis.isLogic op = false → op ≠ .divide → op ≠ .mod → ty a ta → ty b tb →
    litBinary op ta tb = some t → ∃ v, P.node (.binary op l r sp) [a, b] = .ok v ∧ ty v t
  logicShort : ∀ op, ty (P.logicShort op) .bool
  logicRhs : ∀ b tb, ty b tb → (tb = .bool ∨ tb = .null) → ∃ v, P.logicRhs b = .ok v ∧ ty v .bool
  pureGlobal : ∀ name a, globalClass name = some .pureNoTrap → name ≠ commandName → ∃ v, P.global name [a] = .ok v
  /-- `command` is the one builtin whose class depends on its argument: `PureNoTrap` only if the argument has literal type `str`
  (`classify`) -/
  command : ∀ a, ty a .str → ∃ v, P.global commandName [a] = .ok v
  /-- the `if` / `jasi` test accepts a boolean or null (fix D-03f: the only conditions classed `PureNoTrap`) -/
  cond : ∀ v, ty v .bool ∨ ty v .null → ∃ b, P.cond v = .ok b

mutual
  /-- Every call whose callee is a name has exactly one argument.  Used where there is no user call (`Safe`), so the names
  are global builtins, for which the resolver rejects anything else; `arityOk2` excuses user calls. -/
  def arityOk : Expr → Bool
    | .call (.var _ _ _) args _ _ => args.length == 1 && arityOkList args
    | .call (.member o _ _ _) args _ _ => arityOk o && arityOkList args
    | .call _ args _ _ => arityOkList args
    | .binary _ l r _ => arityOk l && arityOk r
    | .index a i _ _ => arityOk a && arityOk i
    | .array es _ => arityOkList es
    | .unary _ e _ => arityOk e
    | .member o _ _ _ => arityOk o
    | .str _ _ | .num _ _ | .var _ _ _ | .bool _ _ | .null _ => true
  def arityOkList : List Expr → Bool
    | [] => true
    | e :: es => arityOk e && arityOkList es
end

theorem join_impure_ne (a : ExprClass) : a.join .impure ≠ .pureNoTrap := by cases a <;> simp [ExprClass.join]
theorem join_mayTrap_ne (a : ExprClass) : a.join .pureMayTrap ≠ .pureNoTrap := by cases a <;> simp [ExprClass.join]

theorem join_eq_noTrap {a b : ExprClass} (h : a.join b = .pureNoTrap) : a = .pureNoTrap ∧ b = .pureNoTrap := by
  cases a <;> cases b <;> simp_all [ExprClass.join]

/-- `capt`: the locals of enclosing functions.  A condition on the syntax, unrelated to the runtime invariants called
`Safe` in `Lemmas/BridgeSafe.lean` and `Lemmas/Mem.lean`; `safeB` (`AnalysisCheck`) decides it, `safe2B` and `condSafeB`
(`AnalysisLiveOk`) are its forms with user calls and for conditions. -/
def Safe (capt : Nat → Bool) (e : Expr) : Prop :=
  classify capt e = .pureNoTrap ∧ noUserCall e = true ∧ arityOk e = true

def SafeList (capt : Nat → Bool) (es : List Expr) : Prop :=
  classifyList capt es = .pureNoTrap ∧ noUserCallList es = true ∧ arityOkList es = true

def TypedAll (ty : V → LTy → Prop) : List Expr → List V → Prop
  | [], [] => True
  | e :: es, v :: vs => (∀ t, literalTy e = some t → ty v t) ∧ TypedAll ty es vs
  | _, _ => False

/-- With `softErrs` / `badErrs` the error half is `Bad2` / `Bad` (`ends_soft`, `ends_bad`); the list form is what `Ends.mono`
and `Ends.andThen` compose. -/
def Ends {α : Type} (l : List Err) (T : α → Prop) : Except Err α → Prop
  | .ok v => T v
  | .error e => e ∈ l

def softErrs : List Err := [.fuel, .unbound]
def badErrs : List Err := [.fuel, .unbound, .panic]

theorem fuel_soft : Err.fuel ∈ softErrs := by decide
theorem unbound_soft : Err.unbound ∈ softErrs := by decide
theorem fuel_bad : Err.fuel ∈ badErrs := by decide
theorem unbound_bad : Err.unbound ∈ badErrs := by decide
theorem panic_bad : Err.panic ∈ badErrs := by decide
theorem soft_sub_bad : ∀ e ∈ softErrs, e ∈ badErrs := by decide

theorem ends_soft {α : Type} {T : α → Prop} {x : Except Err α} :
    Ends softErrs T x ↔ (∃ v, x = .ok v ∧ T v) ∨ Bad2 x := by
  cases x <;> simp [Ends, Bad2, softErrs]

theorem ends_bad {α : Type} {T : α → Prop} {x : Except Err α} :
    Ends badErrs T x ↔ (∃ v, x = .ok v ∧ T v) ∨ Bad x := by
  cases x <;> simp [Ends, Bad, badErrs]

theorem Ends.mono {α : Type} {l l' : List Err} {T T' : α → Prop} {x : Except Err α} (h : Ends l T x)
    (hl : ∀ e ∈ l, e ∈ l') (hT : ∀ v, T v → T' v) : Ends l' T' x := by
  cases x with
  | ok v => exact hT v h
  | error e => exact hl e h

theorem Ends.andThen {α β : Type} {l : List Err} {T : α → Prop} {Q : β → Prop} {r : R V α} {k : α → St V → R V β}
    (h : Ends l T r.1) (hk : ∀ v, T v → Ends l Q (k v r.2).1) : Ends l Q (andThen r k).1 := by
  obtain ⟨x, st1⟩ := r
  cases x with
  | error e => exact h
  | ok v => exact hk v h

theorem finishNode_ends {P : Prims V} {l : List Err} (hu : Err.unbound ∈ l) {e : Expr} {T : List V → Prop} {Q : V → Prop}
    {r : R V (List V)} (h : Ends l T r.1)
    (hnode : ∀ vs rs, T vs → readAll P.dscope r.2.env (interpIds e) = some rs → Ends l Q (P.node e (vs ++ rs))) :
    Ends l Q (finishNode P e r).1 := by
  rw [finishNode_eq]
  refine h.andThen fun vs hvs => ?_
  unfold nodeValue
  cases hrs : readAll P.dscope r.2.env (interpIds e) with
  | none => exact hu
  | some rs => exact hnode vs rs hvs hrs

theorem safeList_nil {capt : Nat → Bool} : SafeList capt [] := ⟨rfl, rfl, rfl⟩

theorem safeList_cons {capt : Nat → Bool} {e : Expr} {es : List Expr} :
    SafeList capt (e :: es) ↔ Safe capt e ∧ SafeList capt es := by
  simp only [SafeList, Safe, classifyList, noUserCallList, arityOkList, Bool.and_eq_true]
  constructor
  · rintro ⟨hc, hn, ha⟩
    exact ⟨⟨(join_eq_noTrap hc).1, hn.1, ha.1⟩, (join_eq_noTrap hc).2, hn.2, ha.2⟩
  · rintro ⟨⟨hc, hn, ha⟩, hcs, hns, has⟩
    exact ⟨by rw [hc, hcs]; rfl, ⟨hn, hns⟩, ha, has⟩

theorem typed_of {ty : V → LTy → Prop} {e : Expr} {t : LTy} (hlt : literalTy e = some t) {v : V} (hvt : ty v t) :
    ∀ t', literalTy e = some t' → ty v t' := by
  intro t' ht'
  rw [hlt] at ht'
  cases ht'
  exact hvt

theorem typedAll_nil {ty : V → LTy → Prop} {vs : List V} (h : TypedAll ty [] vs) : vs = [] := by
  cases vs with
  | nil => rfl
  | cons _ _ => cases h

theorem typedAll_cons {ty : V → LTy → Prop} {e : Expr} {es : List Expr} {vs : List V} (h : TypedAll ty (e :: es) vs) :
    ∃ v vs', vs = v :: vs' ∧ (∀ t, literalTy e = some t → ty v t) ∧ TypedAll ty es vs' := by
  cases vs with
  | nil => cases h
  | cons v vs' => exact ⟨v, vs', rfl, h⟩

theorem binary_noTrap {capt : Nat → Bool} {op : BinOp} {l r : Expr} {sp : Span}
    (h : classify capt (.binary op l r sp) = .pureNoTrap) :
    op ≠ .divide ∧ op ≠ .mod ∧ classify capt l = .pureNoTrap ∧ classify capt r = .pureNoTrap ∧
    ∃ ta tb t, literalTy l = some ta ∧ literalTy r = some tb ∧ litBinary op ta tb = some t ∧
      literalTy (.binary op l r sp) = some t := by
  simp only [classify] at h
  split at h
  · exact absurd (join_eq_noTrap h).2 (by simp)
  · next hc =>
    simp only [Bool.or_eq_true, beq_iff_eq, Option.isNone_iff_eq_none, not_or] at hc
    have hj := join_eq_noTrap h
    obtain ⟨⟨hd, hm⟩, hl⟩ := hc
    cases hlt : literalTy (.binary op l r sp) with
    | none => exact absurd hlt hl
    | some t =>
      have hlt' := hlt
      simp only [literalTy] at hlt'
      cases hla : literalTy l with
      | none => simp [hla] at hlt'
      | some ta =>
        cases hlb : literalTy r with
        | none => simp [hla, hlb] at hlt'
        | some tb =>
          simp only [hla, hlb] at hlt'
          exact ⟨hd, hm, hj.1, hj.2, ta, tb, t, rfl, rfl, hlt', rfl⟩

theorem unary_noTrap {capt : Nat → Bool} {op : UnOp} {x : Expr} {sp : Span}
    (h : classify capt (.unary op x sp) = .pureNoTrap) :
    classify capt x = .pureNoTrap ∧ ∃ ta t, literalTy x = some ta ∧ litUnary op ta = some t ∧
      literalTy (.unary op x sp) = some t := by
  simp only [classify] at h
  split at h
  · exact absurd (join_eq_noTrap h).2 (by simp)
  · next hnone =>
    obtain ⟨t, hlt⟩ := Option.ne_none_iff_exists'.mp (by simpa using hnone)
    have hlt' := hlt
    simp only [literalTy] at hlt'
    cases hlx : literalTy x with
    | none => simp [hlx] at hlt'
    | some ta => exact ⟨h, ta, t, rfl, by simpa [hlx] using hlt', hlt⟩

theorem globalCall_noTrap {capt : Nat → Bool} {name : Bytes} {b : Option Nat} {s sp : Span} {args : List Expr}
    {fn : Option Nat} {gc : ExprClass} (hg : globalClass name = some gc)
    (h : classify capt (.call (.var name b s) args fn sp) = .pureNoTrap) :
    gc = .pureNoTrap ∧ classifyList capt args = .pureNoTrap ∧
      (name = commandName → args.head?.bind literalTy = some .str) := by
  simp only [classify, hg] at h
  split at h
  · exact absurd (join_eq_noTrap h).2 (by simp)
  · next hcond =>
    have hj := join_eq_noTrap h
    refine ⟨hj.2, hj.1, fun hn => ?_⟩
    simpa [hn] using hcond

theorem global_dispatch {P : Prims V} (ha : TablesAgree P) {name : Bytes} (hg : globalClass name = some .pureNoTrap) :
    P.isGlobal name = true ∧ ¬ P.isShout name = true := by
  refine ⟨by rw [ha.global_iff, hg]; rfl, fun hs => ?_⟩
  have := ha.shout_impure name hs
  rw [hg] at this
  cases this

theorem memberCall_ne_noTrap {capt : Nat → Bool} {o : Expr} {field : Bytes} {fs s1 sp : Span} {args : List Expr}
    {fn : Option Nat} : classify capt (.call (.member o field fs s1) args fn sp) ≠ .pureNoTrap := by
  intro hc
  simp only [classify] at hc
  split at hc
  · exact absurd (join_eq_noTrap hc).1 (join_mayTrap_ne _)
  · exact absurd hc (join_impure_ne _)

theorem logic_types {op : BinOp} {ta tb t : LTy} (hop : Analysis.isLogic op = true) (h : litBinary op ta tb = some t) :
    t = .bool ∧ (tb = .bool ∨ tb = .null) := by
  have hno : isArith op = false ∧ (op == .add) = false ∧ isCmp op = false := by
    cases op with
    | and | or => exact ⟨rfl, rfl, rfl⟩
    | _ => cases hop
  simp only [litBinary, hno, hop, Bool.false_and, Bool.true_and, Bool.false_eq_true, if_false, Bool.and_eq_true,
    Bool.or_eq_true, beq_iff_eq] at h
  split at h
  · next hc => exact ⟨by cases h; rfl, hc.2⟩
  · cases h

theorem global_value {P : Prims V} {ty : V → LTy → Prop} (L : Lawful P ty) {name : Bytes} {x : Expr} {vs : List V}
    (hg : globalClass name = some .pureNoTrap) (hcmd : name = commandName → literalTy x = some .str)
    (hts : TypedAll ty [x] vs) : ∃ v, P.global name vs = .ok v := by
  obtain ⟨a, _, rfl, hta, hnil⟩ := typedAll_cons hts
  obtain rfl := typedAll_nil hnil
  by_cases hn : name = commandName
  · subst hn; exact L.command a (hta .str (hcmd rfl))
  · exact L.pureGlobal name a hg hn

structure NoTrap (P : Prims V) (ty : V → LTy → Prop) (capt : Nat → Bool) (cfg : Cfg) (n : Nat) : Prop where
  expr : ∀ (e : Expr) (st : St V), Safe capt e →
    Ends softErrs (fun v => ∀ t, literalTy e = some t → ty v t) (evalExpr P cfg n e st).1
  list : ∀ (es : List Expr) (st : St V), SafeList capt es → Ends softErrs (TypedAll ty es) (evalList P cfg n es st).1

section
variable {P : Prims V} {ty : V → LTy → Prop} {capt : Nat → Bool} {cfg : Cfg} {n : Nat}

theorem nt_list (ih : NoTrap P ty capt cfg n) : ∀ (es : List Expr) (st : St V), SafeList capt es →
    Ends softErrs (TypedAll ty es) (evalList P cfg (n + 1) es st).1
  | [], st, _ => trivial
  | e :: es, st, h => by
      obtain ⟨he, hes⟩ := safeList_cons.mp h
      rw [evalList_cons]
      refine (ih.expr e st he).andThen fun v ht => ?_
      refine (ih.list es _ hes).andThen fun vs hts => ?_
      exact ⟨ht, hts⟩

theorem nt_leaf (ih : NoTrap P ty capt cfg n) (e : Expr) (st : St V) (hch : children e = []) {t : LTy}
    (hlt : literalTy e = some t)
    (hnode : ∀ env rs, readAll P.dscope env (interpIds e) = some rs → ∃ v, P.node e rs = .ok v ∧ ty v t) :
    Ends softErrs (fun v => ∀ t, literalTy e = some t → ty v t)
      (finishNode P e (evalList P cfg n (children e) st)).1 := by
  refine finishNode_ends unbound_soft (ih.list (children e) st (hch ▸ safeList_nil)) ?_
  intro vs rs hty hra
  rw [hch] at hty
  obtain rfl := typedAll_nil hty
  obtain ⟨v, hv, hvt⟩ := hnode _ rs hra
  rw [List.nil_append, hv]
  exact typed_of hlt hvt

theorem safe_binary {op : BinOp} {l r : Expr} {sp : Span} (hs : Safe capt (.binary op l r sp)) :
    op ≠ .divide ∧ op ≠ .mod ∧ Safe capt l ∧ Safe capt r ∧
    ∃ ta tb t, literalTy l = some ta ∧ literalTy r = some tb ∧ litBinary op ta tb = some t ∧
      literalTy (.binary op l r sp) = some t := by
  obtain ⟨hc, hn, ha⟩ := hs
  obtain ⟨hd, hm, hcl, hcr, hty⟩ := binary_noTrap hc
  have hn' := Bool.and_eq_true_iff.mp hn
  have ha' := Bool.and_eq_true_iff.mp ha
  exact ⟨hd, hm, ⟨hcl, hn'.1, ha'.1⟩, ⟨hcr, hn'.2, ha'.2⟩, hty⟩

theorem nt_logic (L : Lawful P ty) (ih : NoTrap P ty capt cfg n) {op : BinOp} (hop : Analysis.isLogic op = true)
    (l r : Expr) (sp : Span) (st : St V) (hs : Safe capt (.binary op l r sp)) (stop : V → Bool) :
    Ends softErrs (fun v => ∀ t, literalTy (.binary op l r sp) = some t → ty v t)
      (logicSeq P cfg n stop (P.logicShort op) l r st).1 := by
  obtain ⟨_, _, hl, hr, ta, tb, t, _, htb, hlb, hlt⟩ := safe_binary hs
  obtain ⟨rfl, hb2⟩ := logic_types hop hlb
  refine (ih.expr l st hl).andThen fun lv _ => ?_
  cases stop lv with
  | true => exact typed_of hlt (L.logicShort op)
  | false =>
    refine (ih.expr r _ hr).andThen fun rv hrt => ?_
    obtain ⟨v, hv, hvt⟩ := L.logicRhs rv tb (hrt tb htb) hb2
    rw [hv]
    exact typed_of hlt hvt

theorem nt_expr (L : Lawful P ty) (ih : NoTrap P ty capt cfg n) (e : Expr) (st : St V) (hs : Safe capt e) :
    Ends softErrs (fun v => ∀ t, literalTy e = some t → ty v t) (evalExpr P cfg (n + 1) e st).1 := by
  obtain ⟨hc, hn, ha⟩ := hs
  by_cases hsp : Special e
  · cases hsp with
    | var nm bd sp =>
      rw [evalExpr_var, readVar]
      cases bd.bind fun id => lookupEnv P.dscope id st.env with
      | some v => exact fun t ht => by cases ht
      | none => exact unbound_soft
    | and l r sp => rw [evalExpr_and]; exact nt_logic L ih rfl l r sp st ⟨hc, hn, ha⟩ _
    | or l r sp => rw [evalExpr_or]; exact nt_logic L ih rfl l r sp st ⟨hc, hn, ha⟩ _
    | callName name bd s1 args fn sp =>
      have hn' := Bool.and_eq_true_iff.mp hn
      have ha' : args.length = 1 ∧ arityOkList args = true := by
        simpa only [arityOk, Bool.and_eq_true, beq_iff_eq] using ha
      cases hg : globalClass name with
      | none =>
        cases fn with
        | none =>
          simp only [classify, hg, Option.isSome] at hc
          exact absurd hc (join_impure_ne _)
        | some f => cases hn'.1
      | some gc =>
        obtain ⟨rfl, hca, hcmd⟩ := globalCall_noTrap hg hc
        obtain ⟨hgl, hsh⟩ := global_dispatch L.toTablesAgree hg
        obtain ⟨x, rfl⟩ := List.length_eq_one_iff.mp ha'.1
        rw [evalExpr_callName, if_pos hgl]
        refine (ih.list [x] st ⟨hca, hn'.2, ha'.2⟩).andThen fun vs hts => ?_
        obtain ⟨v, hv⟩ := global_value L hg hcmd hts
        rw [if_neg hsh, hv]
        exact fun t ht => by cases ht
    | callMember o field fs s1 args fn sp => exact absurd hc memberCall_ne_noTrap
  · rw [evalExpr_node hsp]
    cases e with
    | var nm bd sp => exact absurd (.var nm bd sp) hsp
    | num l sp => exact nt_leaf ih _ st rfl rfl fun _ _ h => by cases h; exact L.num l sp
    | bool b sp => exact nt_leaf ih _ st rfl rfl fun _ _ h => by cases h; exact L.bool b sp
    | null sp => exact nt_leaf ih _ st rfl rfl fun _ _ h => by cases h; exact L.null sp
    | str p sp => exact nt_leaf ih _ st rfl rfl fun _ rs _ => L.str p sp rs
    | array es sp =>
      refine finishNode_ends unbound_soft (ih.list es st ⟨hc, hn, ha⟩) fun vs rs _ _ => ?_
      obtain ⟨v, hv⟩ := L.array es sp (vs ++ rs)
      rw [hv]
      exact fun t ht => by cases ht
    | unary op x sp =>
      obtain ⟨hcx, ta, t, hlx, hlu, hlt⟩ := unary_noTrap hc
      refine finishNode_ends unbound_soft
        (ih.list [x] st (safeList_cons.mpr ⟨⟨hcx, hn, ha⟩, safeList_nil⟩)) fun vs rs hty hra => ?_
      cases hra
      obtain ⟨a, _, rfl, hta, hnil⟩ := typedAll_cons hty
      obtain rfl := typedAll_nil hnil
      obtain ⟨v, hv, hvt⟩ := L.unary op x sp a ta t (hta ta hlx) hlu
      rw [List.append_nil, hv]
      exact typed_of hlt hvt
    | binary op l r sp =>
      obtain ⟨hd, hm, hl, hr, ta, tb, t, hta, htb, hlb, hlt⟩ := safe_binary ⟨hc, hn, ha⟩
      have hlog : Analysis.isLogic op = false := by
        cases op with
        | and => exact absurd (.and l r sp) hsp
        | or => exact absurd (.or l r sp) hsp
        | _ => rfl
      refine finishNode_ends unbound_soft
        (ih.list [l, r] st (safeList_cons.mpr ⟨hl, safeList_cons.mpr ⟨hr, safeList_nil⟩⟩)) fun vs rs hty hra => ?_
      cases hra
      obtain ⟨a, _, rfl, hat, hty⟩ := typedAll_cons hty
      obtain ⟨b, _, rfl, hbt, hnil⟩ := typedAll_cons hty
      obtain rfl := typedAll_nil hnil
      obtain ⟨v, hv, hvt⟩ := L.binary op l r sp a b ta tb t hlog hd hm (hat ta hta) (hbt tb htb) hlb
      rw [List.append_nil, hv]
      exact typed_of hlt hvt
    | index a i _ _ => exact absurd hc (join_mayTrap_ne _)
    | member o _ _ _ => exact absurd hc (join_mayTrap_ne _)
    | call f args fn sp =>
      cases f with
      | var nm bd s1 => exact absurd (.callName nm bd s1 args fn sp) hsp
      | member o field fs s1 => exact absurd (.callMember o field fs s1 args fn sp) hsp
      | _ => exact absurd hc (join_impure_ne _)

end

theorem noTrap_all {P : Prims V} {ty : V → LTy → Prop} (L : Lawful P ty) (capt : Nat → Bool) (cfg : Cfg) :
    ∀ n, NoTrap P ty capt cfg n
  | 0 => ⟨fun _ _ _ => fuel_soft, fun _ _ _ => fuel_soft⟩
  | n + 1 => ⟨nt_expr L (noTrap_all L capt cfg n), nt_list (noTrap_all L capt cfg n)⟩

/-- T2 in the form the simulations consume: a `Safe` expression is `Quiet` (`pure_all` and `noTrap_all` together). -/
theorem quiet_of_class {P : Prims V} {ty : V → LTy → Prop} (L : Lawful P ty) (capt : Nat → Bool) (e : Expr)
    (hs : Safe capt e) : Quiet P e := by
  intro cfg n st
  refine ⟨(pure_all P cfg n).expr e st (effectFree_of_class L.toTablesAgree capt e (by rw [hs.1]; simp) hs.2.1), ?_⟩
  exact (ends_soft.mp ((noTrap_all L capt cfg n).expr e st hs)).imp (fun ⟨v, hv, _⟩ => ⟨v, hv⟩) id

end NaijaVerif.C03
