import NaijaVerif.Lemmas.AnalysisNoTrap
/-
Decidable versions of the side conditions of the relational simulation (`SOkList`), evaluated by the driver on every
case and discharged by `decide` in examples.  (`LSetup.baseB`, `LSetup.deadB` of `Lemmas/AnalysisLiveOk.lean` are the
counterparts for the liveness simulation, whose expression test also needs the scope chain.)
-/
namespace NaijaVerif.C03
open NaijaVerif NaijaVerif.Analysis NaijaVerif.AEval

variable {V : Type}

def Setup.baseB (S : Setup) (f i : Nat) (es : List Expr) : Bool :=
  S.fnOf i == f && eOkList (fun g => (S.callees i).contains g) S.D2 es

def Setup.deadB (S : Setup) (i : Nat) : Bool := S.T.contains (i, false)

def Setup.storeRuleB (S : Setup) (q : Expr → Bool) (i : Nat) (isDecl : Bool) (b : Option Nat) (e : Expr) : Bool :=
  if S.cfg.skip i then
    S.deadB i || (match b with | some l => (if isDecl then S.D1 l else S.D2 l) && q e | none => false)
  else (match b with | some l => !S.D1 l | none => true)

def Setup.otherRuleB (S : Setup) (i : Nat) : Bool := !S.cfg.skip i || S.deadB i

mutual
  def sokB (S : Setup) (q : Nat → Expr → Bool) (f : Nat) : Stmt → Bool
    | .assign _ _ e b (some i) _ => S.baseB f i [e] && S.storeRuleB (q f) i true b e
    | .assignExisting _ _ e b (some i) _ => S.baseB f i [e] && S.storeRuleB (q f) i false b e
    | .assignIndex t e (some i) _ => S.baseB f i [t, e] && S.otherRuleB i
    | .ifS c (.mk t _) none (some i) _ => S.baseB f i [c] && S.otherRuleB i && sokListB S q f t
    | .ifS c (.mk t _) (some (.mk e _)) (some i) _ =>
        S.baseB f i [c] && S.otherRuleB i && sokListB S q f t && sokListB S q f e
    | .loop c (.mk b _) (some i) _ => S.baseB f i [c] && S.otherRuleB i && sokListB S q f b
    | .block (.mk b _) (some i) _ => S.baseB f i [] && S.otherRuleB i && sokListB S q f b
    | .fnDef _ _ _ (.mk body _) (some g) (some i) _ => S.baseB f i [] && S.otherRuleB i && sokListB S q g body
    | .fnDef _ _ _ (.mk _ _) none (some i) _ => S.baseB f i [] && S.otherRuleB i
    | .ret (some e) (some i) _ => S.baseB f i [e] && S.otherRuleB i
    | .ret none (some i) _ => S.baseB f i [] && S.otherRuleB i
    | .brk (some i) _ => S.baseB f i [] && S.otherRuleB i
    | .cont (some i) _ => S.baseB f i [] && S.otherRuleB i
    | .expr e (some i) _ => S.baseB f i [e] && S.otherRuleB i
    | .fnDef _ _ _ (.mk body _) (some g) none _ => sokListB S q g body
    | .assign _ _ _ _ none _ | .assignExisting _ _ _ _ none _ | .assignIndex _ _ none _
    | .ifS _ (.mk _ _) none none _ | .ifS _ (.mk _ _) (some (.mk _ _)) none _ | .loop _ (.mk _ _) none _
    | .block (.mk _ _) none _ | .fnDef _ _ _ (.mk _ _) none none _ | .ret _ none _ | .brk none _ | .cont none _
    | .expr _ none _ => true
  def sokListB (S : Setup) (q : Nat → Expr → Bool) (f : Nat) : List Stmt → Bool
    | [] => true
    | s :: ss => sokB S q f s && sokListB S q f ss
end

section
variable {P : Prims V} {S : Setup} {q : Nat → Expr → Bool}

theorem base_of_B {f i : Nat} {es : List Expr} (h : S.baseB f i es = true) : S.base f i es := by
  simp only [Setup.baseB, Bool.and_eq_true, beq_iff_eq] at h
  exact h

theorem other_of_B {i : Nat} (h : S.otherRuleB i = true) : S.otherRule i := by
  intro hsk
  simp only [Setup.otherRuleB, hsk, Bool.not_true, Bool.false_or, Setup.deadB] at h
  simpa using h

theorem store_of_B {q' : Expr → Bool} (hq : ∀ e, q' e = true → Quiet P e) {i : Nat} {isDecl : Bool} {b : Option Nat} {e : Expr}
    (h : S.storeRuleB q' i isDecl b e = true) : S.storeRule P i isDecl b e := by
  constructor
  · intro hsk
    simp only [Setup.storeRuleB, hsk, ↓reduceIte, Bool.or_eq_true, Setup.deadB] at h
    rcases h with h | h
    · exact Or.inl (by simpa using h)
    · cases b with
      | none => simp at h
      | some l =>
        simp only [Bool.and_eq_true] at h
        refine Or.inr ⟨l, rfl, ?_, hq e h.2⟩
        cases isDecl <;> simpa using h.1
  · intro hsk l hl
    subst hl
    simpa [Setup.storeRuleB, hsk] using h

theorem and3 {a b c : Bool} (h : (a && b && c) = true) : a = true ∧ b = true ∧ c = true := by
  simpa only [Bool.and_eq_true, and_assoc] using h

theorem base_other_of_B {f i : Nat} {es : List Expr} (h : (S.baseB f i es && S.otherRuleB i) = true) :
    S.base f i es ∧ S.otherRule i :=
  ⟨base_of_B (Bool.and_eq_true_iff.mp h).1, other_of_B (Bool.and_eq_true_iff.mp h).2⟩

/- `sokB` and `SOk` compute, on a statement of known form, to the same conjunction, of decidable tests the one and of
the propositions they decide the other.  By the recursion of `sokB` itself: one case per arm of its text, named where the
principle is applied; in the twelve arms without statement id `SOk` is `True`. -/
theorem sok_walk (hq : ∀ f e, q f e = true → Quiet P e) :
    (∀ f s, sokB S q f s = true → SOk P S f s) ∧ (∀ f ss, sokListB S q f ss = true → SOkList P S f ss) := by
  refine sokB.mutual_induct _ _ ?assign ?assignExisting ?assignIndex ?ifS ?ifElse ?loop ?block ?fnDef ?fnDecl ?retSome
    ?retNone ?brk ?cont ?expr ?fnDefNoId ?_ ?_ ?_ ?_ ?_ ?_ ?_ ?_ ?retNoId ?_ ?_ ?_ ?_ ?cons
  case assign | assignExisting =>
    exact fun f _ _ e b i _ h => ⟨base_of_B (Bool.and_eq_true_iff.mp h).1, store_of_B (hq f) (Bool.and_eq_true_iff.mp h).2⟩
  case ifS | loop =>
    exact fun f c t _ i _ ih h => ⟨base_of_B (and3 h).1, other_of_B (and3 h).2.1, ih (and3 h).2.2⟩
  case ifElse =>
    intro f c t _ el _ i _ iht ihe h
    have h' := Bool.and_eq_true_iff.mp h
    exact ⟨base_of_B (and3 h'.1).1, other_of_B (and3 h'.1).2.1, iht (and3 h'.1).2.2, ihe h'.2⟩
  case block => exact fun f b _ i _ ih h => ⟨base_of_B (and3 h).1, other_of_B (and3 h).2.1, ih (and3 h).2.2⟩
  case fnDef => exact fun f _ _ _ bd _ g i _ ih h => ⟨base_of_B (and3 h).1, other_of_B (and3 h).2.1, ih (and3 h).2.2⟩
  case fnDefNoId => exact fun f _ _ _ bd _ g _ ih h => ih h
  case cons =>
    exact fun f s ss ihs ihss h => ⟨ihs (Bool.and_eq_true_iff.mp h).1, ihss (Bool.and_eq_true_iff.mp h).2⟩
  case assignIndex | fnDecl | retSome | retNone | brk | cont | expr =>
    intros
    rename_i h
    exact base_other_of_B h
  case retNoId => intro _ e _ _; cases e <;> trivial
  all_goals intros; trivial

theorem sok_of_B (hq : ∀ f e, q f e = true → Quiet P e) : ∀ (f : Nat) (s : Stmt), sokB S q f s = true → SOk P S f s :=
  (sok_walk hq).1

theorem sokList_of_B (hq : ∀ f e, q f e = true → Quiet P e) : ∀ (f : Nat) (ss : List Stmt),
    sokListB S q f ss = true → SOkList P S f ss :=
  (sok_walk hq).2

end

/-- `PureNoTrap` by the classification with the D-03 fixes (reads of captured variables excluded), no user call,
builtin arities respected. -/
def safeB (facts : Facts) (f : Nat) (e : Expr) : Bool :=
  decide (classify (fun l => ownerFn facts l != some f) e = .pureNoTrap) && noUserCall e && arityOk e

theorem quiet_of_safeB {P : Prims V} {ty : V → LTy → Prop} (L : Lawful P ty) (facts : Facts) (f : Nat) (e : Expr)
    (h : safeB facts f e = true) : Quiet P e := by
  simp only [safeB, Bool.and_eq_true, decide_eq_true_eq] at h
  exact quiet_of_class L _ e ⟨h.1.1, h.1.2, h.2⟩

/-- `D2`: locals never read; `D1 ⊆ D2`: those with all stores removed. -/
def setupOf (root : Block) (facts : Facts) (plan : Option Plan) (D1 D2 : Nat → Bool) : Setup :=
  let c := mkCtx root facts
  { T := tbl root, fnOf := c.fnOf, callees := c.callees, BR := fun g => c.bodyReachable.contains g,
    D1 := D1, D2 := D2, cfg := Cfg.ofPlan plan }

/-- Decides the hypothesis `OwnOk` of T3 (`Props/C03.lean`), for every `P`: `sokList_of_B (q := fun _ _ => false)`. -/
def ownOkB (root : Block) (facts : Facts) : Bool :=
  sokListB (setupOf root facts none (fun _ => false) (fun _ => false)) (fun _ _ => false) 0 root.stmts

/-! How much of a plan `c03_partial_checked` covers: executable definitions that `Driver/Plan.lean` evaluates as a statistic
of the check.  No theorem is about them. -/

def segReads : List Seg → List Nat
  | [] => []
  | .lit _ :: ss => segReads ss
  | .var _ (some id) :: ss => id :: segReads ss
  | .var _ none :: ss => segReads ss

mutual
  def exprReads : Expr → List Nat
    | .var _ (some id) _ => [id]
    | .var _ none _ => []
    | .str (.interp segs) _ => segReads segs
    | .str (.static _) _ | .num _ _ | .bool _ _ | .null _ => []
    | .call c args _ _ => exprReads c ++ exprsReads args
    | .binary _ l r _ => exprReads l ++ exprReads r
    | .index a i _ _ => exprReads a ++ exprReads i
    | .array es _ => exprsReads es
    | .unary _ e _ => exprReads e
    | .member o _ _ _ => exprReads o
  def exprsReads : List Expr → List Nat
    | [] => []
    | e :: es => exprReads e ++ exprsReads es
end

structure StoreSite where
  sid : Nat
  loc : Nat
  isDecl : Bool
  init : Expr

mutual
  def stmtReads : Stmt → List Nat
    | .assign _ _ e _ _ _ | .assignExisting _ _ e _ _ _ | .expr e _ _ | .ret (some e) _ _ => exprReads e
    | .assignIndex t e _ _ => exprReads t ++ exprReads e
    | .ifS c (.mk t _) none _ _ => exprReads c ++ stmtsReads t
    | .ifS c (.mk t _) (some (.mk e _)) _ _ => exprReads c ++ stmtsReads t ++ stmtsReads e
    | .loop c (.mk b _) _ _ => exprReads c ++ stmtsReads b
    | .block (.mk b _) _ _ => stmtsReads b
    | .fnDef _ _ _ (.mk b _) _ _ _ => stmtsReads b
    | .ret none _ _ | .brk _ _ | .cont _ _ => []
  def stmtsReads : List Stmt → List Nat
    | [] => []
    | s :: ss => stmtReads s ++ stmtsReads ss
end

mutual
  def stmtStores : Stmt → List StoreSite
    | .assign _ _ e (some l) (some i) _ => [⟨i, l, true, e⟩]
    | .assignExisting _ _ e (some l) (some i) _ => [⟨i, l, false, e⟩]
    | .ifS _ (.mk t _) none _ _ => stmtsStores t
    | .ifS _ (.mk t _) (some (.mk e _)) _ _ => stmtsStores t ++ stmtsStores e
    | .loop _ (.mk b _) _ _ => stmtsStores b
    | .block (.mk b _) _ _ => stmtsStores b
    | .fnDef _ _ _ (.mk b _) _ _ _ => stmtsStores b
    | _ => []
  def stmtsStores : List Stmt → List StoreSite
    | [] => []
    | s :: ss => stmtStores s ++ stmtsStores ss
end

/-- The part of `plan` that `c03_partial_checked` applies to (for the `D1'`, `D2` computed below, which are not returned), and
whether all decidable hypotheses hold for it. -/
def coveredPlan (root : Block) (facts : Facts) (plan : Plan) : Plan × Bool :=
  let c := mkCtx root facts
  let reads := stmtsReads root.stmts
  let D2 : Nat → Bool := fun l => !reads.contains l
  let unr := unreachable root
  let stores := stmtsStores root.stmts
  let cand := stores.filter fun s =>
    plan.stmts.contains s.sid && !unr.contains s.sid && D2 s.loc && safeB facts (c.fnOf s.sid) s.init
  let D1 : Nat → Bool := fun l =>
    D2 l && stores.all (fun s => s.loc != l || unr.contains s.sid || cand.any (fun k => k.sid == s.sid))
  let kept := cand.filter fun s => !s.isDecl || D1 s.loc
  -- a declaration that cannot go keeps its variable out of D1; recompute D1 against what is really removed.  One more
  -- round, no fixpoint: `kept'` may differ from `kept` again, and `ok` is decided for the `p'` and `D1'` that result
  let D1' : Nat → Bool := fun l =>
    D2 l && stores.all (fun s => s.loc != l || unr.contains s.sid || kept.any (fun k => k.sid == s.sid))
  let kept' := kept.filter fun s => !s.isDecl || D1' s.loc
  let p' : Plan := { stmts := plan.stmts.filter (fun i => unr.contains i) ++ kept'.map (·.sid), fns := plan.fns }
  let unused := c.unusedFns.map (·.2)
  let ok := sokListB (setupOf root facts (some p') D1' D2) (safeB facts) 0 root.stmts && c.brClosed &&
    p'.fns.all (fun g => unused.contains g)
  (p', ok)

end NaijaVerif.C03
