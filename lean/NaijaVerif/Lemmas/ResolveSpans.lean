import NaijaVerif.Lemmas.SpanEraseResolve
/-
Every span of a diagnostic of the resolver model, labels included, is a span of the AST it was given
(`Parse.blockSpans`).  Read off the resolver's naturality in spans (`Lemmas/SpanEraseResolve.lean`): a span map that
fixes the spans of a piece of syntax leaves the piece, hence its diagnostics, as they are; so every span of
a diagnostic is a fixed point of every such map, and a span outside the piece is not (`SpanMap.mem_of_all_fix`).
(`SpanSafe.checkAll_spans`, `Lemmas/SpanSafeResolve.lean`, is about the spans of the rebuilt tree,
not of the diagnostics.)
-/
namespace NaijaVerif.Resolve
open NaijaVerif NaijaVerif.Parse

def spansOf (ds : List RDiag) : List Span := ds.flatMap (fun d => d.span :: d.labels)

@[simp] theorem spansOf_nil : spansOf [] = [] := rfl
@[simp] theorem spansOf_append (a b : List RDiag) : spansOf (a ++ b) = spansOf a ++ spansOf b := by
  simp [spansOf]
@[simp] theorem spansOf_cons (d : RDiag) (ds : List RDiag) :
    spansOf (d :: ds) = d.span :: (d.labels ++ spansOf ds) := by
  simp [spansOf]

theorem mem_of_fixed {S : List Span} {ds : List RDiag}
    (h : ∀ φ : Span → Span, (∀ t ∈ S, φ t = t) → ds.map (SpanErase.mapRD φ) = ds) {s : Span} (hs : s ∈ spansOf ds) :
    s ∈ S :=
  SpanMap.mem_of_all_fix (S := (· ∈ S)) fun φ hφ => by
    obtain ⟨d, hd, hsd⟩ := List.mem_flatMap.mp hs
    have hdd := map_eq_self _ (h φ hφ) d hd
    rcases List.mem_cons.mp hsd with rfl | hl
    · exact congrArg RDiag.span hdd
    · exact map_eq_self _ (congrArg RDiag.labels hdd) s hl

theorem checkExprs_spans (env : Env) (cur : Scope) (sid : Nat) :
    ∀ (es : List Expr) (f : Facts) (s : Span), s ∈ spansOf (checkExprs env cur sid es f).ds → s ∈ exprsSpans es :=
  fun es f _ => mem_of_fixed fun φ hφ => by
    have h := (SpanErase.checkExpr_map φ (env := env) rfl cur sid).2 es f
    rw [SpanMap.mapExpr_fix.mapExprs_fix es hφ] at h
    exact (congrArg Out.ds h).symm

theorem checkStmt_spans (env : Env) (cur : Cur) :
    ∀ (st : Stmt) (f : Facts) (s : Span), s ∈ spansOf (checkStmt env cur st f).ds → s ∈ stmtSpans st :=
  fun st f _ => mem_of_fixed fun φ hφ => by
    have h := (SpanErase.checkStmt_map φ).1 st env env.fns cur f rfl
    rw [SpanMap.map_fix.1 st hφ] at h
    exact (congrArg SOut.ds h).symm

theorem checkStmts_spans (env : Env) :
    ∀ (ss : List Stmt) (cur : Cur) (f : Facts) (s : Span),
      s ∈ spansOf (checkStmts env cur ss f).ds → s ∈ stmtsSpans ss :=
  fun ss cur f _ => mem_of_fixed fun φ hφ => by
    have h := (SpanErase.checkStmt_map φ).2.1 ss env env.fns cur f rfl
    rw [SpanMap.map_fix.2.1 ss hφ] at h
    exact (congrArg SsOut.ds h).symm

theorem checkBlock_spans (env : Env) (parent : Option Nat) :
    ∀ (b : Block) (f : Facts) (s : Span), s ∈ spansOf (checkBlock env parent b f).ds → s ∈ blockSpans b :=
  fun b f _ => mem_of_fixed fun φ hφ => by
    have h := (SpanErase.checkStmt_map φ).2.2.1 b env env.fns parent f rfl
    rw [SpanMap.mapBlock_fix b hφ] at h
    exact (congrArg Out.ds h).symm

theorem checkOptBlock_spans (env : Env) (parent : Option Nat) :
    ∀ (ob : Option Block) (f : Facts) (s : Span), s ∈ spansOf (checkOptBlock env parent ob f).ds →
      ∀ b, ob = some b → s ∈ blockSpans b :=
  fun _ f _ hs b hb => checkBlock_spans env parent b f _ (by subst hb; exact hs)

end NaijaVerif.Resolve
