import NaijaVerif.Lemmas.ParseFuel
import NaijaVerif.Lemmas.ParseDefs
import NaijaVerif.Model.ParsePrint
/-
Print / parse round trip for expressions (C01 precedence and associativity, C10 redundant parentheses): printing
an expression with the parentheses the binding-power table requires — plus any number of redundant pairs around any
sub-expressions — and parsing the tokens gives the expression back.  Key lemma (`key`, stated by `Key`): parsing `printAt c e ++ rest`
at level `ctx ≤ c` equals resuming the Pratt loop with `lhs = e` on `rest`.  About the real `parseExpr` /
`parseCont` / `parseElems` and the generated table.
-/
namespace NaijaVerif.Parse
open NaijaVerif

/-- All rows of the tables in one evaluation (`table_ok`).  `table_spec` reads the group about the binary rows and, of the
unary rows, the row found and `bp < postfixLevel`; `binInfo_closer` and `unaryInfo_bracket` read the last two lines.  The
other four tests of the unary rows (`!= .rparen`, `!= .rbracket`, `!isPostfixStart`, the token is no atom) are read by no
lemma: that an operator token is no atom, `table_spec` shows of `atomOf` itself. -/
def tableOk : Bool :=
  [BinOp.add, .minus, .times, .divide, .mod, .and, .or, .eq, .gt, .lt].all (fun op =>
    let (t, l, r) := binRow op
    binInfo t == some (op, l, r) && l < r && r < postfixLevel && !isPostfixStart t &&
    [UnOp.not, .neg].all (fun u => l < (unRow u).2)) &&
  [UnOp.not, .neg].all (fun u =>
    let (t, bp) := unRow u
    unaryInfo t == some (u, bp) && bp < postfixLevel && t != .rparen && t != .rbracket &&
    !isPostfixStart t && (match t with | .num _ | .str _ _ | .ident _ | .tru | .fals | .null => false | _ => true)) &&
  [Tok.rparen, .rbracket, .comma, .dot, .lparen, .lbracket, .eof].all (fun t => binInfo t == none) &&
  [Tok.lparen, .lbracket, .rparen, .rbracket, .comma].all (fun t => unaryInfo t == none)

theorem table_ok : tableOk = true := by decide +kernel

theorem table_spec :
    (∀ op : BinOp, binInfo (binRow op).1 = some (op, (binRow op).2.1, (binRow op).2.2) ∧
      (binRow op).2.1 < (binRow op).2.2 ∧ (binRow op).2.2 < postfixLevel ∧
      isPostfixStart (binRow op).1 = false ∧ ∀ u, (binRow op).2.1 < (unRow u).2) ∧
    (∀ u : UnOp, unaryInfo (unRow u).1 = some (u, (unRow u).2) ∧ (unRow u).2 < postfixLevel ∧
      ∀ s, atomOf ⟨(unRow u).1, s⟩ = none) := by
  have h := table_ok
  unfold tableOk at h
  simp only [Bool.and_eq_true, List.all_eq_true, beq_iff_eq, decide_eq_true_eq, Bool.not_eq_true'] at h
  have hu : ∀ u : UnOp, u ∈ [UnOp.not, .neg] := fun u => by cases u <;> decide
  refine ⟨fun op => ?_, fun u => ?_⟩
  · obtain ⟨⟨⟨⟨h1, h2⟩, h3⟩, h4⟩, h5⟩ := h.1.1.1 op (by cases op <;> decide)
    exact ⟨h1, h2, h3, h4, fun u => h5 u (hu u)⟩
  · obtain ⟨⟨⟨⟨⟨h1, h2⟩, _⟩, _⟩, _⟩, _⟩ := h.1.1.2 u (hu u)
    exact ⟨h1, h2, fun s => by cases u <;> rfl⟩

theorem table_none :
    (∀ t ∈ [Tok.rparen, .rbracket, .comma, .dot, .lparen, .lbracket, .eof], binInfo t = none) ∧
    (∀ t ∈ [Tok.lparen, .lbracket, .rparen, .rbracket, .comma], unaryInfo t = none) := by
  have h := table_ok
  unfold tableOk at h
  simp only [Bool.and_eq_true, List.all_eq_true, beq_iff_eq] at h
  exact ⟨h.1.2, h.2⟩

theorem binInfo_closer {t : Tok} (h : t ∈ [Tok.rparen, .rbracket, .comma, .dot, .lparen, .lbracket, .eof]) :
    binInfo t = none := table_none.1 t h

theorem unaryInfo_bracket {t : Tok} (h : t ∈ [Tok.lparen, .lbracket, .rparen, .rbracket, .comma]) :
    unaryInfo t = none := table_none.2 t h

theorem binInfo_mem {t : Tok} {o : BinOp} {l r : Nat} (h : binInfo t = some (o, l, r)) :
    (t, o, l, r) ∈ Gen.Pratt.binTable := by
  unfold binInfo at h
  cases hf : Gen.Pratt.binTable.find? (fun r => r.1 == t) with
  | none => rw [hf] at h; cases h
  | some row =>
    rw [hf] at h
    cases h
    have hb : (row.1 == t) = true := List.find?_some (p := fun r : Tok × BinOp × Nat × Nat => r.1 == t) hf
    rw [← eq_of_beq hb]
    exact List.mem_of_find?_eq_some hf

theorem binTable_binRow : ∀ row ∈ Gen.Pratt.binTable, binRow row.2.1 = (row.1, row.2.2) := by
  decide +kernel

theorem binInfo_lt_unary {t : Tok} {o : BinOp} {l r : Nat} (h : binInfo t = some (o, l, r)) (u : UnOp) :
    l < (unRow u).2 := by
  have := (table_spec.1 o).2.2.2.2 u
  rw [binTable_binRow _ (binInfo_mem h)] at this
  exact this

@[simp] theorem pushToks_nil (st : PState) : pushToks [] st = st := rfl

@[simp] theorem pushToks_cur (t : Tok) (ts : List Tok) (st : PState) :
    (pushToks (t :: ts) st).cur = mkTok t := rfl

@[simp] theorem mkTok_tok (t : Tok) : (mkTok t).tok = t := rfl
@[simp] theorem mkTok_span (t : Tok) : (mkTok t).span = zspan := rfl
@[simp] theorem zspan_lo : zspan.lo = 0 := rfl
@[simp] theorem zspan_hi : zspan.hi = 0 := rfl

@[simp] theorem pushToks_bump (t : Tok) (ts : List Tok) (st : PState) :
    (pushToks (t :: ts) st).bump = pushToks ts st := by
  cases ts <;> rfl

@[simp] theorem pushToks_expect (t : Tok) (ts : List Tok) (st : PState) (k : DiagKind) (sp : Span) :
    (pushToks (t :: ts) st).expect t k sp = pushToks ts st := by
  rw [PState.expect, pushToks_cur, mkTok_tok, if_pos (beq_self_eq_true t), pushToks_bump]

theorem pushToks_input (ts : List Tok) (st : PState) :
    (pushToks ts st).cur :: (pushToks ts st).rest = ts.map mkTok ++ st.cur :: st.rest ∧
    (pushToks ts st).errs = st.errs := by
  cases ts <;> exact ⟨rfl, rfl⟩

theorem pushToks_append (a b : List Tok) (st : PState) :
    pushToks (a ++ b) st = pushToks a (pushToks b st) := by
  cases a with
  | nil => rfl
  | cons t as =>
    have h := pushToks_input b st
    show (⟨mkTok t, (as ++ b).map mkTok ++ st.cur :: st.rest, st.errs⟩ : PState) =
      ⟨mkTok t, as.map mkTok ++ (pushToks b st).cur :: (pushToks b st).rest, (pushToks b st).errs⟩
    rw [h.1, h.2, List.map_append, List.append_assoc]

theorem pushToks_span (ts : List Tok) (st : PState) (h : st.cur.span = zspan) :
    (pushToks ts st).cur.span = zspan := by
  cases ts with
  | nil => exact h
  | cons t r => rfl

/-- A template is what `parse_string_literal` (`strParts`, flag off) makes of its own rendering; the parser produces no
other. -/
def strOk : StrParts → Prop
  | .static _ => True
  | .interp segs => strParts (renderSegs segs) false = .interp segs

mutual
  /-- The image of the parser with spans erased: no binding annotations, string parts that scan back.  Callee,
      object and operand shapes are unrestricted: the parser accepts any expression there.  (Not `Spec.WF`, the
      documented validity of a program.) -/
  def WF : Expr → Prop
    | .num _ s => s = zspan
    | .str parts s => s = zspan ∧ strOk parts
    | .var _ b s => b = none ∧ s = zspan
    | .bool _ s => s = zspan
    | .null s => s = zspan
    | .unary _ e s => s = zspan ∧ WF e
    | .binary _ l r s => s = zspan ∧ WF l ∧ WF r
    | .member o _ fs s => fs = zspan ∧ s = zspan ∧ WF o
    | .call c args fn s => fn = none ∧ s = zspan ∧ WF c ∧ WFs args
    | .index a i is s => is = zspan ∧ s = zspan ∧ WF a ∧ WF i
    | .array es s => s = zspan ∧ WFs es
  def WFs : List Expr → Prop
    | [] => True
    | e :: es => WF e ∧ WFs es
end

theorem WF.span_eq : ∀ {e : Expr}, WF e → e.span = zspan
  | .num .., h => h
  | .str .., h => h.1
  | .var .., h => h.2
  | .bool .., h => h
  | .null .., h => h
  | .unary .., h => h.1
  | .binary .., h => h.1
  | .member .., h => h.2.1
  | .call .., h => h.2.1
  | .index .., h => h.2.1
  | .array .., h => h.1

def HeadIs (q : Tok → Bool) (ts : List Tok) : Prop := ∃ t r, ts = t :: r ∧ q t = true

theorem headIs_append {q} {a : List Tok} (b : List Tok) (h : HeadIs q a) : HeadIs q (a ++ b) := by
  obtain ⟨t, r, rfl, h1⟩ := h; exact ⟨t, r ++ b, rfl, h1⟩

theorem ne_of_class (q : Tok → Bool) {t u : Tok} (h : q t = true) (hu : q u = false) : (t == u) = false :=
  Bool.eq_false_iff.2 fun he => by rw [eq_of_beq he, hu] at h; cases h

/-- A class of tokens that holds the first token of every printed expression (`printAt_head`) and neither a closer `)`,
`]` nor `end`, `eof`.  It serves only to tell a printed expression from these (`printArgs_cur`, `keyS_ret` of
`Lemmas/ParseRoundTripStmt`), which is why no lemma ties it to what `parseExpr` accepts as a first token. -/
def exprStart : Tok → Bool
  | .num _ | .str _ _ | .ident _ | .tru | .fals | .null | .not | .minus | .lparen | .lbracket => true
  | _ => false

theorem headIs_wrap (p c e ts) (h : HeadIs exprStart ts) : HeadIs exprStart (wrap p c e ts) := by
  have hN : ∀ n ts, HeadIs exprStart ts → HeadIs exprStart (wrapN n ts) := by
    intro n
    induction n with
    | zero => intro ts h; exact h
    | succ n ih => intro ts _; exact ih _ ⟨.lparen, ts ++ [.rparen], rfl, rfl⟩
  unfold wrap
  by_cases hn : needs c e = true
  · rw [if_pos hn]; exact hN _ _ ⟨.lparen, ts ++ [.rparen], rfl, rfl⟩
  · rw [if_neg hn]; exact hN _ _ h

theorem printAt_head (p : Expr → Nat) (e : Expr) : ∀ c, HeadIs exprStart (printAt p c e) := by
  induction e using Expr.rec (motive_2 := fun _ => True) with
  | num l s => exact fun c => headIs_wrap _ _ _ _ ⟨_, _, rfl, rfl⟩
  | str parts s => exact fun c => headIs_wrap _ _ _ _ ⟨_, _, rfl, by cases parts <;> rfl⟩
  | var nm b s => exact fun c => headIs_wrap _ _ _ _ ⟨_, _, rfl, rfl⟩
  | bool b s => exact fun c => headIs_wrap _ _ _ _ ⟨_, _, rfl, by cases b <;> rfl⟩
  | null s => exact fun c => headIs_wrap _ _ _ _ ⟨_, _, rfl, rfl⟩
  | unary op e1 s _ => exact fun c => headIs_wrap _ _ _ _ ⟨_, _, rfl, by cases op <;> decide⟩
  | binary op l r s ihl _ => exact fun c => headIs_wrap _ _ _ _ (headIs_append _ (ihl _))
  | member o fld fs s iho => exact fun c => headIs_wrap _ _ _ _ (headIs_append _ (iho _))
  | call cal args fn s ihc _ => exact fun c => headIs_wrap _ _ _ _ (headIs_append _ (ihc _))
  | index a i is s iha _ => exact fun c => headIs_wrap _ _ _ _ (headIs_append _ (iha _))
  | array es s _ => exact fun c => headIs_wrap _ _ _ _ ⟨_, _, rfl, rfl⟩
  | nil => trivial
  | cons _ _ _ _ => trivial

theorem printAt_cur (p : Expr → Nat) (e : Expr) (c : Nat) (st : PState) :
    exprStart (pushToks (printAt p c e) st).cur.tok = true := by
  obtain ⟨t, r, h, ht⟩ := printAt_head p e c
  rw [h]; exact ht

/-- A non-empty argument list does not start with its closer (which would read as a trailing comma). -/
theorem printArgs_cur (p : Expr → Nat) (e : Expr) (es : List Expr) (st : PState) {close : Tok}
    (hclose : close = .rparen ∨ close = .rbracket) :
    ((pushToks (printArgs p (e :: es)) st).cur.tok == close) = false := by
  have h : exprStart (pushToks (printArgs p (e :: es)) st).cur.tok = true := by
    cases es with
    | nil => exact printAt_cur p e 0 st
    | cons e' es' =>
      show exprStart (pushToks (printAt p 0 e ++ _) st).cur.tok = true
      rw [pushToks_append]; exact printAt_cur p e 0 _
  rcases hclose with rfl | rfl <;> exact ne_of_class exprStart h rfl

/-- The loop at level `k` stops in front of `t`: `t` does not start a postfix form (only required for
    levels up to `postfixLevel`) and is not an operator with `l_bp ≥ k`.  The guard makes `.`, `(` and `[` themselves
    stop the loop at level `postfixLevel + 1` (`stops_postfix`): the object of a postfix form is printed at
    `postfixLevel`, and `key_left` asks of the token behind it, the one that opens the postfix form, to stop at the
    level above. -/
def StopsAt (k : Nat) (t : Tok) : Prop :=
  (k ≤ postfixLevel → isPostfixStart t = false) ∧ ∀ op l r, binInfo t = some (op, l, r) → l < k

theorem stops_mono {k k' : Nat} {t : Tok} (h : StopsAt k t) (hk : k ≤ k') : StopsAt k' t :=
  ⟨fun hp => h.1 (Nat.le_trans hk hp), fun op l r hb => Nat.lt_of_lt_of_le (h.2 op l r hb) hk⟩

theorem stops_none {t : Tok} (k : Nat) (hp : k ≤ postfixLevel → isPostfixStart t = false)
    (hb : binInfo t = none) : StopsAt k t :=
  ⟨hp, by rw [hb]; intro _ _ _ h; cases h⟩

theorem stops_rparen (k : Nat) : StopsAt k .rparen := stops_none k (fun _ => rfl) (binInfo_closer (by simp))
theorem stops_rbracket (k : Nat) : StopsAt k .rbracket := stops_none k (fun _ => rfl) (binInfo_closer (by simp))
theorem stops_comma (k : Nat) : StopsAt k .comma := stops_none k (fun _ => rfl) (binInfo_closer (by simp))

theorem stops_close {close : Tok} (h : close = .rparen ∨ close = .rbracket) (k : Nat) : StopsAt k close := by
  rcases h with rfl | rfl
  · exact stops_rparen k
  · exact stops_rbracket k

theorem stops_postfix {t : Tok} (hb : binInfo t = none) : StopsAt (postfixLevel + 1) t :=
  stops_none _ (fun h => absurd h (Nat.not_succ_le_self _)) hb

/-- The round trips are stated, and proved, of the fuel a parse has settled at:
settled results are joined by `Eventually.and`, and a function that calls others with the fuel `g` it is left with settles
where they have (`Eventually.succ`), so that no proof chooses a fuel or needs that more fuel keeps a result. -/
def Eventually (P : Nat → Prop) : Prop := ∃ f0, ∀ f, f0 ≤ f → P f

theorem Eventually.and {P Q : Nat → Prop} (hp : Eventually P) (hq : Eventually Q) : Eventually fun f => P f ∧ Q f := by
  obtain ⟨f0, h0⟩ := hp
  obtain ⟨f1, h1⟩ := hq
  exact ⟨max f0 f1, fun f hf =>
    ⟨h0 f (Nat.le_trans (Nat.le_max_left _ _) hf), h1 f (Nat.le_trans (Nat.le_max_right _ _) hf)⟩⟩

theorem Eventually.mono {P Q : Nat → Prop} (h : Eventually P) (hpq : ∀ f, P f → Q f) : Eventually Q :=
  let ⟨f0, h0⟩ := h
  ⟨f0, fun f hf => hpq f (h0 f hf)⟩

theorem Eventually.succ {P : Nat → Prop} (h : Eventually fun g => P (g + 1)) : Eventually P :=
  let ⟨f0, h0⟩ := h
  ⟨f0 + 1, fun f hf => by
    cases f with
    | zero => exact absurd hf (Nat.not_succ_le_zero _)
    | succ g => exact h0 g (Nat.le_of_succ_le_succ hf)⟩

theorem Eventually.of_succ {P : Nat → Prop} (h : ∀ g, P (g + 1)) : Eventually P := .succ ⟨0, fun g _ => h g⟩

theorem cont_stop {k : Nat} {st : PState} (e : Expr)
    (hp : isPostfixStart st.cur.tok = false)
    (hb : ∀ op l r, binInfo st.cur.tok = some (op, l, r) → l < k) :
    Eventually (parseCont · k e st = some (e, st)) := by
  refine .of_succ fun f => ?_
  rw [parseCont]
  simp only [isPostfixStart, Bool.or_eq_false_iff] at hp
  simp only [hp.1.1, hp.1.2, hp.2]
  cases hbi : binInfo st.cur.tok with
  | none => rfl
  | some q =>
    obtain ⟨op, l, r⟩ := q
    simp only [Bool.false_eq_true, if_false, if_pos (hb op l r hbi)]

theorem cont_stop' {k : Nat} {st : PState} (e : Expr) (h : StopsAt k st.cur.tok) (hk : k ≤ postfixLevel) :
    Eventually (parseCont · k e st = some (e, st)) := cont_stop e (h.1 hk) h.2

/-- In continuation form, so that the sub-expression that is a LEFT operand hands its result to the loop of the form
around it (`key_left`). -/
def Resumes (e : Expr) (ts : List Tok) (ctx : Nat) (st : PState) : Prop :=
  ∀ res, Eventually (parseCont · ctx e st = some res) → Eventually (parseExpr · ctx (pushToks ts st) = some res)

def Key (p : Expr → Nat) (e : Expr) : Prop :=
  ∀ (c ctx : Nat) (st : PState),
    ctx ≤ c → c ≤ postfixLevel → StopsAt (c + 1) st.cur.tok → st.cur.span = zspan → Resumes e (printAt p c e) ctx st

/-- `Key` for the token list `ts` of one form WITHOUT the printer's parentheses, at the levels `c` where `e` needs
none (`needs c e = false`); `key_of_body` adds the parentheses. -/
def Body (e : Expr) (ts : List Tok) : Prop :=
  ∀ (c ctx : Nat) (st : PState),
    ctx ≤ c → c ≤ postfixLevel → needs c e = false → StopsAt (c + 1) st.cur.tok → st.cur.span = zspan →
    Resumes e ts ctx st

/-- What parentheses give: `ts` resumes whatever the level and whatever follows, without the side conditions of `Key`. -/
def Strong (e : Expr) (ts : List Tok) : Prop := ∀ (ctx : Nat) (st : PState), Resumes e ts ctx st

theorem strong_paren (e : Expr) (ts : List Tok)
    (h : ∀ (st : PState), st.cur.tok = .rparen → st.cur.span = zspan →
      Eventually (parseExpr · 0 (pushToks ts st) = some (e, st))) :
    Strong e (paren ts) := by
  intro ctx st res hc
  refine (((h (pushToks [.rparen] st) rfl rfl).and hc).mono fun g h => ?_).succ
  have e1 : atomOf (mkTok Tok.lparen) = none := rfl
  have e2 : unaryInfo Tok.lparen = none := unaryInfo_bracket (by simp)
  unfold paren
  rw [parseExpr]
  simp only [pushToks_cur, List.cons_append, pushToks_bump, e1, e2, mkTok_tok, beq_self_eq_true, if_true,
    pushToks_append, h.1, pushToks_expect, pushToks_nil]
  exact h.2

theorem strong_wrapN (e : Expr) (n : Nat) : ∀ ts, Strong e ts → Strong e (wrapN n ts) := by
  induction n with
  | zero => intro ts h; exact h
  | succ n ih =>
    intro ts h
    apply ih
    apply strong_paren
    intro st ht hs
    have hstop : StopsAt 0 st.cur.tok := by rw [ht]; exact stops_rparen 0
    exact h 0 st (e, st) (cont_stop' e hstop (Nat.zero_le _))

theorem needs_zero (e : Expr) : needs 0 e = false := by
  cases e with
  | unary op _ _ => exact decide_eq_false (Nat.not_lt_zero (unRow op).2)
  | binary op _ _ _ => exact decide_eq_false (Nat.not_lt_zero (binRow op).2.1)
  | _ => rfl

/-- From the body of a form to the form wrapped as the printer wraps it: inside parentheses the body
    is at level 0, where nothing needs parentheses and `)` stops every loop. -/
theorem key_of_body (p : Expr → Nat) (e : Expr) (ts : List Tok)
    (hpr : ∀ c, printAt p c e = wrap p c e ts) (hb : Body e ts) : Key p e := by
  intro c ctx st hctx hc hst hsp
  have hstrong : Strong e (paren ts) := by
    apply strong_paren
    intro st' ht hs
    have hstop : ∀ k, StopsAt k st'.cur.tok := by rw [ht]; exact stops_rparen
    exact hb 0 0 st' (Nat.le_refl _) (Nat.zero_le _) (needs_zero e) (hstop 1) hs (e, st')
      (cont_stop' e (hstop 0) (Nat.zero_le _))
  rw [hpr]
  unfold wrap
  by_cases hn : needs c e = true
  · rw [if_pos hn]
    exact strong_wrapN e (p e) _ hstrong ctx st
  · rw [if_neg hn]
    cases hp : p e with
    | zero => exact hb c ctx st hctx hc (Bool.eq_false_iff.2 hn) hst hsp
    | succ n => exact strong_wrapN e n _ hstrong ctx st

/-- For the forms that begin with a sub-expression `l` printed at level `lvl`. -/
theorem key_left {p : Expr → Nat} {l : Expr} (hl : Key p l) {lvl ctx : Nat} {t : Tok} (ts : List Tok)
    (st : PState) {res : Expr × PState} (hctx : ctx ≤ lvl) (hlvl : lvl ≤ postfixLevel)
    (hstop : StopsAt (lvl + 1) t) (hc : Eventually (parseCont · ctx l (pushToks (t :: ts) st) = some res)) :
    Eventually (parseExpr · ctx (pushToks (printAt p lvl l ++ t :: ts) st) = some res) := by
  rw [pushToks_append]
  exact hl lvl ctx _ hctx hlvl hstop rfl res hc

theorem body_atom (e : Expr) (t : Tok) (h : atomOf (mkTok t) = some e) : Body e [t] := by
  intro c ctx st _ _ _ _ _ res hcont
  refine (hcont.mono fun g hg => ?_).succ
  rw [parseExpr]
  simp only [pushToks_cur, h, pushToks_bump, pushToks_nil]
  exact hg

theorem body_unary (p : Expr → Nat) (op : UnOp) (e1 : Expr) (hk : Key p e1) :
    Body (.unary op e1 zspan) ((unRow op).1 :: printAt p (unRow op).2 e1) := by
  intro c ctx st hctx hc hn hst hsp res hcont
  obtain ⟨hu, hlt, hat⟩ := table_spec.2 op
  have hn : c ≤ (unRow op).2 := Nat.le_of_not_lt (of_decide_eq_false hn)
  -- the operand's loop stops in front of `st`
  have hpost : isPostfixStart st.cur.tok = false := hst.1 (Nat.lt_of_le_of_lt hn hlt)
  have h1 := hk (unRow op).2 (unRow op).2 st (Nat.le_refl _) (Nat.le_of_lt hlt)
    (stops_mono hst (Nat.succ_le_succ hn)) hsp (e1, st) (cont_stop e1 hpost fun o l r hb => binInfo_lt_unary hb op)
  refine ((h1.and hcont).mono fun g h => ?_).succ
  rw [parseExpr]
  have hat' : atomOf (mkTok (unRow op).1) = none := hat zspan
  simp only [pushToks_cur, pushToks_bump, mkTok_tok, mkTok_span, hat', hu, h.1, hsp, zspan_lo, zspan_hi]
  exact h.2

theorem body_binary (p : Expr → Nat) (op : BinOp) (l r : Expr) (hl : Key p l) (hr : Key p r)
    (hls : l.span = zspan) :
    Body (.binary op l r zspan)
      (printAt p (binRow op).2.1 l ++ (binRow op).1 :: printAt p (binRow op).2.2 r) := by
  intro c ctx st hctx hc hn hst hsp res hcont
  obtain ⟨hbi, hlr, hrp, hpf, _⟩ := table_spec.1 op
  have hn : c ≤ (binRow op).2.1 := Nat.le_of_not_lt (of_decide_eq_false hn)
  have hcr : c < (binRow op).2.2 := Nat.lt_of_le_of_lt hn hlr
  have hpost : isPostfixStart st.cur.tok = false := hst.1 (Nat.lt_trans hcr hrp)
  -- right operand: its loop (level r_bp) stops in front of `st`
  have h2 := hr (binRow op).2.2 (binRow op).2.2 st (Nat.le_refl _) (Nat.le_of_lt hrp)
    (stops_mono hst (Nat.le_succ_of_le hcr)) hsp (r, st)
    (cont_stop r hpost fun o l' r' hb => Nat.lt_of_lt_of_le (hst.2 o l' r' hb) hcr)
  -- the loop with lhs = l in front of the operator
  have hstop : StopsAt ((binRow op).2.1 + 1) (binRow op).1 :=
    ⟨fun _ => hpf, fun o l' r' hb => by rw [hbi] at hb; cases hb; exact Nat.lt_succ_self _⟩
  refine key_left hl _ st (Nat.le_trans hctx hn) (Nat.le_of_lt (Nat.lt_trans hlr hrp)) hstop
    ((h2.and hcont).mono fun g h => ?_).succ
  rw [parseCont]
  simp only [isPostfixStart, Bool.or_eq_false_iff] at hpf
  have hnlt : ¬ (binRow op).2.1 < ctx := Nat.not_lt.2 (Nat.le_trans hctx hn)
  simp only [pushToks_cur, pushToks_bump, mkTok_tok, hpf.1.1, hpf.1.2, hpf.2, hbi, hnlt, if_false,
    Bool.false_eq_true, h.1, hls, hsp, zspan_lo, zspan_hi]
  exact h.2

theorem body_member (p : Expr → Nat) (o : Expr) (fld : Bytes) (ho : Key p o) (hos : o.span = zspan) :
    Body (.member o fld zspan zspan) (printAt p postfixLevel o ++ [.dot, .ident fld]) := by
  intro c ctx st hctx hc _ hst hsp res hcont
  refine key_left ho _ st (Nat.le_trans hctx hc) (Nat.le_refl _) (stops_postfix (binInfo_closer (by simp)))
    (hcont.mono fun g h => ?_).succ
  rw [parseCont]
  simp only [pushToks_cur, pushToks_bump, mkTok_tok, beq_self_eq_true, if_true, parseField,
    mkTok_span, pushToks_nil, hos, hsp, zspan_lo, zspan_hi]
  exact h

theorem body_index (p : Expr → Nat) (a i : Expr) (ha : Key p a) (hi : Key p i) (has : a.span = zspan) :
    Body (.index a i zspan zspan)
      (printAt p postfixLevel a ++ .lbracket :: (printAt p 0 i ++ [.rbracket])) := by
  intro c ctx st hctx hc _ hst hsp res hcont
  have h1 := hi 0 0 (pushToks [.rbracket] st) (Nat.le_refl _) (Nat.zero_le _) (stops_rbracket 1) rfl
    (i, pushToks [.rbracket] st) (cont_stop' i (stops_rbracket 0) (Nat.zero_le _))
  refine key_left ha _ st (Nat.le_trans hctx hc) (Nat.le_refl _) (stops_postfix (binInfo_closer (by simp)))
    ((h1.and hcont).mono fun g h => ?_).succ
  have e1 : (Tok.lbracket == Tok.dot) = false := rfl
  have e2 : (Tok.lbracket == Tok.lparen) = false := rfl
  rw [parseCont]
  simp only [pushToks_cur, pushToks_bump, mkTok_tok, mkTok_span, e1, e2, beq_self_eq_true, if_true,
    Bool.false_eq_true, if_false, pushToks_append, h.1, closeBracket, pushToks_nil, has, zspan_lo, zspan_hi]
  exact h.2

def KeyList (p : Expr → Nat) (es : List Expr) : Prop :=
  ∀ (close : Tok) (st : PState), (close = .rparen ∨ close = .rbracket) → st.cur.tok = close →
    st.cur.span = zspan → Eventually (parseElems · close (pushToks (printArgs p es) st) = some (es, st))

theorem keyList_one (p : Expr → Nat) (e : Expr) (hk : Key p e) : KeyList p [e] := by
  intro close st hclose hcur hsp
  have hs : ∀ k, StopsAt k st.cur.tok := by rw [hcur]; exact stops_close hclose
  have h1 := hk 0 0 st (Nat.le_refl _) (Nat.zero_le _) (hs 1) hsp (e, st) (cont_stop' e (hs 0) (Nat.zero_le _))
  refine (h1.mono fun g h => ?_).succ
  have hne : (close == Tok.comma) = false := by rcases hclose with rfl | rfl <;> rfl
  rw [parseElems]
  simp only [printArgs, h, hcur, hne, Bool.false_eq_true, if_false]

theorem keyList_cons (p : Expr → Nat) (e e' : Expr) (es : List Expr) (hk : Key p e)
    (hrest : KeyList p (e' :: es)) : KeyList p (e :: e' :: es) := by
  intro close st hclose hcur hsp
  let st' := pushToks (.comma :: printArgs p (e' :: es)) st
  have h1 := hk 0 0 st' (Nat.le_refl _) (Nat.zero_le _) (stops_comma 1) rfl (e, st')
    (cont_stop' e (stops_comma 0) (Nat.zero_le _))
  refine ((h1.and (hrest close st hclose hcur hsp)).mono fun g h => ?_).succ
  rw [parseElems]
  simp only [printArgs]
  rw [pushToks_append, h.1]
  simp only [st', pushToks_cur, mkTok_tok, beq_self_eq_true, if_true, pushToks_bump,
    printArgs_cur p e' es st hclose, Bool.false_eq_true, if_false, h.2]

/-- `args )` / `elems ]` after the opening token: the model's `if cur is the closer then [] else parseElems`. -/
theorem elems_close (p : Expr → Nat) (es : List Expr) (hk : es ≠ [] → KeyList p es) (close : Tok)
    (hclose : close = .rparen ∨ close = .rbracket) (st : PState) :
    Eventually fun g =>
      (if ((pushToks (printArgs p es ++ [close]) st).cur.tok == close) = true
        then some ([], pushToks (printArgs p es ++ [close]) st)
        else parseElems g close (pushToks (printArgs p es ++ [close]) st))
      = some (es, pushToks [close] st) := by
  cases es with
  | nil => exact ⟨0, fun g _ => if_pos (beq_self_eq_true close)⟩
  | cons e es' =>
    refine (hk (List.cons_ne_nil _ _) close (pushToks [close] st) hclose rfl rfl).mono fun g h => ?_
    rw [pushToks_append, printArgs_cur p e es' _ hclose]
    exact h

theorem body_call (p : Expr → Nat) (cal : Expr) (args : List Expr) (hc : Key p cal)
    (hk : args ≠ [] → KeyList p args) (hcs : cal.span = zspan) :
    Body (.call cal args none zspan)
      (printAt p postfixLevel cal ++ .lparen :: (printArgs p args ++ [.rparen])) := by
  intro c ctx st hctx hcl _ hst hsp res hcont
  refine key_left hc _ st (Nat.le_trans hctx hcl) (Nat.le_refl _) (stops_postfix (binInfo_closer (by simp)))
    (((elems_close p args hk .rparen (Or.inl rfl) st).and hcont).mono fun g h => ?_).succ
  have e1 : (Tok.lparen == Tok.dot) = false := rfl
  rw [parseCont]
  simp only [pushToks_cur, pushToks_bump, mkTok_tok, mkTok_span, e1, beq_self_eq_true, if_true,
    Bool.false_eq_true, if_false, h.1, pushToks_expect, pushToks_nil, hcs, hsp, zspan_lo, zspan_hi]
  exact h.2

theorem body_array (p : Expr → Nat) (es : List Expr) (hk : es ≠ [] → KeyList p es) :
    Body (.array es zspan) (.lbracket :: (printArgs p es ++ [.rbracket])) := by
  intro c ctx st hctx hcl _ hst hsp res hcont
  refine (((elems_close p es hk .rbracket (Or.inr rfl) st).and hcont).mono fun g h => ?_).succ
  have e0 : atomOf (mkTok Tok.lbracket) = none := rfl
  have e1 : unaryInfo Tok.lbracket = none := unaryInfo_bracket (by simp)
  have e2 : (Tok.lbracket == Tok.lparen) = false := rfl
  rw [parseExpr]
  simp only [pushToks_cur, pushToks_bump, mkTok_tok, mkTok_span, e0, e1, e2, beq_self_eq_true, if_true,
    Bool.false_eq_true, if_false, h.1, closeBracket, pushToks_nil, zspan_lo, zspan_hi]
  exact h.2

theorem strParts_escaped (s : Bytes) : strParts s true = .static s := by
  unfold strParts; split <;> simp

theorem atomOf_strTok (parts : StrParts) (h : strOk parts) :
    atomOf (mkTok (strTok parts)) = some (.str parts zspan) := by
  cases parts with
  | static s => simp [strTok, atomOf, mkTok, strParts_escaped, zspan]
  | interp segs => simp only [strOk] at h; simp [strTok, atomOf, mkTok, h, zspan]

theorem key (p : Expr → Nat) (e : Expr) : WF e → Key p e := by
  induction e using Expr.rec (motive_2 := fun es => WFs es → es ≠ [] → KeyList p es) with
  | num l s => intro hw; cases hw; exact key_of_body p _ _ (fun _ => rfl) (body_atom _ _ rfl)
  | str parts s =>
    intro hw; obtain ⟨rfl, hok⟩ := hw
    exact key_of_body p _ _ (fun _ => rfl) (body_atom _ _ (atomOf_strTok parts hok))
  | var nm b s =>
    intro hw; obtain ⟨rfl, rfl⟩ := hw
    exact key_of_body p _ _ (fun _ => rfl) (body_atom _ _ rfl)
  | bool b s =>
    intro hw; cases hw
    exact key_of_body p _ _ (fun _ => rfl) (body_atom _ _ (by cases b <;> rfl))
  | null s => intro hw; cases hw; exact key_of_body p _ _ (fun _ => rfl) (body_atom _ _ rfl)
  | unary op e1 s ih =>
    intro hw; obtain ⟨rfl, hw1⟩ := hw
    exact key_of_body p _ _ (fun _ => rfl) (body_unary p op e1 (ih hw1))
  | binary op l r s ihl ihr =>
    intro hw; obtain ⟨rfl, hwl, hwr⟩ := hw
    exact key_of_body p _ _ (fun _ => rfl) (body_binary p op l r (ihl hwl) (ihr hwr) hwl.span_eq)
  | member o fld fs s ih =>
    intro hw; obtain ⟨rfl, rfl, hwo⟩ := hw
    exact key_of_body p _ _ (fun _ => rfl) (body_member p o fld (ih hwo) hwo.span_eq)
  | call cal args fn s ihc iha =>
    intro hw; obtain ⟨rfl, rfl, hwc, hwa⟩ := hw
    exact key_of_body p _ _ (fun _ => rfl) (body_call p cal args (ihc hwc) (iha hwa) hwc.span_eq)
  | index a i is s iha ihi =>
    intro hw; obtain ⟨rfl, rfl, hwa, hwi⟩ := hw
    exact key_of_body p _ _ (fun _ => rfl) (body_index p a i (iha hwa) (ihi hwi) hwa.span_eq)
  | array es s ih =>
    intro hw; obtain ⟨rfl, hwes⟩ := hw
    exact key_of_body p _ _ (fun _ => rfl) (body_array p es (ih hwes))
  -- in the two list cases `induction` has introduced the premises `WFs es`, `es ≠ []` of the motive without names
  | nil => exact absurd rfl ‹[] ≠ []›
  | cons e es ihe ihes =>
    have hw := ‹WFs (e :: es)›
    cases es with
    | nil => exact keyList_one p e (ihe hw.1)
    | cons e' es' => exact keyList_cons p e e' es' (ihe hw.1) (ihes hw.2 (List.cons_ne_nil _ _))

theorem printAt_round_trip (p : Expr → Nat) (e : Expr) (hwf : WF e) (ctx : Nat) (st : PState)
    (hctx : ctx ≤ postfixLevel) (hstop : StopsAt ctx st.cur.tok) (hsp : st.cur.span = zspan) :
    ∃ f0, ∀ f, f0 ≤ f → parseExpr f ctx (pushToks (printAt p ctx e) st) = some (e, st) :=
  key p e hwf ctx ctx st (Nat.le_refl _) hctx (stops_mono hstop (Nat.le_succ _)) hsp (e, st) (cont_stop' e hstop hctx)

theorem printAt_round_trip_pair (p q : Expr → Nat) (e : Expr) (hwf : WF e) (st : PState)
    (hstop : StopsAt 0 st.cur.tok) (hsp : st.cur.span = zspan) :
    ∃ f0, ∀ f, f0 ≤ f →
      parseExpr f 0 (pushToks (printAt p 0 e) st) = some (e, st) ∧
      parseExpr f 0 (pushToks (printAt q 0 e) st) = some (e, st) :=
  Eventually.and (printAt_round_trip p e hwf 0 st (Nat.zero_le _) hstop hsp)
    (printAt_round_trip q e hwf 0 st (Nat.zero_le _) hstop hsp)

end NaijaVerif.Parse
