/-
The arena operations of `Model/Bump.lean` one at a time: what each leaves of the invariant, of the
base address and of the bytes below a mark (`Arena.Keeps`), where a block lands, when a request fails.
-/
import NaijaVerif.Lemmas.Bump

namespace NaijaVerif.Bump

theorem Arena.Inv.withOffset {a : Arena} (h : a.Inv) {o : Nat} (ho : o ≤ a.offset) (m : Mem) :
    Arena.Inv { a with offset := o, mem := m } :=
  ⟨Nat.le_trans ho h.offLe, h.commitLe, h.commitCh, h.capCh⟩

structure Arena.Keeps (a a' : Arena) (m : Nat) : Prop where
  inv  : a'.Inv
  base : a'.base = a.base
  mem  : ∀ i, i < m → a'.mem i = a.mem i

theorem Arena.Keeps.trans {a a' a'' : Arena} {m m' : Nat} (h : a.Keeps a' m) (h' : a'.Keeps a'' m')
    (hm : m' ≤ m) : a.Keeps a'' m' :=
  ⟨h'.inv, h'.base.trans h.base,
    fun i hi => (h'.mem i hi).trans (h.mem i (Nat.lt_of_lt_of_le hi hm))⟩

theorem Arena.Keeps.write {a a' : Arena} {m : Nat} (h : a.Keeps a' m) (mem' : Mem)
    (hm : ∀ i, i < m → mem' i = a'.mem i) : a.Keeps { a' with mem := mem' } m :=
  ⟨h.inv.withOffset (Nat.le_refl _) _, h.base, fun i hi => (hm i hi).trans (h.mem i hi)⟩

theorem new_spec (base capacity : Nat) :
    (Arena.new base capacity).Inv ∧ (Arena.new base capacity).offset = 0 ∧
    (Arena.new base capacity).commit = 0 ∧ (Arena.new base capacity).base = base ∧
    max capacity 1 ≤ (Arena.new base capacity).cap ∧
    (Arena.new base capacity).cap < max capacity 1 + chunk :=
  ⟨⟨Nat.le_refl 0, Nat.zero_le _, Nat.dvd_zero _, dvd_alignUp _ _⟩, rfl, rfl, rfl,
    le_alignUp _ _ (by decide), alignUp_lt _ _ (by decide)⟩

/-- D-11 fix: the ABSOLUTE address of the block is aligned, for every alignment and with no
assumption on `base`. -/
theorem absBeg_spec (a : Arena) (align : Nat) (ha : 0 < align) :
    a.offset ≤ a.absBeg align ∧ a.absBeg align < a.offset + align ∧
    align ∣ a.base + a.absBeg align := by
  unfold Arena.absBeg
  have h1 := le_alignUp (a.base + a.offset) align ha
  have h2 := alignUp_lt (a.base + a.offset) align ha
  have hb := Nat.le_trans (Nat.le_add_right _ _) h1
  rw [Nat.add_assoc] at h2
  refine ⟨Nat.le_sub_of_add_le' h1, Nat.sub_lt_left_of_lt_add hb h2, ?_⟩
  rw [Nat.add_sub_cancel' hb]
  exact dvd_alignUp _ _

theorem absBeg_one (a : Arena) : a.absBeg 1 = a.offset := by
  unfold Arena.absBeg
  rw [alignUp_one, Nat.add_sub_cancel_left]

structure Arena.Allocd (a : Arena) (bytes align beg : Nat) (a' : Arena) : Prop
    extends a.Keeps a' a.offset where
  start  : beg = a.absBeg align
  off    : a'.offset = beg + bytes
  commit : a.commit ≤ a'.commit

theorem alloc_ok (a : Arena) (bytes align beg : Nat) (a' : Arena) (hI : a.Inv)
    (h : a.alloc bytes align = some (beg, a')) : a.Allocd bytes align beg a' := by
  have hfill : ∀ hi v i, i < a.offset → a.mem.fill a.offset hi v i = a.mem i :=
    fun _ _ i hi => Mem.fill_outside _ _ _ _ i (Or.inl hi)
  unfold Arena.alloc at h
  by_cases hgt : a.absBeg align + bytes > a.commit
  · rw [if_pos hgt] at h
    by_cases hcap : alignUp (a.absBeg align + bytes) chunk > a.cap
    · rw [if_pos hcap] at h; cases h
    · rw [if_neg hcap] at h
      cases h
      have hle := le_alignUp (a.absBeg align + bytes) chunk (by decide)
      exact ⟨⟨⟨hle, Nat.le_of_not_lt hcap, dvd_alignUp _ _, hI.capCh⟩, rfl, hfill _ _⟩, rfl, rfl,
        Nat.le_trans (Nat.le_of_lt hgt) hle⟩
  · rw [if_neg hgt] at h
    cases h
    exact ⟨⟨⟨Nat.le_of_not_lt hgt, hI.commitLe, hI.commitCh, hI.capCh⟩, rfl, hfill _ _⟩, rfl, rfl,
      Nat.le_refl _⟩

/-- `none` carries no state: the error path of the code writes nothing. -/
theorem alloc_err_iff (a : Arena) (bytes align : Nat) (hI : a.Inv) :
    a.alloc bytes align = none ↔ a.cap < a.absBeg align + bytes := by
  have hiff := alignUp_le_iff (a.absBeg align + bytes) chunk a.cap (by decide) hI.capCh
  unfold Arena.alloc
  by_cases hgt : a.absBeg align + bytes > a.commit
  · rw [if_pos hgt]
    by_cases hcap : alignUp (a.absBeg align + bytes) chunk > a.cap
    · rw [if_pos hcap]; exact ⟨fun _ => by omega, fun _ => rfl⟩
    · rw [if_neg hcap]; exact ⟨nofun, fun h => by omega⟩
  · rw [if_neg hgt]
    have := hI.commitLe
    exact ⟨nofun, fun h => by omega⟩

theorem allocZeroed_eq (a : Arena) (bytes align : Nat) :
    a.allocZeroed bytes align =
      (a.alloc bytes align).map fun r => (r.1, { r.2 with mem := r.2.mem.fill r.1 (r.1 + bytes) 0 }) := by
  unfold Arena.allocZeroed
  cases a.alloc bytes align <;> rfl

theorem allocZeroed_ok (a : Arena) (bytes align beg : Nat) (a' : Arena) (hI : a.Inv) (ha : 0 < align)
    (h : a.allocZeroed bytes align = some (beg, a')) :
    a.Allocd bytes align beg a' ∧ ∀ k, k < bytes → a'.mem (beg + k) = 0 := by
  rw [allocZeroed_eq] at h
  obtain ⟨⟨b0, a0⟩, h0, he⟩ := Option.map_eq_some_iff.1 h
  cases he
  have hA := alloc_ok a bytes align b0 a0 hI h0
  have hb : a.offset ≤ b0 := hA.start ▸ (absBeg_spec a align ha).1
  exact ⟨⟨hA.toKeeps.write _ fun i hi => Mem.fill_outside _ _ _ _ i (Or.inl (Nat.lt_of_lt_of_le hi hb)),
      hA.start, hA.off, hA.commit⟩,
    fun k hk => Mem.fill_inside _ _ _ _ _ ⟨Nat.le_add_right _ _, Nat.add_lt_add_left hk _⟩⟩

theorem grow_eq (a : Arena) (beg oldSize newSize align : Nat) :
    a.grow beg oldSize newSize align =
      if beg + oldSize = a.offset then (a.alloc (newSize - oldSize) 1).map fun r => (beg, r.2)
      else (a.alloc newSize align).map fun r => (r.1, { r.2 with mem := r.2.mem.copy beg r.1 oldSize }) := by
  unfold Arena.grow
  by_cases htail : beg + oldSize = a.offset
  · rw [if_pos htail, if_pos htail]; cases a.alloc (newSize - oldSize) 1 <;> rfl
  · rw [if_neg htail, if_neg htail]; cases a.alloc newSize align <;> rfl

structure Arena.Grown (a : Arena) (beg oldSize newSize align nb : Nat) (a' : Arena) : Prop
    extends a.Keeps a' a.offset where
  commit  : a.commit ≤ a'.commit
  inPlace : beg + oldSize = a.offset → nb = beg
  moved   : beg + oldSize ≠ a.offset → a.offset ≤ nb
  aligned : align ∣ a.base + nb
  off     : nb + newSize = a'.offset
  copied  : ∀ k, k < oldSize → a'.mem (nb + k) = a.mem (beg + k)

theorem grow_ok (a : Arena) (beg oldSize newSize align nb : Nat) (a' : Arena) (hI : a.Inv)
    (ha : 0 < align) (hlive : beg + oldSize ≤ a.offset) (hal : align ∣ a.base + beg)
    (hsz : oldSize ≤ newSize) (h : a.grow beg oldSize newSize align = some (nb, a')) :
    a.Grown beg oldSize newSize align nb a' := by
  rw [grow_eq] at h
  by_cases htail : beg + oldSize = a.offset
  · rw [if_pos htail] at h
    obtain ⟨r, h0, he⟩ := Option.map_eq_some_iff.1 h
    cases he
    have hA := alloc_ok a _ 1 r.1 r.2 hI h0
    have ho := hA.off
    rw [hA.start, absBeg_one] at ho
    exact ⟨hA.toKeeps, hA.commit, fun _ => rfl, fun hn => absurd htail hn, hal, by omega,
      fun k hk => hA.mem _ (Nat.lt_of_lt_of_le (Nat.add_lt_add_left hk beg) hlive)⟩
  · rw [if_neg htail] at h
    obtain ⟨r, h0, he⟩ := Option.map_eq_some_iff.1 h
    cases he
    have hA := alloc_ok a _ align r.1 r.2 hI h0
    obtain ⟨s1, _, s3⟩ := absBeg_spec a align ha
    rw [← hA.start] at s1 s3
    exact ⟨hA.toKeeps.write _ fun i hi => Mem.copy_outside _ _ _ _ i (Or.inl (Nat.lt_of_lt_of_le hi s1)),
      hA.commit, fun ht => absurd ht htail, fun _ => s1, s3, hA.off.symm,
      fun k hk => (Mem.copy_inside _ _ _ _ k hk).trans
        (hA.mem _ (Nat.lt_of_lt_of_le (Nat.add_lt_add_left hk beg) hlive))⟩

theorem shrink_tail (a : Arena) (beg oldSize newSize : Nat) (ht : beg + oldSize = a.offset) :
    a.shrink beg oldSize newSize = (newSize, { a with offset := beg + newSize }) := by
  unfold Arena.shrink
  rw [if_pos ht, ← ht, Nat.add_sub_cancel]

theorem reset_ok (a : Arena) (to : Nat) (hI : a.Inv) (h : to ≤ a.offset) :
    a.Keeps (a.reset to) to ∧ (a.reset to).offset = to ∧ (a.reset to).commit = a.commit := by
  unfold Arena.reset
  by_cases hgt : a.offset > to
  · rw [if_pos hgt]
    exact ⟨⟨hI.withOffset h _, rfl, fun i hi => Mem.fill_outside _ _ _ _ i (Or.inl hi)⟩, rfl, rfl⟩
  · rw [if_neg hgt]
    exact ⟨⟨hI.withOffset h _, rfl, fun _ _ => rfl⟩, rfl, rfl⟩

theorem decommit_ok (a : Arena) (hI : a.Inv) :
    a.Keeps a.decommit a.offset ∧ a.decommit.offset = a.offset ∧
    a.decommit.commit = min a.commit (alignUp a.offset chunk) := by
  have hle := le_alignUp a.offset chunk (by decide)
  unfold Arena.decommit
  by_cases hlt : alignUp a.offset chunk < a.commit
  · rw [if_pos hlt]
    exact ⟨⟨⟨hle, Nat.le_trans (Nat.le_of_lt hlt) hI.commitLe, dvd_alignUp _ _, hI.capCh⟩, rfl,
      fun i hi => Mem.fill_outside _ _ _ _ i (Or.inl (Nat.lt_of_lt_of_le hi hle))⟩, rfl,
      (Nat.min_eq_right (Nat.le_of_lt hlt)).symm⟩
  · rw [if_neg hlt]
    exact ⟨⟨hI, rfl, fun _ _ => rfl⟩, rfl, (Nat.min_eq_left (Nat.le_of_not_lt hlt)).symm⟩

end NaijaVerif.Bump
