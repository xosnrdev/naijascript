import NaijaVerif.Model.Eval
/-
Path and slot algebra behind C05: `getPath` / `updatePath` on values, `getAt` / `updateAt` on the
scope stack, and the link between the walks of the Rust code (`walkMut`, `walkAssign`) and paths.  The evaluator and
the statements of `Props/C05.lean` write `setPath r p w`, which is `updatePath r p (fun _ => w)` (`Model/Builtins.lean`).
`Diverge.symm`, `updatePath_arr_length` and `updateAt_length` (a write changes neither the length of an array nor the
height of the stack) are read by no proof; they complete the algebra.
-/
namespace NaijaVerif.Eval
open NaijaVerif

variable {N : Type}

/-- Neither path is a prefix of the other. -/
inductive Diverge : List Nat → List Nat → Prop where
  | head {i j : Nat} {p q : List Nat} : i ≠ j → Diverge (i :: p) (j :: q)
  | tail {i : Nat} {p q : List Nat} : Diverge p q → Diverge (i :: p) (i :: q)

theorem Diverge.symm {p q : List Nat} (h : Diverge p q) : Diverge q p := by
  induction h with
  | head hne => exact .head (Ne.symm hne)
  | tail _ ih => exact .tail ih

theorem getPath_nil (v : Value N) : getPath v [] = some v := by
  cases v <;> rfl

theorem updatePath_nil (v : Value N) (f : Value N → Value N) : updatePath v [] f = f v := by
  cases v <;> rfl

theorem getPath_updatePath_same (v : Value N) (p : List Nat) (f : Value N → Value N) (c : Value N)
    (h : getPath v p = some c) : getPath (updatePath v p f) p = some (f c) := by
  induction p generalizing v with
  | nil => rw [getPath_nil] at h; cases h; rw [updatePath_nil, getPath_nil]
  | cons i p ih =>
    cases v with
    | arr xs =>
      simp only [getPath] at h
      cases hx : xs[i]? with
      | none => simp [hx] at h
      | some x =>
        simp only [hx] at h
        simp only [updatePath, getPath, List.getElem?_modify_eq, hx]
        exact ih x h
    | _ => simp [getPath] at h

theorem getPath_updatePath_diverge (v : Value N) (p q : List Nat) (f : Value N → Value N)
    (h : Diverge p q) : getPath (updatePath v p f) q = getPath v q := by
  induction h generalizing v with
  | @head i j p q hne =>
    cases v with
    | arr xs =>
      simp only [updatePath, getPath]
      rw [List.getElem?_modify_ne _ _ hne]
    | _ => simp [updatePath]
  | @tail i p q _ ih =>
    cases v with
    | arr xs =>
      simp only [updatePath, getPath, List.getElem?_modify_eq]
      cases hx : xs[i]? with
      | none => simp
      | some x => exact ih x
    | _ => simp [updatePath]

theorem updatePath_arr_length (xs : List (Value N)) (i : Nat) (p : List Nat) (f : Value N → Value N) :
    ∃ ys, updatePath (.arr xs) (i :: p) f = .arr ys ∧ ys.length = xs.length :=
  ⟨_, rfl, by simp⟩

theorem walkMut_getPath (v : Value N) (path : List (Nat × Span)) (c : Value N)
    (h : walkMut v path = .ok c) : getPath v (path.map (·.1)) = some c := by
  fun_induction walkMut v path with
  | case1 => cases h; exact getPath_nil _
  | case2 xs i sp p x hx ih => simp only [List.map_cons, getPath, hx]; exact ih h
  | _ => cases h

theorem walkAssign_getPath (sp : Span) (v : Value N) (path : List (Nat × Span))
    (h : walkAssign sp v path = .ok ()) : ∃ c, getPath v (path.map (·.1)) = some c := by
  fun_induction walkAssign sp v path with
  | case2 xs i isp hlt =>
    exact ⟨xs[i], by simp only [List.map_cons, List.map_nil, getPath, List.getElem?_eq_getElem hlt]⟩
  | case4 xs i isp q p x hx ih => simp only [List.map_cons, getPath, hx]; exact ih h
  | _ => cases h

theorem getAt_updateAt_same (env : List (Scope N)) (pos : Nat × Nat) (f : Value N → Value N) :
    getAt (updateAt env pos f) pos = (getAt env pos).map f := by
  unfold getAt updateAt
  rw [List.getElem?_modify_eq]
  cases h : env[pos.1]? with
  | none => rfl
  | some s =>
    show Option.map (·.val) ((s.slots.modify pos.2 _)[pos.2]?) = Option.map f (Option.map (·.val) s.slots[pos.2]?)
    rw [List.getElem?_modify_eq]
    cases hs : s.slots[pos.2]? <;> rfl

theorem getAt_updateAt_ne (env : List (Scope N)) (pos pos' : Nat × Nat) (f : Value N → Value N)
    (hne : pos' ≠ pos) : getAt (updateAt env pos f) pos' = getAt env pos' := by
  unfold getAt updateAt
  by_cases h1 : pos.1 = pos'.1
  · have h2 : pos.2 ≠ pos'.2 := by
      intro h2; apply hne; exact Prod.ext h1.symm h2.symm
    rw [← h1, List.getElem?_modify_eq]
    cases h : env[pos.1]? with
    | none => rfl
    | some s =>
      show Option.map (·.val) ((s.slots.modify pos.2 _)[pos'.2]?) = Option.map (·.val) s.slots[pos'.2]?
      rw [List.getElem?_modify_ne _ _ h2]
  · rw [List.getElem?_modify_ne _ _ h1]

theorem updateAt_length (env : List (Scope N)) (pos : Nat × Nat) (f : Value N → Value N) :
    (updateAt env pos f).length = env.length := by
  simp [updateAt]

end NaijaVerif.Eval
