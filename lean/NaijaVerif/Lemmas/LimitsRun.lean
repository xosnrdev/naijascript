/-
For `Props/C18Run.lean`: the evaluator consults `cfg.plan` only through `Plan.prunesStmt` (the statement
loop) and `Plan.prunesFn` (hoisting), so two configurations that differ only in plans that prune alike
evaluate identically: the instance of `EvalRel.step` for the relation `Eq`.
-/
import NaijaVerif.Lemmas.EvalCongr
namespace NaijaVerif.Eval
open NaijaVerif
variable {N : Type} [NumOps N]

/-! The operations of the evaluator that take the configuration and never look at its plan, each as an equation
that holds by `rfl`. `eq_all` below does not rewrite with them: inside `EvalRel.step` the same facts are met by
`rfl` (head of `Lemmas/EvalCongr.lean`). They carry `[NumOps N]` without using it, hence the linter option. -/
section
set_option linter.unusedSectionVars false
variable (cfg : RunCfg) (p : Option Plan)

@[simp] theorem trap_plan {α : Type} (site : PanicSite) (sp : Span) (st : State N) :
    (trap { cfg with plan := p } site sp st : Res N α) = trap cfg site sp st := rfl
@[simp] theorem ofFault_plan {α : Type} (flt : Fault) (sp : Span) (st : State N) :
    (Res.ofFault { cfg with plan := p } flt sp st : Res N α) = Res.ofFault cfg flt sp st := rfl
@[simp] theorem ofExcept_plan {α : Type} (x : Except Fault α) (sp : Span) (st : State N) :
    (Res.ofExcept { cfg with plan := p } x sp st : Res N α) = Res.ofExcept cfg x sp st := rfl
@[simp] theorem slotOf_plan (st : State N) (b : Option Nat) (n : Bytes) :
    slotOf { cfg with plan := p } st b n = slotOf cfg st b n := rfl
@[simp] theorem lookupVal_plan (st : State N) (b : Option Nat) (n : Bytes) :
    lookupVal { cfg with plan := p } st b n = lookupVal cfg st b n := rfl
@[simp] theorem assign_plan (st : State N) (b : Option Nat) (n : Bytes) (v : Value N) :
    assign { cfg with plan := p } st b n v = assign cfg st b n v := rfl
@[simp] theorem lookupFn_plan (st : State N) (a : Option Nat) (n : Bytes) :
    lookupFn { cfg with plan := p } st a n = lookupFn cfg st a n := rfl
@[simp] theorem applyMut_plan (st : State N) (n : Bytes) (b : Option Nat) (path : List (Nat × Span))
    (op : MutOp N) (sp : Span) :
    applyMut { cfg with plan := p } st n b path op sp = applyMut cfg st n b path op sp := rfl
@[simp] theorem assignIndex_plan (st : State N) (n : Bytes) (b : Option Nat) (path : List (Nat × Span))
    (v : Value N) (sp : Span) :
    assignIndex { cfg with plan := p } st n b path v sp = assignIndex cfg st n b path v sp := rfl
@[simp] theorem runCommand_plan (c : Proc.Cmd) (sp : Span) (st : State N) :
    runCommand { cfg with plan := p } c sp st = runCommand cfg c sp st := rfl
@[simp] theorem globalCall_plan (b : GlobalB) (v : Value N) (sp : Span) (st : State N) :
    globalCall { cfg with plan := p } b v sp st = globalCall cfg b v sp st := rfl
@[simp] theorem init_plan : (State.init { cfg with plan := p } : State N) = State.init cfg := rfl
end

theorem prunesStmt_none (sid : Option Nat) : Plan.prunesStmt none sid = false := by
  cases sid <;> rfl
theorem prunesStmt_empty (sid : Option Nat) : Plan.prunesStmt (some {}) sid = false := by
  cases sid <;> rfl
theorem prunesFn_none (fid : Option Nat) : Plan.prunesFn none fid = false := by
  cases fid <;> rfl
theorem prunesFn_empty (fid : Option Nat) : Plan.prunesFn (some {}) fid = false := by
  cases fid <;> rfl

/-- A configuration whose plan prunes nothing; no plan (`noPrune_none`) and the empty plan (`noPrune_empty`) are
the two instances that `Props/C18Run.lean` compares. -/
def NoPrune (cfg : RunCfg) : Prop :=
  (∀ sid, Plan.prunesStmt cfg.plan sid = false) ∧ (∀ fid, Plan.prunesFn cfg.plan fid = false)

theorem noPrune_none (cfg : RunCfg) : NoPrune { cfg with plan := none } :=
  ⟨prunesStmt_none, prunesFn_none⟩

theorem noPrune_empty (cfg : RunCfg) : NoPrune { cfg with plan := some {} } :=
  ⟨prunesStmt_empty, prunesFn_empty⟩

omit [NumOps N] in
theorem eq_bindRel (cfg : RunCfg) (p1 p2 : Option Plan) : BindRel (N := N) Eq { cfg with plan := p1 } cfg.panics p2 where
  ok _ _ := rfl
  err _ _ _ := rfl
  trap _ _ _ := rfl
  bind := Res.bind_congr

section Step
variable {cfg : RunCfg} {p1 p2 : Option Plan}
  (hs : ∀ sid, Plan.prunesStmt p1 sid = Plan.prunesStmt p2 sid)
  (hf : ∀ fid, Plan.prunesFn p1 fid = Plan.prunesFn p2 fid)
include hs hf

theorem eq_all : ∀ f, EvalRel (N := N) Eq { cfg with plan := p1 } { cfg with plan := p2 } f f :=
  Logic.all (Logic.ofRel_laws (eq_bindRel cfg p1 p2) ⟨fun sid => (hs sid).symm, fun fid => (hf fid).symm⟩) rfl

end Step

end NaijaVerif.Eval
