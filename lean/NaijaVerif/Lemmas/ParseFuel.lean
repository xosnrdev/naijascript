import NaijaVerif.Lemmas.ParseLoops
/-
Fuel of the parser model: more fuel never changes a result (`*_mono`), and `3 * μ st + c` fuel is
always enough, `μ st` = tokens left (`*_adequate`): every loop iteration, including every recovery
path, consumes a token or exits (a `bump` off a non-EOF token decreases `μ`; nothing increases it).  Why three units
per token, and what `c` is, stands in front of `fuel_lt`.

Both are walks over the parser's functions in which nothing is split by hand: "more fuel, same result" (`Le`) and
"has a result that leaves at most `m` tokens" (`Ok`) pass through `if` and through the `match` that hands a sub-result on
(`Le.ite`, `Le.bind`, `Ok.ite`, `Ok.bind`), so each arm of the source is closed by a term that names its calls and, for
`Ok`, the tokens they leave.
-/
namespace NaijaVerif.Parse
open NaijaVerif

-- No proof of the tree calls `psplit`.
/-- Splits `h` along every `match` / `if`, zeta-reducing the `let`s in between. -/
macro "psplit" h:ident : tactic =>
  `(tactic| repeat' (first | split at $h:ident | simp only [] at $h:ident))

/-- The tokens left: those behind the look-ahead, and the look-ahead unless it is `EOF`, which is never consumed (`bump`
off the last token makes up another one). -/
def μ (st : PState) : Nat := st.rest.length + (if st.cur.tok = .eof then 0 else 1)

theorem rest_le_μ (st : PState) : st.rest.length ≤ μ st := Nat.le_add_right _ _

theorem μ_of_ne_eof {st : PState} (h : st.cur.tok ≠ .eof) : μ st = st.rest.length + 1 := by
  unfold μ; rw [if_neg h]

theorem μ_bump_rest (st : PState) : μ st.bump ≤ st.rest.length := by
  unfold μ PState.bump
  cases h : st.rest with
  | nil => simp [eofAt]
  | cons t ts => simp; split <;> omega

theorem μ_bump_le (st : PState) : μ st.bump ≤ μ st := Nat.le_trans (μ_bump_rest st) (rest_le_μ st)

theorem μ_bump_lt (st : PState) (h : st.cur.tok ≠ .eof) : μ st.bump + 1 ≤ μ st := by
  rw [μ_of_ne_eof h]; exact Nat.succ_le_succ (μ_bump_rest st)

@[simp] theorem μ_err (st : PState) (k sp l) : μ (st.err k sp l) = μ st := rfl
@[simp] theorem μ_err1 (st : PState) (k sp) : μ (st.err1 k sp) = μ st := rfl

theorem μ_take_le (st : PState) : μ st.take ≤ μ st := by
  unfold μ PState.take; simp

theorem μ_sync_le (st : PState) : μ st.sync ≤ μ st :=
  sync_induct (M := fun a b => μ b ≤ μ a) (fun _ _ => Nat.le_refl _)
    (fun st _ ih => Nat.le_trans ih (μ_bump_le st)) st

theorem μ_expect_le (st : PState) (t k sp) : μ (st.expect t k sp) ≤ μ st := by
  unfold PState.expect
  split
  · exact μ_bump_le st
  · simp

/-- The adequacy proofs below do not come here: where they need a strict decrease they have a `bump` in hand
(`μ_bump_lt`), and of `expect` they need `μ_expect_le` only. -/
theorem μ_expect_lt (st : PState) (t k sp) (h : (st.cur.tok == t) = true) (ht : t ≠ .eof) :
    μ (st.expect t k sp) + 1 ≤ μ st := by
  unfold PState.expect
  simp only [h, if_true]
  exact μ_bump_lt st (by rw [eq_of_beq h]; exact ht)

theorem atomOf_ne_eof {t : SpTok} {e : Expr} (h : atomOf t = some e) : t.tok ≠ .eof := by
  intro he; simp [atomOf, he] at h

theorem unaryInfo_ne_eof {t : Tok} {r} (h : unaryInfo t = some r) : t ≠ .eof := by
  intro he; rw [he, show unaryInfo Tok.eof = none by decide] at h; cases h

theorem binInfo_ne_eof {t : Tok} {r} (h : binInfo t = some r) : t ≠ .eof := by
  intro he; rw [he, show binInfo Tok.eof = none by decide] at h; cases h

theorem μ_parseField_le (st : PState) : μ (parseField st).2.2 ≤ μ st := by
  unfold parseField
  split
  · exact μ_bump_le st
  · split
    · exact Nat.le_trans (μ_bump_le _) (by simp)
    · exact Nat.le_trans (μ_bump_le _) (by simp)

theorem closeBracket_eq (st : PState) :
    closeBracket st = (st.cur.span.hi, st.expect .rbracket .expectedRBracket st.cur.span) := by
  unfold closeBracket PState.expect
  split <;> rfl

theorem μ_closeBracket_le (st : PState) : μ (closeBracket st).2 ≤ μ st := by
  rw [closeBracket_eq]; exact μ_expect_le _ _ _ _

theorem μ_nameOrPlaceholder (st : PState) (sp) : μ (nameOrPlaceholder st sp).2 = μ st := by
  unfold nameOrPlaceholder
  split
  · rfl
  · split <;> rfl

theorem μ_congr {a b : PState} (hc : a.cur = b.cur) (hr : a.rest = b.rest) : μ a = μ b := by
  simp [μ, hc, hr]

theorem μ_parseParams_le : ∀ st, μ (parseParams st).2 ≤ μ st := by
  refine parseParams_induct (M := fun st r => μ r.2 ≤ μ st) (fun st h => Nat.le_refl _)
    (fun st p st1 h hc => ?_) (fun st p st1 r h hc ih => ?_)
  · rw [← μ_congr (paramStep_some h).1 (paramStep_some h).2]
    exact μ_bump_le st1
  · rw [← μ_congr (paramStep_some h).1 (paramStep_some h).2]
    exact Nat.le_trans ih (Nat.le_trans (μ_bump_le _) (μ_bump_le st1))

theorem μ_parseFnHeader_le (start : Nat) (st : PState) : μ (parseFnHeader start st).2 ≤ st.rest.length := by
  unfold parseFnHeader
  simp only []
  refine Nat.le_trans (Nat.le_trans (μ_expect_le _ _ _ _) (μ_expect_le _ _ _ _)) ?_
  refine Nat.le_trans (μ_parseParams_le _) (Nat.le_trans (μ_expect_le _ _ _ _) (Nat.le_trans (μ_bump_le _) ?_))
  rw [μ_nameOrPlaceholder]
  exact μ_bump_rest st

theorem μ_parseMakeHeader_le (st : PState) : μ (parseMakeHeader st).2.2 ≤ st.rest.length := by
  unfold parseMakeHeader
  simp only []
  split
  · exact Nat.le_trans (μ_bump_le _) (μ_bump_rest st)
  · split
    · exact Nat.le_trans (μ_bump_le _) (μ_bump_rest st)
    · exact Nat.le_trans (μ_bump_le _) (μ_bump_rest st)

theorem μ_openCond_le (sp : Span) (st : PState) : μ (openCond sp st) ≤ μ st := μ_expect_le _ _ _ _

theorem μ_closeCond_le (start : Nat) (c : Expr) (st : PState) : μ (closeCond start c st).2 ≤ μ st := by
  unfold closeCond
  exact Nat.le_trans (μ_expect_le _ _ _ _) (μ_expect_le _ _ _ _)

theorem μ_finishAssign (start : Nat) (t v : Expr) (st : PState) : μ (finishAssign start t v st).2 = μ st := by
  unfold finishAssign
  split <;> rfl

theorem blockStop_ne_eof {t : Tok} (h : isBlockStop t = false) : t ≠ .eof := by
  intro he; rw [he] at h; revert h; decide

theorem stmtStart_ne_eof {t : Tok} (h : isStmtStart t = true) : t ≠ .eof := by
  intro he; rw [he] at h; revert h; decide

def Le {α} (o o' : Option α) : Prop := ∀ r, o = some r → o' = some r

theorem Le.refl {α} (o : Option α) : Le o o := fun _ h => h

theorem Le.ite {α} {c : Prop} [Decidable c] {a a' b b' : Option α} (h1 : Le a a') (h2 : Le b b') :
    Le (if c then a else b) (if c then a' else b') := by
  by_cases h : c
  · rw [if_pos h, if_pos h]; exact h1
  · rw [if_neg h, if_neg h]; exact h2

/-- The continuation takes the pair whole: under the unifier the model's `some (e, st1) => …` is a function of a pair `p`
that mentions `p.1` and `p.2`. -/
theorem Le.bind {α β} {o o' : Option α} {k k' : α → Option β} : Le o o' → (∀ a, Le (k a) (k' a)) →
    Le (match o with | none => none | some a => k a) (match o' with | none => none | some a => k' a) := by
  intro h hk
  cases o with
  | none => nofun
  | some a => rw [h a rfl]; exact hk a

/-! A token pays for three units of fuel: three is the longest chain of calls that consumes nothing
(`parseBlock` → `parseStmts` → `parseStmt`, `parseElems` → `parseExpr` → `parseCont`), and the offset `c` in
`3 * μ st + c` is a function's place in such a chain: 1 `parseCont`; 2 `parseExpr`, `parseStmt`; 3 `parseElems`,
`parseStmts`, `parseTopStmts`; 4 `parseBlock`.  A call after a consumed token (`fuel_lt`) may go up to two places
up the chain, a call without one (`fuel_le`) goes down. -/

theorem fuel_lt {m m' f c c' : Nat} (hf : 3 * m + c ≤ f + 1) (hm : m' < m) (hc : c' ≤ c + 2) :
    3 * m' + c' ≤ f := by omega

theorem fuel_le {m m' f c c' : Nat} (hf : 3 * m + c ≤ f + 1) (hm : m' ≤ m) (hc : c' < c) :
    3 * m' + c' ≤ f := by omega

/-- A call made by a statement: every arm of `parseStmt` begins with a `bump`, so its calls are at states with at most
`n = st.rest.length` tokens left, and `3 * n + 5`, which is `3 * μ st + 2` at a look-ahead other than `EOF`, pays for any
place in a chain. -/
theorem fuel_in {n m f c' : Nat} (hf : 3 * n + 5 ≤ f + 1) (hm : m ≤ n) (hc : c' ≤ 4) : 3 * m + c' ≤ f := by omega

def Ok {α} (m : Nat) (o : Option (α × PState)) : Prop := ∃ a st', o = some (a, st') ∧ μ st' ≤ m

theorem Ok.pure {α} {m : Nat} {x : α × PState} (h : μ x.2 ≤ m) : Ok m (some x) := ⟨x.1, x.2, rfl, h⟩

theorem Ok.mono {α} {o : Option (α × PState)} {m m' : Nat} (h : Ok m' o) (hm : m' ≤ m) : Ok m o :=
  let ⟨a, st', h1, h2⟩ := h
  ⟨a, st', h1, Nat.le_trans h2 hm⟩

theorem Ok.ite {α} {c : Prop} [Decidable c] {a b : Option (α × PState)} {m : Nat} (h1 : c → Ok m a) (h2 : ¬c → Ok m b) :
    Ok m (if c then a else b) := by
  by_cases h : c
  · rw [if_pos h]; exact h1 h
  · rw [if_neg h]; exact h2 h

theorem Ok.bind {α β} {o : Option (α × PState)} {k : α × PState → Option (β × PState)} {m m' : Nat} : Ok m' o →
    (∀ p, μ p.2 ≤ m' → Ok m (k p)) → Ok m (match o with | none => none | some p => k p) := by
  rintro ⟨a, st', rfl, h⟩ hk
  exact hk (a, st') h

/-- A final call of `parseCont` behind a consumed token. -/
theorem Ok.tail {α} {o : Option (α × PState)} {m m' f c : Nat} (hf : 3 * m + c ≤ f + 1) (hm : m' < m)
    (ih : 3 * m' + 1 ≤ f → Ok m' o) : Ok m o :=
  (ih (fuel_lt hf hm (by omega))).mono (Nat.le_of_lt hm)

section
/- The `match` in the statement of `Le.bind` or `Ok.bind` and a `match` of the model are different auxiliary definitions,
equal once both are unfolded to `casesOn`; Lean's unifier leaves a `match` that it cannot reduce folded unless
`smartUnfolding` is off.  With it off the unifier would also unfold whatever it finds as a discriminant, the parser's
functions through their compiled recursion, hence `irreducible` for all that the walks below speak of by lemmas and
equations (`rw [parseExpr]`) only. -/
set_option smartUnfolding false
attribute [local irreducible] parseExpr parseCont parseElems parseStmt parseStmts parseBlock parseTopStmts
  parseFnHeader parseMakeHeader openCond closeCond finishAssign parseField closeBracket PState.expect PState.bump PState.sync

theorem expr_mono : ∀ f,
    (∀ bp st, Le (parseExpr f bp st) (parseExpr (f+1) bp st)) ∧
    (∀ bp l st, Le (parseCont f bp l st) (parseCont (f+1) bp l st)) ∧
    (∀ c st, Le (parseElems f c st) (parseElems (f+1) c st)) := by
  intro f
  induction f with
  | zero => simp [Le, parseExpr, parseCont, parseElems]
  | succ f ih =>
    obtain ⟨ihe, ihc, ihl⟩ := ih
    refine ⟨fun bp st => ?_, fun bp l st => ?_, fun c st => ?_⟩
    · rw [parseExpr, parseExpr]
      cases atomOf st.cur with
      | some e => exact ihc bp e st.bump
      | none =>
      cases unaryInfo st.cur.tok with
      | some u => exact (ihe _ _).bind fun _ => ihc _ _ _
      | none =>
      refine .ite ((ihe _ _).bind fun _ => ihc _ _ _) ?_
      refine .ite (((Le.refl _).ite (ihl _ _)).bind fun _ => ihc _ _ _) ?_
      exact ihc _ _ _
    · rw [parseCont, parseCont]
      refine .ite (ihc _ _ _) ?_
      refine .ite (((Le.refl _).ite (ihl _ _)).bind fun _ => ihc _ _ _) ?_
      refine .ite ((ihe _ _).bind fun _ => ihc _ _ _) ?_
      cases binInfo st.cur.tok with
      | none => exact .refl _
      | some b => exact .ite (.refl _) ((ihe _ _).bind fun _ => ihc _ _ _)
    · rw [parseElems, parseElems]
      exact (ihe _ _).bind fun _ => .ite (.ite (.refl _) ((ihl _ _).bind fun _ => .refl _)) (.refl _)

theorem mono_le {α} {F : Nat → Option α} (step : ∀ f, Le (F f) (F (f+1))) {f g : Nat} (hfg : f ≤ g) :
    Le (F f) (F g) := by
  induction hfg with
  | refl => exact .refl _
  | step _ ih => exact fun r h => step _ r (ih r h)

theorem parseExpr_mono_le {f g bp st r} (hfg : f ≤ g) (h : parseExpr f bp st = some r) :
    parseExpr g bp st = some r :=
  mono_le (fun f => (expr_mono f).1 bp st) hfg r h

theorem parseCont_mono_le {f g bp l st r} (hfg : f ≤ g) (h : parseCont f bp l st = some r) :
    parseCont g bp l st = some r :=
  mono_le (fun f => (expr_mono f).2.1 bp l st) hfg r h

theorem parseElems_mono_le {f g c st r} (hfg : f ≤ g) (h : parseElems f c st = some r) :
    parseElems g c st = some r :=
  mono_le (fun f => (expr_mono f).2.2 c st) hfg r h

theorem stmt_mono : ∀ f,
    (∀ st, Le (parseStmt f st) (parseStmt (f+1) st)) ∧
    (∀ st, Le (parseStmts f st) (parseStmts (f+1) st)) ∧
    (∀ st, Le (parseBlock f st) (parseBlock (f+1) st)) := by
  intro f
  induction f with
  | zero => simp [Le, parseStmt, parseStmts, parseBlock]
  | succ f ih =>
    obtain ⟨ihs, ihl, ihb⟩ := ih
    have he := (expr_mono f).1
    have hc := (expr_mono f).2.1
    refine ⟨fun st => ?_, fun st => ?_, fun st => ?_⟩
    · rw [parseStmt, parseStmt]
      split
      · exact (ihb _).bind fun _ => .refl _
      · exact .ite (.refl _) ((he _ _).bind fun _ => .refl _)
      · exact .ite ((he _ _).bind fun _ => .refl _) (.refl _)
      · exact (he _ _).bind fun _ => (ihb _).bind fun _ => .ite ((ihb _).bind fun _ => .refl _) (.refl _)
      · exact (he _ _).bind fun _ => (ihb _).bind fun _ => .refl _
      · exact .refl _
      · exact .refl _
      · exact (ihb _).bind fun _ => .refl _
      · exact (hc _ _ _).bind fun _ => .ite ((he _ _).bind fun _ => .refl _) (.refl _)
      · exact .refl _
    · rw [parseStmts, parseStmts]
      exact .ite (.refl _) ((ihs _).bind fun _ => (ihl _).bind fun _ => .refl _)
    · rw [parseBlock, parseBlock]
      exact (ihl _).bind fun _ => .refl _

/-- `stmt_mono` for a caller that adds fuel (`f + k`; the siblings `…_mono` take `f ≤ g`). -/
theorem parseStmt_mono {f st r} (k : Nat) (h : parseStmt f st = some r) :
    parseStmt (f + k) st = some r :=
  mono_le (fun f => (stmt_mono f).1 st) (Nat.le_add_right f k) r h

theorem parseTopStmts_mono1 : ∀ f st, Le (parseTopStmts f st) (parseTopStmts (f+1) st) := by
  intro f
  induction f with
  | zero => simp [Le, parseTopStmts]
  | succ f ih =>
    intro st
    rw [parseTopStmts, parseTopStmts]
    exact .ite ((stmt_mono f).1 _ |>.bind fun _ => (ih _).bind fun _ => .refl _) (.refl _)

theorem parseProgramFuel_mono {f g toks} (hfg : f ≤ g) : Le (parseProgramFuel f toks) (parseProgramFuel g toks) :=
  (mono_le (parseTopStmts_mono1 · _) hfg).bind fun _ => .refl _

theorem args_adequate {f : Nat} (ihl : ∀ c st, 3 * μ st + 3 ≤ f → Ok (μ st) (parseElems f c st))
    (c : Tok) (st : PState) (hf : 3 * μ st + 3 ≤ f) :
    Ok (μ st) (if st.cur.tok == c then some ([], st) else parseElems f c st) :=
  .ite (fun _ => .pure (Nat.le_refl _)) fun _ => ihl c st hf

theorem expr_adequate : ∀ f,
    (∀ bp st, 3 * μ st + 2 ≤ f → Ok (μ st) (parseExpr f bp st)) ∧
    (∀ bp l st, 3 * μ st + 1 ≤ f → Ok (μ st) (parseCont f bp l st)) ∧
    (∀ c st, 3 * μ st + 3 ≤ f → Ok (μ st) (parseElems f c st)) := by
  intro f
  induction f with
  | zero => refine ⟨?_, ?_, ?_⟩ <;> intros <;> omega
  | succ f ih =>
    obtain ⟨ihe, ihc, ihl⟩ := ih
    refine ⟨fun bp st hf => ?_, fun bp l st hf => ?_, fun c st hf => ?_⟩
    · rw [parseExpr]
      cases ha : atomOf st.cur with
      | some e => exact .tail hf (μ_bump_lt st (atomOf_ne_eof ha)) (ihc bp e st.bump)
      | none =>
      cases hu : unaryInfo st.cur.tok with
      | some u =>
        have hb := μ_bump_lt st (unaryInfo_ne_eof hu)
        exact (ihe u.2 st.bump (fuel_lt hf hb (by decide))).bind fun p hm1 =>
          .tail hf (Nat.lt_of_le_of_lt hm1 hb) (ihc bp _ p.2)
      | none =>
      refine .ite (fun hp => ?_) fun _ => .ite (fun hbr => ?_) fun _ => ?_
      · -- `( e )`
        have hb := μ_bump_lt st (by rw [eq_of_beq hp]; decide)
        exact (ihe 0 st.bump (fuel_lt hf hb (by decide))).bind fun p hm1 =>
          .tail hf (Nat.lt_of_le_of_lt (Nat.le_trans (μ_expect_le p.2 _ _ _) hm1) hb) (ihc bp p.1 _)
      · -- `[ es ]`
        have hb := μ_bump_lt st (by rw [eq_of_beq hbr]; decide)
        exact (args_adequate ihl .rbracket st.bump (fuel_lt hf hb (by decide))).bind fun p hm2 =>
          .tail hf (Nat.lt_of_le_of_lt (Nat.le_trans (μ_closeBracket_le p.2) hm2) hb) (ihc bp _ _)
      · have h1 : μ (st.take.err1 .expectedNumberOrVariableOrLParen st.cur.span).sync ≤ μ st :=
          Nat.le_trans (μ_sync_le _) (μ_take_le st)
        exact (ihc bp _ _ (fuel_le hf h1 (by decide))).mono h1
    · rw [parseCont]
      refine .ite (fun hd => ?_) fun _ => .ite (fun hp => ?_) fun _ => .ite (fun hbr => ?_) fun _ => ?_
      · -- `.field`
        have hb := μ_bump_lt st (by rw [eq_of_beq hd]; decide)
        exact .tail hf (Nat.lt_of_le_of_lt (μ_parseField_le st.bump) hb) (ihc bp _ _)
      · -- `( args )`
        have hb := μ_bump_lt st (by rw [eq_of_beq hp]; decide)
        exact (args_adequate ihl .rparen st.bump (fuel_lt hf hb (by decide))).bind fun p hm2 =>
          .tail hf (Nat.lt_of_le_of_lt (Nat.le_trans (μ_expect_le p.2 _ _ _) hm2) hb) (ihc bp _ _)
      · -- `[ ix ]`
        have hb := μ_bump_lt st (by rw [eq_of_beq hbr]; decide)
        exact (ihe 0 st.bump (fuel_lt hf hb (by decide))).bind fun p hm1 =>
          .tail hf (Nat.lt_of_le_of_lt (Nat.le_trans (μ_closeBracket_le p.2) hm1) hb) (ihc bp _ _)
      · cases hbin : binInfo st.cur.tok with
        | none => exact .pure (Nat.le_refl _)
        | some b =>
          have hb := μ_bump_lt st (binInfo_ne_eof hbin)
          exact .ite (fun _ => .pure (Nat.le_refl _)) fun _ =>
            (ihe b.2.2 st.bump (fuel_lt hf hb (by decide))).bind fun p hm1 =>
              .tail hf (Nat.lt_of_le_of_lt hm1 hb) (ihc bp _ p.2)
    · rw [parseElems]
      refine (ihe 0 st (fuel_le hf (Nat.le_refl _) (by decide))).bind fun p hm1 => ?_
      refine .ite (fun hc => ?_) fun _ => .pure hm1
      have hlt := Nat.lt_of_lt_of_le (μ_bump_lt p.2 (by rw [eq_of_beq hc]; decide)) hm1
      exact .ite (fun _ => .pure (Nat.le_of_lt hlt)) fun _ =>
        (ihl c p.2.bump (fuel_lt hf hlt (by decide))).bind fun q hm3 => .pure (Nat.le_trans hm3 (Nat.le_of_lt hlt))

/-- A statement consumes its first token, `EOF` or not (the recovery arm bumps too): it leaves at most the tokens that
were behind the look-ahead.  The loops around it call it at a look-ahead other than `EOF`, where that is one less than
`μ st` and `3 * st.rest.length + 5` is the `3 * μ st + 2` of its place in the chain. -/
theorem stmt_adequate : ∀ f,
    (∀ st, 3 * st.rest.length + 5 ≤ f → Ok st.rest.length (parseStmt f st)) ∧
    (∀ st, 3 * μ st + 3 ≤ f → Ok (μ st) (parseStmts f st)) ∧
    (∀ st, 3 * μ st + 4 ≤ f → Ok (μ st) (parseBlock f st)) := by
  intro f
  induction f with
  | zero => refine ⟨?_, ?_, ?_⟩ <;> intros <;> omega
  | succ f ih =>
    obtain ⟨ihs, ihl, ihb⟩ := ih
    have ihe := (expr_adequate f).1
    have ihc := (expr_adequate f).2.1
    refine ⟨fun st hf => ?_, fun st hf => ?_, fun st hf => ?_⟩
    · have hb := μ_bump_rest st
      rw [parseStmt]
      split
      · -- do
        have h1 := μ_parseFnHeader_le st.cur.span.lo st
        exact (ihb _ (fuel_in hf h1 (by decide))).bind fun p hm =>
          .pure (Nat.le_trans (Nat.le_trans (μ_expect_le p.2 _ _ _) hm) h1)
      · -- return
        exact .ite (fun _ => .pure hb) fun _ =>
          (ihe 0 st.bump (fuel_in hf hb (by decide))).bind fun p hm => .pure (Nat.le_trans hm hb)
      · -- make
        have h1 := μ_parseMakeHeader_le st
        have h2 := Nat.le_trans (μ_bump_le _) h1
        exact .ite (fun _ => (ihe 0 _ (fuel_in hf h2 (by decide))).bind fun p hm => .pure (Nat.le_trans hm h2))
          fun _ => .pure h1
      · -- if to say
        have hO := Nat.le_trans (μ_openCond_le st.cur.span st.bump) hb
        refine (ihe 0 _ (fuel_in hf hO (by decide))).bind fun p hm2 => ?_
        have hC := Nat.le_trans (Nat.le_trans (μ_closeCond_le st.cur.span.lo p.1 p.2) hm2) hO
        refine (ihb _ (fuel_in hf hC (by decide))).bind fun q hm4 => ?_
        have h5 := Nat.le_trans (Nat.le_trans (μ_expect_le q.2 .end .unterminatedBlock q.2.cur.span) hm4) hC
        generalize q.2.expect .end .unterminatedBlock q.2.cur.span = st5 at h5 ⊢
        refine .ite (fun _ => ?_) fun _ => .pure h5
        have hE := Nat.le_trans (Nat.le_trans
          (μ_expect_le st5.bump .start .expectedStartBlock st5.cur.span) (μ_bump_le st5)) h5
        exact (ihb _ (fuel_in hf hE (by decide))).bind fun r hm8 =>
          .pure (Nat.le_trans (Nat.le_trans (μ_expect_le r.2 _ _ _) hm8) hE)
      · -- jasi
        have hO := Nat.le_trans (μ_openCond_le st.cur.span st.bump) hb
        refine (ihe 0 _ (fuel_in hf hO (by decide))).bind fun p hm2 => ?_
        have hC := Nat.le_trans (Nat.le_trans (μ_closeCond_le st.cur.span.lo p.1 p.2) hm2) hO
        exact (ihb _ (fuel_in hf hC (by decide))).bind fun q hm4 =>
          .pure (Nat.le_trans (Nat.le_trans (μ_expect_le q.2 _ _ _) hm4) hC)
      · exact .pure hb  -- comot
      · exact .pure hb  -- next
      · -- start
        exact (ihb st.bump (fuel_in hf hb (by decide))).bind fun p hm =>
          .pure (Nat.le_trans (Nat.le_trans (μ_expect_le p.2 _ _ _) hm) hb)
      · -- identifier
        refine (ihc 0 _ st.bump (fuel_in hf hb (by decide))).bind fun p hm => ?_
        have h1 := Nat.le_trans hm hb
        have h2 := Nat.le_trans (μ_bump_le p.2) h1
        exact .ite (fun _ => (ihe 0 p.2.bump (fuel_in hf h2 (by decide))).bind fun q hm3 =>
            .pure (by rw [μ_finishAssign]; exact Nat.le_trans hm3 h2))
          fun _ => .pure h1
      · -- recovery
        exact .pure (Nat.le_trans (μ_sync_le _) (μ_bump_rest (st.err1 .expectedStatement st.cur.span)))
    · rw [parseStmts]
      refine .ite (fun _ => .pure (Nat.le_refl _)) fun hstop => ?_
      have hμ := μ_of_ne_eof (blockStop_ne_eof (Bool.eq_false_iff.2 hstop))
      exact (ihs st (by omega)).bind fun p hm1 => (ihl p.2 (by omega)).bind fun q hm2 =>
        .pure (Nat.le_trans hm2 (Nat.le_trans hm1 (rest_le_μ st)))
    · rw [parseBlock]
      exact (ihl st (fuel_le hf (Nat.le_refl _) (by decide))).bind fun p hm => .pure hm

theorem top_adequate : ∀ f st, 3 * μ st + 3 ≤ f → Ok (μ st) (parseTopStmts f st) := by
  intro f
  induction f with
  | zero => intros; omega
  | succ f ih =>
    intro st hf
    rw [parseTopStmts]
    refine .ite (fun hstart => ?_) fun _ => .pure (Nat.le_refl _)
    have hμ := μ_of_ne_eof (stmtStart_ne_eof hstart)
    exact ((stmt_adequate f).1 st (by omega)).bind fun p hm1 => (ih p.2 (by omega)).bind fun q hm2 =>
        .pure (Nat.le_trans hm2 (Nat.le_trans hm1 (rest_le_μ st)))

end

theorem μ_init_le (toks : List SpTok) : μ (PState.init toks) ≤ toks.length := by
  cases toks with
  | nil => simp [PState.init, μ]
  | cons t ts =>
    by_cases h : t.tok = Tok.eof <;> simp [PState.init, μ, h]

/-- The parser terminates on every token list.  `top_adequate` asks for `3 * μ + 3` with `μ ≤ toks.length` (`μ_init_le`;
not `=`, a look-ahead `EOF` counts 0); the `10` of `fuelFor` is that `3` with room to spare. -/
theorem parseProgramFuel_adequate (toks : List SpTok) :
    ∃ r, parseProgramFuel (fuelFor toks) toks = some r := by
  have hm := μ_init_le toks
  obtain ⟨ss, st', h, -⟩ := top_adequate (fuelFor toks) (PState.init toks) (by unfold fuelFor; omega)
  unfold parseProgramFuel
  simp only [h]
  exact ⟨_, rfl⟩

theorem parseProgramFuel_stable (toks : List SpTok) (f : Nat) (hf : fuelFor toks ≤ f) :
    parseProgramFuel f toks = some (parseProgram toks) := by
  obtain ⟨r, hr⟩ := parseProgramFuel_adequate toks
  rw [parseProgramFuel_mono hf r hr]
  simp [parseProgram, hr]

end NaijaVerif.Parse
