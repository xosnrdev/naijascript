import NaijaVerif.Lemmas.EvalScopeLookup
import NaijaVerif.Lemmas.ListFacts
/-
C04, dynamic half — `MR` on evaluator states: the lookups of the two modes agree, a function lookup reads only what
`Frame` keeps (`lookupFn_frame`), and every state-changing primitive preserves the invariant and the frame: a change that
`Frame` admits by `MR.transfer` (`updateAt`, `define`, `popScope`), a new scope by `MR.push` (block entry with hoisting,
the parameter scope of a call).
-/
namespace NaijaVerif.Eval
open NaijaVerif

variable {N : Type}

theorem slotOf_agree {cfg : RunCfg} {Γ : List Binder} {st : State N} (h : MR cfg Γ st)
    {b : Option Nat} (hb : boundIn Γ b = true) (name : Bytes) :
    slotOf cfg.dyn st b name = slotOf cfg.lex st b name := by
  cases b with
  | none => cases hb
  | some l =>
    show findOwned l st.env = findPos (visible cfg.lex st.chain) (Slot.matches (some l) name) st.env
    rw [visible_lex_fun]
    exact findOwned_eq_findPos h.link h.ctx h.slots hb

theorem lookupVal_agree {cfg : RunCfg} {Γ : List Binder} {st : State N} (h : MR cfg Γ st)
    {b : Option Nat} (hb : boundIn Γ b = true) (name : Bytes) :
    lookupVal cfg.dyn st b name = lookupVal cfg.lex st b name := by
  simp only [lookupVal, slotOf_agree h hb]

theorem interp_agree [NumOps N] {cfg : RunCfg} {Γ : List Binder} {st : State N} (hm : MR cfg Γ st) :
    ∀ (segs : List Seg) (acc : Bytes), segs.all (wsSeg Γ) = true →
      interp cfg.dyn st segs acc = interp cfg.lex st segs acc :=
  fun segs acc h => interp_congr segs acc fun name _ hmem =>
    lookupVal_agree hm (List.all_eq_true.1 h _ hmem) name

theorem assign_agree {cfg : RunCfg} {Γ : List Binder} {st : State N} (h : MR cfg Γ st)
    {b : Option Nat} (hb : boundIn Γ b = true) (name : Bytes) (v : Value N) :
    assign cfg.dyn st b name v = assign cfg.lex st b name v := by
  simp only [assign, slotOf_agree h hb]

theorem lookupFn_agree {cfg : RunCfg} {Γ : List Binder} {st : State N} (h : MR cfg Γ st)
    {a : Option Nat} (ha : fnBoundIn Γ a = true) (name : Bytes) :
    lookupFn cfg.dyn st a name = lookupFn cfg.lex st a name := by
  cases a with
  | none => simp [fnBoundIn] at ha
  | some i =>
    have hd : visible (N := N) cfg.dyn st.chain = fun _ : Scope N => true :=
      funext (visible_dyn cfg st.chain)
    simp only [lookupFn, hd, visible_lex_fun]
    exact findFn_agree h.link ha

theorem lookupFn_lex_spec {cfg : RunCfg} {Γ : List Binder} {st : State N} (h : MR cfg Γ st)
    {a : Option Nat} {name : Bytes} {fd : FnEntry} (hf : lookupFn cfg.lex st a name = some fd) :
    ∃ j, fd.chain = st.chain.drop j ∧ WSFn (Γ.drop j) fd ∧ ∃ i, fd.id = some i := by
  obtain ⟨T, hT, hm⟩ := lookupFn_mem hf
  obtain ⟨i, hi, _⟩ := h.link.unpruned T hT fd hm
  obtain ⟨p, e⟩ := lookupFn_lex cfg st a name
  obtain ⟨j, h1, h2⟩ := findFn_lex_spec h.link (e ▸ hf)
  exact ⟨j, h1, h2, i, hi⟩

theorem lookupFn_frame {cfg : RunCfg} {st st1 : State N} (hf : Frame st st1) (a : Option Nat) (name : Bytes) :
    lookupFn cfg st1 a name = lookupFn cfg st a name := by
  have hv : ∀ s s' : Scope N, s.skel = s'.skel → visible cfg st.chain s = visible cfg st1.chain s' := by
    intro s s' e
    have : s.uid = s'.uid := congrArg Skel.uid e
    simp only [visible, hf.chain, this]
  cases a with
  | _ => simp only [lookupFn]; exact findFn_skel hv _ _ hf.skel

/-- What `SlotsOK` reads. -/
def Scope.key (s : Scope N) : Skel × List (Option Nat) := (s.skel, s.slots.map (·.id))

theorem SlotsOK.congr {env env' : List (Scope N)} (h : SlotsOK env)
    (he : env'.map Scope.key = env.map Scope.key) : SlotsOK env' := by
  intro S' hS' sl' hsl'
  have hm : S'.key ∈ env.map Scope.key := by rw [← he]; exact List.mem_map_of_mem hS'
  obtain ⟨S, hS, e⟩ := List.mem_map.1 hm
  have e1 : S.decls = S'.decls := congrArg (fun k => k.1.decls) e
  have e2 : S.slots.map (·.id) = S'.slots.map (·.id) := congrArg (fun k => k.2) e
  have : sl'.id ∈ S.slots.map (·.id) := by rw [e2]; exact List.mem_map_of_mem hsl'
  obtain ⟨sl, hsl, e3⟩ := List.mem_map.1 this
  obtain ⟨l, hl, hm⟩ := h S hS sl hsl
  exact ⟨l, by rw [← e3]; exact hl, by rw [← e1]; exact hm⟩

theorem SlotsOK.tail {env : List (Scope N)} (h : SlotsOK env) : SlotsOK env.tail :=
  fun S hS => h S (List.mem_of_mem_tail hS)

theorem updateAt_key (env : List (Scope N)) (pos : Nat × Nat) (f : Value N → Value N) :
    (updateAt env pos f).map Scope.key = env.map Scope.key := by
  unfold updateAt
  apply modify_map_eq
  intro s
  simp only [Scope.key, Scope.skel]
  congr 1
  apply modify_map_eq (fun sl : Slot N => sl.id)
  intro _; rfl

theorem key_skel {env env' : List (Scope N)} (h : env'.map Scope.key = env.map Scope.key) :
    env'.map Scope.skel = env.map Scope.skel := by
  have := congrArg (List.map Prod.fst) h
  simpa [List.map_map, Function.comp_def, Scope.key] using this

theorem MR.transfer {cfg : RunCfg} {Γ : List Binder} {st st' : State N} (h : MR cfg Γ st)
    (hf : Frame st st') (hsl : SlotsOK st'.env) : MR cfg Γ st' := by
  have hsk := hf.skel
  refine ⟨?_, h.ctx, hsl, ?_, ?_⟩
  · rw [hf.chain]; exact h.link.congr hsk
  · exact uid_lt_of_skel hsk fun S0 hS0 => Nat.lt_of_lt_of_le (h.fresh S0 hS0) hf.next
  · intro β Γ' hΓ
    obtain ⟨S, rest, he, hd⟩ := h.top β Γ' hΓ
    rw [he] at hsk
    cases hst : st'.env with
    | nil => rw [hst] at hsk; simp at hsk
    | cons S' rest' =>
      rw [hst] at hsk
      simp only [List.map_cons, List.cons.injEq] at hsk
      exact ⟨S', rest', rfl, by rw [← hd]; exact congrArg Skel.decls hsk.1⟩

/- Inside the proof of a theorem `MR.f` the bare name `f` means that theorem, so the model function of the same name
is written `Eval.f` there (`Eval.updateAt`, `Eval.define`). -/
theorem MR.updateAt {cfg : RunCfg} {Γ : List Binder} {st : State N} (h : MR cfg Γ st)
    (pos : Nat × Nat) (f : Value N → Value N) :
    MR cfg Γ { st with env := updateAt st.env pos f } ∧ Frame st { st with env := updateAt st.env pos f } := by
  have hk := updateAt_key st.env pos f
  have hf : Frame st { st with env := Eval.updateAt st.env pos f } := ⟨rfl, key_skel hk, Nat.le_refl _⟩
  exact ⟨h.transfer hf (h.slots.congr hk), hf⟩

theorem MR.define {cfg : RunCfg} {Γ : List Binder} {st : State N} (h : MR cfg Γ st)
    {b : Option Nat} (hb : headDecl Γ b = true) (name : Bytes) (v : Value N) :
    MR cfg Γ (define st b name v) ∧ Frame st (define st b name v) := by
  cases Γ with
  | nil => cases hb
  | cons β Γ' =>
    cases b with
    | none => cases hb
    | some l =>
      have hl : l ∈ β.decls := by simpa [headDecl] using hb
      obtain ⟨S, rest, he, hd⟩ := h.top β Γ' rfl
      have hsl := h.slots
      unfold NaijaVerif.Eval.define
      rw [he] at hsl ⊢
      simp only
      split
      · next j _ =>
        -- overwriting the slot: the update at position `(0, j)`
        have := h.updateAt (0, j) fun _ => v
        rw [he] at this
        exact this
      · have hsk : (({ S with slots := { id := some l, name := name, val := v } :: S.slots } : Scope N) :: rest).map Scope.skel
            = (S :: rest).map Scope.skel := by
          simp [Scope.skel]
        have hf : Frame st { st with env := _ :: rest } := ⟨rfl, by simpa [he] using hsk, Nat.le_refl _⟩
        refine ⟨h.transfer hf ?_, hf⟩
        intro T hT sl hsl'
        rcases List.mem_cons.1 hT with rfl | hT
        · rcases List.mem_cons.1 hsl' with rfl | hsl'
          · exact ⟨l, rfl, by show l ∈ S.decls; rw [hd]; exact hl⟩
          · exact hsl S List.mem_cons_self sl hsl'
        · exact hsl T (List.mem_cons_of_mem _ hT) sl hsl'

/-- `sti` is the state right after the push onto `st`, `st2` what the block or the callee made of it. -/
theorem MR.pop {cfg : RunCfg} {Γ : List Binder} {st sti st2 : State N} (h : MR cfg Γ st)
    {T : Scope N} (hi : sti.env = T :: st.env) (hn : st.next ≤ sti.next) (hf : Frame sti st2)
    (hs : SlotsOK st2.env) :
    MR cfg Γ (popScope st2 st.chain) ∧ Frame st (popScope st2 st.chain) := by
  have hsk : st2.env.tail.map Scope.skel = st.env.map Scope.skel := by
    have := hf.skel
    rw [hi] at this
    cases h2 : st2.env with
    | nil => rw [h2] at this; simp at this
    | cons S' r' =>
      rw [h2] at this
      simp only [List.map_cons, List.cons.injEq] at this
      simpa using this.2
  have hf' : Frame st (popScope st2 st.chain) := ⟨rfl, hsk, Nat.le_trans hn hf.next⟩
  exact ⟨h.transfer hf' hs.tail, hf'⟩

/-- `ch`, `Γ`: for a block the chain and context of `st` itself, for a call those of the callee's definition.  Block
entry, call entry and the initial state are instances (`MR.enterBlock`, `MR.enterCall`, `MR.init`). -/
theorem MR.push {cfg : RunCfg} {Γ : List Binder} {ch : List Nat} {st : State N} {β : Binder}
    (hl : Link cfg Γ ch st.env) (hc : CtxOK Γ) (hs : SlotsOK st.env) (hn : ∀ S ∈ st.env, S.uid < st.next)
    (hfr : freshIn Γ β = true) (kind : ScopeKind) {slots : List (Slot N)} {fns : List FnEntry} {decls : List Nat}
    (hd : decls = β.decls) (hfn : FnsOK cfg (β :: Γ) (st.next :: ch) β fns)
    (hsl : ∀ sl ∈ slots, ∃ l, sl.id = some l ∧ l ∈ decls) :
    MR cfg (β :: Γ) { st with env := { uid := st.next, kind := kind, slots := slots, fns := fns, decls := decls } :: st.env,
                              chain := st.next :: ch, next := st.next + 1 } :=
  ⟨.take ⟨st.next, kind, slots, fns, decls⟩ β hn hd hfn hl, ⟨hfr, hc⟩, List.forall_mem_cons.2 ⟨hsl, hs⟩,
    List.forall_mem_cons.2 ⟨Nat.lt_succ_self _, fun S hS => Nat.lt_succ_of_lt (hn S hS)⟩,
    fun _ _ e => by cases e; exact ⟨_, st.env, rfl, hd⟩⟩

/-- What block entry puts into the new scope (`hoist_eq`: the reverse of `hoistL`) is as `FnsOK` asks. -/
theorem hoist_spec {cfg : RunCfg} {β : Binder} {Γ : List Binder} (ch : List Nat) (ss : List Stmt)
    (hws : wsStmts (β :: Γ) ss = true) :
    (∀ fd ∈ hoistL cfg ch ss, ∃ i, fd.id = some i ∧ i ∈ β.fnIds ∧ Plan.prunesFn cfg.plan (some i) = false ∧
        fd.chain = ch ∧ WSFn (β :: Γ) fd) ∧
    (∀ i ∈ fnIdsOf ss, Plan.prunesFn cfg.plan (some i) = false → ∃ fd ∈ hoistL cfg ch ss, fd.id = some i) := by
  induction ss with
  | nil => exact ⟨nofun, nofun⟩
  | cons s rest ih =>
    obtain ⟨hs, hrest⟩ := Bool.and_eq_true_iff.1 hws
    obtain ⟨a4, a6⟩ := ih hrest
    cases s with
    | fnDef name nsp params body fn sid sp =>
      simp only [wsStmt, Bool.and_eq_true] at hs
      obtain ⟨⟨⟨hfn, hps⟩, hfr⟩, hbody⟩ := hs
      cases fn with
      | none => cases hfn
      | some i =>
        have hi : i ∈ β.fnIds := List.contains_iff_mem.1 hfn
        cases hp : Plan.prunesFn cfg.plan (some i) with
        | true =>
          simp only [hoistL, fnIdsOf, hp, ↓reduceIte, List.forall_mem_cons]
          exact ⟨a4, nofun, a6⟩
        | false =>
          simp only [hoistL, fnIdsOf, hp, Bool.false_eq_true, ↓reduceIte, List.forall_mem_cons]
          exact ⟨⟨⟨i, rfl, hi, hp, trivial, hps, hfr, hbody⟩, a4⟩, fun _ => ⟨_, List.mem_cons_self, rfl⟩,
            fun i' hi' hnp => (a6 i' hi' hnp).imp fun _ h => ⟨List.mem_cons_of_mem _ h.1, h.2⟩⟩
    | _ => exact ⟨a4, a6⟩

/-- The new scope is the most recent instance of its block, and a block is not its own lexical ancestor
(`freshIn`).  `kind` is arbitrary (the callers pass `.block sp`): `MR` does not read the tag of a scope.  The second half
is what `MR.pop` asks of the state a scope was entered in. -/
theorem MR.enterBlock {cfg : RunCfg} {Γ : List Binder} {st : State N} (h : MR cfg Γ st)
    (kind : ScopeKind) (ss : List Stmt) (hfr : freshIn Γ (.ofStmts ss) = true)
    (hws : wsStmts (.ofStmts ss :: Γ) ss = true) :
    MR cfg (.ofStmts ss :: Γ) (hoist cfg ss (pushScope st kind st.chain [] (declIds ss))) ∧
      ∃ T : Scope N, (hoist cfg ss (pushScope st kind st.chain [] (declIds ss))).env = T :: st.env ∧
        st.next ≤ (hoist cfg ss (pushScope st kind st.chain [] (declIds ss))).next := by
  obtain ⟨a4, a6⟩ := hoist_spec (cfg := cfg) (st.next :: st.chain) ss hws
  rw [hoist_eq cfg ss _ _ _ rfl]
  exact ⟨MR.push h.link h.ctx h.slots h.fresh hfr kind rfl
    ⟨fun fd hfd => a4 fd ((List.mem_append.1 hfd).elim List.mem_reverse.1 nofun),
      fun i hi hnp => (a6 i hi hnp).imp fun _ h => ⟨List.mem_append_left _ (List.mem_reverse.2 h.1), h.2⟩⟩
    (List.forall_mem_nil _), _, rfl, Nat.le_succ _⟩

theorem paramSlots_ids (params : List Param) (vs : List (Value N))
    (hall : params.all (fun p => p.bind.isSome) = true) :
    ∀ sl ∈ paramSlots params (params.map (·.bind)) vs,
      ∃ l, sl.id = some l ∧ l ∈ (params.map (·.bind)).filterMap id := by
  intro sl hsl
  simp only [paramSlots, List.mem_reverse, List.mem_map] at hsl
  obtain ⟨q, hq, rfl⟩ := hsl
  have h1 : q.1 ∈ params.zip (params.map (·.bind)) := (List.of_mem_zip (a := q.1) (b := q.2) (by simpa using hq)).1
  have h2 : q.1.2 ∈ params.map (·.bind) := (List.of_mem_zip (a := q.1.1) (b := q.1.2) (by simpa using h1)).2
  obtain ⟨p, hp, e⟩ := List.mem_map.1 h2
  have hs : p.bind.isSome = true := (List.all_eq_true.1 hall) p hp
  obtain ⟨l, hl⟩ := Option.isSome_iff_exists.1 hs
  refine ⟨l, by simp only; rw [← e, hl], ?_⟩
  rw [List.mem_filterMap]
  exact ⟨some l, by rw [← hl]; exact List.mem_map_of_mem hp, rfl⟩

/-- The callee's chain is the caller's chain cut at the callee's defining scope (functions are not
first-class); every scope above that one — the rest of the caller's chain included — is off the chain and
declares nothing the callee's ancestors declare.  The first conjunct is what `Props/C04.mr_call_entry` records; the
instances of the walk read the other two. -/
theorem MR.enterCall {cfg : RunCfg} {Γ : List Binder} {st : State N} (h : MR cfg Γ st)
    {a : Option Nat} {name : Bytes} {fd : FnEntry} (hf : lookupFn cfg.lex st a name = some fd)
    {ids : List (Option Nat)} (hids : paramIds fd = some ids) (vs : List (Value N)) :
    ∃ j, fd.chain = st.chain.drop j ∧
      MR cfg (.ofParams fd.params :: Γ.drop j)
        (pushScope st (.params fd.id) fd.chain (paramSlots fd.params ids vs) (ids.filterMap id)) ∧
      wsBlock (.ofParams fd.params :: Γ.drop j) fd.body = true := by
  obtain ⟨j, hch, ⟨hall, hfr, hbody⟩, i, hid⟩ := lookupFn_lex_spec h hf
  simp only [paramIds, hid, hall, if_true] at hids
  cases hids
  refine ⟨j, hch, ?_, hbody⟩
  rw [hch]
  exact MR.push (h.link.cut j h.ctx) (h.ctx.drop j) h.slots h.fresh hfr _
    (by simp [Binder.ofParams, List.filterMap_map, Function.comp_def])
    ⟨List.forall_mem_nil _, List.forall_mem_nil _⟩
    (paramSlots_ids fd.params vs hall)

theorem MR.init (cfg cfg' : RunCfg) : MR (N := N) cfg [Binder.root] (State.init cfg') :=
  MR.push (st := { env := [], out := [], chain := [], next := 0, input := cfg'.input }) .nil trivial
    (List.forall_mem_nil _) (List.forall_mem_nil _) rfl .root rfl ⟨List.forall_mem_nil _, List.forall_mem_nil _⟩
    (List.forall_mem_nil _)

end NaijaVerif.Eval
