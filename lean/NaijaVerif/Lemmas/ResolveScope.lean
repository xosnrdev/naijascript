import NaijaVerif.Lemmas.ResolveAnn
import NaijaVerif.Lemmas.ResolveDecls
/-
The scoping half of C09.  The resolver model's environment (`Env`, `Cur`) abstracts to the declarative context of
`Spec/WF.lean` (`Spec.Ctx`) by FORGETTING: `absCtx` keeps the names of the variable scopes, name and arity of the signatures,
the loop depth and whether a function encloses the point.  Under that abstraction the diagnostics of the scoping rules that
`check_*` emits are exactly the violations the specification lists, in the same order; each arm of `check_scope` comes down
to "the environment the checker passes down abstracts to the context the specification passes down" (`absCtx_inner`,
`absCtx_loop`, `absCtx_body`, `absCtx_blkBody`).

The same scope stack is related to a specification three times, each time by what that specification reads of an entry:
its NAME here (a function of the environment, because names alone determine `Spec.Ctx`), its ID in `Lemmas/ResolveLex.lean`
(`CtxRel`, `BRel`: the lookups of the stack against the nearest declaration in the annotated text), its TYPE in
`Lemmas/ResolveTypes*.lean` (`Rel`, `SRel`: the lookups against the specification's typing environment).  The last two are
relations on lookups and not functions of the stack: the other side is not determined entry by entry (a re-declaration
rewrites one entry in the model and every entry of the name in `Spec.tDeclare`; the binders of the text carry annotations,
not scopes).
-/
namespace NaijaVerif.Resolve
open NaijaVerif NaijaVerif.Spec

def scopeDs (ds : List RDiag) : List Viol :=
  (ds.filter (fun d => d.rule.isScoping)).map (fun d => (d.rule, d.span))

@[simp] theorem scopeDs_nil : scopeDs [] = [] := rfl
@[simp] theorem scopeDs_append (a b : List RDiag) : scopeDs (a ++ b) = scopeDs a ++ scopeDs b := by
  simp [scopeDs]
theorem scopeDs_cons (d : RDiag) (ds : List RDiag) :
    scopeDs (d :: ds) = (if d.rule.isScoping then [(d.rule, d.span)] else []) ++ scopeDs ds := by
  simp only [scopeDs, List.filter_cons]; split <;> simp

theorem mem_scopeDs {r : Rule} (hr : r.isScoping = true) (ds : List RDiag) (s : Span) :
    (∃ d ∈ ds, d.rule = r ∧ d.span = s) ↔ (r, s) ∈ scopeDs ds := by
  simp only [scopeDs, List.mem_map, List.mem_filter]
  constructor
  · rintro ⟨d, hd, rfl, rfl⟩; exact ⟨d, ⟨hd, hr⟩, rfl⟩
  · rintro ⟨d, ⟨hd, _⟩, he⟩
    exact ⟨d, hd, congrArg Prod.fst he, congrArg Prod.snd he⟩

theorem scopeDs_errIf (c : Bool) (r : Rule) (s : Span) :
    scopeDs (errIf c (RDiag.at r s)) = if r.isScoping then vIf c r s else [] := by
  cases c <;> cases h : r.isScoping <;> simp [errIf, vIf, scopeDs, RDiag.at, h]

def scopeNames (s : Scope) : List Bytes := s.map (·.name)
def absVars (ss : List Scope) : List (List Bytes) := ss.map scopeNames
def sigKey (g : FnSig) : Bytes × Nat := (g.name, g.arity)
def absFns (fs : List (List FnSig)) : List (List (Bytes × Nat)) := fs.map (·.map sigKey)

def absCtx (env : Env) : Ctx :=
  { vars := absVars env.vars, fns := absFns env.fns, loops := env.inLoop, inFn := env.curFn.isSome }

theorem findVar_isSome (s : Scope) (x : Bytes) : (findVar s x).isSome = (scopeNames s).contains x := by
  rw [Bool.eq_iff_iff]
  simp only [findVar, scopeNames, List.find?_isSome, List.contains_iff_mem, List.mem_map, beq_iff_eq]

theorem lookupScopes_isSome (ss : List Scope) (x : Bytes) :
    (lookupScopes ss x).isSome = declared (absVars ss) x := by
  rw [lookupScopes_eq, List.isSome_findSome?, declared, absVars, List.any_map]
  exact congrArg ss.any (funext fun s => findVar_isSome s x)

theorem lookupVar_isSome (env : Env) (cur : Scope) (x : Bytes) :
    (lookupVar env cur x).isSome = declared (absVars (cur :: env.vars)) x :=
  lookupScopes_isSome _ _

theorem findSig_map (s : List FnSig) (x : Bytes) :
    findSig (s.map sigKey) x = (findFn s x).map (·.arity) := by
  rw [findSig, List.find?_map, Option.map_map]; rfl

theorem fnArity_abs (fs : List (List FnSig)) (x : Bytes) :
    fnArity (absFns fs) x = (lookupFns fs x).map (·.arity) := by
  rw [fnArity_eq, lookupFns_eq, absFns, List.findSome?_map, List.map_findSome?]
  exact congrArg fs.findSome? (funext fun s => findSig_map s x)

/-- The scopes of the specification enter as a variable `vars` with an equation, here and in `segsDiags_scope`,
`exprDiags_scope` (`hv`, `hf`): the callers have them as fields of a context (`c.vars`, `c.fns`), and the side `simp` rewrites
to must come out in that term to meet the specification's. -/
theorem lookupVar_isNone (env : Env) (cur : Scope) (vars : List (List Bytes)) (hv : vars = absVars (cur :: env.vars))
    (x : Bytes) : (lookupVar env cur x).isNone = !declared vars x := by
  rw [hv, ← lookupVar_isSome, Option.not_isSome]

theorem segsDiags_scope (env : Env) (cur : Scope) (span : Span) (vars : List (List Bytes))
    (hv : vars = absVars (cur :: env.vars)) :
    ∀ segs : List Seg, scopeDs (segsDiags env cur span segs) = segsV vars span segs
  | [] => rfl
  | .lit _ :: rest => segsDiags_scope env cur span vars hv rest
  | .var n _ :: rest => by
      simp only [segsDiags, segsV, scopeDs_append, scopeDs_errIf, Rule.isScoping, if_true,
        lookupVar_isNone env cur vars hv, segsDiags_scope env cur span vars hv rest]

/-- The argument checks of a method: one typing rule at every site. -/
theorem scopeDs_flatten_errIf {α : Type} (c : α → Bool) {r : Rule} (hr : r.isScoping = false) (s : Span) :
    ∀ l : List α, scopeDs (l.map fun a => errIf (c a) (RDiag.at r s)).flatten = []
  | [] => rfl
  | a :: l => by
      rw [List.map_cons, List.flatten_cons, scopeDs_append, scopeDs_errIf, hr, scopeDs_flatten_errIf c hr s l]; rfl

theorem argDiags_scope (env : Env) (cur : Scope) (ck : ArgCheck) (args : List Expr) (ms : Span) :
    scopeDs (argDiags env cur ck args ms) = [] := by
  unfold argDiags
  split
  · rfl
  · exact scopeDs_flatten_errIf _ rfl _ _
  · split
    · exact scopeDs_flatten_errIf _ rfl _ _
    · rfl
  · exact scopeDs_flatten_errIf _ rfl _ _
  · exact scopeDs_flatten_errIf _ rfl _ _
  · exact scopeDs_flatten_errIf _ rfl _ _

theorem recvDiags_scope (env : Env) (cur : Scope) (obj : Expr) (field : Bytes) (args : List Expr) (ms : Span) :
    scopeDs (recvDiags env cur obj field args ms) = [] := by
  unfold recvDiags
  split
  · unfold methodDiags
    split
    · simp only [scopeDs_append, scopeDs_errIf, argDiags_scope]; rfl
    · rw [scopeDs_errIf]; rfl
  · rfl

/-- The call of a name: the arity is a scoping rule, the type of `command`'s argument is not. -/
theorem nameCallDiags_scope (env : Env) (cur : Scope) (c : Ctx) (hf : c.fns = absFns env.fns) (fname : Bytes)
    (args : List Expr) (fn : Option Nat) (vb : Option Nat) (vs s : Span) :
    scopeDs (nameCallDiags env cur fname args s) ++ exprsV c args = exprV c (.call (.var fname vb vs) args fn s) := by
  simp only [nameCallDiags, exprV]
  cases GlobalB.ofName fname with
  | some g =>
    simp only [scopeDs_append, scopeDs_errIf, Rule.isScoping, ↓reduceIte]
    split <;> simp [scopeDs_errIf, Rule.isScoping]
  | none =>
    have hA : fnArity c.fns fname = (lookupFn env fname).map (·.arity) := by rw [hf]; exact fnArity_abs _ _
    simp only [hA]
    cases lookupFn env fname with
    | some g => simp [scopeDs_errIf, Rule.isScoping]
    | none => simp [scopeDs_cons, RDiag.at, Rule.isScoping]

theorem exprDiags_scope (env : Env) (cur : Scope) (c : Ctx)
    (hv : c.vars = absVars (cur :: env.vars)) (hf : c.fns = absFns env.fns) :
    (∀ e : Expr, scopeDs (exprDiags env cur e) = exprV c e) ∧
    (∀ es : List Expr, scopeDs (exprsDiags env cur es) = exprsV c es) := by
  apply Expr.walk
  case num => intro _ _; rfl
  case bool => intro _ _; rfl
  case null => intro _; rfl
  case str =>
    intro p s
    cases p with
    | static _ => rfl
    | interp segs => simp only [exprDiags, exprV]; exact segsDiags_scope env cur s c.vars hv segs
  case array => intro es _ ih; simp only [exprDiags, exprV, ih]
  case index =>
    intro a i _ _ iha ihi
    simp [exprDiags, exprV, scopeDs_append, scopeDs_errIf, Rule.isScoping, iha, ihi]
  case var =>
    intro v _ s
    simp only [exprDiags, exprV, scopeDs_errIf, Rule.isScoping, if_true, lookupVar_isNone env cur c.vars hv]
  case binary =>
    intro _ l r _ ihl ihr
    simp [exprDiags, exprV, scopeDs_append, scopeDs_errIf, Rule.isScoping, ihl, ihr]
  case unary => intro _ e _ ih; simp [exprDiags, exprV, scopeDs_append, scopeDs_errIf, Rule.isScoping, ih]
  case member =>
    intro o _ _ _ ih
    simp [exprDiags, exprV, scopeDs_append, scopeDs_cons, RDiag.at, Rule.isScoping, ih]
  case callMember =>
    intro obj field fs ms args _ s iho iha
    simp only [exprDiags, exprV, scopeDs_append, iho, iha, recvDiags_scope, List.append_nil]
  case call =>
    intro callee args fn s hc ihc iha
    cases callee using Expr.callee_cases with
    | var fname vb vs =>
      rw [← nameCallDiags_scope env cur c hf, exprDiags, scopeDs_append, iha]
    | member o fld fs ms => exact absurd rfl (hc o fld fs ms)
    | other c' ho =>
      rw [exprDiags_call_other _ _ ho, exprV_call_other _ _ _ _ _ ho]
      simp [scopeDs_append, scopeDs_cons, RDiag.at, Rule.isScoping, ihc, iha]
  case nil => rfl
  case cons => intro e es ihe ihes; simp only [exprsDiags, exprsV, scopeDs_append, ihe, ihes]

theorem checkExpr_scope (env : Env) (cur : Scope) (sid : Nat) (c : Ctx)
    (hv : c.vars = absVars (cur :: env.vars)) (hf : c.fns = absFns env.fns) (e : Expr) (f : Facts) :
    scopeDs (checkExpr env cur sid e f).ds = exprV c e := by
  rw [checkExpr_ds]; exact (exprDiags_scope env cur c hv hf).1 e

theorem checkExprs_scope (env : Env) (cur : Scope) (sid : Nat) (c : Ctx)
    (hv : c.vars = absVars (cur :: env.vars)) (hf : c.fns = absFns env.fns) :
    ∀ (es : List Expr) (f : Facts), scopeDs (checkExprs env cur sid es f).ds = exprsV c es := by
  intro es f
  rw [checkExprs_ds]; exact (exprDiags_scope env cur c hv hf).2 es

theorem paramDiags_scope : ∀ (seen : List Bytes) (ps : List Param),
    scopeDs (paramDiags seen ps) = paramsV seen ps
  | _, [] => by simp [paramDiags, paramsV]
  | seen, p :: ps => by
      simp only [paramDiags, paramsV, scopeDs_append, scopeDs_errIf, Rule.isScoping, if_true]
      rw [paramDiags_scope]

theorem findFn_append_single (sigs : List FnSig) (g : FnSig) (x : Bytes) :
    (findFn (sigs ++ [g]) x).isSome = ((findFn sigs x).isSome || g.name == x) := by
  rw [findFn_append, Option.isSome_or]
  cases g.name == x <;> rfl

theorem seen_cons {seen : List Bytes} {sigs : List FnSig} (hs : ∀ x, seen.contains x = (findFn sigs x).isSome)
    (g : FnSig) (x : Bytes) : (g.name :: seen).contains x = (findFn (sigs ++ [g]) x).isSome := by
  rw [findFn_append_single, ← hs x, List.contains_cons, Bool.or_comm, BEq.comm]

theorem predeclare_scope (env : Env) : ∀ (ss : List Stmt) (sigs : List FnSig) (f : Facts) (seen : List Bytes),
    (∀ x, seen.contains x = (findFn sigs x).isSome) →
    scopeDs (predeclare env ss sigs f).ds = headersV seen ss := by
  intro ss
  induction ss using stmts_fnDef_induction with
  | nil => intros; rfl
  | other s rest hs ih =>
    intro sigs f seen h
    rw [predeclare_cons_other env hs, headersV_cons_other seen hs]
    exact ih sigs f seen h
  | fnDef name nsp ps body _ _ _ rest ih =>
    intro sigs f seen hs
    simp only [predeclare, headersV]
    have hn := hs name
    cases h : findFn sigs name with
    | some ex =>
      simp only [h, Option.isSome_some] at hn
      simp only [hn, if_true, scopeDs_append, scopeDs_errIf, Rule.isScoping, scopeDs_cons, scopeDs_nil,
        List.append_nil]
      rw [ih sigs f seen hs]
      simp
    | none =>
      simp only [h, Option.isSome_none] at hn
      simp only [hn, scopeDs_append, scopeDs_errIf, Rule.isScoping, if_true, paramDiags_scope]
      rw [ih _ _ (name :: seen) (seen_cons hs ⟨name, f.functions.length, ps.length, nsp, .dynamic⟩)]
      simp

theorem predeclare_sigs (env : Env) : ∀ (ss : List Stmt) (sigs : List FnSig) (f : Facts),
    (predeclare env ss sigs f).sigs.map sigKey = blockFns ss (sigs.map sigKey) := by
  intro ss
  induction ss using stmts_fnDef_induction with
  | nil => intros; rfl
  | other s rest hs ih =>
    intro sigs f
    rw [predeclare_cons_other env hs, blockFns_cons_other hs]
    exact ih sigs f
  | fnDef name nsp ps body _ _ _ rest ih =>
    intro sigs f
    simp only [predeclare, blockFns, findSig_map]
    cases h : findFn sigs name with
    | some ex => simp only [Option.map_some, Option.isSome_some, if_true]; exact ih sigs f
    | none =>
      simp only [Option.map_none, Option.isSome_none]
      rw [ih]
      simp [sigKey]

/-- The names a block defines, duplicates included (`Spec.definedName` of every statement, concatenated: the induction
`stmts_fnDef_induction` splits on that). -/
def fnNames : List Stmt → List Bytes
  | [] => []
  | .fnDef name _ _ _ _ _ _ :: rest => name :: fnNames rest
  | _ :: rest => fnNames rest

/-- The innermost function scope has a signature of that name: `(sigOf env cur name).isSome` without the test for a
definition already passed.  A walk over statements assumes it of every definition in sight (`ownHas_block` provides it at
block entry); only the `fnDef` arm uses it (through `ownHas_sigOf`), to know that a first definition IS analysed. -/
def ownHas (env : Env) (name : Bytes) : Bool :=
  match env.fns with
  | own :: _ => (findFn own name).isSome
  | [] => false

theorem ownHas_some {env : Env} {name : Bytes} (h : ownHas env name = true) :
    ∃ own rest g, env.fns = own :: rest ∧ findFn own name = some g := by
  unfold ownHas at h
  split at h
  · next own rest heq => exact ⟨own, rest, _, heq, Option.eq_some_of_isSome h⟩
  · cases h

theorem ownHas_sigOf {env : Env} {name : Bytes} (h : ownHas env name = true) (cur : Cur) :
    ∃ g, ResolveStruct.sigOf env cur name = if cur.seenFns.contains name then none else some g := by
  obtain ⟨own, rest, g, heq, hg⟩ := ownHas_some h
  exact ⟨g, by simp only [ResolveStruct.sigOf, heq, hg]⟩

theorem fnNames_cons_other {s : Stmt} (hs : definedName s = []) (rest : List Stmt) :
    fnNames (s :: rest) = fnNames rest := by
  cases s with
  | fnDef => cases hs
  | _ => rfl

theorem findSig_blockFns (x : Bytes) : ∀ (ss : List Stmt) (acc : List (Bytes × Nat)),
    (findSig (blockFns ss acc) x).isSome = ((findSig acc x).isSome || (fnNames ss).contains x) := by
  intro ss
  induction ss using stmts_fnDef_induction with
  | nil => intro acc; simp [blockFns, fnNames]
  | other s rest hs ih => intro acc; rw [blockFns_cons_other hs, fnNames_cons_other hs]; exact ih acc
  | fnDef name _ ps _ _ _ _ rest ih =>
    intro acc
    have hx : (findSig (acc ++ [(name, ps.length)]) x).isSome = ((findSig acc x).isSome || name == x) := by
      simp only [findSig, List.find?_append, List.find?_cons]
      cases List.find? (fun p => p.1 == x) acc <;> cases name == x <;> rfl
    simp only [blockFns, fnNames, List.contains_cons]
    split
    · next hn =>
      rw [ih acc]
      cases hxn : x == name
      · rfl
      · rw [beq_iff_eq.1 hxn, hn]; rfl
    · rw [ih, hx, Bool.or_assoc, BEq.comm]

theorem declareParams_names (sp : Bool) (owner scope : Nat) (ps : List Param) (sc : Scope) (f : Facts) :
    scopeNames (declareParams sp owner scope ps sc f).2.1 = (ps.map (·.name)).reverse ++ scopeNames sc := by
  rw [declareParams_eq, scopeNames, List.map_append, List.map_reverse,
    paramEntries_map (k' := (·.name)) (fun _ _ => rfl)]
  rfl

theorem updateTy_names (s : Scope) (x : Bytes) (t : VType) : scopeNames (updateTy s x t) = scopeNames s :=
  updateTy_map _ (fun _ _ => rfl) x t s

theorem checkStmt_cur (env : Env) (cur : Cur) (s : Stmt) (f : Facts)
    (hown : ∀ name, name ∈ fnNames [s] → ownHas env name = true) :
    scopeNames (checkStmt env cur s f).cur.vars = nextCur (scopeNames cur.vars) s ∧
    (checkStmt env cur s f).cur.seenFns = nextSeen cur.seenFns s := by
  cases s using Stmt.make_fnDef_cases with
  | other s hm hd =>
    rw [(checkStmt_cur_other env cur hm hd f).1, nextCur_other _ hm,
      nextSeen_other _ hd]
    exact ⟨rfl, rfl⟩
  | assign x xs e b sid sp =>
    simp only [checkStmt, nextCur, nextSeen]
    have hf := findVar_isSome cur.vars x
    cases h : findVar cur.vars x with
    | some ent =>
      have hc : (scopeNames cur.vars).contains x = true := by rw [← hf, h]; rfl
      simp only [hc, if_true, updateTy_names, and_self]
    | none =>
      have hc : (scopeNames cur.vars).contains x = false := by rw [← hf, h]; rfl
      simp only [hc, Bool.false_eq_true, if_false]
      simp [scopeNames]
  | fnDef name nsp ps body fn sid sp =>
    obtain ⟨g, hg⟩ := ownHas_sigOf (hown name (by simp [fnNames])) cur
    rw [ResolveStruct.checkStmt_fnDef, hg]
    simp only [nextCur, nextSeen]
    by_cases hs : cur.seenFns.contains name = true
    · rw [if_pos hs, if_pos hs]; exact ⟨rfl, rfl⟩
    · rw [if_neg hs, if_neg hs]; exact ⟨rfl, rfl⟩

theorem fnNames_cons_eq (s : Stmt) (ss : List Stmt) : fnNames (s :: ss) = fnNames [s] ++ fnNames ss := by
  cases s <;> rfl

theorem fnNames_cons_sub (s : Stmt) (ss : List Stmt) (x : Bytes) : x ∈ fnNames [s] → x ∈ fnNames (s :: ss) :=
  fun h => fnNames_cons_eq s ss ▸ List.mem_append_left _ h

theorem fnNames_tail_sub (s : Stmt) (ss : List Stmt) (x : Bytes) : x ∈ fnNames ss → x ∈ fnNames (s :: ss) :=
  fun h => fnNames_cons_eq s ss ▸ List.mem_append_right _ h

theorem absCtx_inner (env : Env) (cur : Scope) :
    absCtx { env with vars := cur :: env.vars } = { absCtx env with vars := scopeNames cur :: (absCtx env).vars } := rfl

theorem absCtx_loop (env : Env) (cur : Scope) :
    absCtx { env with vars := cur :: env.vars, inLoop := env.inLoop + 1 } =
      { absCtx env with vars := scopeNames cur :: (absCtx env).vars, loops := (absCtx env).loops + 1 } := rfl

theorem absCtx_body (env : Env) (pscope cur : Scope) (g ps : Nat) :
    absCtx { env with vars := pscope :: cur :: env.vars, curFn := some g, owner := g, inLoop := 0, scope := ps } =
      { absCtx env with vars := scopeNames pscope :: scopeNames cur :: (absCtx env).vars, loops := 0, inFn := true } := rfl

theorem blkSigs_keys (env : Env) (parent : Option Nat) (ss : List Stmt) (f : Facts) :
    (ResolveStruct.blkSigs env parent ss f).map sigKey = blockFns ss [] := by
  rw [ResolveStruct.blkSigs, map_of_core (k := sigKey) (fun _ => rfl) (retIter_core ..), ResolveStruct.blkPre,
    predeclare_sigs]; rfl

theorem absCtx_blkBody (env : Env) (parent : Option Nat) (ss : List Stmt) (f : Facts) :
    absCtx (ResolveStruct.blkEnvBody env parent ss f) = { absCtx env with fns := blockFns ss [] :: (absCtx env).fns } := by
  rw [← blkSigs_keys env parent ss f]; rfl

theorem ownHas_block (env : Env) (parent : Option Nat) (ss : List Stmt) (f : Facts) :
    ∀ name, name ∈ fnNames ss → ownHas (ResolveStruct.blkEnvBody env parent ss f) name = true := by
  intro name hn
  have h := findSig_blockFns name ss []
  rw [← blkSigs_keys env parent ss f, findSig_map, Option.isSome_map, List.contains_iff_mem.2 hn, Bool.or_true] at h
  exact h

theorem stmtExpr_scope (env : Env) (cur : Cur) (sid : Nat) (e : Expr) (f : Facts) :
    scopeDs (checkExpr env cur.vars sid e f).ds =
      exprV { absCtx env with vars := scopeNames cur.vars :: (absCtx env).vars } e :=
  checkExpr_scope env cur.vars sid _ rfl rfl e f

theorem check_scope :
    (∀ (s : Stmt) (env : Env) (cur : Cur) (f : Facts), (∀ name, name ∈ fnNames [s] → ownHas env name = true) →
      scopeDs (checkStmt env cur s f).ds = stmtV (absCtx env) (scopeNames cur.vars) cur.seenFns s) ∧
    (∀ (ss : List Stmt) (env : Env) (cur : Cur) (f : Facts), (∀ name, name ∈ fnNames ss → ownHas env name = true) →
      scopeDs (checkStmts env cur ss f).ds = stmtsV (absCtx env) (scopeNames cur.vars) cur.seenFns ss) ∧
    (∀ (b : Block) (env : Env) (parent : Option Nat) (f : Facts),
      scopeDs (checkBlock env parent b f).ds = blockV (absCtx env) b) ∧
    (∀ (b : Option Block) (env : Env) (parent : Option Nat) (f : Facts),
      scopeDs (checkOptBlock env parent b f).ds = optBlockV (absCtx env) b) := by
  -- every reporting site is an `errIf` beside a `vIf` of the specification with the same condition (`scopeDs_errIf`;
  -- `Rule.isScoping` of a literal rule evaluates), every expression is `stmtExpr_scope`, every nested block an induction
  -- hypothesis at the context `absCtx_*` gives
  apply Stmt.walk
  case assign =>
    intro x xs e _ _ sp env cur f _
    simp only [checkStmt, stmtV]
    -- `findVar cur.vars x`: a re-declaration or a new local; the diagnostics are the same
    split <;> simp [scopeDs_errIf, Rule.isScoping, stmtExpr_scope]
  case assignExisting =>
    intro x xs e _ _ sp env cur f _
    have hd : declared (scopeNames cur.vars :: (absCtx env).vars) x = (lookupVar env cur.vars x).isSome :=
      (lookupVar_isSome env cur.vars x).symm
    simp only [checkStmt, stmtV, hd]
    cases lookupVar env cur.vars x with
    | some ent => simp [vIf, stmtExpr_scope]
    | none => simp [vIf, stmtExpr_scope, scopeDs_cons, RDiag.at, Rule.isScoping]
  case assignIndex =>
    intro t e _ sp env cur f _
    simp [checkStmt, stmtV, stmtExpr_scope, scopeDs_errIf, Rule.isScoping]
  case ifS =>
    intro c t e _ sp iht ihe env cur f _
    simp [checkStmt, stmtV, scopeDs_errIf, Rule.isScoping, stmtExpr_scope, iht, ihe, absCtx_inner]
  case loop =>
    intro c b _ sp ih env cur f _
    simp [checkStmt, stmtV, scopeDs_errIf, Rule.isScoping, stmtExpr_scope, ih, absCtx_loop]
  case block =>
    intro b _ sp ih env cur f _
    simp only [checkStmt, stmtV, ih, absCtx_inner]
  case fnDef =>
    intro name nsp ps body _ _ sp ih env cur f hown
    obtain ⟨g, hg⟩ := ownHas_sigOf (hown name (by simp [fnNames])) cur
    rw [ResolveStruct.checkStmt_fnDef, hg, stmtV]
    by_cases hs : cur.seenFns.contains name = true
    · rw [if_pos hs, if_pos hs]; rfl
    · rw [if_neg hs, if_neg hs]
      simp only [ih]
      rw [ResolveStruct.fnEnvB, absCtx_body, ResolveStruct.fnParams, declareParams_names, show scopeNames [] = [] from rfl,
        List.append_nil]
  case ret =>
    intro e _ sp env cur f _
    simp only [checkStmt, stmtV]
    cases e with
    | some e => simp [scopeDs_errIf, Rule.isScoping, stmtExpr_scope, absCtx]
    | none => simp [scopeDs_errIf, Rule.isScoping, absCtx]
  case brk => intro _ sp env cur f _; simp [checkStmt, stmtV, scopeDs_errIf, Rule.isScoping, absCtx]
  case cont => intro _ sp env cur f _; simp [checkStmt, stmtV, scopeDs_errIf, Rule.isScoping, absCtx]
  case expr => intro e _ sp env cur f _; simp [checkStmt, stmtV, stmtExpr_scope]
  case nil => intro env cur f _; rfl
  case cons =>
    intro s ss ih ihs env cur f h
    have h1 : ∀ name, name ∈ fnNames [s] → ownHas env name = true :=
      fun n hn => h n (fnNames_cons_sub s ss n hn)
    have hc := checkStmt_cur env cur s f h1
    simp only [checkStmts, stmtsV, scopeDs_append]
    rw [ih env cur f h1, ihs env _ _ (fun n hn => h n (fnNames_tail_sub s ss n hn)), hc.1, hc.2]
  case mk =>
    intro ss sp ih env parent f
    rw [ResolveStruct.checkBlock_mk]
    simp only [blockV, scopeDs_append]
    rw [ih _ _ _ (ownHas_block env parent ss f), absCtx_blkBody, ResolveStruct.blkPre,
      predeclare_scope _ ss [] _ [] (by intro x; simp [findFn])]
    rfl
  case none => intro env parent f; rfl
  case some => intro b ih env parent f; simp only [checkOptBlock, optBlockV, ih]

theorem checkStmt_scope (env : Env) (cur : Cur) :
    ∀ (s : Stmt) (f : Facts), (∀ name, name ∈ fnNames [s] → ownHas env name = true) →
      scopeDs (checkStmt env cur s f).ds = stmtV (absCtx env) (scopeNames cur.vars) cur.seenFns s :=
  fun s => check_scope.1 s env cur

theorem checkStmts_scope (env : Env) :
    ∀ (ss : List Stmt) (cur : Cur) (f : Facts), (∀ name, name ∈ fnNames ss → ownHas env name = true) →
      scopeDs (checkStmts env cur ss f).ds = stmtsV (absCtx env) (scopeNames cur.vars) cur.seenFns ss :=
  fun ss => check_scope.2.1 ss env

theorem checkBlock_scope (env : Env) (parent : Option Nat) :
    ∀ (b : Block) (f : Facts), scopeDs (checkBlock env parent b f).ds = blockV (absCtx env) b :=
  fun b => check_scope.2.2.1 b env parent

theorem checkOptBlock_scope (env : Env) (parent : Option Nat) :
    ∀ (b : Option Block) (f : Facts), scopeDs (checkOptBlock env parent b f).ds = optBlockV (absCtx env) b :=
  fun b => check_scope.2.2.2 b env parent

/-- C09, scoping half: the diagnostics of the scoping rules that the resolver model emits
are exactly the violations listed by the declarative specification, in the same order and at the
same spans, for every program. -/
theorem resolve_scope (spanLen : Bool) (p : Block) :
    scopeDs (resolveWith spanLen p).rdiags = scopeViolations p := by
  simp only [resolveWith, scopeViolations]
  rw [checkBlock_scope]
  rfl

end NaijaVerif.Resolve
