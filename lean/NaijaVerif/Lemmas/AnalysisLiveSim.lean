import NaijaVerif.Lemmas.AnalysisLiveOk
import NaijaVerif.Lemmas.AnalysisLive
import NaijaVerif.Lemmas.AnalysisRel
import NaijaVerif.Lemmas.AnalysisCong
import NaijaVerif.Lemmas.AnalysisSim
/-
The liveness simulation (T5): a pruned run is compared with the plain run.  The environments are related by `TRel`
(`Lemmas/AnalysisLive.lean`): the scopes `σ` of the running activation under the agreement set `A` (the locals live at
the current program point), the scopes of the suspended activations by a relation `K` of which `ActOk` knows only
`Susp`: it is kept when a function reachable from `f` reads, or stores equal values into, what it may read or write
through a capture.  The expression level is `ExprSim` for the relation `liveRel` (`Lemmas/AnalysisCong.lean`); what is
said here is what a user call does (`lstep_userCall`).
-/
namespace NaijaVerif.C03
open NaijaVerif NaijaVerif.Analysis NaijaVerif.AEval

variable {V : Type}

/-- `lsetupOk_of` (`AnalysisLiveTop`) derives it from `SidsDistinct`, the decidable `globalOkB` (`used`: `usedOkB`; `sumR`,
`sumW`: `sumOkB`; `slOk`: `slOkB`; `scOwn`: `scOwnB`) and a plan that drops only unused functions.  `closed`, `drop`, `func`
are those of `SetupOk`.  `slOk`: the locals the model takes out of the live set at the end of a block are declared by the
resolver scope the block's runtime scope is tagged with. -/
structure LSetupOk (L : LSetup) : Prop where
  closed : ∀ i, (i, true) ∈ L.T → L.BR (L.c.fnOf i) = true → ∀ g ∈ L.c.callees i, L.BR g = true
  drop : ∀ g, L.BR g = true → L.cfg.dropFn g = false
  func : ∀ i, (i, true) ∈ L.T → (i, false) ∉ L.T
  liveT : ∀ i, (i, true) ∈ L.T → L.c.live i = true
  used : ∀ i, (i, true) ∈ L.T → L.BR (L.c.fnOf i) = true →
    (∀ x ∈ L.c.reads i, L.D2 x = false) ∧ ∀ g ∈ L.c.callees i, ∀ x ∈ L.c.transReads g, L.D2 x = false
  sumR : ∀ i, (i, true) ∈ L.T → ∀ g ∈ L.c.callees i, ∀ x ∈ L.c.transReads g, x ∈ L.c.transReads (L.c.fnOf i)
  sumW : ∀ i, (i, true) ∈ L.T → ∀ g ∈ L.c.callees i, ∀ x ∈ L.c.transWrites g, x ∈ L.c.transWrites (L.c.fnOf i)
  slOk : ∀ (b : List Stmt) x, x ∈ L.c.scopeLocalsOf b → ∃ tg, blockTag L.ss b = some tg ∧ L.ds x = some tg
  scOwn : ∀ x tg, L.ds x = some tg → L.scopeOwner tg = L.c.owner x

/-- The running activation: its scopes `σ` belong to function `f` and no resolver scope occurs twice among them; what lies
below, `K`, is kept by whatever `f` may do to captured locals according to its summaries. -/
structure ActOk (L : LSetup) (f : Nat) (σ : SigM) (K : List (Scope V) → List (Scope V) → Prop) : Prop where
  own : ∀ tg, some tg ∈ tagsOf σ → L.scopeOwner tg = some f
  nodup : TagsNodup (tagsOf σ)
  susp : Susp L.ds (· ∈ L.c.transReads f) (· ∈ L.c.transWrites f) K

/-- While statement `i` of the running activation evaluates its expressions.  `aCallee`: of what a callee of `i` reads
through captures, the part that is the running function's OWN is in the agreement set; `mOk`: a local whose declaration was
skipped in a scope of `σ` is not referred to by `i` or its callees.  These two are what lets a callee be started with the
caller's whole relation as its `K` (`actOk_callee`, through `trel_susp`). -/
structure ExprCtx (L : LSetup) (f : Nat) (σ : SigM) (A : Nat → Prop) (i : Nat) : Prop where
  aReads : ∀ x ∈ L.c.reads i, A x
  aCallee : ∀ g ∈ L.c.callees i, ∀ x ∈ L.c.transReads g, L.c.owner x = some f → A x
  mOk : ∀ p ∈ σ, ∀ l, p.2 l → L.c.refFreeB l i = true
  inT : (i, true) ∈ L.T
  fn : L.c.fnOf i = f
  br : L.BR f = true

def FnsOkL (L : LSetup) (fns : List (List FnDef)) : Prop :=
  FnsAll (fun fd => fnOkB L fd.id fd.params fd.body = true) fns

def LInv (L : LSetup) (st : St V) : Prop :=
  Inv L.T st ∧ FnsOkL L st.fns

/-- `a`: pruned state, `b`: plain state. -/
def LRel (L : LSetup) (A : Nat → Prop) (K : List (Scope V) → List (Scope V) → Prop) (σ : SigM) (a b : St V) : Prop :=
  a.out = b.out ∧ a.fns = b.fns ∧ TRel L.ds A K σ a.env b.env

@[reducible] def LOutG {α : Type} (L : LSetup) (X : Except Err α → St V → St V → Prop) : R V α → R V α → Prop :=
  OutG Bad (LInv L) X

@[reducible] def LOut {α : Type} (L : LSetup) (A : Nat → Prop) (K : List (Scope V) → List (Scope V) → Prop) (σ : SigM) :
    R V α → R V α → Prop :=
  LOutG L fun _ => LRel L A K σ

theorem LOutG.andThen {α β : Type} {L : LSetup} {X : Except Err α → St V → St V → Prop}
    {Y : Except Err β → St V → St V → Prop} {ra rb : R V α} {ka kb : α → St V → R V β}
    (h : LOutG L X ra rb) (he : ∀ e s t, X (.error e) s t → Y (.error e) s t)
    (hk : ∀ v s t, rb = (.ok v, t) → X (.ok v) s t → LInv L t → LOutG L Y (ka v s) (kb v t)) :
    LOutG L Y (AEval.andThen ra ka) (AEval.andThen rb kb) :=
  OutG.andThen Bad.error h he hk

/-- What the simulation needs of an initialiser the plan may drop (`L.q`).  Weaker than `Quiet` (`AnalysisRel.lean`) on
every count: of the plain run only, in states whose registered functions pass `fnOkB`, ending in a value or in any of
the excluded ways (`Bad`, where `Quiet` allows `Bad2`), the state kept field by field apart from the ghost fields: so
that an initialiser may call functions with a `PureNoTrap` summary (`quietIn_safe2`). -/
def QuietIn (P : Prims V) (L : LSetup) : Prop :=
  ∀ (f : Nat) (e : Expr) (n : Nat) (st : St V), L.q f e = true → FnsOkL L st.fns →
    ((∃ v, (evalExpr P plain n e st).1 = .ok v) ∨ Bad (evalExpr P plain n e st).1) ∧
    (evalExpr P plain n e st).2.env = st.env ∧ (evalExpr P plain n e st).2.out = st.out ∧
    (evalExpr P plain n e st).2.fns = st.fns

theorem quietIn_of_quiet {P : Prims V} {L : LSetup} (h : ∀ f e, L.q f e = true → Quiet P e) : QuietIn P L := by
  intro f e n st hq _
  obtain ⟨h1, h2⟩ := h f e hq plain n st
  rw [h1]
  exact ⟨h2.elim Or.inl (fun hb => Or.inr hb.bad), rfl, rfl, rfl⟩

def Need (L : LSetup) (live : List Nat) (A : Nat → Prop) : Prop := ∀ x ∈ live, L.D2 x = false → A x

theorem inTags_iff {L : LSetup} {σ : List (Option Nat)} {x : Nat} :
    L.inTags σ x = true ↔ ∃ tg, L.ds x = some tg ∧ some tg ∈ σ := by
  simp only [LSetup.inTags]
  cases L.ds x with
  | none => simp
  | some tg => simp

theorem refFree_parts {L : LSetup} {l j : Nat} (h : L.c.refFreeB l j = true) :
    l ∉ L.c.reads j ∧ l ∉ L.c.writes j ∧ ∀ g ∈ L.c.callees j, l ∉ L.c.transReads g ∧ l ∉ L.c.transWrites g := by
  simpa only [Ctx.refFreeB, Bool.and_eq_true, List.all_eq_true, Bool.not_eq_true', List.contains_eq_mem,
    decide_eq_false_iff_not, and_assoc] using h

section fit
variable {L : LSetup} {f i : Nat} {σ : SigM} {K : List (Scope V) → List (Scope V) → Prop} {A : Nat → Prop}

theorem fit_cases {x : Nat} (hv : L.varFit f (tagsOf σ) i x = true) :
    (x ∈ L.c.reads i ∧ ∃ tg, L.ds x = some tg ∧ some tg ∈ tagsOf σ) ∨
    (x ∈ L.c.transReads f ∧ ∀ tg, L.ds x = some tg → some tg ∉ tagsOf σ) := by
  simp only [LSetup.varFit] at hv
  split at hv
  · simp only [Bool.and_eq_true, List.contains_eq_mem, decide_eq_true_eq] at hv
    exact Or.inl ⟨hv.1, inTags_iff.mp hv.2⟩
  · simp only [Bool.and_eq_true, List.contains_eq_mem, decide_eq_true_eq, Bool.not_eq_true'] at hv
    refine Or.inr ⟨hv.1, fun tg hx hin => ?_⟩
    rw [inTags_iff.mpr ⟨tg, hx, hin⟩] at hv
    cases hv.2

theorem fit_lookup (ha : ActOk L f σ K) (hc : ExprCtx L f σ A i) {x : Nat} (hv : L.varFit f (tagsOf σ) i x = true)
    {a b : List (Scope V)} (hr : TRel L.ds A K σ a b) : lookupEnv L.ds x a = lookupEnv L.ds x b := by
  rcases fit_cases hv with ⟨hrd, tg, hx, hin⟩ | ⟨htr, hout⟩
  · exact trel_look_own hx (hc.aReads x hrd) hr hin fun M hM hm => (refFree_parts (hc.mOk _ hM x hm)).1 hrd
  · exact trel_look_rest ha.susp htr hr hout

theorem fit_assign (ha : ActOk L f σ K) (hc : ExprCtx L f σ A i) {x : Nat} {v : V} (hv : L.varFit f (tagsOf σ) i x = true)
    {a b : List (Scope V)} (hr : TRel L.ds A K σ a b) :
    ORel (TRel L.ds A K σ) (assignEnv L.ds x v a) (assignEnv L.ds x v b) := by
  rcases fit_cases hv with ⟨hrd, tg, hx, hin⟩ | ⟨htr, hout⟩
  · exact (trel_assign_own v hx hr ha.nodup hin fun M hM hm => (refFree_parts (hc.mOk _ hM x hm)).1 hrd).mono
      fun _ _ h => trel_weaken h fun _ _ _ _ => Or.inl
  · exact trel_assign_rest ha.susp v (Or.inl htr) hr hout

end fit

/-- The locals live where execution continues after a statement (list) that ended with `r`; `none` where nothing
is claimed of the agreement set (`return`, an error, `comot`/`next` outside a loop). -/
def flowTarget (lc : LoopCtx) (post : List Nat) : Except Err (Flow V) → Option (List Nat)
  | .ok .normal => some post
  | .ok .brk => lc.brk.map (dif · lc.kills)
  | .ok .cont => lc.cont.map (dif · lc.kills)
  | .ok (.ret _) => none
  | .error _ => none

/-- `extra` is used at the end of a block: the model takes the block's own locals out of the live set after it
(`dif st.live sl`), but once the block's scope is popped nothing constrains them, so they may all rejoin the agreement
set (`blockLocals`), which is what lets the enclosing statement list go on with its own live set (`flowNeed_block`). -/
def FlowNeed (L : LSetup) (lc : LoopCtx) (post : List Nat) (extra A' : Nat → Prop) (r : Except Err (Flow V)) : Prop :=
  ∀ S, flowTarget lc post r = some S → ∀ x, x ∈ S ∨ extra x → L.D2 x = false → A' x

theorem flowNeed_none {L : LSetup} {lc : LoopCtx} {post : List Nat} {extra A' : Nat → Prop} {r : Except Err (Flow V)}
    (h : flowTarget lc post r = none) : FlowNeed L lc post extra A' r :=
  fun S hS => by rw [h] at hS; cases hS

@[reducible] def LOutF (L : LSetup) (K : List (Scope V) → List (Scope V) → Prop) (σ : SigM) (lc : LoopCtx) (post : List Nat)
    (extra : Nat → Prop) : R V (Flow V) → R V (Flow V) → Prop :=
  LOutG L fun x s t => ∃ A', LRel L A' K σ s t ∧ FlowNeed L lc post extra A' x

theorem LOutF.andThen {α : Type} {L : LSetup} {σ : SigM} {K : List (Scope V) → List (Scope V) → Prop} {lc : LoopCtx}
    {post : List Nat} {extra A : Nat → Prop} {ra rb : R V α} {ka kb : α → St V → R V (Flow V)} (h : LOut L A K σ ra rb)
    (hk : ∀ v s t, LRel L A K σ s t → LInv L t → LOutF L K σ lc post extra (ka v s) (kb v t)) :
    LOutF L K σ lc post extra (AEval.andThen ra ka) (AEval.andThen rb kb) :=
  LOutG.andThen h (fun _ _ _ hr => ⟨A, hr, flowNeed_none rfl⟩) fun v s t _ => hk v s t

def blockLocals (L : LSetup) (b : List Stmt) (x : Nat) : Prop := ∃ tg, blockTag L.ss b = some tg ∧ L.ds x = some tg

/-- A local whose declaration was skipped in a scope of the activation is not referred to by the statements still
to be executed. -/
def MOkList (L : LSetup) (σ : SigM) (ss : List Stmt) : Prop := ∀ p ∈ σ, ∀ l, p.2 l → noRefListB L.c l ss = true
def MOkStmt (L : LSetup) (σ : SigM) (s : Stmt) : Prop := ∀ p ∈ σ, ∀ l, p.2 l → noRefB L.c l s = true

structure StmtOk (L : LSetup) (f : Nat) (σ : SigM) (K : List (Scope V) → List (Scope V) → Prop) (lc : LoopCtx)
    (A : Nat → Prop) (s : Stmt) (post : LS) (rest : List Stmt) : Prop where
  cons : ConsStmt L.T true s
  lok : lokB L f (tagsOf σ) lc s post rest = true
  br : L.BR f = true
  act : ActOk L f σ K
  mOk : MOkStmt L σ s
  need : Need L (lvStmt L.c f L.nl lc s post).1.live A

/-- The relation kept while statement `i` evaluates its expressions: they may call the callees of `i` and mention the
variables its facts cover. -/
def liveRel (V : Type) (L : LSetup) (f i : Nat) (σ : SigM) (K : List (Scope V) → List (Scope V) → Prop) (A : Nat → Prop) :
    ExprRel V :=
  { R := LRel L A K σ, I := LInv L, B := Bad, X := fun g => (L.c.callees i).contains g,
    D := fun x => !L.varFit f (tagsOf σ) i x }

/-- Expressions keep the relation as it is (`esim`); a statement, block or loop ends related under a new agreement set that
covers the live set of the place where execution continues (`LOutF`). -/
structure LSim (P : Prims V) (L : LSetup) (n : Nat) : Prop where
  esim : ∀ {f i : Nat} {σ : SigM} {K : List (Scope V) → List (Scope V) → Prop} {A : Nat → Prop}, ActOk L f σ K →
    ExprCtx L f σ A i → ExprSim P (liveRel V L f i σ K A) L.cfg plain n
  block : ∀ (ss : List Stmt) (a b : St V) (f : Nat) (σ : SigM) (K : List (Scope V) → List (Scope V) → Prop) (lc : LoopCtx)
    (post : LS) (A : Nat → Prop),
    ConsStmts L.T true ss → lokListB L f (blockTag L.ss ss :: tagsOf σ) lc ss post = true → L.blockOkB f (tagsOf σ) ss = true →
    L.BR f = true → ActOk L f σ K → MOkList L σ ss → Need L (lvStmts L.c f L.nl lc ss post).1.live A →
    LRel L A K σ a b → LInv L b →
    LOutF L K σ lc post.live (blockLocals L ss) (execBlock P L.cfg n ss a) (execBlock P plain n ss b)
  /-- The statements of a block may add skipped declarations (`M'`) to the block's own scope. -/
  stmts : ∀ (ss : List Stmt) (a b : St V) (f : Nat) (tg : Option Nat) (M : Nat → Prop) (σ : SigM)
    (K : List (Scope V) → List (Scope V) → Prop) (lc : LoopCtx) (post : LS) (A : Nat → Prop),
    ConsStmts L.T true ss → lokListB L f (tagsOf ((tg, M) :: σ)) lc ss post = true →
    L.BR f = true → ActOk L f ((tg, M) :: σ) K → MOkList L ((tg, M) :: σ) ss →
    Need L (lvStmts L.c f L.nl lc ss post).1.live A →
    LRel L A K ((tg, M) :: σ) a b → LInv L b →
    LOutG L (fun x s t => ∃ M' A', LRel L A' K ((tg, M') :: σ) s t ∧ FlowNeed L lc post.live (fun _ => False) A' x)
      (execStmts P L.cfg n ss a) (execStmts P plain n ss b)
  stmt : ∀ {f : Nat} {σ : SigM} {K : List (Scope V) → List (Scope V) → Prop} {lc : LoopCtx} {A : Nat → Prop} {s : Stmt}
    {post : LS} {rest : List Stmt} {i : Nat} (a b : St V), s.sid = some i → StmtOk L f σ K lc A s post rest →
    LRel L A K σ a b → LInv L b →
    LOutF L K σ lc post.live (fun _ => False) (execStmt P L.cfg n s a) (execStmt P plain n s b)
  loop : ∀ {f : Nat} {σ : SigM} {K : List (Scope V) → List (Scope V) → Prop} {lc : LoopCtx} {A : Nat → Prop} {c : Expr}
    {bd : List Stmt} {sp1 sp : Span} {i : Nat} {post : LS} {rest : List Stmt} (a b : St V),
    StmtOk L f σ K lc A (.loop c (.mk bd sp1) (some i) sp) post rest → LRel L A K σ a b → LInv L b →
    LOutF L K σ lc post.live (fun _ => False) (execLoop P L.cfg n c bd a) (execLoop P plain n c bd b)

theorem lsim_zero (P : Prims V) (L : LSetup) : LSim P L 0 where
  esim _ _ :=
    ⟨fun e a b _ _ hi => by rw [evalExpr_zero, evalExpr_zero]; exact (.bad bad_fuel hi : LOut L _ _ _ _ _),
     fun es a b _ _ hi => by rw [evalList_zero, evalList_zero]; exact (.bad bad_fuel hi : LOut L _ _ _ _ _)⟩
  block ss a b _ _ _ _ _ _ _ _ _ _ _ _ _ _ hi := by rw [execBlock_zero, execBlock_zero]; exact .bad bad_fuel hi
  stmts ss a b _ _ _ _ _ _ _ _ _ _ _ _ _ _ _ hi := by rw [execStmts_zero, execStmts_zero]; exact .bad bad_fuel hi
  stmt a b _ _ _ hi := by rw [execStmt_zero, execStmt_zero]; exact .bad bad_fuel hi
  loop a b _ _ hi := by rw [execLoop_zero, execLoop_zero]; exact .bad bad_fuel hi

section estep
variable {P : Prims V} {L : LSetup} {n : Nat} {f i : Nat} {σ : SigM} {K : List (Scope V) → List (Scope V) → Prop}
  {A : Nat → Prop}

theorem liveRel_ok (hd : P.dscope = L.ds) (ha : ActOk L f σ K) (hc : ExprCtx L f σ A i) :
    (liveRel V L f i σ K A).Ok P where
  bErr := Bad.error
  lookup := fun hx hr => hd ▸ fit_lookup ha hc (by simpa [liveRel] using hx) hr.2.2
  assign := fun v hx hr hi =>
    hd ▸ (fit_assign (v := v) ha hc (by simpa [liveRel] using hx) hr.2.2).mono fun _ _ he => ⟨⟨hr.1, hr.2.1, he⟩, hi⟩
  out := fun w hr hi => ⟨⟨congrArg (w :: ·) hr.1, hr.2.1, hr.2.2⟩, hi⟩

theorem LSim.expr (ih : LSim P L n) (ha : ActOk L f σ K) (hc : ExprCtx L f σ A i) (e : Expr) (a b : St V)
    (he : eOk (fun g => (L.c.callees i).contains g) (fun x => !L.varFit f (tagsOf σ) i x) e = true) (hr : LRel L A K σ a b)
    (hi : LInv L b) : LOut L A K σ (evalExpr P L.cfg n e a) (evalExpr P plain n e b) :=
  (ih.esim ha hc).expr e a b he hr hi

theorem linv_pop {st : St V} (h : LInv L st) : LInv L st.pop :=
  ⟨⟨FnsAll.drop h.1.1, h.1.2⟩, FnsAll.drop h.2⟩

theorem lrel_pop {p : Option Nat × (Nat → Prop)} {a b : St V} (h : LRel L A K (p :: σ) a b) : LRel L A K σ a.pop b.pop :=
  ⟨h.1, congrArg (List.drop 1) h.2.1, trel_pop h.2.2⟩

theorem linv_push {st : St V} (h : LInv L st) (sc : Scope V) {fds : List FnDef}
    (h1 : ∀ fd ∈ fds, ConsStmts L.T true fd.body) (h2 : ∀ fd ∈ fds, fnOkB L fd.id fd.params fd.body = true) :
    LInv L (st.push sc fds) :=
  ⟨inv_push h.1 sc h1, FnsAll.push h.2 h2⟩

theorem lrel_push {a b : St V} (h : LRel L A K σ a b) (tg : Option Nat) (M : Nat → Prop) (sl : List (Slot V))
    (fds : List FnDef) : LRel L A K ((tg, M) :: σ) (a.push ⟨tg, sl⟩ fds) (b.push ⟨tg, sl⟩ fds) :=
  ⟨h.1, congrArg (fds :: ·) h.2.1, trel_push h.2.2 tg M sl⟩

theorem actOk_callee (hs : LSetupOk L) {g : Nat} (ha : ActOk L f σ K) (hc : ExprCtx L f σ A i) (hg : g ∈ L.c.callees i)
    (ptag : Option Nat) (hown : ∀ tg, ptag = some tg → L.scopeOwner tg = some g) :
    ActOk L g [(ptag, fun _ => False)] (TRel L.ds A K σ) where
  own := by
    intro tg htg
    simp only [tagsOf, List.map_cons, List.map_nil, List.mem_singleton] at htg
    exact hown tg htg.symm
  nodup := by simp [tagsOf, TagsNodup]
  susp := by
    refine trel_susp (own := fun x => ∃ tg, L.ds x = some tg ∧ some tg ∈ tagsOf σ) ha.susp ha.nodup (fun _ h => h)
      (fun x ho tg hx hin => ho ⟨tg, hx, hin⟩) (fun x hR => ⟨?_, fun _ => ?_⟩) (fun x hW => ⟨?_, fun _ => ?_⟩)
    · rintro ⟨tg, hx, hin⟩
      have hown : L.c.owner x = some f := by rw [← hs.scOwn x tg hx]; exact ha.own tg hin
      exact ⟨hc.aCallee g hg x hR hown, fun p hp hm => ((refFree_parts (hc.mOk p hp x hm)).2.2 g hg).1 hR⟩
    · rw [← hc.fn]; exact hs.sumR i hc.inT g hg x hR
    · rintro ⟨tg, hx, hin⟩ p hp hm
      have hg' := (refFree_parts (hc.mOk p hp x hm)).2.2 g hg
      exact hW.elim hg'.1 hg'.2
    · rw [← hc.fn]; exact hW.imp (hs.sumR i hc.inT g hg x) (hs.sumW i hc.inT g hg x)

theorem fnOk_parts {g : Nat} {ps : List Param} {body : List Stmt} (h : fnOkB L g ps body = true) :
    L.blockOkB g [paramTag L.ds ps] body = true ∧ (∀ tg, paramTag L.ds ps = some tg → L.scopeOwner tg = some g) ∧
    L.pureFnB g ps body = true ∧
    lokListB L g [blockTag L.ss body, paramTag L.ds ps] { brk := none, cont := none, kills := [] } body (boundary []) = true := by
  simp only [fnOkB, Bool.and_eq_true] at h
  refine ⟨h.1.1.1, ?_, h.1.2, h.2⟩
  intro tg htg
  have := h.1.1.2
  rw [htg] at this
  simpa using this

theorem lstep_userCall (hd : P.dscope = L.ds) (hs : LSetupOk L) (ih : LSim P L n) (ha : ActOk L f σ K)
    (hc : ExprCtx L f σ A i) (g : Nat) (args : List Expr) (a b : St V) (hg : g ∈ L.c.callees i)
    (hargs : L.efitList f (tagsOf σ) i args = true) (hr : LRel L A K σ a b) (hi : LInv L b) :
    LOut L A K σ (userCall P L.cfg n g args a) (userCall P plain n g args b) := by
  have hbr : L.BR g = true := hs.closed i hc.inT (by rw [hc.fn]; exact hc.br) g hg
  have e1 : findFnC L.cfg g a.fns = findFn g b.fns := hr.2.1 ▸ findFnC_kept (hs.drop g hbr) a.fns
  simp only [userCall, e1, findFnC_kept (cfg := plain) rfl, hd]
  have hi0 : LInv L { b with looked := g :: b.looked } := hi
  have hr0 : LRel L A K σ { a with looked := g :: a.looked } { b with looked := g :: b.looked } := hr
  cases hfd : findFn g b.fns with
  | none => exact .same _ hr0 hi0
  | some fd =>
    refine LOutG.andThen ((ih.esim ha hc).list args _ _ hargs hr0 hi0) (fun _ _ _ h => h) fun vs t1 t2 _ hr1 hi1 => ?_
    cases bindParams fd.params vs with
    | none => exact .same _ hr1 hi1
    | some slots =>
      have hfn := fnOk_parts (findFn_ok hi.2 hfd)
      have hid := (findFn_mem hfd).1
      -- the callee starts with its parameter scope, on which the two runs agree entirely; its `K` (the sixth argument)
      -- is the caller's whole relation `TRel L.ds A K σ`, which `actOk_callee` shows the callee keeps
      obtain ⟨ho, hq⟩ := ih.block fd.body (t1.push ⟨paramTag L.ds fd.params, slots⟩ [])
        (t2.push ⟨paramTag L.ds fd.params, slots⟩ []) fd.id [(paramTag L.ds fd.params, fun _ => False)] (TRel L.ds A K σ)
        { brk := none, cont := none, kills := [] } (boundary []) (fun _ => True) (findFn_ok hi.1.1 hfd)
        hfn.2.2.2 hfn.1 (by rw [hid]; exact hbr)
        (by rw [hid]; exact actOk_callee hs ha hc hg _ (by rw [← hid]; exact hfn.2.1))
        (by intro p hp l hl; cases List.mem_singleton.mp hp; cases hl) (fun _ _ _ => trivial)
        ⟨hr1.1, congrArg ([] :: ·) hr1.2.1, trel_push (.base hr1.2.2) _ _ slots⟩
        (linv_push hi1 _ (fun _ h => nomatch h) (fun _ h => nomatch h))
      refine ⟨?_, linv_pop hq⟩
      rcases ho with hbad | ⟨heq, A', hr3, _⟩
      · exact Or.inl (hbad.bind _)
      · -- below the callee's parameter scope lies the caller's relation, as it was
        exact Or.inr ⟨congrArg (·.bind (callValue P)) heq, hr3.1, congrArg (List.drop 1) hr3.2.1, trel_nil (trel_pop hr3.2.2)⟩

theorem LSim.exprStep (hd : P.dscope = L.ds) (hs : LSetupOk L) (ih : LSim P L n) (ha : ActOk L f σ K)
    (hc : ExprCtx L f σ A i) : ExprSim P (liveRel V L f i σ K A) L.cfg plain (n + 1) :=
  (ih.esim ha hc).step (liveRel_ok hd ha hc) fun g args a b hg hargs hr hi =>
    lstep_userCall hd hs ih ha hc g args a b (by simpa [liveRel] using hg) hargs hr hi

end estep

end NaijaVerif.C03
