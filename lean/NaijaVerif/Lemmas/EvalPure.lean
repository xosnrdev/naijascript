import NaijaVerif.Lemmas.EvalBasic
-- not used below, but `fun_induction walkMut` here and there would each generate the same auxiliary: a clash in
-- every module that imports both, unless one imports the other
import NaijaVerif.Lemmas.EvalPath
/-
Which panic sites the PURE steps of the evaluator (`arith`, `unary`, `indexRead`, `strMethod`, …: the
`Except Fault` functions of `Model/Builtins.lean` that `Res.ofExcept` lifts) can report: fixed ones, with two
exceptions — `walkAssign` on an empty path (`assignIndexEmpty`) and `strMethod` when `StrOps.find` /
`StrOps.replace` give up (`twMaximalSuffix`).  Stated for any set `T` of sites that holds the fixed ones.
`StrTotal`, the hypothesis that excludes the second exception, keeps the namespace of C06's group (`Bridge`), whose
`Hyp.str` it is.
-/
namespace NaijaVerif.Bridge
open NaijaVerif

/-- `StrOps.find` / `StrOps.replace` never report the panic of `maximal_suffix` (C13). -/
def StrTotal : Prop :=
  (∀ h n : Bytes, (StrOps.find h n).isSome = true) ∧ (∀ h f t : Bytes, (StrOps.replace h f t).isSome = true)

/- `pure_tac h`, for `h : x = .error (.panic s)` with the pure step `x` unfolded: split `x` into its
leaves; a leaf that is no panic contradicts `h` (`cases h` closes the goal), a leaf that is a panic
names its site, which is fixed by `rfl`.  The other way through the leaves below is `fun_cases`: the same argument
over the case principle of the definition, one goal per source alternative, without unfolding the body. -/
macro "pure_tac" h:ident : tactic => `(tactic| (
  repeat' (split at $h:ident)
  all_goals (first | (cases $h:ident; done) | (cases $h:ident; rfl))))

end NaijaVerif.Bridge

namespace NaijaVerif.Eval
open NaijaVerif

variable {N : Type}

def PanicsIn (T : PanicSite → Prop) {α : Type} (x : Except Fault α) : Prop :=
  ∀ s, x = .error (.panic s) → T s

/-- What `Logic.Sel.pick` asks of an argument selection, in the walk's case of a string receiver. -/
theorem argIdx_fixed (m : StrM) : ∀ q ∈ m.argIdx, q.2.fixed = true := by cases m <;> decide

section
variable {T : PanicSite → Prop} (hT : ∀ {s : PanicSite}, s.fixed = true → T s)
include hT

theorem logicRhs_pure {site : PanicSite} (hs : site.fixed = true) {v : Value N} : PanicsIn T (logicRhs site v) := by
  intro s h
  unfold logicRhs at h
  split at h <;> cases h <;> exact hT hs

theorem truthy_pure {site : PanicSite} (hs : site.fixed = true) {v : Value N} : PanicsIn T (truthy site v) := by
  intro s h
  unfold truthy at h
  split at h <;> cases h <;> exact hT hs

theorem requiredString_pure {v : Value N} {sp : Span} : PanicsIn T (requiredString v sp) :=
  fun s h => hT <| by
    -- no leaf is a panic: a value that is no string is the runtime error `typeMismatch`
    unfold requiredString at h
    pure_tac h

theorem apply_pure {op : MutOp N} {cell : Value N} {sp : Span} : PanicsIn T (op.apply cell sp) :=
  fun s h => hT <| by
    -- no leaf is a panic: an operation on the wrong kind of cell is the runtime error `typeMismatch`
    unfold MutOp.apply at h
    pure_tac h

omit hT in
/-- `walkMut` has no panic leaf at all: this holds of every `T`. -/
theorem walkMut_pure : ∀ (v : Value N) (path : List (Nat × Span)), PanicsIn T (walkMut v path) := by
  intro v path
  fun_induction walkMut v path with
  | case1 v => intro s h; cases h
  | case2 xs i sp p x hx ih => exact ih
  | case3 xs i sp p hx => intro s h; cases h
  | case4 v sp p _ => intro s h; cases h

omit hT in
theorem walkAssign_pure (ssp : Span) : ∀ (v : Value N) (path : List (Nat × Span)),
    path ≠ [] ∨ T .assignIndexEmpty → PanicsIn T (walkAssign ssp v path) := by
  intro v path
  fun_induction walkAssign ssp v path <;> intro hne s h
  -- The alternatives of `walkAssign`: the empty path (panic); the last index (`ok` or `indexOutOfBounds`); an index
  -- before the last, into an element (recursion) or out of range (`indexOutOfBounds`); no array (`invalidIndex`).
  all_goals try (cases h; done)
  · -- the empty path: the one panic leaf, `assignIndexEmpty`
    cases h
    exact hne.resolve_left fun hn => hn rfl
  · -- the step into an element: the rest of the path is not empty
    rename_i ih
    exact ih (Or.inl nofun) s h

variable [NumOps N]

theorem arith_pure {op : ArithOp} {l r : Value N} {sp : Span} : PanicsIn T (arith op l r sp) :=
  fun s h => hT <| by
    revert h
    fun_cases arith op l r sp <;> intro h <;> cases h <;> rfl

theorem unary_pure {op : UnOp} {v : Value N} : PanicsIn T (unary op v) :=
  fun s h => hT <| by
    -- the one panic leaf: an operand the operator has no case for, site `unaryOp`
    unfold unary at h
    pure_tac h

theorem indexRead_pure {a i : Value N} {isp : Span} : PanicsIn T (indexRead a i isp) :=
  fun s h => hT <| by
    revert h
    fun_cases indexRead a i isp <;> intro h <;> cases h
    rfl

theorem indexValue_pure {v : Value N} {isp : Span} : PanicsIn T (indexValue v isp) :=
  fun s h => hT <| by
    revert h
    fun_cases indexValue v isp <;> intro h <;> cases h <;> rfl

theorem timeoutMs_pure {v : Value N} {sp : Span} : PanicsIn T (timeoutMs v sp) :=
  fun s h => hT <| by
    -- no leaf is a panic: a value that is no whole positive number is the runtime error `processSpecInvalid`
    unfold timeoutMs at h
    pure_tac h

theorem strMethod_pure (hst : T .twMaximalSuffix ∨ Bridge.StrTotal) {std : StdOps} {m : StrM} {b : Bytes}
    {args : List (Value N)} : PanicsIn T (strMethod std m b args) := by
  intro s h
  revert h
  fun_cases strMethod std m b args <;> intro h <;> cases h
  -- the six panic leaves, in the order of the definition
  · exact hT rfl  -- `slice`: `sliceArgs`
  · next n hn =>  -- `find`: `StrOps.find` gives up, `twMaximalSuffix`
    exact hst.resolve_right fun t => by have := t.1 b n; rw [hn] at this; cases this
  · exact hT rfl  -- `find`: `findNeedle`
  · next o n hn =>  -- `replace`: `StrOps.replace` gives up, `twMaximalSuffix`
    exact hst.resolve_right fun t => by have := t.2 b o n; rw [hn] at this; cases this
  · exact hT rfl  -- `replace`: `replaceArgs`
  · exact hT rfl  -- `split`: `splitPat`

end

end NaijaVerif.Eval
