import NaijaVerif.Lemmas.AnalysisRefineConv
import NaijaVerif.Lemmas.AnalysisRefineStep
/-
BRIDGE, both directions: selected argument lists (`arg_at`) and index paths.  The fragment evaluates them with
`evalChecked`, which has no fuel of its own; `Eval` with `evalSel` / `evalIdxs`, which count.
-/
namespace NaijaVerif.C03
open NaijaVerif NaijaVerif.Analysis

variable {N : Type} [NumOps N] {B : Brg}

theorem bis_selNil {α γ : Type} {vr : α → γ → Prop} {m : Nat} {a : AEval.R (VE N) α} (s : Eval.State N)
    (k : List (VE N) → Eval.State N → Eval.Res N γ) (h : RSim B vr a (k [] s)) :
    Bis B vr m (fun _ => a) (fun f => (Eval.evalSel B.rc f [] s).bind k) :=
  Bis.skipE rfl (fun _ => rfl) (Bis.const h)

/-- For a missing argument the fragment reports the one error `P.argMissing = tmErr`, `Eval` traps at the site the method
names for that argument; the hypothesis on `idxs` says that these agree, which holds because the sites are fixed ones with
fallback `typeMismatch` (`strM_sites`). -/
theorem bis_sel (hB : B.Ok N) {m : Nat} (IH : Both (N := N) B m) (args : List Expr) (hargs : okExprs B.o args = true)
    (sp : Span) : ∀ (idxs : List (Nat × Eval.PanicSite)), (∀ q ∈ idxs, siteErr q.2 = tmErr) →
    ∀ (s : Eval.State N) (t : AEval.St (VE N)), B.Sim s t →
    Bis B Eq m (fun n => AEval.evalChecked (AEval.evalExpr B.P B.ac n) tmErr (AEval.selArgs args (idxs.map (·.1))) t)
      (fun f => Eval.evalSel B.rc f (Eval.pick args idxs sp) s)
  | [], _, s, t, hs => by
      refine Bis.stepE rfl ?_
      simp only [List.map_nil, AEval.selArgs, AEval.evalChecked, Eval.pick, Eval.evalSel]
      exact Bis.const (RSim.ok rfl hs)
  | (i, site) :: rest, hsite, s, t, hs => by
      refine Bis.stepE rfl ?_
      have ih := bis_sel hB IH args hargs sp rest (fun q hq => hsite q (List.mem_cons_of_mem _ hq))
      simp only [List.map_cons, AEval.selArgs, Eval.pick] at ih ⊢
      cases hi : args[i]? with
      | none =>
        simp only [AEval.evalChecked, Eval.evalSel]
        have := trap_sim (β := List (VE N)) hB hs.out site sp
        rw [hsite (i, site) (List.mem_cons_self ..)] at this
        exact Bis.const (RSim.err this)
      | some e =>
        simp only [AEval.evalChecked_cons, AEval.andThen_ok, Eval.evalSel]
        refine Bis.bind (IH.expr e s t (okExprs_get hargs hi) hs) fun v t1 s1 hs1 => ?_
        refine Bis.bind (ih s1 t1 hs1) fun vs t2 s2 hs2 => ?_
        exact Bis.const (RSim.ok rfl hs2)

theorem bis_idxs (hB : B.Ok N) {m : Nat} (IH : Both (N := N) B m) :
    ∀ (idxs : List (Expr × Span)), (∀ q ∈ idxs, okExpr B.o q.1 = true) →
    ∀ (s : Eval.State N) (t : AEval.St (VE N)), B.Sim s t →
    Bis B PathRel m
      (fun n => AEval.evalChecked (AEval.evalExpr B.P B.ac n) tmErr (AEval.pathItems idxChk (idxs.map (·.1))) t)
      (fun f => Eval.evalIdxs B.rc f idxs s)
  | [], _, s, t, hs => Bis.stepE rfl (Bis.const (RSim.ok rfl hs))
  | (e, isp) :: rest, hq, s, t, hs => by
      refine Bis.stepE rfl ?_
      have ih := bis_idxs hB IH rest (fun q hqm => hq q (List.mem_cons_of_mem _ hqm))
      simp only [List.map_cons, AEval.pathItems] at ih ⊢
      simp only [AEval.evalChecked_cons, Eval.evalIdxs]
      refine Bis.bind (IH.expr e s t (hq (e, isp) (List.mem_cons_self ..)) hs) fun v t1 s1 hs1 => ?_
      refine Bis.andThen (Bis.const (chk_sim hB hs1 (liftE_span (fun φ => SpanMap.indexValue_map φ v) isp) v isp))
        fun v' t1' i s1' hvi hs1' => ?_
      obtain ⟨rfl, hi⟩ := hvi
      obtain rfl : i = idxDec v' := by simp only [idxDec, hi]
      refine Bis.andThen (ih s1' t1' hs1') fun vs t2 is s2 his hs2 => ?_
      exact Bis.const (RSim.ok (congrArg (idxDec v' :: ·) his) hs2)

end NaijaVerif.C03
