import NaijaVerif.Lemmas.AnalysisRel
import NaijaVerif.Lemmas.AnalysisSim
/- Step lemmas of the relational simulation (`Sim P S n → Sim P S (n+1)`), each along the evaluator's own sequence.  The
outcome is `(simRel P S).Out` (`AnalysisRel`), an instance of `OutG`, and is taken through the sequence by the lemmas of
`AnalysisCong` as they stand (`ExprRel.Out.andThen`, `.check`, `OutG.same`, `.bad`); what is added here is the rule for
leaving a scope (`out_pop`). -/
namespace NaijaVerif.C03
open NaijaVerif NaijaVerif.Analysis NaijaVerif.AEval

variable {V : Type}

/- `chain t1, t2, ho, hq`: closes a goal `(Bad t2.1 ∨ (t1.1 = t2.1 ∧ Rel S t1.2 t2.2)) ∧ Inv2 P S t2.2`, an outcome
`(simRel P S).Out t1 t2` written out, from its first half `ho` and `hq : Inv2 P S t2.2`, unless both results are `ok v`; leaves
`hrel' : Rel S s1 s2`.  No step lemma below calls it (each goes through `ExprRel.Out.andThen`); it is there for a walk
extended by a form whose two results have to be split by hand. -/
set_option hygiene false in
macro "chain " t1:term ", " t2:term ", " ho:ident ", " hq:ident : tactic => `(tactic|
  ( generalize $t2 = r2 at $ho:ident $hq:ident ⊢
    generalize $t1 = r1 at $ho:ident ⊢
    obtain ⟨x2, s2⟩ := r2
    obtain ⟨x1, s1⟩ := r1
    rcases $ho:ident with hbad | ⟨heq, hrel'⟩
    · rcases hbad with hb | hb | hb <;>
        (simp only at hb; subst hb; first | exact ⟨Or.inl bad_fuel, $hq⟩ | exact ⟨Or.inl bad_unbound, $hq⟩ | exact ⟨Or.inl bad_panic, $hq⟩)
    simp only at heq
    subst heq
    rcases x1 with er | v
    · exact ⟨Or.inr ⟨rfl, hrel'⟩, $hq⟩
    try simp only [] ))

section step
variable {P : Prims V} {S : Setup} {n : Nat} {α β : Type}

theorem inv2_pop {st : St V} (h : Inv2 P S st) : Inv2 P S st.pop :=
  ⟨⟨FnsAll.drop h.1.1, h.1.2⟩, FnsAll.drop h.2.1, h.2.2⟩

theorem rel_pop {a b : St V} (h : Rel S a b) : Rel S a.pop b.pop :=
  ⟨h.1, congrArg (List.drop 1) h.2.1, EnvRel.drop h.2.2⟩

theorem inv2_push {st : St V} (h : Inv2 P S st) (sc : Scope V) {fs : List FnDef}
    (h1 : ∀ fd ∈ fs, ConsStmts S.T true fd.body) (h2 : ∀ fd ∈ fs, SOkList P S fd.id fd.body) :
    Inv2 P S (st.push sc fs) :=
  ⟨inv_push h.1 sc h1, FnsAll.push h.2.1 h2, h.2.2⟩

theorem rel_push {a b : St V} (h : Rel S a b) (sc : Scope V) (fs : List FnDef) : Rel S (a.push sc fs) (b.push sc fs) :=
  ⟨h.1, congrArg (fs :: ·) h.2.1, EnvRel.push sc h.2.2⟩

theorem out_pop {a b : R V α} (h : (simRel P S).Out a b) (g : Except Err α → Except Err β)
    (hg : ∀ r, Bad r → Bad (g r)) : (simRel P S).Out (g a.1, a.2.pop) (g b.1, b.2.pop) := by
  obtain ⟨hbad | ⟨heq, hrel⟩, hi⟩ := h
  · exact ⟨Or.inl (hg _ hbad), inv2_pop hi⟩
  · exact ⟨Or.inr ⟨congrArg g heq, rel_pop hrel⟩, inv2_pop hi⟩

theorem simRel_ok (hs : SetupOk S) : (simRel P S).Ok P where
  bErr := Bad.error
  lookup := fun hx hr => lookup_rel hs.d12 hx P.dscope _ _ hr.2.2
  assign := fun v hx hr hi =>
    (assign_rel (v1 := v) (d1_of_d2 hs.d12 hx) (Or.inr rfl) P.dscope _ _ hr.2.2).mono fun _ _ he => ⟨⟨hr.1, hr.2.1, he⟩, hi⟩
  out := fun w hr hi => ⟨⟨congrArg (w :: ·) hr.1, hr.2.1, hr.2.2⟩, hi⟩

theorem rstep_userCall (hs : SetupOk S) (ih : Sim P S n) (f : Nat) (args : List Expr) (a b : St V)
    (hf : S.BR f = true) (hargs : eOkList S.BR S.D2 args = true) (hr : Rel S a b) (hi : Inv2 P S b) :
    (simRel P S).Out (userCall P S.cfg n f args a) (userCall P plain n f args b) := by
  have e1 : findFnC S.cfg f a.fns = findFn f b.fns := hr.2.1 ▸ findFnC_kept (hs.drop f hf) a.fns
  simp only [userCall, e1, findFnC_kept (cfg := plain) rfl]
  have hi0 : Inv2 P S { b with looked := f :: b.looked } := ⟨hi.1, hi.2.1, List.forall_mem_cons.mpr ⟨hf, hi.2.2⟩⟩
  have hr0 : Rel S { a with looked := f :: a.looked } { b with looked := f :: b.looked } := hr
  cases hfd : findFn f b.fns with
  | none => exact .same _ hr0 hi0
  | some fd =>
    refine .andThen (simRel_ok hs) (ih.list args _ _ hargs hr0 hi0) fun vs s1 s2 _ hr1 hi1 => ?_
    cases bindParams fd.params vs with
    | none => exact .same _ hr1 hi1
    | some slots =>
      -- the body belongs to `fd.id = f`, which is body-reachable
      refine out_pop (ih.block fd.body _ _ fd.id (findFn_ok hi.1.1 hfd) (findFn_ok hi.2.1 hfd)
        (by rw [(findFn_mem hfd).1]; exact hf) (rel_push hr1 _ _)
        (inv2_push hi1 _ (fun _ hm => by cases hm) (fun _ hm => by cases hm))) (·.bind (callValue P)) ?_
      intro r hb
      obtain ⟨e, rfl, hb'⟩ := Bad.error (β := V) hb
      exact hb'

theorem Sim.exprSim (ih : Sim P S n) : ExprSim P (simRel P S) S.cfg plain n := ⟨ih.expr, ih.list⟩

theorem base_ok (hs : SetupOk S) {f i : Nat} {es : List Expr} (hiT : (i, true) ∈ S.T) (hf : S.BR f = true)
    (hb : S.base f i es) : ∀ e ∈ es, eOk S.BR S.D2 e = true := by
  obtain ⟨hfn, hes⟩ := hb
  refine eOk_mem es (eOkList_mono2 ?_ (fun _ hx => hx) es hes)
  intro g hg
  have : g ∈ S.callees i := by simpa using hg
  exact hs.closed i hiT (by rw [hfn]; exact hf) g this

/- `SOk` and `ConsStmt` compute on a statement of known form: `hok.1` is its `S.base …`, the rest the facts about
its blocks. -/
theorem rstep_stmt (hs : SetupOk S) (ih : Sim P S n) (s : Stmt) (a b : St V) (f i : Nat) (hsid : s.sid = some i)
    (hsk : S.cfg.skip i = false) (hc : ConsStmt S.T true s) (hok : SOk P S f s) (hf : S.BR f = true)
    (hr : Rel S a b) (hi : Inv2 P S b) :
    (simRel P S).Out (execStmt P S.cfg (n + 1) s a) (execStmt P plain (n + 1) s b) := by
  have hiT : (i, true) ∈ S.T := consStmt_inTbl hc i hsid
  have hW := simRel_ok (P := P) hs
  cases s with
  | assign _ _ e bd sid _ =>
    cases hsid
    rw [execStmt_assign, execStmt_assign]
    refine .andThen hW (ih.expr e a b (base_ok hs hiT hf hok.1 e List.mem_cons_self) hr hi) fun v s1 s2 _ hr1 hi1 => ?_
    cases bd with
    | none => exact .same _ hr1 hi1
    | some l => exact .same _ ⟨hr1.1, hr1.2.1, define_rel _ _ hr1.2.2⟩ hi1
  | assignExisting _ _ e bd sid _ =>
    cases hsid
    rw [execStmt_assignExisting, execStmt_assignExisting]
    refine .andThen hW (ih.expr e a b (base_ok hs hiT hf hok.1 e List.mem_cons_self) hr hi) fun v s1 s2 _ hr1 hi1 => ?_
    cases bd with
    | none => exact .same _ hr1 hi1
    | some l =>
      -- a kept store targets a local that has its slot on both sides
      rcases (assign_rel (v1 := v) (hok.2.2 hsk l rfl) (Or.inr rfl) P.dscope _ _ hr1.2.2).cases with
        ⟨h1, h2⟩ | ⟨e1, e2, h1, h2, he⟩
      · rw [Option.bind_some, Option.bind_some, h1, h2]; exact .same _ hr1 hi1
      · rw [Option.bind_some, Option.bind_some, h1, h2]; exact .same _ ⟨hr1.1, hr1.2.1, he⟩ hi1
  | assignIndex t e sid _ =>
    cases hsid
    have he := base_ok hs hiT hf hok.1
    rw [execStmt_assignIndex, execStmt_assignIndex]
    refine .andThen hW (ih.expr e a b (he e (.tail _ List.mem_cons_self)) hr hi) fun v s1 s2 _ hr1 hi1 => ?_
    cases hlv : lvalue t with
    | none => exact .same _ hr1 hi1
    | some rp =>
      have hlo := eOk_lvalue t rp.1 rp.2 (he t List.mem_cons_self) hlv
      exact ih.exprSim.updateRoot hW (Y := fun _ => Rel S) rp.1 rp.2 _ s1 s2 hlo.1 hlo.2 (fun _ _ _ h => h)
        (fun _ _ _ _ _ _ h => h) hr1 hi1
  | ifS c tb eb sid _ =>
    cases hsid
    obtain ⟨t, _⟩ := tb
    rw [execStmt_ifS, execStmt_ifS]
    rcases eb with _ | ⟨el, _⟩
    · refine .andThen hW (ih.expr c a b (base_ok hs hiT hf hok.1 c List.mem_cons_self) hr hi) fun v s1 s2 _ hr1 hi1 => ?_
      refine .check (P.cond v) hr1 hi1 fun bv => ?_
      cases bv with
      | false => exact .same _ hr1 hi1
      | true => exact ih.block t s1 s2 f hc.2 hok.2.2 hf hr1 hi1
    · refine .andThen hW (ih.expr c a b (base_ok hs hiT hf hok.1 c List.mem_cons_self) hr hi) fun v s1 s2 _ hr1 hi1 => ?_
      refine .check (P.cond v) hr1 hi1 fun bv => ?_
      cases bv with
      | false => exact ih.block el s1 s2 f hc.2.2 hok.2.2.2 hf hr1 hi1
      | true => exact ih.block t s1 s2 f hc.2.1 hok.2.2.1 hf hr1 hi1
  | loop c body sid _ =>
    cases hsid
    obtain ⟨bd, _⟩ := body
    rw [execStmt_loop, execStmt_loop]
    exact ih.loop c bd a b f (base_ok hs hiT hf hok.1 c List.mem_cons_self) hc.2 hok.2.2 hf hr hi
  | block body sid _ =>
    cases hsid
    obtain ⟨bd, _⟩ := body
    rw [execStmt_block, execStmt_block]
    exact ih.block bd a b f hc.2 hok.2.2 hf hr hi
  | fnDef => rw [execStmt_fnDef, execStmt_fnDef]; exact .same _ hr hi
  | ret e sid _ =>
    cases hsid
    cases e with
    | none => rw [execStmt_retNone, execStmt_retNone]; exact .same _ hr hi
    | some e =>
      rw [execStmt_ret, execStmt_ret]
      refine .andThen hW (ih.expr e a b (base_ok hs hiT hf hok.1 e List.mem_cons_self) hr hi) fun v s1 s2 _ hr1 hi1 => ?_
      exact .same _ hr1 hi1
  | brk => rw [execStmt_brk, execStmt_brk]; exact .same _ hr hi
  | cont => rw [execStmt_cont, execStmt_cont]; exact .same _ hr hi
  | expr e sid _ =>
    cases hsid
    rw [execStmt_expr, execStmt_expr]
    refine .andThen hW (ih.expr e a b (base_ok hs hiT hf hok.1 e List.mem_cons_self) hr hi) fun v s1 s2 _ hr1 hi1 => ?_
    exact .same _ hr1 hi1

theorem Quiet.andThen {e : Expr} (hq : Quiet P e) (m : Nat) (st : St V) (k : V → St V → R V β) :
    (∃ er, Bad (.error er : Except Err β) ∧ andThen (evalExpr P plain m e st) k = (.error er, st)) ∨
      ∃ v, andThen (evalExpr P plain m e st) k = k v st := by
  obtain ⟨h1, h2⟩ := hq plain m st
  generalize evalExpr P plain m e st = r at h1 h2 ⊢
  obtain ⟨x, s'⟩ := r
  obtain rfl : s' = st := h1
  rcases h2 with ⟨v, hv⟩ | hb
  · obtain rfl : x = .ok v := hv
    exact Or.inr ⟨v, rfl⟩
  · obtain ⟨er, rfl, hb'⟩ := Bad.error (β := β) hb.bad
    exact Or.inl ⟨er, hb', rfl⟩

/-- A skipped statement at a reachable point is a quiet store to a local nothing reads: its plain run changes only the
environment, to a related one. -/
theorem skipped_is_store (hs : SetupOk S) {f i : Nat} {s : Stmt} (hsid : s.sid = some i) (hiT : (i, true) ∈ S.T)
    (hsk : S.cfg.skip i = true) (hok : SOk P S f s) (m : Nat) {ea : List (Scope V)} (b : St V)
    (hr : EnvRel S.D1 S.D2 ea b.env) :
    (∃ er, Bad (.error er : Except Err (Flow V)) ∧ execStmt P plain m s b = (.error er, b)) ∨
      ∃ env', EnvRel S.D1 S.D2 ea env' ∧ execStmt P plain m s b = (.ok .normal, { b with env := env' }) := by
  have hlive := hs.func i hiT
  cases m with
  | zero => exact Or.inl ⟨_, bad_fuel, rfl⟩
  | succ m =>
    cases s with
    | assign vr vs e bd sid sp =>
      cases hsid
      rcases hok.2.1 hsk with hdead | ⟨l, rfl, hd, hq⟩
      · exact absurd hdead hlive
      rw [execStmt_assign]
      rcases hq.andThen m b _ with h | ⟨v, hv⟩
      · exact Or.inl h
      · exact Or.inr ⟨defineEnv l v b.env, define_plain hd _ _ hr, hv⟩
    | assignExisting vr vs e bd sid sp =>
      cases hsid
      rcases hok.2.1 hsk with hdead | ⟨l, rfl, hd, hq⟩
      · exact absurd hdead hlive
      rw [execStmt_assignExisting]
      rcases hq.andThen m b _ with h | ⟨v, hv⟩
      · exact Or.inl h
      rw [hv, Option.bind_some]
      cases ha : assignEnv P.dscope l v b.env with
      | none => exact Or.inl ⟨_, bad_unbound, rfl⟩
      | some env' => exact Or.inr ⟨env', assign_plain hd _ _ _ _ hr ha, rfl⟩
    | assignIndex _ _ sid _ => cases hsid; exact absurd (hok.2 hsk) hlive
    | ifS _ tb eb sid _ =>
      cases hsid
      obtain ⟨_, _⟩ := tb
      rcases eb with _ | ⟨_, _⟩ <;> exact absurd (hok.2.1 hsk) hlive
    | loop _ body sid _ => cases hsid; obtain ⟨_, _⟩ := body; exact absurd (hok.2.1 hsk) hlive
    | block body sid _ => cases hsid; obtain ⟨_, _⟩ := body; exact absurd (hok.2.1 hsk) hlive
    | fnDef _ _ _ body g sid _ =>
      cases hsid
      obtain ⟨_, _⟩ := body
      cases g with
      | none => exact absurd (hok.2 hsk) hlive
      | some g => exact absurd (hok.2.1 hsk) hlive
    | ret e sid _ => cases hsid; cases e <;> exact absurd (hok.2 hsk) hlive
    | brk sid _ => cases hsid; exact absurd (hok.2 hsk) hlive
    | cont sid _ => cases hsid; exact absurd (hok.2 hsk) hlive
    | expr _ sid _ => cases hsid; exact absurd (hok.2 hsk) hlive

theorem rstep_stmts (hs : SetupOk S) (ih : Sim P S n) : ∀ (ss : List Stmt) (a b : St V) (f : Nat),
    ConsStmts S.T true ss → SOkList P S f ss → S.BR f = true → Rel S a b → Inv2 P S b →
    (simRel P S).Out (execStmts P S.cfg (n + 1) ss a) (execStmts P plain (n + 1) ss b)
  | [], a, b, f, _, _, _, hr, hi => by rw [execStmts_nil, execStmts_nil]; exact .same _ hr hi
  | s :: ss, a, b, f, ⟨hc1, hc2⟩, ⟨hok1, hok2⟩, hf, hr, hi => by
      rw [execStmts_cons, execStmts_cons]
      cases hsid : s.sid with
      | none => exact .same _ hr hi
      | some i =>
        have hiT : (i, true) ∈ S.T := consStmt_inTbl hc1 i hsid
        have hi' : Inv2 P S { b with trace := i :: b.trace } :=
          ⟨⟨hi.1.1, List.forall_mem_cons.mpr ⟨hiT, hi.1.2⟩⟩, hi.2.1, hi.2.2⟩
        dsimp only
        rw [if_neg (show ¬ plain.skip i = true from Bool.false_ne_true)]
        cases hsk : S.cfg.skip i with
        | false =>
          rw [if_neg Bool.false_ne_true]
          have hr' : Rel S { a with trace := i :: a.trace } { b with trace := i :: b.trace } := hr
          refine .andThen (simRel_ok hs) (ih.stmt s _ _ f i hsid hsk hc1 hok1 hf hr' hi') fun fl s1 s2 hb hr1 hi1 => ?_
          cases fl with
          | normal =>
            rw [(normal_after P n).2.2 s _ (by rw [hb])] at hc2
            exact ih.stmts ss s1 s2 f hc2 hok2 hf hr1 hi1
          | ret v => exact .same _ hr1 hi1
          | brk => exact .same _ hr1 hi1
          | cont => exact .same _ hr1 hi1
        | true =>
          rw [if_pos rfl]
          rcases skipped_is_store hs hsid hiT hsk hok1 n { b with trace := i :: b.trace } hr.2.2 with
            ⟨er, hb, hv⟩ | ⟨env', he, hv⟩
          · rw [hv]; exact .bad hb hi'
          · rw [(normal_after P n).2.2 s _ (by rw [hv])] at hc2
            rw [hv, andThen_ok]
            exact ih.stmts ss a _ f hc2 hok2 hf ⟨hr.1, hr.2.1, he⟩ hi'

theorem sokList_mem {f : Nat} : ∀ {ss : List Stmt}, SOkList P S f ss → ∀ s ∈ ss, SOk P S f s
  | s :: ss, h, s', hm => by
      rcases List.mem_cons.mp hm with rfl | hm
      · exact h.1
      · exact sokList_mem h.2 s' hm

theorem hoist_ok2 (f : Nat) (ss : List Stmt) (h : SOkList P S f ss) : ∀ fd ∈ hoist ss, SOkList P S fd.id fd.body := by
  intro fd hfd
  obtain ⟨s, hm, nm, ns, bs, sid, sp, rfl⟩ := mem_hoist hfd
  have hs := sokList_mem h _ hm
  cases sid with
  | none => exact hs
  | some j => exact hs.2.2

theorem rstep_block (ih : Sim P S n) (ss : List Stmt) (a b : St V) (f : Nat)
    (hcs : ConsStmts S.T true ss) (hok : SOkList P S f ss) (hf : S.BR f = true) (hr : Rel S a b) (hi : Inv2 P S b) :
    (simRel P S).Out (execBlock P S.cfg (n + 1) ss a) (execBlock P plain (n + 1) ss b) := by
  simp only [execBlock_succ]
  exact out_pop (ih.stmts ss _ _ f hcs hok hf (rel_push hr _ _)
    (inv2_push hi _ (hoist_ok true ss hcs) (hoist_ok2 f ss hok))) id fun _ h => h

theorem rstep_loop (hs : SetupOk S) (ih : Sim P S n) (c : Expr) (bd : List Stmt) (a b : St V) (f : Nat)
    (hc : eOk S.BR S.D2 c = true) (hcs : ConsStmts S.T true bd) (hok : SOkList P S f bd) (hf : S.BR f = true)
    (hr : Rel S a b) (hi : Inv2 P S b) :
    (simRel P S).Out (execLoop P S.cfg (n + 1) c bd a) (execLoop P plain (n + 1) c bd b) := by
  simp only [execLoop_succ]
  refine .andThen (simRel_ok hs) (ih.expr c a b hc hr hi) fun v s1 s2 _ hr1 hi1 => ?_
  refine .check (P.cond v) hr1 hi1 fun bv => ?_
  cases bv with
  | false => exact .same _ hr1 hi1
  | true =>
    refine .andThen (simRel_ok hs) (ih.block bd s1 s2 f hcs hok hf hr1 hi1) fun fl t1 t2 _ hr2 hi2 => ?_
    cases fl with
    | brk => exact .same _ hr2 hi2
    | ret w => exact .same _ hr2 hi2
    | normal => exact ih.loop c bd t1 t2 f hc hcs hok hf hr2 hi2
    | cont => exact ih.loop c bd t1 t2 f hc hcs hok hf hr2 hi2

end step

theorem sim_all (P : Prims V) {S : Setup} (hs : SetupOk S) : ∀ n, Sim P S n
  | 0 => sim_zero P S
  | n + 1 =>
      have ih := sim_all P hs n
      have ihe := ih.exprSim.step (simRel_ok hs) (rstep_userCall hs ih)
      { expr := ihe.expr
        list := ihe.list
        block := rstep_block ih
        stmts := rstep_stmts hs ih
        stmt := rstep_stmt hs ih
        loop := rstep_loop hs ih }

end NaijaVerif.C03
