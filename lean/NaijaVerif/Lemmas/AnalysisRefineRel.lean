import NaijaVerif.Lemmas.AnalysisRefineScope
import NaijaVerif.Lemmas.AnalysisBridge
/-
BRIDGE: the result relation of the refinement.  `RSim` relates a result of the fragment (`Except Err α × St`) with a
result of `Eval` (`Res`): equal values in related states, or corresponding errors with equal output (an error of `Eval`
leaves the scopes in place, the fragment pops them: only the output is compared).  Fuel exhaustion is related to nothing.
The two evaluators count fuel differently, so the refinement is a statement about both as functions of their fuel (`Bis`,
`Lemmas/AnalysisRefineConv.lean`).
-/
namespace NaijaVerif.C03
open NaijaVerif NaijaVerif.Analysis

/-- What a statement of the bridge is about.  The plan occurs twice, in `rc.plan` and in `plan`, in the two models' own
types; `Brg.Ok.plan` says they are the same plan. -/
structure Brg where
  rc : Eval.RunCfg
  ds : Nat → Option Nat
  ss : Nat → Option Nat
  plan : Option Analysis.Plan
  o : Orc

variable {N : Type} [NumOps N]

def Brg.P (B : Brg) : AEval.Prims (VE N) := evalPrims B.rc B.ds B.ss
def Brg.ac (B : Brg) : AEval.Cfg := AEval.Cfg.ofPlan B.plan

abbrev Brg.Sim (B : Brg) (s : Eval.State N) (t : AEval.St (VE N)) : Prop := StSim B.o B.ds B.ac.dropFn s t

/-- `Eval` runs the current code (`panics = false`: a fixed site reports its `fallback` error, any other site crashes the
interpreter, see `trap_sim`) with the declaring-scope lookup (`lookup = .dynamic`) and the same plan.  The head of
`Model/Eval.lean` says which state of the interpreter each setting of `panics` and `lookup` is, the head of
`Lemmas/AnalysisBridge.lean` why the bridge is stated for these two. -/
structure Brg.Ok (N : Type) [NumOps N] (B : Brg) : Prop where
  lookup : B.rc.lookup = .dynamic
  panics : B.rc.panics = false
  plan : B.rc.plan = B.plan.map toEvalPlan
  orc : OrcOk N B.ds B.ss B.o

theorem Brg.Ok.skip {B : Brg} (h : B.Ok N) (i : Nat) : Eval.Plan.prunesStmt B.rc.plan (some i) = B.ac.skip i := by
  rw [h.plan]; cases hp : B.plan <;> simp [Brg.ac, hp, AEval.Cfg.ofPlan, Eval.Plan.prunesStmt, toEvalPlan]

theorem Brg.Ok.drop {B : Brg} (h : B.Ok N) (i : Nat) : Eval.Plan.prunesFn B.rc.plan (some i) = B.ac.dropFn i := by
  rw [h.plan]; cases hp : B.plan <;> simp [Brg.ac, hp, AEval.Cfg.ofPlan, Eval.Plan.prunesFn, toEvalPlan]

/-- The table of corresponding errors (head of `Lemmas/AnalysisBridge.lean`): `Err.rt` of the code of the runtime error,
`Err.unbound` for `undefinedVariable` as well (the fragment has an error of its own for a failed lookup, `Eval` reports the
runtime error), `Err.panic` for a crash of the interpreter. -/
def ErrSim {β : Type} (er : AEval.Err) (t' : AEval.St (VE N)) : Eval.Res N β → Prop
  | .err k _ s' => (er = .rt (rtCode k) ∨ (er = .unbound ∧ k = .undefinedVariable)) ∧ s'.out = t'.out.reverse
  | .panic _ s' => er = .panic ∧ s'.out = t'.out.reverse
  | .ok _ _ => False
  | .fuel => False

def RSim {α β : Type} (B : Brg) (vr : α → β → Prop) (a : AEval.R (VE N) α) (r : Eval.Res N β) : Prop :=
  match a.1 with
  | .ok x => ∃ y s', r = .ok y s' ∧ vr x y ∧ B.Sim s' a.2
  | .error er => ErrSim er a.2 r

section
variable {α β γ δ : Type} {B : Brg}

omit [NumOps N] in
theorem ErrSim.bind {er : AEval.Err} {t' : AEval.St (VE N)} {r : Eval.Res N β} (h : ErrSim er t' r)
    (k : β → Eval.State N → Eval.Res N δ) : ErrSim er t' (r.bind k) ∧ ∀ k', r.bind k' = r.bind k := by
  cases r with
  | ok _ _ => cases h
  | fuel => cases h
  | err kd sp s' => exact ⟨h, fun _ => rfl⟩
  | panic site s' => exact ⟨h, fun _ => rfl⟩

theorem trap_sim (hB : B.Ok N) {s : Eval.State N} {t : AEval.St (VE N)} (hout : s.out = t.out.reverse)
    (site : Eval.PanicSite) (sp : Span) :
    ErrSim (β := β) (siteErr site) t (Eval.trap B.rc site sp s) := by
  simp only [Eval.trap, hB.panics, Bool.false_or, siteErr]
  cases site.fixed with
  | true => exact ⟨Or.inl rfl, hout⟩
  | false => exact ⟨rfl, hout⟩

theorem fault_sim (hB : B.Ok N) {s : Eval.State N} {t : AEval.St (VE N)} (hout : s.out = t.out.reverse)
    (flt : Eval.Fault) (sp : Span) : ErrSim (β := β) (faultErr flt) t (Eval.Res.ofFault B.rc flt sp s) := by
  cases flt with
  | rt k sp' => exact ⟨Or.inl rfl, hout⟩
  | panic site => exact trap_sim hB hout site sp

theorem ofExcept_sim (hB : B.Ok N) {s : Eval.State N} {t : AEval.St (VE N)} (h : B.Sim s t)
    (x : Except Eval.Fault β) (sp : Span) :
    RSim B Eq ((liftE x, t) : AEval.R (VE N) β) (Eval.Res.ofExcept B.rc x sp s) := by
  cases x with
  | ok b => exact ⟨b, s, rfl, rfl, h⟩
  | error flt => exact fault_sim hB h.out flt sp

omit [NumOps N] in
theorem RSim.ok {vr : α → β → Prop} {x : α} {y : β} {s : Eval.State N} {t : AEval.St (VE N)} (hv : vr x y)
    (h : B.Sim s t) : RSim B vr ((.ok x, t) : AEval.R (VE N) α) (.ok y s) := ⟨y, s, rfl, hv, h⟩

omit [NumOps N] in
theorem RSim.err {vr : α → β → Prop} {er : AEval.Err} {r : Eval.Res N β} {t : AEval.St (VE N)} (h : ErrSim er t r) :
    RSim B vr ((.error er, t) : AEval.R (VE N) α) r := h

end

def FlowSim : AEval.Flow (VE N) → Eval.Flow N → Prop
  | .normal, .cont => True
  | .ret v, .ret w => v = w
  | .brk, .brk => True
  | .cont, .next => True
  | _, _ => False

omit [NumOps N] in
theorem FlowSim.inv {fl : AEval.Flow (VE N)} {fl' : Eval.Flow N} (h : FlowSim fl fl') :
    (fl = .normal ∧ fl' = .cont) ∨ (∃ v, fl = .ret v ∧ fl' = .ret v) ∨ (fl = .brk ∧ fl' = .brk) ∨
      (fl = .cont ∧ fl' = .next) := by
  unfold FlowSim at h
  split at h
  · exact Or.inl ⟨rfl, rfl⟩
  · exact Or.inr (Or.inl ⟨_, rfl, by rw [h]⟩)
  · exact Or.inr (Or.inr (Or.inl ⟨rfl, rfl⟩))
  · exact Or.inr (Or.inr (Or.inr ⟨rfl, rfl⟩))
  · exact h.elim

/-- "Not cut short by the fuel", of a result of the fragment (`NF`) and of a result of `Eval` (`NE`). -/
def NF {α : Type} (a : AEval.R (VE N) α) : Prop := a.1 ≠ .error .fuel

def NE {β : Type} (r : Eval.Res N β) : Prop := r ≠ .fuel

omit [NumOps N] in
theorem nf_ok {α : Type} (x : α) (t : AEval.St (VE N)) : NF ((.ok x, t) : AEval.R (VE N) α) := by
  intro h; cases h

omit [NumOps N] in
theorem nf_err {α β : Type} {er : AEval.Err} {t t' : AEval.St (VE N)}
    (h : NF ((.error er, t) : AEval.R (VE N) α)) : NF ((.error er, t') : AEval.R (VE N) β) := by
  intro h'; cases h'; exact h rfl

omit [NumOps N] in
theorem sim_init (B : Brg) (hin : B.rc.input = []) : B.Sim (N := N) (Eval.State.init B.rc) (AEval.St.init (VE N)) := by
  refine ⟨⟨⟨fun l => rfl, fun l => ?_, fun g => ?_⟩, trivial⟩, rfl, hin⟩
  · simp
  · cases B.ac.dropFn g <;> simp [ORel2]

end NaijaVerif.C03
