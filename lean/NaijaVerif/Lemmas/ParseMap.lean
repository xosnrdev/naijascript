import NaijaVerif.Lemmas.ParseFuel
import NaijaVerif.Lemmas.SpanMapAst
/-
The parser never decides on the positions in a token's span, nor on the `escaped` flag of a string
token where `parse_string_literal` does not read it.  So it commutes with `mapSt τ ν`, where `ν`
relabels positions (`ν 0 = 0`, for the fabricated `0..0` spans) and `τ` is `Unseen`.  Span erasure is
`τ = id`, `ν = fun _ => 0` (`Lemmas/ParseErase.lean`); forgetting the flag is `τ = flagErase`, `ν = id`
(`Lemmas/ParseFlag.lean`).

Method: unfold one step on both sides; on the mapped run move the maps outward (`mapSt τ ν st.bump`
for `(mapSt τ ν st).bump`), so each question asked of the mapped state becomes the same question
asked of `st`, and the induction hypotheses replace the recursive calls.
-/
namespace NaijaVerif.Parse
open NaijaVerif NaijaVerif.SpanMap

def mapSpan (ν : Nat → Nat) (s : Span) : Span := ⟨ν s.lo, ν s.hi⟩

def mapDiag (ν : Nat → Nat) (d : Diag) : Diag :=
  { d with span := mapSpan ν d.span, labels := d.labels.map (mapSpan ν) }

/-- The same function as `Tok.isStr` of `Lemmas/LexInv.lean`, said again so that the parser lemmas do not import the
lexer's. -/
def isStrTok : Tok → Bool
  | .str _ _ => true
  | _ => false

/-- `τ` changes at most the `escaped` flag of string tokens, and that only where `parse_string_literal`
gives the same parts either way.  Every other token is fixed because the parser does see it: all its other tests are
`== c` against a constant `c` or a look-up in a table, and they give the same answer before and after `τ` just because
`τ` moves nothing but string tokens (`Unseen.beq`, `Unseen.app`). -/
structure Unseen (τ : Tok → Tok) : Prop where
  str : ∀ c e, ∃ e', τ (.str c e) = .str c e' ∧ strParts c e' = strParts c e
  other : ∀ t, isStrTok t = false → τ t = t

theorem unseen_id : Unseen id := ⟨fun _ e => ⟨e, rfl, rfl⟩, fun _ _ => rfl⟩

def mapTok (τ : Tok → Tok) (ν : Nat → Nat) (t : SpTok) : SpTok := ⟨τ t.tok, mapSpan ν t.span⟩

def mapSt (τ : Tok → Tok) (ν : Nat → Nat) (st : PState) : PState :=
  ⟨mapTok τ ν st.cur, st.rest.map (mapTok τ ν), st.errs.map (mapDiag ν)⟩

section
variable {τ : Tok → Tok} {ν : Nat → Nat}

theorem isStrTok_true {t : Tok} (h : isStrTok t = true) : ∃ c e, t = .str c e := by
  unfold isStrTok at h
  split at h
  · exact ⟨_, _, rfl⟩
  · cases h

theorem Unseen.cases (hτ : Unseen τ) (t : Tok) : τ t = t ∨ ∃ c e e', t = .str c e ∧ τ t = .str c e' := by
  cases hs : isStrTok t with
  | false => exact .inl (hτ.other t hs)
  | true =>
    obtain ⟨c, e, rfl⟩ := isStrTok_true hs
    obtain ⟨e', h, -⟩ := hτ.str c e
    exact .inr ⟨c, e, e', rfl, h⟩

theorem Unseen.app (hτ : Unseen τ) {α} (g : Tok → α) (hg : ∀ c e e', g (.str c e) = g (.str c e'))
    (t : Tok) : g (τ t) = g t := by
  rcases hτ.cases t with h | ⟨c, e, e', rfl, h⟩
  · rw [h]
  · rw [h]; exact hg c e' e

theorem Unseen.beq (hτ : Unseen τ) (t : Tok) {c : Tok} (hc : isStrTok c = false) : (τ t == c) = (t == c) := by
  have hne : ∀ a e, (Tok.str a e == c) = false := fun a e => beq_eq_false_iff_ne.2 fun h => by rw [← h] at hc; cases hc
  exact hτ.app (· == c) (fun a e e' => (hne a e).trans (hne a e').symm) t

theorem Unseen.eof (hτ : Unseen τ) : τ .eof = .eof := hτ.other _ rfl

@[simp] theorem mapSpan_lo (s : Span) : (mapSpan ν s).lo = ν s.lo := rfl
@[simp] theorem mapSpan_hi (s : Span) : (mapSpan ν s).hi = ν s.hi := rfl
theorem mapSpan_mk (a b : Nat) : (⟨ν a, ν b⟩ : Span) = mapSpan ν ⟨a, b⟩ := rfl

@[simp] theorem mapTok_tok (t : SpTok) : (mapTok τ ν t).tok = τ t.tok := rfl
@[simp] theorem mapTok_span (t : SpTok) : (mapTok τ ν t).span = mapSpan ν t.span := rfl
@[simp] theorem mapSt_cur (st : PState) : (mapSt τ ν st).cur = mapTok τ ν st.cur := rfl
@[simp] theorem mapSt_errs (st : PState) : (mapSt τ ν st).errs = st.errs.map (mapDiag ν) := rfl
@[simp] theorem mapSt_cur_tok (st : PState) : (mapSt τ ν st).cur.tok = τ st.cur.tok := rfl
@[simp] theorem mapSt_cur_span (st : PState) : (mapSt τ ν st).cur.span = mapSpan ν st.cur.span := rfl

theorem mapSt_bump (hτ : Unseen τ) (st : PState) : (mapSt τ ν st).bump = mapSt τ ν st.bump := by
  unfold PState.bump
  cases h : st.rest <;> simp [mapSt, h, mapTok, eofAt, mapSpan, hτ.eof]

theorem mapSt_err1 (st : PState) (k : DiagKind) (sp : Span) :
    (mapSt τ ν st).err1 k (mapSpan ν sp) = mapSt τ ν (st.err1 k sp) := rfl

theorem mapSt_take (hτ : Unseen τ) (st : PState) : (mapSt τ ν st).take = mapSt τ ν st.take := by
  simp [PState.take, mapSt, mapTok, hτ.eof]

theorem mapSt_expect (hτ : Unseen τ) (st : PState) {t : Tok} (ht : isStrTok t = false) (k : DiagKind)
    (sp : Span) : (mapSt τ ν st).expect t k (mapSpan ν sp) = mapSt τ ν (st.expect t k sp) := by
  unfold PState.expect
  rw [mapSt_cur_tok, hτ.beq _ ht]
  split
  · exact mapSt_bump hτ st
  · rfl

theorem mapSt_sync (hτ : Unseen τ) (st : PState) : (mapSt τ ν st).sync = mapSt τ ν st.sync := by
  have hs : ∀ st : PState, isSync (mapSt τ ν st).cur.tok = isSync st.cur.tok :=
    fun st => hτ.app isSync (fun _ _ _ => rfl) st.cur.tok
  refine sync_induct (M := fun a b => (mapSt τ ν a).sync = mapSt τ ν b) (fun st h => ?_) (fun st h ih => ?_) st
  · rw [sync_eq, hs, if_pos h]
  · rw [sync_eq, hs, h, mapSt_bump hτ, ih]; rfl

theorem mapSt_init (hν : ν 0 = 0) (hτ : Unseen τ) (toks : List SpTok) :
    PState.init (toks.map (mapTok τ ν)) = mapSt τ ν (PState.init toks) := by
  cases toks <;> simp [PState.init, mapSt, mapTok, mapSpan, hν, hτ.eof]

theorem atomOf_map (hτ : Unseen τ) (t : SpTok) : atomOf (mapTok τ ν t) = (atomOf t).map (mapExpr (mapSpan ν)) := by
  obtain ⟨tok, sp⟩ := t
  cases hs : isStrTok tok with
  | false =>
    simp only [mapTok, hτ.other _ hs]
    unfold atomOf
    dsimp only
    split <;> rfl
  | true =>
    obtain ⟨c, e, rfl⟩ := isStrTok_true hs
    obtain ⟨e', h, hp⟩ := hτ.str c e
    simp [atomOf, mapTok, h, hp, mapExpr]

theorem parseField_map (hτ : Unseen τ) (st : PState) :
    parseField (mapSt τ ν st)
      = ((parseField st).1, mapSpan ν (parseField st).2.1, mapSt τ ν (parseField st).2.2) := by
  unfold parseField
  simp only [mapSt_cur_tok, mapSt_cur_span, mapSt_err1, mapSt_bump hτ]
  rcases hτ.cases st.cur.tok with h | ⟨c, e, e', ht, h⟩
  · rw [h]; split
    · rfl
    · split <;> rfl
  · rw [h, ht]; rfl

theorem closeBracket_map (hτ : Unseen τ) (st : PState) :
    closeBracket (mapSt τ ν st) = (ν (closeBracket st).1, mapSt τ ν (closeBracket st).2) := by
  rw [closeBracket_eq, closeBracket_eq, mapSt_cur_span, mapSt_expect hτ st rfl]
  rfl

theorem args_map (hτ : Unseen τ) {f : Nat} {c : Tok} (hc : isStrTok c = false)
    (ihl : ∀ st, parseElems f c (mapSt τ ν st) = (parseElems f c st).map fun r => (mapExprs (mapSpan ν) r.1, mapSt τ ν r.2))
    (st : PState) :
    (if (mapSt τ ν st).cur.tok == c then some ([], mapSt τ ν st) else parseElems f c (mapSt τ ν st))
      = (if st.cur.tok == c then some ([], st) else parseElems f c st).map
          fun r => (mapExprs (mapSpan ν) r.1, mapSt τ ν r.2) := by
  rw [mapSt_cur_tok, hτ.beq _ hc, ihl]
  split <;> rfl

theorem expr_map (hτ : Unseen τ) : ∀ f,
    (∀ bp st, parseExpr f bp (mapSt τ ν st)
      = (parseExpr f bp st).map fun r => (mapExpr (mapSpan ν) r.1, mapSt τ ν r.2)) ∧
    (∀ bp l st, parseCont f bp (mapExpr (mapSpan ν) l) (mapSt τ ν st)
      = (parseCont f bp l st).map fun r => (mapExpr (mapSpan ν) r.1, mapSt τ ν r.2)) ∧
    (∀ c st, isStrTok c = false → parseElems f c (mapSt τ ν st)
      = (parseElems f c st).map fun r => (mapExprs (mapSpan ν) r.1, mapSt τ ν r.2)) := by
  intro f
  induction f with
  | zero => simp [parseExpr, parseCont, parseElems]
  | succ f ih =>
    obtain ⟨ihe, ihc, ihl⟩ := ih
    refine ⟨fun bp st => ?_, fun bp l st => ?_, fun c st hc => ?_⟩
    · rw [parseExpr, parseExpr]
      simp only [mapSt_bump hτ, args_map hτ rfl (ihl .rbracket · rfl), ihe]
      simp only [mapSt_cur, atomOf_map hτ, mapTok_tok, mapTok_span, mapSpan_lo,
        hτ.beq _ (rfl : isStrTok .lparen = false), hτ.beq _ (rfl : isStrTok .lbracket = false),
        hτ.app unaryInfo (fun _ _ _ => rfl)]
      cases atomOf st.cur with
      | some e => exact ihc bp e st.bump
      | none =>
      cases unaryInfo st.cur.tok with
      | some u =>
        obtain ⟨op, ubp⟩ := u
        dsimp only [Option.map_none]
        cases parseExpr f ubp st.bump with
        | none => rfl
        | some r => simp only [Option.map_some, mapSt_cur_span, ← ihc]; rfl
      | none =>
      dsimp only [Option.map_none]
      by_cases hpar : (st.cur.tok == Tok.lparen) = true
      · rw [if_pos hpar, if_pos hpar]
        cases parseExpr f 0 st.bump with
        | none => rfl
        | some r =>
          simp only [Option.map_some, mapSt_expect hτ _ (rfl : isStrTok .rparen = false), mapSt_cur_span, ← ihc]
      rw [if_neg hpar, if_neg hpar]
      by_cases hbr : (st.cur.tok == Tok.lbracket) = true
      · rw [if_pos hbr, if_pos hbr]
        generalize (if st.bump.cur.tok == Tok.rbracket then some ([], st.bump) else parseElems f .rbracket st.bump) = x
        cases x with
        | none => rfl
        | some r => simp only [Option.map_some, closeBracket_map hτ, ← ihc]; rfl
      rw [if_neg hbr, if_neg hbr]
      simp only [mapSt_take hτ, mapSt_err1, mapSt_sync hτ, mapSt_cur_span, ← ihc]
      rfl
    · rw [parseCont, parseCont]
      simp only [mapSt_bump hτ, args_map hτ rfl (ihl .rparen · rfl), ihe]
      simp only [mapSt_cur_tok, mapSt_cur_span, mapExpr_span, mapSpan_lo,
        hτ.beq _ (rfl : isStrTok .dot = false), hτ.beq _ (rfl : isStrTok .lparen = false),
        hτ.beq _ (rfl : isStrTok .lbracket = false), hτ.app binInfo (fun _ _ _ => rfl), parseField_map hτ]
      by_cases hdot : (st.cur.tok == Tok.dot) = true
      · rw [if_pos hdot, if_pos hdot, ← ihc]; rfl
      rw [if_neg hdot, if_neg hdot]
      by_cases hpar : (st.cur.tok == Tok.lparen) = true
      · rw [if_pos hpar, if_pos hpar]
        generalize (if st.bump.cur.tok == Tok.rparen then some ([], st.bump) else parseElems f .rparen st.bump) = x
        cases x with
        | none => rfl
        | some r =>
          simp only [Option.map_some, mapSt_expect hτ _ (rfl : isStrTok .rparen = false), mapSt_cur_span, ← ihc]
          rfl
      rw [if_neg hpar, if_neg hpar]
      by_cases hbr : (st.cur.tok == Tok.lbracket) = true
      · rw [if_pos hbr, if_pos hbr]
        cases parseExpr f 0 st.bump with
        | none => rfl
        | some r => simp only [Option.map_some, closeBracket_map hτ, ← ihc]; rfl
      rw [if_neg hbr, if_neg hbr]
      cases binInfo st.cur.tok with
      | none => rfl
      | some b =>
        dsimp only
        split
        · rfl
        · cases parseExpr f _ st.bump with
          | none => rfl
          | some r => simp only [Option.map_some, mapSt_cur_span, ← ihc]; rfl
    · rw [parseElems, parseElems, ihe]
      cases parseExpr f 0 st with
      | none => rfl
      | some r =>
        simp only [Option.map_some, mapSt_cur_tok, hτ.beq _ (rfl : isStrTok .comma = false), hτ.beq _ hc,
          mapSt_bump hτ, ihl c _ hc]
        split
        · split
          · rfl
          · cases parseElems f c r.2.bump <;> rfl
        · rfl

theorem mapSpan_zero (hν : ν 0 = 0) : mapSpan ν ⟨0, 0⟩ = ⟨0, 0⟩ := by simp [mapSpan, hν]

theorem nameOrPlaceholder_map (hτ : Unseen τ) (st : PState) (sp : Span) :
    nameOrPlaceholder (mapSt τ ν st) (mapSpan ν sp)
      = ((nameOrPlaceholder st sp).1, mapSt τ ν (nameOrPlaceholder st sp).2) := by
  unfold nameOrPlaceholder
  simp only [mapSt_cur_tok, mapSt_cur_span, mapSt_err1]
  rcases hτ.cases st.cur.tok with h | ⟨c, e, e', ht, h⟩
  · rw [h]; split
    · rfl
    · split <;> rfl
  · rw [h, ht]; rfl

theorem paramStep_map (hτ : Unseen τ) (st : PState) :
    paramStep (mapSt τ ν st) = (paramStep st).map fun r => (mapParam (mapSpan ν) r.1, mapSt τ ν r.2) := by
  unfold paramStep
  simp only [mapSt_cur_tok, mapSt_cur_span, mapSt_err1]
  rcases hτ.cases st.cur.tok with h | ⟨c, e, e', ht, h⟩
  · rw [h]; split
    · rfl
    · split <;> rfl
  · rw [h, ht]; rfl

theorem parseParams_map (hτ : Unseen τ) : ∀ st : PState,
    parseParams (mapSt τ ν st) = ((parseParams st).1.map (mapParam (mapSpan ν)), mapSt τ ν (parseParams st).2) := by
  refine parseParams_induct
    (M := fun st r => parseParams (mapSt τ ν st) = (r.1.map (mapParam (mapSpan ν)), mapSt τ ν r.2))
    (fun st h => ?_) (fun st p st1 h hc => ?_) (fun st p st1 r h hc ih => ?_) <;>
    rw [parseParams_eq, paramStep_map hτ, h]
  · rfl
  · simp only [Option.map_some, mapSt_bump hτ, mapSt_cur_tok, hτ.beq _ (rfl : isStrTok .comma = false), hc]; rfl
  · simp only [Option.map_some, mapSt_bump hτ, mapSt_cur_tok, hτ.beq _ (rfl : isStrTok .comma = false), hc, ih]; rfl

def mapHdr (ν : Nat → Nat) (h : FnHeader) : FnHeader :=
  { name := h.name, doSpan := mapSpan ν h.doSpan, rparenSpan := mapSpan ν h.rparenSpan,
    startSpan := mapSpan ν h.startSpan, params := h.params.map (mapParam (mapSpan ν)) }

theorem parseFnHeader_map (hτ : Unseen τ) (start : Nat) (st : PState) :
    parseFnHeader (ν start) (mapSt τ ν st)
      = (mapHdr ν (parseFnHeader start st).1, mapSt τ ν (parseFnHeader start st).2) := by
  unfold parseFnHeader
  simp only [mapSt_cur_span, mapSt_bump hτ, nameOrPlaceholder_map hτ]
  generalize nameOrPlaceholder st.bump st.cur.span = q
  obtain ⟨name, s2⟩ := q
  simp only [mapSt_cur_span, mapSpan_hi, mapSpan_mk,
    mapSt_expect hτ _ (rfl : isStrTok .lparen = false), parseParams_map hτ]
  generalize parseParams (s2.bump.expect .lparen .expectedLParen ⟨start, st.bump.cur.span.hi⟩) = q
  obtain ⟨ps, s4⟩ := q
  rw [List.getLast?_map]
  cases ps.getLast? <;>
    simp only [Option.map_none, Option.map_some, mapParam, mapSt_cur_span, mapSpan_hi, mapSpan_mk,
      mapSt_expect hτ _ (rfl : isStrTok .rparen = false), mapSt_expect hτ _ (rfl : isStrTok .start = false)] <;>
    rfl

theorem parseMakeHeader_map (hν : ν 0 = 0) (hτ : Unseen τ) (st : PState) :
    parseMakeHeader (mapSt τ ν st)
      = ((parseMakeHeader st).1, mapSpan ν (parseMakeHeader st).2.1, mapSt τ ν (parseMakeHeader st).2.2) := by
  unfold parseMakeHeader
  simp only [mapSt_bump hτ, mapSt_cur_tok, mapSt_cur_span, mapSt_err1]
  rcases hτ.cases st.bump.cur.tok with h | ⟨c, e, e', ht, h⟩
  · rw [h]; split
    · rfl
    · split
      · rfl
      · simp only [mapSpan_zero hν]
  · rw [h, ht]; simp only [Tok.isReserved, Bool.false_eq_true, if_false, mapSpan_zero hν]

theorem openCond_map (hτ : Unseen τ) (sp : Span) (st : PState) :
    openCond (mapSpan ν sp) (mapSt τ ν st) = mapSt τ ν (openCond sp st) :=
  mapSt_expect hτ st rfl _ sp

theorem closeCond_map (hτ : Unseen τ) (start : Nat) (c : Expr) (st : PState) :
    closeCond (ν start) (mapExpr (mapSpan ν) c) (mapSt τ ν st)
      = (mapSpan ν (closeCond start c st).1, mapSt τ ν (closeCond start c st).2) := by
  unfold closeCond
  simp only [mapSt_cur_span, mapExpr_span, mapSpan_hi, mapSpan_mk,
    mapSt_expect hτ _ (rfl : isStrTok .rparen = false), mapSt_expect hτ _ (rfl : isStrTok .start = false)]

theorem finishAssign_map (hν : ν 0 = 0) (start : Nat) (t v : Expr) (st : PState) :
    finishAssign (ν start) (mapExpr (mapSpan ν) t) (mapExpr (mapSpan ν) v) (mapSt τ ν st)
      = (mapStmt (mapSpan ν) (finishAssign start t v st).1, mapSt τ ν (finishAssign start t v st).2) := by
  unfold finishAssign
  cases t <;> simp only [mapExpr, mapStmt, mapSt_cur_span, mapSpan_hi, mapSpan_mk, mapSt_err1, mapSpan_zero hν]

theorem stmt_map_step (hν : ν 0 = 0) (hτ : Unseen τ) (f : Nat)
    (ihb : ∀ st, parseBlock f (mapSt τ ν st) = (parseBlock f st).map fun r => (mapBlock (mapSpan ν) r.1, mapSt τ ν r.2))
    (st : PState) :
    parseStmt (f+1) (mapSt τ ν st) = (parseStmt (f+1) st).map fun r => (mapStmt (mapSpan ν) r.1, mapSt τ ν r.2) := by
  have ihe := (expr_map (ν := ν) hτ f).1
  have ihc := (expr_map (ν := ν) hτ f).2.1
  have hend := fun st k sp => mapSt_expect (ν := ν) hτ st (rfl : isStrTok .end = false) k sp
  have hstart := fun st k sp => mapSt_expect (ν := ν) hτ st (rfl : isStrTok .start = false) k sp
  rw [parseStmt, parseStmt]
  rcases hτ.cases st.cur.tok with h | ⟨c, e, e', ht, h⟩
  · simp only [mapSt_cur_tok, h, mapSt_cur_span, mapSpan_lo, mapSt_bump hτ, parseFnHeader_map hτ,
      parseMakeHeader_map hν hτ, openCond_map hτ, ihe, hτ.beq _ (rfl : isStrTok .end = false),
      hτ.beq _ (rfl : isStrTok .eof = false), hτ.beq _ (rfl : isStrTok .get = false), ihb]
    split
    · -- do
      cases parseBlock f (parseFnHeader st.cur.span.lo st).2 with
      | none => rfl
      | some r => simp only [Option.map_some, mapHdr, mapSpan_lo, mapSpan_hi, mapSpan_mk, hend]; rfl
    · -- return
      split
      · rfl
      · cases parseExpr f 0 st.bump <;> rfl
    · -- make
      split
      · cases parseExpr f 0 (parseMakeHeader st).2.2.bump <;> rfl
      · rfl
    · -- if to say
      cases parseExpr f 0 (openCond st.cur.span st.bump) with
      | none => rfl
      | some r =>
        simp only [Option.map_some, closeCond_map hτ, ihb]
        cases parseBlock f (closeCond st.cur.span.lo r.1 r.2).2 with
        | none => rfl
        | some b =>
          simp only [Option.map_some, mapSt_cur_span, hend, mapSt_cur_tok,
            hτ.beq _ (rfl : isStrTok .ifNotSo = false), mapSt_bump hτ, hstart, ihb]
          split
          · cases parseBlock f _ with
            | none => rfl
            | some b' => simp only [Option.map_some, mapSpan_lo, mapSpan_hi, mapSpan_mk, hend]; rfl
          · rfl
    · -- jasi
      cases parseExpr f 0 (openCond st.cur.span st.bump) with
      | none => rfl
      | some r =>
        simp only [Option.map_some, closeCond_map hτ, ihb]
        cases parseBlock f (closeCond st.cur.span.lo r.1 r.2).2 with
        | none => rfl
        | some b => simp only [Option.map_some, mapSpan_hi, mapSpan_mk, hend]; rfl
    · rfl -- comot
    · rfl -- next
    · -- start
      cases parseBlock f st.bump with
      | none => rfl
      | some b => simp only [Option.map_some, mapSt_cur_span, hend]; rfl
    · -- identifier
      rw [show Expr.var _ none (mapSpan ν st.cur.span) = mapExpr (mapSpan ν) (.var _ none st.cur.span) from rfl, ihc]
      cases parseCont f 0 _ st.bump with
      | none => rfl
      | some r =>
        simp only [Option.map_some, mapSt_cur_tok, hτ.beq _ (rfl : isStrTok .get = false), mapSt_bump hτ, ihe]
        split
        · cases parseExpr f 0 r.2.bump with
          | none => rfl
          | some v => simp only [Option.map_some, finishAssign_map hν]
        · rfl
    · -- recovery
      simp only [mapSt_err1, mapSt_bump hτ, mapSt_sync hτ, Option.map_some, mapStmt, mapExpr, mapSpan_zero hν]
  · -- a string token starts no statement: recovery on both sides
    rw [ht] at h
    simp only [mapSt_cur_tok, mapSt_cur_span, h, ht, mapSt_err1, mapSt_bump hτ, mapSt_sync hτ, Option.map_some,
      mapStmt, mapExpr, mapSpan_zero hν]

theorem stmt_map (hν : ν 0 = 0) (hτ : Unseen τ) : ∀ f,
    (∀ st, parseStmt f (mapSt τ ν st) = (parseStmt f st).map fun r => (mapStmt (mapSpan ν) r.1, mapSt τ ν r.2)) ∧
    (∀ st, parseStmts f (mapSt τ ν st) = (parseStmts f st).map fun r => (mapStmts (mapSpan ν) r.1, mapSt τ ν r.2)) ∧
    (∀ st, parseBlock f (mapSt τ ν st) = (parseBlock f st).map fun r => (mapBlock (mapSpan ν) r.1, mapSt τ ν r.2)) := by
  intro f
  induction f with
  | zero => simp [parseStmt, parseStmts, parseBlock]
  | succ f ih =>
    obtain ⟨ihs, ihl, ihb⟩ := ih
    refine ⟨stmt_map_step hν hτ f ihb, fun st => ?_, fun st => ?_⟩
    · rw [parseStmts, parseStmts, mapSt_cur_tok, hτ.app isBlockStop (fun _ _ _ => rfl), ihs]
      split
      · rfl
      · cases parseStmt f st with
        | none => rfl
        | some r => simp only [Option.map_some, ihl]; cases parseStmts f r.2 <;> rfl
    · rw [parseBlock, parseBlock, ihl]
      cases parseStmts f st <;> rfl

theorem top_map (hν : ν 0 = 0) (hτ : Unseen τ) : ∀ f st, parseTopStmts f (mapSt τ ν st)
    = (parseTopStmts f st).map fun r => (mapStmts (mapSpan ν) r.1, mapSt τ ν r.2) := by
  intro f
  induction f with
  | zero => simp [parseTopStmts]
  | succ f ih =>
    intro st
    rw [parseTopStmts, parseTopStmts, mapSt_cur_tok, hτ.app isStmtStart (fun _ _ _ => rfl),
      (stmt_map hν hτ f).1]
    split
    · cases parseStmt f st with
      | none => rfl
      | some r => simp only [Option.map_some, ih]; cases parseTopStmts f r.2 <;> rfl
    · rfl

/-- Holds for every fuel, including too little. -/
theorem parseProgramFuel_map (hν : ν 0 = 0) (hτ : Unseen τ) (f : Nat) (toks : List SpTok) :
    parseProgramFuel f (toks.map (mapTok τ ν))
      = (parseProgramFuel f toks).map fun r => (mapBlock (mapSpan ν) r.1, r.2.map (mapDiag ν)) := by
  unfold parseProgramFuel
  simp only [mapSt_init hν hτ, top_map hν hτ]
  cases parseTopStmts f (PState.init toks) with
  | none => rfl
  | some r =>
    simp only [Option.map_some, mapSt_cur_tok, mapSt_cur_span, bne, hτ.beq _ (rfl : isStrTok .eof = false)]
    split <;> simp [mapBlock, mapSpan, PState.err, mapDiag, mapSt_errs]

theorem parseProgram_map (hν : ν 0 = 0) (hτ : Unseen τ) (toks : List SpTok) :
    parseProgram (toks.map (mapTok τ ν))
      = (mapBlock (mapSpan ν) (parseProgram toks).1, (parseProgram toks).2.map (mapDiag ν)) := by
  have h := parseProgramFuel_map hν hτ (fuelFor toks) toks
  rw [parseProgramFuel_stable toks _ (Nat.le_refl _),
    parseProgramFuel_stable (toks.map (mapTok τ ν)) _ (by simp [fuelFor])] at h
  exact Option.some.inj h

end

end NaijaVerif.Parse
