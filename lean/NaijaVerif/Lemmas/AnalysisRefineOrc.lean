import NaijaVerif.Lemmas.AnalysisRefineOk
import NaijaVerif.Lemmas.AnalysisFactScopes
/-
The executable oracle `orcOf` for the static side conditions of the refinement theorem, computed from the facts, and its
soundness (`orcOf_ok`).  It stands apart from the theorem (`Lemmas/AnalysisRefineTop.lean`) because the proofs about the
resolver's output (`Lemmas/ResolveStructScope*.lean`) speak of the oracle only.
-/
namespace NaijaVerif.C03
open NaijaVerif NaijaVerif.Analysis

/-- Executable form of `TagOk` when `ds` is `none` from `nloc` on. -/
def tagOkB (nloc : Nat) (ds : Nat → Option Nat) (tag : Option Nat) (decls : List Nat) : Bool :=
  decls.all (fun l => tag.isSome && ds l == tag) &&
    (List.range nloc).all (fun l => !(tag.isSome && ds l == tag) || decls.contains l)

def orcOf (numOk : Bytes → Bool) (facts : Facts) (members : Bool := true) : Orc where
  num := numOk
  blk := fun stmts =>
    tagOkB facts.locals.length (declScopeOf facts) (AEval.blockTag (stmtScopeOf facts) stmts) (Eval.declIds stmts) &&
      decide (Eval.fnIdsOf stmts).Nodup
  par := fun ps =>
    ps.all (fun p => p.bind.isSome) && decide (ps.filterMap (·.bind)).Nodup &&
      tagOkB facts.locals.length (declScopeOf facts) (AEval.paramTag (declScopeOf facts) ps) (ps.filterMap (·.bind))
  members := members

theorem tagOkB_sound {nloc : Nat} {ds : Nat → Option Nat} (hds : ∀ l, nloc ≤ l → ds l = none) {tag : Option Nat}
    {decls : List Nat} (h : tagOkB nloc ds tag decls = true) : TagOk ds tag decls := by
  simp only [tagOkB, Bool.and_eq_true, List.all_eq_true, List.mem_range, Bool.or_eq_true, Bool.not_eq_true',
    beq_iff_eq] at h
  intro l
  constructor
  · intro hl
    have := h.1 l (by simpa using hl)
    cases tag with
    | none => simp at this
    | some tg => exact ⟨tg, by simpa using this, rfl⟩
  · rintro ⟨tg, hd, rfl⟩
    have hlt : l < nloc := by
      rcases Nat.lt_or_ge l nloc with hlt | hge
      · exact hlt
      · rw [hds l hge] at hd
        cases hd
    rcases h.2 l hlt with h' | h'
    · simp [hd] at h'
    · exact h'

variable {N : Type} [NumOps N]

theorem orcOf_ok (numOk : Bytes → Bool) (facts : Facts) (members : Bool)
    (hnum : ∀ lex, numOk lex = true → ∃ n : N, NumOps.ofLit lex = some n) :
    OrcOk N (declScopeOf facts) (stmtScopeOf facts) (orcOf numOk facts members) where
  num := hnum
  blk := by
    intro stmts h
    simp only [orcOf, Bool.and_eq_true, decide_eq_true_eq] at h
    exact ⟨tagOkB_sound (declScopeOf_none facts) h.1, h.2⟩
  par := by
    intro ps h
    simp only [orcOf, Bool.and_eq_true, decide_eq_true_eq, List.all_eq_true] at h
    exact ⟨h.1.1, h.1.2, tagOkB_sound (declScopeOf_none facts) h.2⟩

end NaijaVerif.C03
