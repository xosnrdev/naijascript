import NaijaVerif.Model.AnalysisEval
import NaijaVerif.Lemmas.AstInduction
/-
The syntactic condition under which two runs of an expression can be compared: `eOk X D e` — every user call in `e` goes to
a function in `X`, and `e` mentions no local of `D` (neither reads it, nor writes through it as the root of an l-value).
It is the hypothesis of the expression congruence (`Lemmas/AnalysisCong.lean`); each simulation chooses `X` and `D`.
-/
namespace NaijaVerif.C03
open NaijaVerif NaijaVerif.Analysis NaijaVerif.AEval

def segsOk (D : Nat → Bool) : List Seg → Bool
  | [] => true
  | .lit _ :: ss => segsOk D ss
  | .var _ (some id) :: ss => !D id && segsOk D ss
  | .var _ none :: ss => segsOk D ss

mutual
  def eOk (X D : Nat → Bool) : Expr → Bool
    | .var _ (some id) _ => !D id
    | .var _ none _ => true
    | .str (.interp segs) _ => segsOk D segs
    | .str (.static _) _ | .num _ _ | .bool _ _ | .null _ => true
    | .call (.var _ _ _) args fn _ => (match fn with | some f => X f | none => true) && eOkList X D args
    | .call (.member o _ _ _) args _ _ => eOk X D o && eOkList X D args
    | .call _ args _ _ => eOkList X D args
    | .binary _ l r _ => eOk X D l && eOk X D r
    | .index a i _ _ => eOk X D a && eOk X D i
    | .array es _ => eOkList X D es
    | .unary _ e _ => eOk X D e
    | .member o _ _ _ => eOk X D o
  def eOkList (X D : Nat → Bool) : List Expr → Bool
    | [] => true
    | e :: es => eOk X D e && eOkList X D es
end

/- `_mono2`: monotone in both arguments, the callee set (covariant) and the set of excluded locals (contravariant). -/
theorem segsOk_mono2 {D E : Nat → Bool} (hd : ∀ x, E x = true → D x = true) : ∀ segs : List Seg,
    segsOk D segs = true → segsOk E segs = true
  | [], _ => rfl
  | .lit _ :: ss, h | .var _ none :: ss, h => segsOk_mono2 hd ss h
  | .var _ (some x) :: ss, h => band_imp (bnot_imp (hd x)) (segsOk_mono2 hd ss) h

theorem eOk_mono2_both {X Y D E : Nat → Bool} (h : ∀ g, X g = true → Y g = true) (hd : ∀ x, E x = true → D x = true) :
    (∀ e : Expr, eOk X D e = true → eOk Y E e = true) ∧ (∀ es : List Expr, eOkList X D es = true → eOkList Y E es = true) := by
  apply Expr.walk
  case index => exact fun _ _ _ _ iha ihi => band_imp iha ihi
  case str =>
    intro p _ he
    cases p with
    | static => exact he
    | interp segs => exact segsOk_mono2 hd segs he
  case num => exact fun _ _ he => he
  case var =>
    intro _ b _ he
    cases b with
    | none => exact he
    | some x => exact bnot_imp (hd x) he
  case binary => exact fun _ _ _ _ ihl ihr => band_imp ihl ihr
  case callMember => exact fun _ _ _ _ _ _ _ iho iha => band_imp iho iha
  case call =>
    intro c args fn _ hc _ iha
    cases c with
    | var =>
      refine band_imp (fun hf => ?_) iha
      cases fn with
      | none => rfl
      | some g => exact h g hf
    | member o fld fs ms => exact absurd rfl (hc o fld fs ms)
    | _ => exact iha
  case array => exact fun _ _ ih => ih
  case unary => exact fun _ _ _ ih => ih
  case bool => exact fun _ _ he => he
  case member => exact fun _ _ _ _ ih => ih
  case null => exact fun _ he => he
  case nil => exact fun he => he
  case cons => exact fun _ _ ihe ihes => band_imp ihe ihes

theorem eOk_mono2 {X Y D E : Nat → Bool} (h : ∀ g, X g = true → Y g = true) (hd : ∀ x, E x = true → D x = true) :
    ∀ e : Expr, eOk X D e = true → eOk Y E e = true :=
  (eOk_mono2_both h hd).1

theorem eOkList_mono2 {X Y D E : Nat → Bool} (h : ∀ g, X g = true → Y g = true) (hd : ∀ x, E x = true → D x = true) :
    ∀ es : List Expr, eOkList X D es = true → eOkList Y E es = true :=
  (eOk_mono2_both h hd).2

theorem eOk_mono {X Y D : Nat → Bool} (h : ∀ g, X g = true → Y g = true) : ∀ e : Expr,
    eOk X D e = true → eOk Y D e = true := eOk_mono2 h fun _ hx => hx

theorem eOk_top : (∀ e : Expr, eOk (fun _ => true) (fun _ => false) e = true) ∧
    (∀ es : List Expr, eOkList (fun _ => true) (fun _ => false) es = true) := by
  apply Expr.walk
  case index => exact fun _ _ _ _ iha ihi => Bool.and_eq_true_iff.mpr ⟨iha, ihi⟩
  case str =>
    intro p _
    cases p with
    | static => rfl
    | interp segs =>
      show segsOk _ segs = true
      induction segs with
      | nil => rfl
      | cons s ss ih => rcases s with _ | ⟨_, _ | _⟩ <;> exact ih
  case num => exact fun _ _ => rfl
  case var => intro _ b _; cases b <;> rfl
  case binary => exact fun _ _ _ _ ihl ihr => Bool.and_eq_true_iff.mpr ⟨ihl, ihr⟩
  case callMember => exact fun _ _ _ _ _ _ _ iho iha => Bool.and_eq_true_iff.mpr ⟨iho, iha⟩
  case call =>
    intro c args fn _ hc _ iha
    cases c with
    | var => exact Bool.and_eq_true_iff.mpr ⟨by cases fn <;> rfl, iha⟩
    | member o fld fs ms => exact absurd rfl (hc o fld fs ms)
    | _ => exact iha
  case array => exact fun _ _ ih => ih
  case unary => exact fun _ _ _ ih => ih
  case bool => exact fun _ _ => rfl
  case member => exact fun _ _ _ _ ih => ih
  case null => exact fun _ => rfl
  case nil => rfl
  case cons => exact fun _ _ ihe ihes => Bool.and_eq_true_iff.mpr ⟨ihe, ihes⟩

theorem segsOk_ids {D : Nat → Bool} : ∀ (segs : List Seg), segsOk D segs = true →
    ∀ id, some id ∈ segIds segs → D id = false
  | [], _, _, hi => by simp [segIds] at hi
  | .lit _ :: ss, h, id, hi => by
      simp only [segsOk] at h; simp only [segIds] at hi
      exact segsOk_ids ss h id hi
  | .var _ (some j) :: ss, h, id, hi => by
      simp only [segsOk, Bool.and_eq_true, Bool.not_eq_true'] at h
      simp only [segIds, List.mem_cons, Option.some.injEq] at hi
      rcases hi with rfl | hi
      · exact h.1
      · exact segsOk_ids ss h.2 id hi
  | .var _ none :: ss, h, id, hi => by
      simp only [segsOk] at h
      simp only [segIds, List.mem_cons] at hi
      rcases hi with hi | hi
      · cases hi
      · exact segsOk_ids ss h id hi

theorem eOk_interpIds {X D : Nat → Bool} (e : Expr) (h : eOk X D e = true) :
    ∀ id, some id ∈ interpIds e → D id = false := by
  intro id hi
  cases e with
  | str p sp =>
    cases p with
    | «static» b => simp [interpIds] at hi
    | interp segs =>
      simp only [eOk] at h
      simp only [interpIds] at hi
      exact segsOk_ids segs h id hi
  | _ => simp [interpIds] at hi

theorem eOkList_append {X D : Nat → Bool} : ∀ (l1 l2 : List Expr), eOkList X D l1 = true → eOkList X D l2 = true →
    eOkList X D (l1 ++ l2) = true
  | [], _, _, h2 => h2
  | _ :: xs, l2, h1, h2 => band_imp (fun h => h) (fun h => eOkList_append xs l2 h h2) h1

theorem eOk_lvalue {X D : Nat → Bool} : ∀ (o : Expr) (root : Nat) (path : List Expr), eOk X D o = true →
    lvalue o = some (root, path) → D root = false ∧ eOkList X D path = true := by
  -- nothing is claimed of lists; the second conclusion is what `Expr.walk` asks for
  suffices h : (∀ (o : Expr) (root : Nat) (path : List Expr), eOk X D o = true →
      lvalue o = some (root, path) → D root = false ∧ eOkList X D path = true) ∧ ∀ _ : List Expr, True from h.1
  apply Expr.walk
  case var =>
    intro _ b _ root path h hl
    cases b with
    | none => cases hl
    | some id =>
      cases hl
      have hn : (!D root) = true := h
      exact ⟨by simpa only [Bool.not_eq_true'] using hn, rfl⟩
  case index =>
    intro a i _ _ iha _ root path h hl
    have h' := Bool.and_eq_true_iff.mp h
    rw [lvalue] at hl
    cases hla : lvalue a with
    | none => rw [hla] at hl; cases hl
    | some rp =>
      rw [hla] at hl
      cases hl
      have ih := iha rp.1 rp.2 h'.1 hla
      exact ⟨ih.1, eOkList_append _ _ ih.2 (Bool.and_eq_true_iff.mpr ⟨h'.2, rfl⟩)⟩
  case str => intro _ _ _ _ _ hl; cases hl
  case num => intro _ _ _ _ _ hl; cases hl
  case binary => intro _ _ _ _ _ _ _ _ _ hl; cases hl
  case callMember => intro _ _ _ _ _ _ _ _ _ _ _ _ hl; cases hl
  case call => intro _ _ _ _ _ _ _ _ _ _ hl; cases hl
  case array => intro _ _ _ _ _ _ hl; cases hl
  case unary => intro _ _ _ _ _ _ _ hl; cases hl
  case bool => intro _ _ _ _ _ hl; cases hl
  case member => intro _ _ _ _ _ _ _ _ hl; cases hl
  case null => intro _ _ _ _ hl; cases hl
  case nil => trivial
  case cons => exact fun _ _ _ _ => trivial

theorem eOk_mem {X D : Nat → Bool} : ∀ (es : List Expr), eOkList X D es = true → ∀ e ∈ es, eOk X D e = true
  | [], _, _, he => by cases he
  | x :: xs, h, e, he => by
      simp only [eOkList, Bool.and_eq_true] at h
      rcases List.mem_cons.mp he with rfl | he
      · exact h.1
      · exact eOk_mem xs h.2 e he

theorem eOk_children {X D : Nat → Bool} (e : Expr) (h : eOk X D e = true) : eOkList X D (children e) = true := by
  cases e with
  | index | binary => exact band_imp (fun h => h) (fun h => Bool.and_eq_true_iff.mpr ⟨h, rfl⟩) h
  | unary => exact Bool.and_eq_true_iff.mpr ⟨h, rfl⟩
  | array => exact h
  | _ => rfl

end NaijaVerif.C03
