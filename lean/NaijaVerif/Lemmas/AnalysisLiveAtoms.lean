import NaijaVerif.Lemmas.AnalysisLiveOk
/-
The statement-by-statement conditions `lokB` / `lokListB` (`Lemmas/AnalysisLiveOk.lean`) with their ATOMIC conditions
made a parameter (`Atoms`, `lokG`): `lokB L` is `lokG L (atomsOf L)` (`lok_eq_lokG`).  The walk is monotone in its atoms
and reads of the setting only the tables `c`, `ds`, `ss` (`lok_imp2`); passing to another plan (`lokB_trans`,
`Lemmas/AnalysisLiveMono.lean`) and `lokG` of a pointwise conjunction (`lokG_and`) are instances.
`lokB` is the condition as `c03_full` states it and the driver evaluates it, readable without `Atoms`; `lokG` is the same
text with nine holes, for what is proved of the walk as such.
The namespace is `ResolveStruct`: these are the definitions by which `Lemmas/ResolveStructLok.lean` splits `rootOkB`.
-/
namespace NaijaVerif.ResolveStruct
open NaijaVerif NaijaVerif.Analysis NaijaVerif.AEval NaijaVerif.C03

structure Atoms where
  /-- `baseB f σ i es` -/
  base : Nat → List (Option Nat) → Nat → List Expr → Bool
  /-- `writesOkB i` -/
  wok : Nat → Bool
  /-- `otherB i` -/
  other : Nat → Bool
  /-- `blockOkB f σ b` -/
  blk : Nat → List (Option Nat) → List Stmt → Bool
  /-- the target of a `make` belongs to the function: `owner l == some f` -/
  own : Nat → Nat → Bool
  /-- `ownStoreB f σ i isDecl l e st rest` -/
  store : Nat → List (Option Nat) → Nat → Bool → Nat → Expr → LS → List Stmt → Bool
  /-- a store to a captured variable: `writes i` empty, `l` among the transitive writes, not in the chain -/
  cap : Nat → List (Option Nat) → Nat → Nat → Bool
  /-- the loop fixpoint converged -/
  fix : Nat → Nat → List Stmt → LS → Bool
  /-- parameter scope and body scope of a definition, pure summaries backed by pure bodies -/
  fnh : Nat → List Param → List Stmt → Bool

def Atoms.and (A B : Atoms) : Atoms where
  base := fun f σ i es => A.base f σ i es && B.base f σ i es
  wok := fun i => A.wok i && B.wok i
  other := fun i => A.other i && B.other i
  blk := fun f σ b => A.blk f σ b && B.blk f σ b
  own := fun l f => A.own l f && B.own l f
  store := fun f σ i d l e st rest => A.store f σ i d l e st rest && B.store f σ i d l e st rest
  cap := fun f σ i l => A.cap f σ i l && B.cap f σ i l
  fix := fun f i b st => A.fix f i b st && B.fix f i b st
  fnh := fun g ps body => A.fnh g ps body && B.fnh g ps body

def loopX (L : LSetup) (f i : Nat) (b : List Stmt) (st : LS) : List Nat :=
  let bl := L.c.scopeLocalsOf b
  let a := st.live
  let head (x : List Nat) : List Nat :=
    (L.c.transfer f i (boundary (uni
      (lvStmts L.c f L.nl { brk := some a, cont := some x, kills := bl } b (boundary (dif x bl))).1.live a))).live
  lfp head (L.nl + 1) []

def atomsOf (L : LSetup) : Atoms where
  base := L.baseB
  wok := L.writesOkB
  other := L.otherB
  blk := L.blockOkB
  own := fun l f => L.c.owner l == some f
  store := L.ownStoreB
  cap := fun f σ i l => (L.c.writes i).isEmpty && (L.c.transWrites f).contains l && !L.inTags σ l
  fix := fun f i b st =>
    let bl := L.c.scopeLocalsOf b
    let a := st.live
    let x := loopX L f i b st
    subset ((L.c.transfer f i (boundary (uni
      (lvStmts L.c f L.nl { brk := some a, cont := some x, kills := bl } b (boundary (dif x bl))).1.live a))).live) x
  fnh := fun g ps body =>
    L.blockOkB g [paramTag L.ds ps] body &&
    (match paramTag L.ds ps with | some tg => L.scopeOwner tg == some g | none => true) && L.pureFnB g ps body

mutual
  def lokG (L : LSetup) (A : Atoms) (f : Nat) (σ : List (Option Nat)) (lc : LoopCtx) : Stmt → LS → List Stmt → Bool
    | .assign _ _ e b (some i) _, st, rest =>
        A.base f σ i [e] &&
        (match b with
         | some l => A.own l f && A.store f σ i true l e st rest
         | none => A.other i)
    | .assignExisting _ _ e b (some i) _, st, rest =>
        A.base f σ i [e] &&
        (match b with
         | some l =>
            if L.c.owner l == some f then A.store f σ i false l e st rest
            else A.cap f σ i l && A.other i
         | none => A.other i)
    | .assignIndex t e (some i) _, _, _ => A.base f σ i [t, e] && A.wok i && A.other i
    | .ifS c (.mk t _) none (some i) _, st, _ =>
        A.base f σ i [c] && A.wok i && A.other i && A.blk f σ t &&
        lokListG L A f (blockTag L.ss t :: σ) { lc with kills := uni (L.c.scopeLocalsOf t) lc.kills } t
          (boundary (dif st.live (L.c.scopeLocalsOf t)))
    | .ifS c (.mk t _) (some (.mk e _)) (some i) _, st, _ =>
        A.base f σ i [c] && A.wok i && A.other i && A.blk f σ t && A.blk f σ e &&
        lokListG L A f (blockTag L.ss t :: σ) { lc with kills := uni (L.c.scopeLocalsOf t) lc.kills } t
          (boundary (dif st.live (L.c.scopeLocalsOf t))) &&
        lokListG L A f (blockTag L.ss e :: σ) { lc with kills := uni (L.c.scopeLocalsOf e) lc.kills } e
          (boundary (dif st.live (L.c.scopeLocalsOf e)))
    | .loop c (.mk b _) (some i) _, st, _ =>
        A.base f σ i [c] && A.wok i && A.other i && A.blk f σ b && A.fix f i b st &&
        lokListG L A f (blockTag L.ss b :: σ)
          { brk := some st.live, cont := some (loopX L f i b st), kills := L.c.scopeLocalsOf b } b
          (boundary (dif (loopX L f i b st) (L.c.scopeLocalsOf b)))
    | .block (.mk b _) (some i) _, st, _ =>
        A.base f σ i [] && A.wok i && A.other i && A.blk f σ b &&
        lokListG L A f (blockTag L.ss b :: σ) { lc with kills := uni (L.c.scopeLocalsOf b) lc.kills } b
          { live := uni (inter st.gen (L.c.scopeLocalsOf b)) (dif st.live (L.c.scopeLocalsOf b)), gen := st.gen }
    | .fnDef _ _ ps (.mk body _) (some g) (some i) _, _, _ =>
        A.base f σ i [] && A.wok i && A.other i && A.fnh g ps body &&
        lokListG L A g [blockTag L.ss body, paramTag L.ds ps] { brk := none, cont := none, kills := [] } body (boundary [])
    | .fnDef _ _ _ (.mk _ _) none (some i) _, _, _ => A.base f σ i [] && A.wok i && A.other i
    | .ret (some e) (some i) _, _, _ => A.base f σ i [e] && A.wok i && A.other i
    | .ret none (some i) _, _, _ => A.base f σ i [] && A.wok i && A.other i
    | .brk (some i) _, _, _ => A.base f σ i [] && A.wok i && A.other i
    | .cont (some i) _, _, _ => A.base f σ i [] && A.wok i && A.other i
    | .expr e (some i) _, _, _ => A.base f σ i [e] && A.wok i && A.other i
    | .fnDef _ _ ps (.mk body _) (some g) none _, _, _ =>
        A.fnh g ps body &&
        lokListG L A g [blockTag L.ss body, paramTag L.ds ps] { brk := none, cont := none, kills := [] } body (boundary [])
    | .assign _ _ _ _ none _, _, _ | .assignExisting _ _ _ _ none _, _, _ | .assignIndex _ _ none _, _, _
    | .ifS _ (.mk _ _) none none _, _, _ | .ifS _ (.mk _ _) (some (.mk _ _)) none _, _, _ | .loop _ (.mk _ _) none _, _, _
    | .block (.mk _ _) none _, _, _ | .fnDef _ _ _ (.mk _ _) none none _, _, _ | .ret _ none _, _, _ | .brk none _, _, _
    | .cont none _, _, _ | .expr _ none _, _, _ => true
  def lokListG (L : LSetup) (A : Atoms) (f : Nat) (σ : List (Option Nat)) (lc : LoopCtx) : List Stmt → LS → Bool
    | [], _ => true
    | s :: ss, post => lokG L A f σ lc s (lvStmts L.c f L.nl lc ss post).1 ss && lokListG L A f σ lc ss post
end

theorem atomsOf_base (L : LSetup) : (atomsOf L).base = L.baseB := rfl
theorem atomsOf_wok (L : LSetup) : (atomsOf L).wok = L.writesOkB := rfl
theorem atomsOf_other (L : LSetup) : (atomsOf L).other = L.otherB := rfl
theorem atomsOf_blk (L : LSetup) : (atomsOf L).blk = L.blockOkB := rfl
theorem atomsOf_own (L : LSetup) (l f : Nat) : (atomsOf L).own l f = (L.c.owner l == some f) := rfl
theorem atomsOf_store (L : LSetup) : (atomsOf L).store = L.ownStoreB := rfl
theorem atomsOf_cap (L : LSetup) (f : Nat) (σ : List (Option Nat)) (i l : Nat) :
    (atomsOf L).cap f σ i l = ((L.c.writes i).isEmpty && (L.c.transWrites f).contains l && !L.inTags σ l) := rfl
theorem atomsOf_fix (L : LSetup) (f i : Nat) (b : List Stmt) (st : LS) :
    (atomsOf L).fix f i b st =
      subset ((L.c.transfer f i (boundary (uni
        (lvStmts L.c f L.nl { brk := some st.live, cont := some (loopX L f i b st), kills := L.c.scopeLocalsOf b } b
          (boundary (dif (loopX L f i b st) (L.c.scopeLocalsOf b)))).1.live st.live))).live) (loopX L f i b st) := rfl
theorem atomsOf_fnh (L : LSetup) (g : Nat) (ps : List Param) (body : List Stmt) :
    (atomsOf L).fnh g ps body =
      (L.blockOkB g [paramTag L.ds ps] body &&
      (match paramTag L.ds ps with | some tg => L.scopeOwner tg == some g | none => true) && L.pureFnB g ps body) := rfl

/- Both walks below go by the recursion of `lokG` itself (`lokG.mutual_induct`): one case per arm of its text, in the order
of the text, with the induction hypothesis at the very arguments of the recursive call.  The arms are named where the
principle is applied; the twelve without statement id, and the empty list, stay unnamed: both sides are `true` there. -/

theorem lok_eq_lokG (L : LSetup) :
    (∀ (f : Nat) (σ : List (Option Nat)) (lc : LoopCtx) (s : Stmt) (st : LS) (rest : List Stmt),
      lokB L f σ lc s st rest = lokG L (atomsOf L) f σ lc s st rest) ∧
    (∀ (f : Nat) (σ : List (Option Nat)) (lc : LoopCtx) (ss : List Stmt) (post : LS),
      lokListB L f σ lc ss post = lokListG L (atomsOf L) f σ lc ss post) := by
  refine lokG.mutual_induct L _ _ ?assign ?assignExisting ?assignIndex ?ifS ?ifElse ?loop ?block ?fnDef ?fnDecl ?retSome
    ?retNone ?brk ?cont ?expr ?fnDefNoId ?_ ?_ ?_ ?_ ?_ ?_ ?_ ?_ ?retNoId ?_ ?_ ?_ ?_ ?cons
  case assign | assignExisting =>
    intro _ _ _ _ _ _ b _ _ _ _
    cases b <;> simp only [lokB, lokG, atomsOf_base, atomsOf_own, atomsOf_store, atomsOf_cap, atomsOf_other, Bool.and_assoc]
  case assignIndex | ifS | ifElse | block | fnDecl | retSome | retNone | brk | cont | expr | cons =>
    intros
    simp only [lokB, lokG, lokListB, lokListG, atomsOf_base, atomsOf_wok, atomsOf_other, atomsOf_blk, *]
  case fnDef | fnDefNoId =>
    intros
    simp only [lokB, lokG, atomsOf_base, atomsOf_wok, atomsOf_other, atomsOf_fnh, Bool.and_assoc, *]
    rfl
  case loop =>
    -- `lokB` writes the loop head out where `lokG` says `loopX`
    intro f σ lc c b _ i _ st _ ih
    simp only [lokB, lokG, atomsOf_base, atomsOf_wok, atomsOf_other, atomsOf_blk, atomsOf_fix, ← ih]
    rfl
  -- the arms that ask for an id look at the returned expression first
  case retNoId => intro _ _ _ e _ _ _; cases e <;> rfl
  all_goals intros; rfl

theorem lokB_eq_lokG (L : LSetup) (f : Nat) (σ : List (Option Nat)) (lc : LoopCtx) : ∀ (s : Stmt) (st : LS) (rest : List Stmt),
    lokB L f σ lc s st rest = lokG L (atomsOf L) f σ lc s st rest :=
  (lok_eq_lokG L).1 f σ lc

theorem lokListB_eq_lokListG (L : LSetup) (f : Nat) (σ : List (Option Nat)) (lc : LoopCtx) : ∀ (ss : List Stmt) (post : LS),
    lokListB L f σ lc ss post = lokListG L (atomsOf L) f σ lc ss post :=
  (lok_eq_lokG L).2 f σ lc

theorem and_base (A B : Atoms) (f : Nat) (σ : List (Option Nat)) (i : Nat) (es : List Expr) :
    (A.and B).base f σ i es = (A.base f σ i es && B.base f σ i es) := rfl
theorem and_wok (A B : Atoms) (i : Nat) : (A.and B).wok i = (A.wok i && B.wok i) := rfl
theorem and_other (A B : Atoms) (i : Nat) : (A.and B).other i = (A.other i && B.other i) := rfl
theorem and_blk (A B : Atoms) (f : Nat) (σ : List (Option Nat)) (b : List Stmt) :
    (A.and B).blk f σ b = (A.blk f σ b && B.blk f σ b) := rfl
theorem and_own (A B : Atoms) (l f : Nat) : (A.and B).own l f = (A.own l f && B.own l f) := rfl
theorem and_store (A B : Atoms) (f : Nat) (σ : List (Option Nat)) (i : Nat) (d : Bool) (l : Nat) (e : Expr) (st : LS)
    (rest : List Stmt) : (A.and B).store f σ i d l e st rest = (A.store f σ i d l e st rest && B.store f σ i d l e st rest) := rfl
theorem and_cap (A B : Atoms) (f : Nat) (σ : List (Option Nat)) (i l : Nat) :
    (A.and B).cap f σ i l = (A.cap f σ i l && B.cap f σ i l) := rfl
theorem and_fix (A B : Atoms) (f i : Nat) (b : List Stmt) (st : LS) :
    (A.and B).fix f i b st = (A.fix f i b st && B.fix f i b st) := rfl
theorem and_fnh (A B : Atoms) (g : Nat) (ps : List Param) (body : List Stmt) :
    (A.and B).fnh g ps body = (A.fnh g ps body && B.fnh g ps body) := rfl

structure Atoms.Imp2 (A B C : Atoms) : Prop where
  base : ∀ {f σ i es}, A.base f σ i es = true → B.base f σ i es = true → C.base f σ i es = true
  wok : ∀ {i}, A.wok i = true → B.wok i = true → C.wok i = true
  other : ∀ {i}, A.other i = true → B.other i = true → C.other i = true
  blk : ∀ {f σ b}, A.blk f σ b = true → B.blk f σ b = true → C.blk f σ b = true
  own : ∀ {l f}, A.own l f = true → B.own l f = true → C.own l f = true
  /-- the store rule may use the `base` atoms of its statement -/
  store : ∀ {f σ i d l e st rest}, A.base f σ i [e] = true → B.base f σ i [e] = true →
    A.store f σ i d l e st rest = true → B.store f σ i d l e st rest = true → C.store f σ i d l e st rest = true
  cap : ∀ {f σ i l}, A.cap f σ i l = true → B.cap f σ i l = true → C.cap f σ i l = true
  fix : ∀ {f i b st}, A.fix f i b st = true → B.fix f i b st = true → C.fix f i b st = true
  fnh : ∀ {g ps body}, A.fnh g ps body = true → B.fnh g ps body = true → C.fnh g ps body = true

theorem lok_imp2 {L L' : LSetup} (hc : L'.c = L.c) (hds : L'.ds = L.ds) (hss : L'.ss = L.ss) {A B C : Atoms}
    (H : Atoms.Imp2 A B C) :
    (∀ (f : Nat) (σ : List (Option Nat)) (lc : LoopCtx) (s : Stmt) (st : LS) (rest : List Stmt),
      lokG L A f σ lc s st rest = true → lokG L B f σ lc s st rest = true → lokG L' C f σ lc s st rest = true) ∧
    (∀ (f : Nat) (σ : List (Option Nat)) (lc : LoopCtx) (ss : List Stmt) (post : LS),
      lokListG L A f σ lc ss post = true → lokListG L B f σ lc ss post = true → lokListG L' C f σ lc ss post = true) := by
  obtain ⟨c', T', cfg', D2', ds', ss', q', ua', uv'⟩ := L'
  cases hc; cases hds; cases hss
  refine lokG.mutual_induct L _ _ ?assign ?assignExisting ?assignIndex ?ifS ?ifElse ?loop ?block ?fnDef ?fnDecl ?retSome
    ?retNone ?brk ?cont ?expr ?fnDefNoId ?_ ?_ ?_ ?_ ?_ ?_ ?_ ?_ ?retNoId ?_ ?_ ?_ ?_ ?cons
  case assign =>
    intro f σ lc _ _ e b i _ st rest h1 h2
    cases b with
    | none => exact and_imp2 H.base H.other h1 h2
    | some l =>
      simp only [lokG, Bool.and_eq_true] at h1 h2 ⊢
      exact ⟨H.base h1.1 h2.1, H.own h1.2.1 h2.2.1, H.store h1.1 h2.1 h1.2.2 h2.2.2⟩
  case assignExisting =>
    intro f σ lc _ _ e b i _ st rest h1 h2
    cases b with
    | none => exact and_imp2 H.base H.other h1 h2
    | some l =>
      simp only [lokG, Bool.and_eq_true] at h1 h2 ⊢
      refine ⟨H.base h1.1 h2.1, ?_⟩
      have g1 := h1.2
      have g2 := h2.2
      split at g1
      · next ho =>
        rw [if_pos ho] at g2 ⊢
        exact H.store h1.1 h2.1 g1 g2
      · next ho =>
        rw [if_neg ho] at g2 ⊢
        exact and_imp2 H.cap H.other g1 g2
  case ifS => exact fun f σ lc c t _ i _ st _ ih => and_imp2 (and_imp2 (and_imp2 (and_imp2 H.base H.wok) H.other) H.blk) ih
  case ifElse =>
    exact fun f σ lc c t _ e _ i _ st _ iht ihe =>
      and_imp2 (and_imp2 (and_imp2 (and_imp2 (and_imp2 (and_imp2 H.base H.wok) H.other) H.blk) H.blk) iht) ihe
  case loop =>
    exact fun f σ lc c b _ i _ st _ ih =>
      and_imp2 (and_imp2 (and_imp2 (and_imp2 (and_imp2 H.base H.wok) H.other) H.blk) H.fix) ih
  case block => exact fun f σ lc b _ i _ st _ ih => and_imp2 (and_imp2 (and_imp2 (and_imp2 H.base H.wok) H.other) H.blk) ih
  case fnDef =>
    exact fun f σ lc _ _ ps body _ g i _ _ _ ih => and_imp2 (and_imp2 (and_imp2 (and_imp2 H.base H.wok) H.other) H.fnh) ih
  case fnDefNoId => exact fun f σ lc _ _ ps body _ g _ _ _ ih => and_imp2 H.fnh ih
  case cons => exact fun f σ lc s ss post ihs ihss => and_imp2 ihs ihss
  case assignIndex | fnDecl | retSome | retNone | brk | cont | expr =>
    intros
    rename_i h1 h2
    exact and_imp2 (and_imp2 H.base H.wok) H.other h1 h2
  case retNoId => intro _ _ _ e _ _ _; cases e <;> exact fun _ _ => rfl
  all_goals intros; rfl

theorem Atoms.Imp2.left (A B : Atoms) : Atoms.Imp2 (A.and B) (A.and B) A where
  base h _ := (Bool.and_eq_true_iff.mp h).1
  wok h _ := (Bool.and_eq_true_iff.mp h).1
  other h _ := (Bool.and_eq_true_iff.mp h).1
  blk h _ := (Bool.and_eq_true_iff.mp h).1
  own h _ := (Bool.and_eq_true_iff.mp h).1
  store _ _ h _ := (Bool.and_eq_true_iff.mp h).1
  cap h _ := (Bool.and_eq_true_iff.mp h).1
  fix h _ := (Bool.and_eq_true_iff.mp h).1
  fnh h _ := (Bool.and_eq_true_iff.mp h).1

theorem Atoms.Imp2.right (A B : Atoms) : Atoms.Imp2 (A.and B) (A.and B) B where
  base h _ := (Bool.and_eq_true_iff.mp h).2
  wok h _ := (Bool.and_eq_true_iff.mp h).2
  other h _ := (Bool.and_eq_true_iff.mp h).2
  blk h _ := (Bool.and_eq_true_iff.mp h).2
  own h _ := (Bool.and_eq_true_iff.mp h).2
  store _ _ h _ := (Bool.and_eq_true_iff.mp h).2
  cap h _ := (Bool.and_eq_true_iff.mp h).2
  fix h _ := (Bool.and_eq_true_iff.mp h).2
  fnh h _ := (Bool.and_eq_true_iff.mp h).2

theorem Atoms.Imp2.both (A B : Atoms) : Atoms.Imp2 A B (A.and B) where
  base h1 h2 := Bool.and_eq_true_iff.mpr ⟨h1, h2⟩
  wok h1 h2 := Bool.and_eq_true_iff.mpr ⟨h1, h2⟩
  other h1 h2 := Bool.and_eq_true_iff.mpr ⟨h1, h2⟩
  blk h1 h2 := Bool.and_eq_true_iff.mpr ⟨h1, h2⟩
  own h1 h2 := Bool.and_eq_true_iff.mpr ⟨h1, h2⟩
  store _ _ h1 h2 := Bool.and_eq_true_iff.mpr ⟨h1, h2⟩
  cap h1 h2 := Bool.and_eq_true_iff.mpr ⟨h1, h2⟩
  fix h1 h2 := Bool.and_eq_true_iff.mpr ⟨h1, h2⟩
  fnh h1 h2 := Bool.and_eq_true_iff.mpr ⟨h1, h2⟩

theorem lokG_and (L : LSetup) (A B : Atoms) (f : Nat) (σ : List (Option Nat)) (lc : LoopCtx) :
    ∀ (s : Stmt) (st : LS) (rest : List Stmt),
    lokG L (A.and B) f σ lc s st rest = (lokG L A f σ lc s st rest && lokG L B f σ lc s st rest) := by
  intro s st rest
  rw [Bool.eq_iff_iff, Bool.and_eq_true]
  exact ⟨fun h => ⟨(lok_imp2 rfl rfl rfl (.left A B)).1 f σ lc s st rest h h, (lok_imp2 rfl rfl rfl (.right A B)).1 f σ lc s st rest h h⟩,
    fun h => (lok_imp2 rfl rfl rfl (.both A B)).1 f σ lc s st rest h.1 h.2⟩

theorem lokListG_and (L : LSetup) (A B : Atoms) (f : Nat) (σ : List (Option Nat)) (lc : LoopCtx) :
    ∀ (ss : List Stmt) (post : LS),
    lokListG L (A.and B) f σ lc ss post = (lokListG L A f σ lc ss post && lokListG L B f σ lc ss post) := by
  intro ss post
  rw [Bool.eq_iff_iff, Bool.and_eq_true]
  exact ⟨fun h => ⟨(lok_imp2 rfl rfl rfl (.left A B)).2 f σ lc ss post h h, (lok_imp2 rfl rfl rfl (.right A B)).2 f σ lc ss post h h⟩,
    fun h => (lok_imp2 rfl rfl rfl (.both A B)).2 f σ lc ss post h.1 h.2⟩

end NaijaVerif.ResolveStruct
