import NaijaVerif.Lemmas.AnalysisEvalEq
import NaijaVerif.Lemmas.AnalysisExprOk
import NaijaVerif.Lemmas.ListFacts
/-
Evaluating an expression is a congruence for every relation between states that the state accesses of expressions keep.
Two runs (configurations `ca`, `cb`) are compared from related states `R a b`; the second run may end in a way after which
nothing is claimed (`B`), and `I` is kept by the second run whatever its ending.  An expression touches the state in four
ways only: it reads a local (`lookup`), stores into the root of an l-value (`assign`), prints (`out`) and calls a user
function.  `eOk X D e` says which functions `e` may call (`X`) and which locals it must not mention (`D`); what a call does
is the one thing a simulation has to say itself (`ExprSim.step`, argument `call`), since it runs a block.
-/
namespace NaijaVerif.C03
open NaijaVerif NaijaVerif.Analysis NaijaVerif.AEval

variable {V : Type}

/-- The parameters of the congruence: the `R`, `I`, `B`, `X`, `D` of the head.  A simulation chooses them (`mainRel`,
`simRel`, `liveRel`). -/
structure ExprRel (V : Type) where
  R : St V → St V → Prop
  I : St V → Prop
  B : {α : Type} → Except Err α → Prop
  X : Nat → Bool
  D : Nat → Bool

/-- First run `a`, second run `b`.  Every outcome notion of `Lemmas/Analysis*` is this one: `ExprRel.Out` (the fields of
`Sim`, `AnalysisRel`, are stated with it at `simRel`), `LOutG`, `LOut`, `LOutF` (`AnalysisLiveSim`) are instances by
definition, and their `andThen`s are `OutG.andThen` with `hB` (and `he`) filled in.  `Agree` (`AnalysisSim`) is equality of
the two results, equivalent to the instance at `mainRel` (`agree_iff`). -/
def OutG (B : {α : Type} → Except Err α → Prop) (I : St V → Prop) {α : Type} (Y : Except Err α → St V → St V → Prop)
    (a b : AEval.R V α) : Prop :=
  (B b.1 ∨ (a.1 = b.1 ∧ Y b.1 a.2 b.2)) ∧ I b.2

@[reducible] def ExprRel.Out (W : ExprRel V) {α : Type} : AEval.R V α → AEval.R V α → Prop :=
  OutG W.B W.I fun _ => W.R

/-- The four accesses of the head as laws of `R` and `I`, and `bErr`: an excluded ending is an error, whatever the result type. -/
structure ExprRel.Ok (P : Prims V) (W : ExprRel V) : Prop where
  bErr : ∀ {α β : Type} {x : Except Err α}, W.B x → ∃ e, x = .error e ∧ W.B (.error e : Except Err β)
  lookup : ∀ {a b : St V} {x : Nat}, W.D x = false → W.R a b → lookupEnv P.dscope x a.env = lookupEnv P.dscope x b.env
  assign : ∀ {a b : St V} {x : Nat} (v : V), W.D x = false → W.R a b → W.I b →
    ORel (fun ea eb => W.R { a with env := ea } { b with env := eb } ∧ W.I { b with env := eb })
      (assignEnv P.dscope x v a.env) (assignEnv P.dscope x v b.env)
  out : ∀ {a b : St V} (w : V), W.R a b → W.I b →
    W.R { a with out := w :: a.out } { b with out := w :: b.out } ∧ W.I { b with out := w :: b.out }

/-- The induction hypothesis of `ExprSim.step`, and the expression half of every simulation (`Main.exprSim`, `Sim.exprSim`,
`LSim.esim`). -/
structure ExprSim (P : Prims V) (W : ExprRel V) (ca cb : Cfg) (n : Nat) : Prop where
  expr : ∀ (e : Expr) (a b : St V), eOk W.X W.D e = true → W.R a b → W.I b →
    W.Out (evalExpr P ca n e a) (evalExpr P cb n e b)
  list : ∀ (es : List Expr) (a b : St V), eOkList W.X W.D es = true → W.R a b → W.I b →
    W.Out (evalList P ca n es a) (evalList P cb n es b)

theorem readAll_congr (ds : Nat → Option Nat) {a b : List (Scope V)} : ∀ ids : List (Option Nat),
    (∀ id, some id ∈ ids → lookupEnv ds id a = lookupEnv ds id b) → readAll ds a ids = readAll ds b ids
  | [], _ => rfl
  | none :: _, _ => rfl
  | some id :: ids, h => by
      simp only [readAll, h id List.mem_cons_self,
        readAll_congr ds ids fun i hi => h i (List.mem_cons_of_mem _ hi)]

section
variable {P : Prims V} {W : ExprRel V} {ca cb : Cfg} {n : Nat} {α β : Type}

section
variable {B : {α : Type} → Except Err α → Prop} {I : St V → Prop} {X : Except Err α → St V → St V → Prop}

theorem OutG.bad {x : Except Err α} {a : AEval.R V α} {t : St V} (h : B x) (hi : I t) : OutG B I X a (x, t) :=
  ⟨Or.inl h, hi⟩

theorem OutG.same (x : Except Err α) {s t : St V} (hX : X x s t) (hi : I t) : OutG B I X (x, s) (x, t) :=
  ⟨Or.inr ⟨rfl, hX⟩, hi⟩

/-- The continuations are only compared after the same value; an error of the first part must give `Y` directly.
`hB`: an excluded ending is an error, excluded whatever the type of the result. -/
theorem OutG.andThen (hB : ∀ {β : Type} {x : Except Err α}, B x → ∃ e, x = .error e ∧ B (.error e : Except Err β))
    {Y : Except Err β → St V → St V → Prop} {ra rb : AEval.R V α} {ka kb : α → St V → AEval.R V β}
    (h : OutG B I X ra rb) (he : ∀ e s t, X (.error e) s t → Y (.error e) s t)
    (hk : ∀ v s t, rb = (.ok v, t) → X (.ok v) s t → I t → OutG B I Y (ka v s) (kb v t)) :
    OutG B I Y (AEval.andThen ra ka) (AEval.andThen rb kb) := by
  obtain ⟨x1, s⟩ := ra
  obtain ⟨x2, t⟩ := rb
  obtain ⟨hbad | ⟨heq, hr⟩, hi⟩ := h
  · obtain ⟨e, rfl, hb⟩ := hB (β := β) hbad
    exact .bad hb hi
  · simp only at heq
    subst heq
    cases x1 with
    | error e => exact .same _ (he e s t hr) hi
    | ok v => exact hk v s t rfl hr hi

end

theorem ExprRel.Out.andThen (hW : W.Ok P) {ra rb : AEval.R V α} {ka kb : α → St V → AEval.R V β} (h : W.Out ra rb)
    (hk : ∀ v s1 s2, rb = (.ok v, s2) → W.R s1 s2 → W.I s2 → W.Out (ka v s1) (kb v s2)) :
    W.Out (AEval.andThen ra ka) (AEval.andThen rb kb) :=
  C03.OutG.andThen hW.bErr h (fun _ _ _ hr => hr) hk

theorem ExprRel.Out.check {ka kb : α → St V → AEval.R V β} (x : Except Err α) {s1 s2 : St V} (hr : W.R s1 s2)
    (hi : W.I s2) (hk : ∀ v, W.Out (ka v s1) (kb v s2)) :
    W.Out (AEval.andThen (x, s1) ka) (AEval.andThen (x, s2) kb) := by
  cases x with
  | error e => exact .same _ hr hi
  | ok v => exact hk v

namespace ExprSim

theorem checked (hW : W.Ok P) (ih : ExprSim P W ca cb n) (miss : Err) :
    ∀ (items : List (Option Expr × (V → Except Err V))) (a b : St V),
    (∀ e chk, (some e, chk) ∈ items → eOk W.X W.D e = true) → W.R a b → W.I b →
    W.Out (evalChecked (evalExpr P ca n) miss items a) (evalChecked (evalExpr P cb n) miss items b)
  | [], a, b, _, hr, hi => .same _ hr hi
  | (none, _) :: _, a, b, _, hr, hi => .same _ hr hi
  | (some e, chk) :: rest, a, b, h, hr, hi => by
      simp only [evalChecked_cons]
      refine .andThen hW (ih.expr e a b (h e chk List.mem_cons_self) hr hi) fun v s1 s2 _ hr1 hi1 => ?_
      refine .check (chk v) hr1 hi1 fun v' => ?_
      refine .andThen hW (checked hW ih miss rest s1 s2 (fun e' c' hm => h e' c' (List.mem_cons_of_mem _ hm)) hr1 hi1)
        fun vs t1 t2 _ hr2 hi2 => ?_
      exact .same _ hr2 hi2

/-- Writing through `root[path…]`, `root` a local the relation lets both runs see.  `Y`: what the caller wants to know
of the final states, given the result. -/
theorem updateRoot (hW : W.Ok P) (ih : ExprSim P W ca cb n) {Y : Except Err α → St V → St V → Prop} (root : Nat)
    (path : List Expr) (f : V → List V → Except Err (V × α)) (a b : St V) (hroot : W.D root = false)
    (hpath : eOkList W.X W.D path = true) (hYe : ∀ e s t, W.R s t → Y (.error e) s t)
    (hYo : ∀ old pvs nr s t, f old pvs = .ok nr → W.R s t → Y (.ok nr.2) s t) (hr : W.R a b) (hi : W.I b) :
    OutG W.B W.I Y (updateRoot P ca n root path f a) (updateRoot P cb n root path f b) := by
  refine .andThen hW.bErr (checked hW ih P.argMissing (pathItems P.idx path) a b
    (fun e chk hm => eOk_mem path hpath e (pathItems_mem hm)) hr hi) hYe fun pvs s1 s2 _ hr1 hi1 => ?_
  rw [hW.lookup hroot hr1]
  cases lookupEnv P.dscope root s2.env with
  | none => exact .same _ (hYe _ _ _ hr1) hi1
  | some old =>
    refine .andThen hW.bErr (X := fun _ => W.R) (.same (f old pvs) hr1 hi1) hYe fun nr t1 t2 hg hr2 hi2 => ?_
    rcases (hW.assign nr.1 hroot hr2 hi2).cases with ⟨h1, h2⟩ | ⟨e1, e2, h1, h2, he⟩
    · rw [h1, h2]; exact .same _ (hYe _ _ _ hr2) hi2
    · rw [h1, h2]; exact .same _ (hYo old pvs nr _ _ (Prod.mk.inj hg).1 he.1) he.2

theorem step_list (hW : W.Ok P) (ih : ExprSim P W ca cb n) : ∀ (es : List Expr) (a b : St V),
    eOkList W.X W.D es = true → W.R a b → W.I b → W.Out (evalList P ca (n + 1) es a) (evalList P cb (n + 1) es b)
  | [], a, b, _, hr, hi => by simp only [evalList_nil]; exact .same _ hr hi
  | e :: es, a, b, he, hr, hi => by
      simp only [eOkList, Bool.and_eq_true] at he
      simp only [evalList_cons]
      refine .andThen hW (ih.expr e a b he.1 hr hi) fun v s1 s2 _ hr1 hi1 => ?_
      refine .andThen hW (ih.list es s1 s2 he.2 hr1 hi1) fun vs t1 t2 _ hr2 hi2 => ?_
      exact .same _ hr2 hi2

theorem logic (hW : W.Ok P) (ih : ExprSim P W ca cb n) (stop : V → Bool) (short : V) (l r : Expr) (a b : St V)
    (hl : eOk W.X W.D l = true) (hrr : eOk W.X W.D r = true) (hr : W.R a b) (hi : W.I b) :
    W.Out (logicSeq P ca n stop short l r a) (logicSeq P cb n stop short l r b) := by
  refine .andThen hW (ih.expr l a b hl hr hi) fun lv s1 s2 _ hr1 hi1 => ?_
  by_cases hstop : stop lv = true
  · rw [if_pos hstop, if_pos hstop]
    exact .same _ hr1 hi1
  · rw [if_neg hstop, if_neg hstop]
    refine .andThen hW (ih.expr r s1 s2 hrr hr1 hi1) fun rv t1 t2 _ hr2 hi2 => ?_
    exact .same _ hr2 hi2

theorem node (hW : W.Ok P) (ih : ExprSim P W ca cb n) (e : Expr) (a b : St V) (he : eOk W.X W.D e = true)
    (hr : W.R a b) (hi : W.I b) :
    W.Out (finishNode P e (evalList P ca n (children e) a)) (finishNode P e (evalList P cb n (children e) b)) := by
  rw [finishNode_eq, finishNode_eq]
  refine .andThen hW (ih.list (children e) a b (eOk_children e he) hr hi) fun vs s1 s2 _ hr1 hi1 => ?_
  unfold nodeValue
  rw [readAll_congr P.dscope _ fun id hid => hW.lookup (eOk_interpIds e he id hid) hr1]
  exact .same _ hr1 hi1

theorem step_expr (hW : W.Ok P) (ih : ExprSim P W ca cb n)
    (call : ∀ (g : Nat) (args : List Expr) (a b : St V), W.X g = true → eOkList W.X W.D args = true → W.R a b → W.I b →
      W.Out (userCall P ca n g args a) (userCall P cb n g args b))
    (e : Expr) (a b : St V) (he : eOk W.X W.D e = true) (hr : W.R a b) (hi : W.I b) :
    W.Out (evalExpr P ca (n + 1) e a) (evalExpr P cb (n + 1) e b) := by
  by_cases hsp : Special e
  · cases hsp with
    | var nm bd sp =>
      rw [evalExpr_var, evalExpr_var]
      have e : readVar P bd a.env = readVar P bd b.env := by
        cases bd with
        | none => rfl
        | some id =>
          have hnot : (!W.D id) = true := he
          rw [readVar, readVar, Option.bind_some, Option.bind_some,
            hW.lookup (by simpa only [Bool.not_eq_true'] using hnot) hr]
      rw [e]
      exact .same _ hr hi
    | and l r sp =>
      have he' := Bool.and_eq_true_iff.mp he
      rw [evalExpr_and, evalExpr_and]
      exact logic hW ih _ _ l r a b he'.1 he'.2 hr hi
    | or l r sp =>
      have he' := Bool.and_eq_true_iff.mp he
      rw [evalExpr_or, evalExpr_or]
      exact logic hW ih _ _ l r a b he'.1 he'.2 hr hi
    | callName nm bd s1 args fn sp =>
      have he' := Bool.and_eq_true_iff.mp he
      rw [evalExpr_callName, evalExpr_callName]
      by_cases hg : P.isGlobal nm = true
      · rw [if_pos hg, if_pos hg]
        refine .andThen hW (ih.list args a b he'.2 hr hi) fun vs s1 s2 _ hr1 hi1 => ?_
        by_cases hsh : P.isShout nm = true
        · rw [if_pos hsh, if_pos hsh]
          match vs with
          | [] => exact .same _ hr1 hi1
          | [w] => exact .same _ (hW.out w hr1 hi1).1 (hW.out w hr1 hi1).2
          | _ :: _ :: _ => exact .same _ hr1 hi1
        · rw [if_neg hsh, if_neg hsh]
          exact .same _ hr1 hi1
      · rw [if_neg hg, if_neg hg]
        cases fn with
        | none => exact .same _ hr hi
        | some f => exact call f args a b he'.1 he'.2 hr hi
    | callMember o field fs s1 args fn sp =>
      have he' := Bool.and_eq_true_iff.mp he
      rw [evalExpr_callMember, evalExpr_callMember]
      by_cases hm : P.isMut field = true
      · rw [if_pos hm, if_pos hm]
        refine .andThen hW (checked hW ih P.argMissing (stepArgs args (P.mutSteps field)) a b
          (fun e chk hm => eOk_mem args he'.2 e (stepArgs_mem hm)) hr hi) fun vs s1 s2 _ hr1 hi1 => ?_
        cases hlv : lvalue o with
        | none => exact .same _ hr1 hi1
        | some rp =>
          have hlo := eOk_lvalue o rp.1 rp.2 he'.1 hlv
          exact updateRoot hW ih rp.1 rp.2 _ s1 s2 hlo.1 hlo.2 (fun _ _ _ h => h) (fun _ _ _ _ _ _ h => h) hr1 hi1
      · rw [if_neg hm, if_neg hm]
        refine .andThen hW (ih.expr o a b he'.1 hr hi) fun recv s1 s2 _ hr1 hi1 => ?_
        refine .check (P.memberSel field recv) hr1 hi1 fun idx => ?_
        refine .andThen hW (checked hW ih P.argMissing (selArgs args idx) s1 s2
          (fun e chk hm => eOk_mem args he'.2 e (selArgs_mem hm)) hr1 hi1) fun vs t1 t2 _ hr2 hi2 => ?_
        exact .same _ hr2 hi2
  · rw [evalExpr_node hsp, evalExpr_node hsp]
    exact node hW ih e a b he hr hi

theorem step (hW : W.Ok P) (ih : ExprSim P W ca cb n)
    (call : ∀ (g : Nat) (args : List Expr) (a b : St V), W.X g = true → eOkList W.X W.D args = true → W.R a b → W.I b →
      W.Out (userCall P ca n g args a) (userCall P cb n g args b)) : ExprSim P W ca cb (n + 1) :=
  ⟨step_expr hW ih call, step_list hW ih⟩

end ExprSim

end

end NaijaVerif.C03
