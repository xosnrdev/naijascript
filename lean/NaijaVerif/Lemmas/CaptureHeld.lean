/-
Foreign holders of the runner's pipes (C16, finding D-21): what the steps do to `State.held`, and that
the error path — `kill`, `wait`, return the error, no join — is two statements long in every execution,
whoever holds what.
-/
import NaijaVerif.Lemmas.Capture
namespace NaijaVerif.Capture

theorem step_held_le {cfg : Cfg} {plan : Plan} {s s' : State} {l : Label}
    (hs : step cfg plan s l = some s') :
    (s'.held.out = true → s.held.out = true) ∧ (s'.held.err = true → s.held.err = true) ∧
      (s'.held.inp = true → s.held.inp = true) := by
  by_cases hm : l = .main
  · subst hm; rw [stepMain_frame (step_inv hs)]; exact ⟨id, id, id⟩
  by_cases ht : l = .tick
  · subst ht; obtain ⟨_, rfl⟩ := step_inv hs; exact ⟨id, id, id⟩
  cases Effect.of_step hs hm ht with
  | held h' hle => exact hle
  | childSide x | reader x => cases x <;> exact ⟨id, id, id⟩
  | _ => exact ⟨id, id, id⟩

theorem Held.free_iff (h : Held) : h.free = true ↔ h.out = false ∧ h.err = false ∧ h.inp = false := by
  unfold Held.free; cases h.out <;> cases h.err <;> cases h.inp <;> simp

theorem run_free {cfg : Cfg} {plan : Plan} {s s' : State} {ls : List Label}
    (hr : run cfg plan s ls = some s') (hf : s.held.free = true) : s'.held.free = true := by
  induction ls generalizing s with
  | nil => exact run_nil hr ▸ hf
  | cons l ls ih =>
    obtain ⟨s₁, hs, hr⟩ := run_cons hr
    refine ih hr ?_
    rw [Held.free_iff] at hf ⊢
    obtain ⟨a, b, c⟩ := step_held_le hs
    obtain ⟨h1, h2, h3⟩ := hf
    exact ⟨Bool.eq_false_iff.mpr fun h => absurd (a h) (by rw [h1]; nofun),
      Bool.eq_false_iff.mpr fun h => absurd (b h) (by rw [h2]; nofun),
      Bool.eq_false_iff.mpr fun h => absurd (c h) (by rw [h3]; nofun)⟩

def mains (ls : List Label) : Nat := (ls.filter (· = .main)).length

@[simp] theorem mains_nil : mains [] = 0 := rfl

theorem mains_cons_main (ls : List Label) : mains (.main :: ls) = mains ls + 1 := by simp [mains]

theorem mains_cons_other {l : Label} (ls : List Label) (h : l ≠ .main) : mains (l :: ls) = mains ls := by
  simp [mains, h]

/-- Where the main thread is on the error path with error `e`, counted in statements still to go:
`2` = before `child.kill()`, `1` = before `child.wait()`, `0` = the error has been returned. -/
def Pc.errLeft (e : Err) : Pc → Option Nat
  | .kill e' => if e' = e then some 2 else none
  | .reap e' => if e' = e then some 1 else none
  | .done (.error e') => if e' = e then some 0 else none
  | _ => none

theorem stepMain_errLeft {cfg : Cfg} {s s' : State} {e : Err} {k : Nat}
    (hk : s.pc.errLeft e = some k) (hs : stepMain cfg s = some s') :
    ∃ k', k = k' + 1 ∧ s'.pc.errLeft e = some k' := by
  obtain ⟨p₀, c, p, hpc, hm, rfl⟩ := MainStep.of_stepMain hs
  cases hm <;> simp only [*, Pc.errLeft, reduceCtorEq] at hk
  -- what is left: `kill` (twice) and `reap`, where the `if` compares the errors
  all_goals (split at hk <;> cases hk; subst_vars; exact ⟨_, rfl, if_pos rfl⟩)

theorem run_errLeft {cfg : Cfg} {plan : Plan} {e : Err} {ls : List Label} :
    ∀ {s s' : State} {k : Nat}, s.pc.errLeft e = some k → run cfg plan s ls = some s' →
      mains ls ≤ k ∧ s'.pc.errLeft e = some (k - mains ls) := by
  induction ls with
  | nil => intro s s' k hk hr; cases run_nil hr; simpa using hk
  | cons l ls ih =>
    intro s s' k hk hr
    obtain ⟨s₁, hs, hr'⟩ := run_cons hr
    by_cases hm : l = .main
    · subst hm
      obtain ⟨k', rfl, hk'⟩ := stepMain_errLeft hk (step_inv hs)
      obtain ⟨h1, h2⟩ := ih hk' hr'
      rw [mains_cons_main]
      exact ⟨by omega, by rw [h2]; congr 1; omega⟩
    · have hpc := step_pc hs hm
      obtain ⟨h1, h2⟩ := ih (by rw [hpc]; exact hk) hr'
      rw [mains_cons_other ls hm]
      exact ⟨h1, h2⟩

theorem Pc.errLeft_zero {e : Err} {p : Pc} (h : p.errLeft e = some 0) : p = .done (.error e) := by
  unfold Pc.errLeft at h
  -- off the error path `errLeft` is `none`; on it the `if` compares the errors
  split at h <;> first | cases h | (split at h <;> cases h <;> subst_vars <;> rfl)

theorem Pc.errLeft_pos {e : Err} {p : Pc} {k : Nat} (h : p.errLeft e = some (k + 1)) :
    p = .kill e ∨ p = .reap e := by
  unfold Pc.errLeft at h
  split at h <;> first | cases h | (split at h <;> cases h <;> subst_vars <;> simp)

end NaijaVerif.Capture
