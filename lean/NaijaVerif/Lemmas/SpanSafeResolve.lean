import NaijaVerif.Lemmas.ResolveAnn
import NaijaVerif.Lemmas.ParseDefs
/-
C07, behind the parser: `Resolve.resolve` rebuilds the AST with the binding annotations filled in; every
span of the rebuilt tree (`Parse.blockSpans`) is copied from the tree it was given, in the same order
(`checkAll_spans`, `resolve_blockSpans`).  Hence whatever a later stage reports at a span of the annotated program is
reported at a span of the parsed program, whose spans the lexer / parser theorems of C07 prove safe.
-/
namespace NaijaVerif.SpanSafe
open NaijaVerif NaijaVerif.Parse NaijaVerif.Resolve

theorem annExpr_spans (env : Env) (cur : Scope) :
    (∀ e : Expr, exprSpans (annExpr env cur e) = exprSpans e) ∧
    (∀ es : List Expr, exprsSpans (annExprs env cur es) = exprsSpans es) := by
  apply Expr.walk
  case array => intro es _ h; simp only [annExpr, exprSpans, h]
  case index => intro a i _ _ ha hi; simp only [annExpr, exprSpans, ha, hi]
  case binary => intro _ l r _ hl hr; simp only [annExpr, exprSpans, hl, hr]
  case unary => intro _ e _ he; simp only [annExpr, exprSpans, he]
  case member => intro o _ _ _ ho; simp only [annExpr, exprSpans, ho]
  case callMember => intro o _ _ _ args _ _ ho ha; simp only [annExpr, exprSpans, ha, ho]
  case call =>
    intro c args fn s hc hcallee ha
    cases c using Expr.callee_cases with
    | var fname vb vs => simp only [annExpr, exprSpans, ha]
    | member o fld fs ms => exact absurd rfl (hc o fld fs ms)
    | other c hco => rw [annExpr_call_other _ _ hco]; simp only [exprSpans, hcallee, ha]
  case str => intro p _; cases p <;> rfl
  case cons => intro e es he hes; simp only [annExprs, exprsSpans, he, hes]
  case num | var | bool | null | nil => intros; rfl

theorem checkExpr_exprSpans (env : Env) (cur : Scope) (sid : Nat) (e : Expr) (f : Facts) :
    exprSpans (checkExpr env cur sid e f).val = exprSpans e := by
  rw [checkExpr_val]; exact (annExpr_spans env cur).1 e

theorem checkExprs_exprsSpans (env : Env) (cur : Scope) (sid : Nat) :
    ∀ (es : List Expr) (f : Facts), exprsSpans (checkExprs env cur sid es f).val = exprsSpans es := by
  intro es f
  rw [checkExprs_val]; exact (annExpr_spans env cur).2 es

theorem declareParams_spans (spanLen : Bool) (owner scope : Nat) :
    ∀ (ps : List Param) (sc : Resolve.Scope) (f : Facts),
      (declareParams spanLen owner scope ps sc f).1.map (·.span) = ps.map (·.span)
  | [], sc, f => rfl
  | p :: ps, sc, f => by
    simp only [declareParams, List.map_cons, declareParams_spans spanLen owner scope ps]

theorem checkAll_spans :
    (∀ (env : Env) (cur : Cur) (s : Stmt) (f : Facts), stmtSpans (checkStmt env cur s f).val = stmtSpans s) ∧
    (∀ (env : Env) (parent : Option Nat) (o : Option Block) (f : Facts),
      (checkOptBlock env parent o f).val.map blockSpans = o.map blockSpans) ∧
    (∀ (env : Env) (parent : Option Nat) (b : Block) (f : Facts),
      blockSpans (checkBlock env parent b f).val = blockSpans b) ∧
    (∀ (env : Env) (cur : Cur) (ss : List Stmt) (f : Facts),
      stmtsSpans (checkStmts env cur ss f).val = stmtsSpans ss) := by
  have hE := checkExpr_exprSpans
  -- the cases are the arms of the checker in the order of `Model/Resolve.lean`; the head of `Lemmas/ResolveShape.lean`
  -- says which number is which arm
  apply checkStmt.mutual_induct_unfolding
    (motive_1 := fun _ _ s _ out => stmtSpans out.val = stmtSpans s)
    (motive_2 := fun _ _ o _ out => out.val.map blockSpans = o.map blockSpans)
    (motive_3 := fun _ _ b _ out => blockSpans out.val = blockSpans b)
    (motive_4 := fun _ _ ss _ out => stmtsSpans out.val = stmtsSpans ss)
  case case1 | case2 | case3 | case4 | case5 | case11 | case15 => intros; simp +zetaDelta only [stmtSpans, hE]
  case case6 =>
    intro env cur c t e _ sp f0 sid f1 rc d f2 envB rt re ht he
    have hc : exprSpans rc.val = exprSpans c := hE ..
    change blockSpans rt.val = _ at ht
    cases e with
    | none =>
      show sp :: (exprSpans rc.val ++ blockSpans rt.val) = sp :: (exprSpans c ++ blockSpans t)
      rw [hc, ht]
    | some e =>
      show sp :: (exprSpans rc.val ++ blockSpans rt.val ++ blockSpans (checkBlock envB (some env.scope) e rt.facts).val)
        = sp :: (exprSpans c ++ blockSpans t ++ blockSpans e)
      rw [hc, ht, Option.some.inj he]
  case case7 =>
    intro env cur c b _ sp f0 sid f1 rc d f2 envB rb hb
    show sp :: (exprSpans rc.val ++ blockSpans rb.val) = sp :: (exprSpans c ++ blockSpans b)
    rw [show exprSpans rc.val = _ from hE .., show blockSpans rb.val = _ from hb]
  case case8 =>
    intro env cur b _ sp f0 sid f1 rb hb
    show sp :: blockSpans rb.val = sp :: blockSpans b
    rw [show blockSpans rb.val = _ from hb]
  case case10 =>
    intro env cur name nsp ps body _ _ sp f0 sid f1 sig g _ f2 pscope f3 pr envB rb hb
    show nsp :: sp :: (pr.1.map (·.span) ++ blockSpans rb.val) = nsp :: sp :: (ps.map (·.span) ++ blockSpans body)
    rw [show pr.1.map (·.span) = _ from declareParams_spans .., show blockSpans rb.val = _ from hb]
  case case16 =>
    intro env parent ss sp f scope f1 f2 env1 pre sigs r h
    show sp :: stmtsSpans r.val = sp :: stmtsSpans ss
    rw [show stmtsSpans r.val = _ from h]
  case case18 => intro env parent b f r hb; exact congrArg some hb
  case case20 =>
    intro env cur s ss f r rs hs hss
    show stmtSpans r.val ++ stmtsSpans rs.val = stmtSpans s ++ stmtsSpans ss
    rw [show stmtSpans r.val = _ from hs, show stmtsSpans rs.val = _ from hss]
  case case9 | case12 | case13 | case14 | case17 | case19 => intros; rfl

/-! `checkAll_spans` function by function; C07 reads `resolve_blockSpans`. -/

theorem checkStmt_stmtSpans (env : Env) (cur : Cur) :
    ∀ (s : Stmt) (f : Facts), stmtSpans (checkStmt env cur s f).val = stmtSpans s :=
  fun s f => checkAll_spans.1 env cur s f

theorem checkStmts_stmtsSpans (env : Env) :
    ∀ (ss : List Stmt) (cur : Cur) (f : Facts), stmtsSpans (checkStmts env cur ss f).val = stmtsSpans ss :=
  fun ss cur f => checkAll_spans.2.2.2 env cur ss f

theorem resolve_blockSpans (p : Block) : blockSpans (resolve p).root = blockSpans p :=
  checkAll_spans.2.2.1 (rootEnv true) none p rootFacts

theorem resolve_root_span (p : Block) : (resolve p).root.span = p.span := by
  cases p with
  | mk ss sp => simp only [resolve, resolveWith, checkBlock, Block.span]

end NaijaVerif.SpanSafe
