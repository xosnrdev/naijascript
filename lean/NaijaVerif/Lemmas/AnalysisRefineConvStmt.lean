import NaijaVerif.Lemmas.AnalysisRefineConvMember
/- BRIDGE, both directions: argument lists, statements, blocks, loops.  The statement `assignIndex` goes with the method calls
(`bis_assignIndex`, `Lemmas/AnalysisRefineConvMember.lean`: both write through an l-value), whence the import. -/
namespace NaijaVerif.C03
open NaijaVerif NaijaVerif.Analysis

variable {N : Type} [NumOps N] {B : Brg}

theorem bis_list {m : Nat} (IH : Both (N := N) B m) (es : List Expr) (s : Eval.State N) (t : AEval.St (VE N))
    (hok : okExprs B.o es = true) (hs : B.Sim s t) :
    Bis B Eq (m + 1) (fun n => AEval.evalList B.P B.ac n es t) (fun f => Eval.evalSel B.rc f (es.map .ok) s) := by
  refine Bis.step rfl rfl ?_
  cases es with
  | nil =>
    simp only [AEval.evalList_nil, List.map_nil, Eval.evalSel]
    exact Bis.const (RSim.ok rfl hs)
  | cons e rest =>
    simp only [okExprs, Bool.and_eq_true] at hok
    simp only [AEval.evalList_cons, List.map_cons, Eval.evalSel]
    refine Bis.bind (IH.expr e s t hok.1 hs) fun v t1 s1 hs1 => ?_
    refine Bis.bind (IH.list rest s1 t1 hok.2 hs1) fun vs t2 s2 hs2 => ?_
    exact Bis.const (RSim.ok rfl hs2)

theorem bis_stmt (hB : B.Ok N) {m : Nat} (IH : Both (N := N) B m) (st : Stmt) (s : Eval.State N) (t : AEval.St (VE N))
    (hok : okStmt B.o st = true) (hs : B.Sim s t) :
    Bis B FlowSim (m + 1) (fun n => AEval.execStmt B.P B.ac n st t) (fun f => Eval.execStmt B.rc f st s) := by
  cases st with
  | assignIndex tg e sid sp => exact bis_assignIndex hB IH tg e sid sp s t hok hs
  | assign var vsp e b sid sp =>
    refine Bis.step rfl rfl ?_
    simp only [okStmt, Bool.and_eq_true] at hok
    obtain ⟨l, rfl⟩ := Option.isSome_iff_exists.mp hok.1.2
    simp only [AEval.execStmt_assign, Eval.execStmt]
    refine Bis.bind (IH.expr e s t hok.1.1 hs) fun v t1 s1 hs1 => ?_
    exact Bis.const (RSim.ok trivial (define_sim l var v hs1))
  | assignExisting var vsp e b sid sp =>
    refine Bis.step rfl rfl ?_
    simp only [okStmt, Bool.and_eq_true] at hok
    obtain ⟨l, rfl⟩ := Option.isSome_iff_exists.mp hok.1.2
    simp only [AEval.execStmt_assignExisting, Option.bind_some, P_dscope, Eval.execStmt]
    refine Bis.bind (IH.expr e s t hok.1.1 hs) fun v t1 s1 hs1 => ?_
    rcases (assign_st_sim hB.lookup hs1 l var v).cases with ⟨he, haa⟩ | ⟨s2, env', he, haa, ha⟩ <;> rw [he, haa]
    · exact Bis.const (RSim.err (unbound_err hB hs1 _ rfl rfl vsp))
    · exact Bis.const (RSim.ok trivial ha)
  | ifS c tb eb sid sp =>
    refine Bis.step rfl rfl ?_
    obtain ⟨tss, tsp⟩ := tb
    simp only [okStmt, Bool.and_eq_true] at hok
    simp only [AEval.execStmt_ifS, P_cond, Eval.execStmt]
    refine Bis.bind (IH.expr c s t hok.1.1.1 hs) fun v t1 s1 hs1 => ?_
    refine Bis.bind (Bis.const (ofExcept_sim hB hs1 (Eval.truthy .ifCond v) c.span)) fun cb t2 s2 hs2 => ?_
    cases cb with
    | true => exact IH.block (.mk tss tsp) s2 t2 hok.1.1.2 hs2
    | false =>
      cases eb with
      | none => exact Bis.const (RSim.ok trivial hs2)
      | some ebk =>
        obtain ⟨ess, esp⟩ := ebk
        exact IH.block (.mk ess esp) s2 t2 hok.1.2 hs2
  | loop c b sid sp =>
    refine Bis.step rfl rfl ?_
    obtain ⟨bss, bsp⟩ := b
    simp only [okStmt, Bool.and_eq_true] at hok
    simp only [AEval.execStmt_loop, Eval.execStmt]
    exact IH.loop c (.mk bss bsp) c.span s t hok.1.1 hok.1.2 hs
  | block b sid sp =>
    refine Bis.step rfl rfl ?_
    obtain ⟨bss, bsp⟩ := b
    simp only [okStmt, Bool.and_eq_true] at hok
    simp only [AEval.execStmt_block, Eval.execStmt]
    exact IH.block (.mk bss bsp) s t hok.1 hs
  | fnDef name nsp ps body fn sid sp =>
    refine Bis.step rfl rfl ?_
    simp only [AEval.execStmt_fnDef, Eval.execStmt]
    exact Bis.const (RSim.ok trivial hs)
  | ret e sid sp =>
    refine Bis.step rfl rfl ?_
    cases e with
    | none =>
      simp only [AEval.execStmt_retNone, Eval.execStmt, P_null]
      exact Bis.const (RSim.ok rfl hs)
    | some e =>
      simp only [okStmt, Bool.and_eq_true] at hok
      simp only [AEval.execStmt_ret, Eval.execStmt]
      refine Bis.bind (IH.expr e s t hok.1 hs) fun v t1 s1 hs1 => ?_
      exact Bis.const (RSim.ok rfl hs1)
  | brk sid sp =>
    refine Bis.step rfl rfl ?_
    simp only [AEval.execStmt_brk, Eval.execStmt]
    exact Bis.const (RSim.ok trivial hs)
  | cont sid sp =>
    refine Bis.step rfl rfl ?_
    simp only [AEval.execStmt_cont, Eval.execStmt]
    exact Bis.const (RSim.ok trivial hs)
  | expr e sid sp =>
    refine Bis.step rfl rfl ?_
    simp only [okStmt, Bool.and_eq_true] at hok
    simp only [AEval.execStmt_expr, Eval.execStmt]
    refine Bis.bind (IH.expr e s t hok.1 hs) fun v t1 s1 hs1 => ?_
    exact Bis.const (RSim.ok trivial hs1)

theorem bis_stmts (hB : B.Ok N) {m : Nat} (IH : Both (N := N) B m) (ss : List Stmt) (s : Eval.State N)
    (t : AEval.St (VE N)) (hok : okStmts B.o ss = true) (hs : B.Sim s t) :
    Bis B FlowSim (m + 1) (fun n => AEval.execStmts B.P B.ac n ss t) (fun f => Eval.execStmts B.rc f ss s) := by
  refine Bis.step rfl rfl ?_
  cases ss with
  | nil =>
    simp only [AEval.execStmts_nil, Eval.execStmts]
    exact Bis.const (RSim.ok trivial hs)
  | cons st rest =>
    simp only [okStmts, Bool.and_eq_true] at hok
    obtain ⟨i, hi⟩ := okStmt_sid hok.1
    simp only [AEval.execStmts_cons, Eval.execStmts, hi, hB.skip]
    cases hsk : B.ac.skip i with
    | true =>
      simp only [↓reduceIte]
      exact IH.stmts rest s t hok.2 hs
    | false =>
      simp only [Bool.false_eq_true, ↓reduceIte]
      refine Bis.andThen (IH.stmt st s _ hok.1 (sim_ghost hs _ _)) fun fl t1 fl' s1 hfl hs1 => ?_
      rcases hfl.inv with ⟨rfl, rfl⟩ | ⟨v, rfl, rfl⟩ | ⟨rfl, rfl⟩ | ⟨rfl, rfl⟩
      · exact IH.stmts rest s1 t1 hok.2 hs1
      · exact Bis.const (RSim.ok rfl hs1)
      · exact Bis.const (RSim.ok trivial hs1)
      · exact Bis.const (RSim.ok trivial hs1)

theorem bis_block (hB : B.Ok N) {m : Nat} (IH : Both (N := N) B m) (b : Block) (s : Eval.State N)
    (t : AEval.St (VE N)) (hok : okBlock B.o b = true) (hs : B.Sim s t) :
    Bis B FlowSim (m + 1) (fun n => AEval.execBlock B.P B.ac n b.stmts t) (fun f => Eval.execBlock B.rc f b s) := by
  refine Bis.step rfl rfl ?_
  obtain ⟨ss, bsp⟩ := b
  simp only [okBlock, Bool.and_eq_true] at hok
  obtain ⟨htag, hnd⟩ := hB.orc.blk ss hok.1
  simp only [Block.stmts, AEval.execBlock_succ, P_sscope, Eval.execBlock, Block.span]
  have hs1 := block_enter_sim (rc := B.rc) hB.drop hs B.ss ss htag hnd hok.2 bsp
  exact Bis.leave id (fun _ => rfl) (IH.stmts ss _ _ hok.2 hs1) fun fl t2 fl' s2 hfl hs2 =>
    RSim.ok hfl (pop_sim hs2 s.chain)

theorem bis_loop (hB : B.Ok N) {m : Nat} (IH : Both (N := N) B m) (c : Expr) (b : Block) (sp : Span) (s : Eval.State N)
    (t : AEval.St (VE N)) (hokc : okExpr B.o c = true) (hokb : okBlock B.o b = true) (hs : B.Sim s t) :
    Bis B FlowSim (m + 1) (fun n => AEval.execLoop B.P B.ac n c b.stmts t) (fun f => Eval.loopW B.rc f c b sp s) := by
  refine Bis.step rfl rfl ?_
  simp only [AEval.execLoop_succ, P_cond, ← liftE_truthy_loop, Eval.loopW]
  refine Bis.bind (IH.expr c s t hokc hs) fun v t1 s1 hs1 => ?_
  refine Bis.bind (Bis.const (ofExcept_sim hB hs1 (Eval.truthy .loopCond v) sp)) fun cb t2 s2 hs2 => ?_
  cases cb with
  | false => exact Bis.const (RSim.ok trivial hs2)
  | true =>
    simp only [↓reduceIte]
    refine Bis.andThen (IH.block b s2 t2 hokb hs2) fun fl t3 fl' s3 hfl hs3 => ?_
    rcases hfl.inv with ⟨rfl, rfl⟩ | ⟨v, rfl, rfl⟩ | ⟨rfl, rfl⟩ | ⟨rfl, rfl⟩
    · exact IH.loop c b sp s3 t3 hokc hokb hs3
    · exact Bis.const (RSim.ok rfl hs3)
    · exact Bis.const (RSim.ok trivial hs3)
    · exact IH.loop c b sp s3 t3 hokc hokb hs3

end NaijaVerif.C03
