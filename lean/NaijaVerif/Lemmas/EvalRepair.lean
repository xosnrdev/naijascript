import NaijaVerif.Lemmas.EvalCongr
/-
The two settings of `cfg.panics` describe the same runs: `cfg.repaired` simulates `cfg` step by step
(`Sim`, `sim_all`) — a run that does not panic is unchanged, a run that panics at a fixed `site` ends with
the runtime error `site.fallback` in the same state, a panic at a residual site stays that panic.
Consequently (`Props/C06Eval.lean`) `cfg.repaired` panics at residual sites only, for every program.
-/
namespace NaijaVerif.Eval
open NaijaVerif

variable {N : Type}

def RunCfg.repaired (cfg : RunCfg) : RunCfg := { cfg with panics := false }

def Sim {α : Type} (r r' : Res N α) : Prop :=
  match r with
  | .panic s st => (s.fixed = true → ∃ sp, r' = .err s.fallback sp st) ∧ (s.fixed = false → r' = .panic s st)
  | _ => r' = r

theorem Sim.refl_fuel {α : Type} : Sim (Res.fuel : Res N α) Res.fuel := rfl

theorem Sim.bind {α β : Type} {r r' : Res N α} {k k' : α → State N → Res N β}
    (h : Sim r r') (hk : ∀ a st, r = .ok a st → Sim (k a st) (k' a st)) : Sim (r.bind k) (r'.bind k') := by
  cases r with
  | ok a st => cases h; exact hk a st rfl
  | err kd sp st => cases h; exact rfl
  | panic s st =>
    -- `r'` is an error or a panic as well, so neither side runs its continuation
    exact ⟨fun hf => (h.1 hf).imp fun sp e => by rw [e]; rfl, fun hf => by rw [h.2 hf]; rfl⟩
  | fuel => cases h; exact rfl

theorem sim_trap {α : Type} (cfg : RunCfg) (site : PanicSite) (sp : Span) (st : State N) :
    Sim (trap cfg site sp st : Res N α) (trap cfg.repaired site sp st) := by
  unfold NaijaVerif.Eval.trap RunCfg.repaired
  cases hf : site.fixed with
  | false => simp [Sim, hf]
  | true =>
    cases cfg.panics with
    | true => simp [Sim, hf]
    | false => simp [Sim]

/- `cfg.repaired` differs from `cfg` in `panics` alone, which only `trap` reads: whatever else reads the
configuration gives the same.  `sim_all` does not need these equations (inside `Logic.ofRel_laws` they hold by `rfl`);
they are `simp` lemmas for whoever meets `cfg.repaired` in a goal. -/
@[simp] theorem repaired_lookupVal [NumOps N] (cfg : RunCfg) (st : State N) (b : Option Nat) (n : Bytes) :
    lookupVal cfg.repaired st b n = lookupVal cfg st b n := rfl
@[simp] theorem repaired_slotOf (cfg : RunCfg) (st : State N) (b : Option Nat) (n : Bytes) :
    slotOf cfg.repaired st b n = slotOf cfg st b n := rfl
@[simp] theorem repaired_assign (cfg : RunCfg) (st : State N) (b : Option Nat) (n : Bytes) (v : Value N) :
    assign cfg.repaired st b n v = assign cfg st b n v := rfl
@[simp] theorem repaired_lookupFn (cfg : RunCfg) (st : State N) (a : Option Nat) (n : Bytes) :
    lookupFn cfg.repaired st a n = lookupFn cfg st a n := rfl
@[simp] theorem repaired_std (cfg : RunCfg) : cfg.repaired.std = cfg.std := rfl
@[simp] theorem repaired_plan (cfg : RunCfg) : cfg.repaired.plan = cfg.plan := rfl

variable [NumOps N]

omit [NumOps N] in
theorem Sim.bindRel (cfg : RunCfg) : BindRel (N := N) Sim cfg false cfg.plan :=
  ⟨fun _ _ => rfl, fun _ _ _ => rfl, sim_trap cfg, Sim.bind⟩

-- `cfg.repaired` is `cfg.alter false cfg.plan` by eta for structures
theorem sim_all (cfg : RunCfg) : ∀ f, EvalRel (N := N) Sim cfg cfg.repaired f f :=
  Logic.all (Logic.ofRel_laws (Sim.bindRel cfg) (.refl _)) Sim.refl_fuel

end NaijaVerif.Eval
