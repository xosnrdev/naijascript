/-
The inductive invariant of the capture transition system (`Model/Capture.lean`) and its
preservation by every step; when the main thread is blocked, and that in the wait loop and on the
kill path (`Pc.inWait`) it is not, and reads nothing but program counter, flag, child and clock.
The steps of the other threads are sorted into five shapes by `Effect` (comment there): `Inv.step`
goes through it, and so do `Lemmas/CaptureFault`, `CaptureHeld` and `CaptureTime`.
-/
import NaijaVerif.Lemmas.CaptureStep

namespace NaijaVerif.Capture

def Rd.inHand : Rd → Bytes
  | .got c => c
  | _ => []

def Child.cause? : Child → Option Cause
  | .alive => none
  | .zombie _ c => some c
  | .reaped _ c => some c

def Child.st? : Child → Option (Option Nat)
  | .alive => none
  | .zombie st _ => some st
  | .reaped st _ => some st

def Child.isReaped : Child → Bool
  | .reaped _ _ => true
  | _ => false

def Child.isZombie : Child → Bool
  | .zombie _ _ => true
  | _ => false

/-- What holds of one stream, whatever the other threads do. `pb` = the bytes the child was told to
write to it. -/
structure SideInv (cap : Nat) (cpt : Bool) (pb : Bytes) (d : Side) : Prop where
  absentIff : d.rd = .absent ↔ cpt = false
  /-- nothing lost, nothing invented: buffer ++ chunk in hand ++ pipe = everything written so far -/
  conserve : d.rd ≠ .absent → d.rd ≠ .ovf → d.acc ++ d.rd.inHand ++ d.pipe = d.written
  /-- … and written ++ still to write = the plan (until the reader gives up and bytes are dropped) -/
  planned : d.rd ≠ .ovf → d.rd ≠ .failed → d.written ++ d.pending = pb
  accCap : d.acc.length ≤ cap
  ovfPrefix : d.rd = .ovf → (∃ rest, d.acc ++ rest = pb) ∧ cap < pb.length
  eofEmpty : d.rd = .eof → d.pipe = []
  absentEmpty : d.rd = .absent → d.pipe = [] ∧ d.acc = []
  closedDone : d.wopen = false → d.pending = []

/-- What holds while the main thread is on the kill path with error `e` (`Pc.kill e`, `Pc.reap e`): the
flag carries the stream's code, or the deadline has passed. The other three errors are produced by the
join phase only and never enter the kill path. -/
def ErrOk (cfg : Cfg) (s : State) : Err → Prop
  | .ole x => s.flag = code x
  | .timeout => cfg.timeout ≤ s.now
  | .badUtf8 _ => False
  | .readFailed _ => False
  | .writeFailed => False

/-- The value `join_capture` produced for the stream of side `d`. -/

def SideRes (d : Side) (r : Option Bytes) : Prop :=
  (d.rd = .absent ∧ r = none) ∨ (d.rd ≠ .absent ∧ r = some d.acc ∧ validUtf8 d.acc = true)

/-- `SideRes s.o ro` written out, and used for it without a step. -/
def OutRes (s : State) (ro : Option Bytes) : Prop :=
  (s.o.rd = .absent ∧ ro = none) ∨ (s.o.rd ≠ .absent ∧ ro = some s.o.acc ∧ validUtf8 s.o.acc = true)

/-- What is known once the result `r` has been produced (only facts no later step can change:
the detached stderr reader may still run after an early `?` return). -/
def Good (cfg : Cfg) (plan : Plan) (s : State) (r : Outcome) : Prop :=
  allowedIn cfg plan s r = true ∧
  (r = .error .timeout → cfg.timeout ≤ s.now) ∧
  (∀ st o e, r = .ok st o e → s.child = .reaped st .plan) ∧
  (r = .error (.badUtf8 .out) →
      validUtf8 s.o.written = false ∨
        (cfg.fixedJoin = false ∧ over cfg plan .out = true ∧ over cfg plan .err = true)) ∧
  (r = .error (.badUtf8 .err) → validUtf8 s.e.written = false)

/-- The child ended by itself and was reaped by `try_wait` with status `st`. -/
def SelfEnded (s : State) (st : Option Nat) : Prop :=
  s.child.isReaped = true ∧ s.child.cause? ≠ some .killed ∧ s.child.st? = some st

/-- What the program counter of the main thread lets one conclude about the child, the flag and the
readers: one row per program point, the assertion that holds whenever the main thread is about to
execute that statement, whatever the other threads have done since it got there (`PcInv.frame`).
Rows `joinErr`/`flagErr` say `s.flag ≠ 1`, not `s.flag = 0`: `join_capture(stdout)` has excluded stdout's
code only, since the `fixedJoin = false` test overlooks a flag set to stderr's code (D-16); the flag is
known to be clear after `join_capture(stderr)` (`Inv.flag0_of_errNone`).
`eJoin*`, `preJoinWr`, `drainFlag` and `blockWait` are statements of the other schedules only
(`stepMainEJ`, `stepMainWF`, `stepMainWE`): `stepMain` neither starts there nor goes there. -/
def PcInv (cfg : Cfg) (plan : Plan) (s : State) : Prop :=
  match s.pc with
  | .load | .tryWait | .deadline | .sleep _ =>
      s.child.isReaped = false ∧ s.child.cause? ≠ some .killed
  | .kill e => s.child.isReaped = false ∧ ErrOk cfg s e
  | .reap e => s.child.isZombie = true ∧ ErrOk cfg s e
  | .joinWr st => SelfEnded s st
  | .eJoinWr _ | .eJoinOut _ | .eJoinErr _ | .preJoinWr | .drainFlag _ | .blockWait => False
  | .joinOut st => SelfEnded s st
  | .flagOut st => SelfEnded s st ∧ s.o.joined = true ∧ s.o.rd ≠ .absent
  | .joinErr st ro => SelfEnded s st ∧ s.o.joined = true ∧ s.flag ≠ 1 ∧ OutRes s ro
  | .flagErr st ro =>
      SelfEnded s st ∧ s.o.joined = true ∧ s.flag ≠ 1 ∧ OutRes s ro ∧ s.e.joined = true ∧ s.e.rd ≠ .absent
  | .done r => s.child.isReaped = true ∧ Good cfg plan s r

structure Inv (cfg : Cfg) (plan : Plan) (s : State) : Prop where
  so : SideInv cfg.cap (cfg.captured .out) plan.out s.o
  se : SideInv cfg.cap (cfg.captured .err) plan.err s.e
  flagRange : s.flag = 0 ∨ s.flag = 1 ∨ s.flag = 2
  flag1 : s.flag = 1 → s.o.rd = .ovf
  flag2 : s.flag = 2 → s.e.rd = .ovf
  ovfFlag : s.o.rd = .ovf ∨ s.e.rd = .ovf → s.flag ≠ 0
  /-- end of file on `x`: the child is gone **or** has closed its end of `x` and lives on -/
  eofDead : ∀ x, (s.side x).rd = .eof → s.child.isAlive = false ∨ (s.side x).wopen = false
  causePlan : s.child.cause? = some .plan →
      s.o.pending = [] ∧ s.e.pending = [] ∧ plan.ending.status = s.child.st?
  /-- death by SIGPIPE needs a closed read end: a reader stopped on the size check (then the flag is
  set) or a `read` failed -/
  causeSig : s.child.cause? = some .sigpipe →
      (s.flag ≠ 0 ∨ s.o.rd = .failed ∨ s.e.rd = .failed) ∧ plan.sigpipeDies = true
  pcInv : PcInv cfg plan s

theorem Child.not_alive_of_reaped {c : Child} (h : c.isReaped = true) : c.isAlive = false := by
  cases c <;> first | rfl | cases h

/-- When the main thread has a statement to execute. It can be waiting only for its wake-up time, for the
child to end (the blocking `wait`; `try_wait` of a child already reaped does not happen), or in a `join`
for a helper thread to end. -/
theorem stepMain_isSome_iff (cfg : Cfg) (s : State) : (stepMain cfg s).isSome = true ↔
    match s.pc with
    | .load | .deadline | .kill _ | .flagOut _ | .flagErr _ _ => True
    | .tryWait => s.child.isReaped = false
    | .sleep w => w ≤ s.now
    | .reap _ => s.child.isZombie = true
    | .joinWr _ => s.i.finished = true
    | .joinOut _ => s.o.finished = true
    | .joinErr _ _ => s.e.finished = true
    | _ => False := by
  rw [stepMain]
  -- by program counter; the statement's own test (an `if`, a `match` on child, writer or reader) is the row
  cases s.pc <;> simp only [Option.isSome_none, Bool.false_eq_true, iff_true, Side.finished, Inp.finished,
    Child.isReaped, Child.isZombie]
  case load | deadline => split <;> rfl
  case sleep w => split <;> simp [*]
  case flagOut | flagErr =>
    split
    · rfl
    · split <;> rfl
  case tryWait | kill | reap => cases s.child <;> simp
  case joinWr => cases s.i.wr <;> simp
  case joinOut => cases s.o.rd <;> simp
  case joinErr => cases s.e.rd <;> simp

theorem SideInv.captured_of {cap cpt pb d} (h : SideInv cap cpt pb d) (he : d.rd ≠ .absent) :
    cpt = true := by
  have := h.absentIff
  cases cpt <;> simp_all

theorem SideInv.iff_byRd {cap cpt pb} {d : Side} : SideInv cap cpt pb d ↔
    d.acc.length ≤ cap ∧ (d.wopen = false → d.pending = []) ∧
    match d.rd with
    | .absent => cpt = false ∧ d.pipe = [] ∧ d.acc = [] ∧ d.written ++ d.pending = pb
    | .idle => cpt = true ∧ d.acc ++ d.pipe = d.written ∧ d.written ++ d.pending = pb
    | .got c => cpt = true ∧ d.acc ++ c ++ d.pipe = d.written ∧ d.written ++ d.pending = pb
    | .eof => cpt = true ∧ d.pipe = [] ∧ d.acc = d.written ∧ d.written ++ d.pending = pb
    | .ovf => cpt = true ∧ (∃ rest, d.acc ++ rest = pb) ∧ cap < pb.length
    | .failed => cpt = true ∧ d.acc ++ d.pipe = d.written := by
  -- by reader state: each clause of the structure is then vacuous or one of the conjuncts of the row
  constructor
  · intro h
    have hc := h.captured_of
    obtain ⟨hiff, hcons, hpl, hcap, hovf, heof, habs, hcl⟩ := h
    refine ⟨hcap, hcl, ?_⟩
    cases hrd : d.rd <;> simp only [hrd, reduceCtorEq, ne_eq, not_false_eq_true, not_true_eq_false,
      false_implies, forall_const, Rd.inHand, List.append_nil, false_iff, true_iff] at *
    · exact ⟨hiff, habs.1, habs.2, hpl⟩
    · exact ⟨hc, hcons, hpl⟩
    · exact ⟨hc, hcons, hpl⟩
    · rw [heof, List.append_nil] at hcons; exact ⟨hc, heof, hcons, hpl⟩
    · exact ⟨hc, hovf⟩
    · exact ⟨hc, hcons⟩
  · intro ⟨hcap, hcl, h⟩
    cases hrd : d.rd <;> simp only [hrd] at h <;> refine ⟨?_, ?_, ?_, hcap, ?_, ?_, ?_, hcl⟩ <;>
      simp [hrd, Rd.inHand, h]

theorem SideInv.init (cap : Nat) (pol : Policy) (pb : Bytes) :
    SideInv cap (pol == .capture) pb (Side.init pol pb) := by
  rw [SideInv.iff_byRd]
  cases pol <;> simp [Side.init]

theorem SideInv.write {cap cpt pb d d' pipeCap n} (h : SideInv cap cpt pb d)
    (hs : Side.write pipeCap d n = some d') : SideInv cap cpt pb d' := by
  obtain ⟨_, hn, hwo, hrd, rfl⟩ := Side.write_some hs
  rw [SideInv.iff_byRd] at h ⊢
  obtain ⟨hcap, _, h⟩ := h
  have hpl : ∀ w : Bytes, w ++ d.pending.take n ++ d.pending.drop n = w ++ d.pending := fun w => by
    rw [List.append_assoc, List.take_append_drop]
  refine ⟨hcap, fun hc => absurd (hwo.symm.trans hc) nofun, ?_⟩
  rcases hrd with hrd | hrd | ⟨c, hrd⟩ <;> simp only [hrd, reduceCtorEq, ↓reduceIte, hpl] at h ⊢
  · exact h
  all_goals exact ⟨h.1, by rw [← List.append_assoc, h.2.1], h.2.2⟩

theorem SideInv.drop {cap cpt pb d d' n} (h : SideInv cap cpt pb d)
    (hs : Side.drop d n = some d') : SideInv cap cpt pb d' := by
  obtain ⟨_, _, hrd, rfl⟩ := Side.drop_some hs
  rw [SideInv.iff_byRd] at h ⊢
  refine ⟨h.1, fun hc => (by simp only [h.2.1 hc, List.drop_nil]), ?_⟩
  rcases hrd with hrd | hrd <;> simp only [hrd] at h ⊢ <;> exact h.2.2

theorem SideInv.read {cap cpt pb d d' chunk} (h : SideInv cap cpt pb d)
    (hs : Side.read chunk d = some d') : SideInv cap cpt pb d' := by
  obtain ⟨hrd, _, _, rfl⟩ := Side.read_some hs
  rw [SideInv.iff_byRd] at h ⊢
  simp only [hrd] at h
  exact ⟨h.1, h.2.1, h.2.2.1, by rw [List.append_assoc, List.take_append_drop]; exact h.2.2.2.1,
    h.2.2.2.2⟩

theorem SideInv.eof {cap cpt pb d d' alive held} (h : SideInv cap cpt pb d)
    (hs : Side.eof alive held d = some d') : SideInv cap cpt pb d' := by
  obtain ⟨hrd, hp, _, _, rfl⟩ := Side.eof_some hs
  rw [SideInv.iff_byRd] at h ⊢
  simp only [hrd, hp, List.append_nil] at h
  exact ⟨h.1, h.2.1, h.2.2.1, hp, h.2.2.2⟩

theorem SideInv.fail {cap cpt pb d d'} (h : SideInv cap cpt pb d)
    (hs : Side.fail d = some d') : SideInv cap cpt pb d' := by
  obtain ⟨hrd, rfl⟩ := Side.fail_some hs
  rw [SideInv.iff_byRd] at h ⊢
  simp only [hrd] at h
  exact ⟨h.1, h.2.1, h.2.2.1, h.2.2.2.1⟩

theorem SideInv.close {cap cpt pb d d'} (h : SideInv cap cpt pb d)
    (hs : Side.close d = some d') : SideInv cap cpt pb d' := by
  obtain ⟨_, hp, rfl⟩ := Side.close_some hs
  rw [SideInv.iff_byRd] at h ⊢
  exact ⟨h.1, fun _ => hp, h.2.2⟩

/-- A chunk that does not fit makes the buffer a proper prefix of the plan: the plan is
`acc ++ c ++ pipe ++ pending`, and `acc ++ c` alone is over the cap. -/
theorem SideInv.check {cap cpt pb d d' my flag flag'} (h : SideInv cap cpt pb d)
    (hs : Side.check cap my flag d = some (d', flag')) : SideInv cap cpt pb d' := by
  obtain ⟨c, hrd, hd'⟩ := Side.check_some hs
  rw [SideInv.iff_byRd] at h ⊢
  simp only [hrd] at h
  obtain ⟨hcap, hcl, hcpt, hcons, hpl⟩ := h
  split at hd'
  · next hov =>
    obtain ⟨rfl, _⟩ := hd'
    refine ⟨hcap, hcl, hcpt, ⟨c ++ d.pipe ++ d.pending, ?_⟩, ?_⟩
    · rw [← hpl, ← hcons]; simp only [List.append_assoc]
    · rw [← hpl, ← hcons]; simp only [List.length_append]; omega
  · next hov =>
    obtain ⟨rfl, _⟩ := hd'
    exact ⟨by simp only [List.length_append]; omega, hcl, hcpt, hcons, hpl⟩

/-! `Inv` names the two streams' clauses separately; the steps treat them alike, so the proofs use the
clauses for an arbitrary stream `x`. -/

theorem Inv.side {cfg plan} {s : State} (h : Inv cfg plan s) (x : Strm) :
    SideInv cfg.cap (cfg.captured x) (plan.bytes x) (s.side x) := by
  cases x
  · exact h.so
  · exact h.se

theorem Inv.ovf_of_flag {cfg plan} {s : State} (h : Inv cfg plan s) {x : Strm}
    (hf : s.flag = code x) : (s.side x).rd = .ovf := by
  cases x
  · exact h.flag1 hf
  · exact h.flag2 hf

theorem Inv.flag_of_ovf {cfg plan} {s : State} (h : Inv cfg plan s) {x : Strm}
    (ho : (s.side x).rd = .ovf) : s.flag ≠ 0 := by
  cases x
  · exact h.ovfFlag (Or.inl ho)
  · exact h.ovfFlag (Or.inr ho)

theorem Inv.ofSides {cfg plan} {s : State}
    (side : ∀ x, SideInv cfg.cap (cfg.captured x) (plan.bytes x) (s.side x))
    (flagRange : s.flag = 0 ∨ s.flag = 1 ∨ s.flag = 2)
    (ovfOfFlag : ∀ x, s.flag = code x → (s.side x).rd = .ovf)
    (flagOfOvf : ∀ x, (s.side x).rd = .ovf → s.flag ≠ 0)
    (eofDead : ∀ x, (s.side x).rd = .eof → s.child.isAlive = false ∨ (s.side x).wopen = false)
    (causePlan : s.child.cause? = some .plan →
      (∀ x, (s.side x).pending = []) ∧ plan.ending.status = s.child.st?)
    (causeSig : s.child.cause? = some .sigpipe →
      (s.flag ≠ 0 ∨ ∃ x, (s.side x).rd = .failed) ∧ plan.sigpipeDies = true)
    (pcInv : PcInv cfg plan s) : Inv cfg plan s where
  so := side .out
  se := side .err
  flagRange := flagRange
  flag1 := ovfOfFlag .out
  flag2 := ovfOfFlag .err
  ovfFlag := fun h => h.elim (flagOfOvf .out) (flagOfOvf .err)
  eofDead := eofDead
  causePlan := fun hc => ⟨(causePlan hc).1 .out, (causePlan hc).1 .err, (causePlan hc).2⟩
  causeSig := fun hc =>
    ⟨(causeSig hc).1.imp_right fun ⟨x, hx⟩ => by cases x; exact Or.inl hx; exact Or.inr hx,
      (causeSig hc).2⟩
  pcInv := pcInv

theorem Inv.failed_of_sigpipe {cfg plan} {s : State} (h : Inv cfg plan s)
    (hc : s.child.cause? = some .sigpipe) :
    (s.flag ≠ 0 ∨ ∃ x, (s.side x).rd = .failed) ∧ plan.sigpipeDies = true :=
  ⟨(h.causeSig hc).1.imp_right fun hf => hf.elim (fun h => ⟨.out, h⟩) (fun h => ⟨.err, h⟩),
    (h.causeSig hc).2⟩

theorem Side.joined_iff (d : Side) : d.joined = true ↔ d.rd = .absent ∨ d.rd = .eof ∨ d.rd = .ovf := by
  unfold Side.joined; cases d.rd <;> simp

theorem Side.finished_iff (d : Side) :
    d.finished = true ↔ d.rd = .absent ∨ d.rd = .eof ∨ d.rd = .ovf ∨ d.rd = .failed := by
  unfold Side.finished; cases d.rd <;> simp

theorem Side.finished_of_joined {d : Side} (h : d.joined = true) : d.finished = true := by
  rw [Side.joined_iff] at h; rw [Side.finished_iff]
  rcases h with h | h | h
  · exact Or.inl h
  · exact Or.inr (Or.inl h)
  · exact Or.inr (Or.inr (Or.inl h))

theorem code_ne_zero (x : Strm) : code x ≠ 0 := by cases x <;> decide

theorem code_inj {x y : Strm} (h : code x = code y) : x = y := by
  cases x <;> cases y <;> first | rfl | cases h

theorem ErrOk.mono {cfg} {s s' : State} {e : Err} (h : ErrOk cfg s e) (hnow : s.now ≤ s'.now)
    (hflag : s.flag ≠ 0 → s'.flag = s.flag) : ErrOk cfg s' e := by
  cases e with
  | ole x =>
    have h : s.flag = code x := h
    exact (hflag (h ▸ code_ne_zero x)).trans h
  | timeout => exact Nat.le_trans (show cfg.timeout ≤ s.now from h) hnow
  | _ => exact h.elim

theorem faultAllowed_no_fault (cfg : Cfg) (plan : Plan) (r : Outcome) :
    faultAllowed cfg plan false false false r = false := by
  unfold faultAllowed; split <;> rfl

/-- Fault marks are permanent, so what is allowed in a state stays allowed later. -/
theorem allowedIn_mono {cfg plan} {s s' : State} {r : Outcome} (h : allowedIn cfg plan s r = true)
    (hfo : s.o.rd = .failed → s'.o.rd = .failed) (hfe : s.e.rd = .failed → s'.e.rd = .failed)
    (hfw : s.i.wr = .failed → s'.i.wr = .failed) : allowedIn cfg plan s' r = true := by
  simp only [allowedIn, Bool.or_eq_true] at h ⊢
  refine h.imp_right fun h => ?_
  unfold faultAllowed at h ⊢
  split at h
  · exact (beq_iff_eq.mpr (hfo (beq_iff_eq.mp h)))
  · exact (beq_iff_eq.mpr (hfe (beq_iff_eq.mp h)))
  · exact (beq_iff_eq.mpr (hfw (beq_iff_eq.mp h)))
  · simp only [Bool.and_eq_true, beq_iff_eq] at h ⊢
    exact ⟨⟨⟨hfe h.1.1.1, h.1.1.2⟩, h.1.2⟩, h.2⟩
  · cases h

theorem Good.frame {cfg plan} {s s' : State} {r : Outcome} (h : Good cfg plan s r)
    (hc : s'.child = s.child) (hnow : s.now ≤ s'.now) (ho : s'.o.written = s.o.written)
    (he : s'.e.written = s.e.written)
    (hfo : s.o.rd = .failed → s'.o.rd = .failed) (hfe : s.e.rd = .failed → s'.e.rd = .failed)
    (hfw : s.i.wr = .failed → s'.i.wr = .failed) : Good cfg plan s' r := by
  obtain ⟨h1, h2, h3, h4, h5⟩ := h
  refine ⟨allowedIn_mono h1 hfo hfe hfw, fun hr => Nat.le_trans (h2 hr) hnow, ?_, ?_, ?_⟩
  · intro st o e hr; rw [hc]; exact h3 st o e hr
  · rw [ho]; exact h4
  · rw [he]; exact h5

/-- An error says nothing about the exit status; only `Timeout` and `InvalidUtf8` carry a claim of
their own. -/
theorem Good.of_error {cfg plan} {s : State} {e : Err} (ha : allowedIn cfg plan s (.error e) = true)
    (ht : e = .timeout → cfg.timeout ≤ s.now) (hb : ∀ x, e ≠ .badUtf8 x) :
    Good cfg plan s (.error e) :=
  ⟨ha, fun h => ht (Outcome.error.inj h), nofun, fun h => absurd (Outcome.error.inj h) (hb _),
    fun h => absurd (Outcome.error.inj h) (hb _)⟩

theorem PcInv.frame {cfg plan} {s s' : State} (h : PcInv cfg plan s)
    (hpc : s'.pc = s.pc) (hc : s'.child = s.child) (hnow : s.now ≤ s'.now)
    (hflag : s'.flag = s.flag ∨ (s.flag = 0 ∧ ∃ y, s'.flag = code y ∧ (s.side y).joined = false))
    (hside : ∀ y, s'.side y = s.side y ∨
      ((s.side y).finished = false ∧ (s'.side y).written = (s.side y).written))
    (hw : s.i.wr = .failed → s'.i.wr = .failed) :
    PcInv cfg plan s' := by
  have keep : ∀ y, (s.side y).joined = true → s'.side y = s.side y := fun y hj =>
    (hside y).resolve_right fun ⟨hf, _⟩ => by rw [Side.finished_of_joined hj] at hf; cases hf
  have hfail : ∀ y, (s.side y).rd = .failed → (s'.side y).rd = .failed := fun y hf =>
    (hside y).elim (fun h => h ▸ hf) fun ⟨hn, _⟩ => by
      rw [(Side.finished_iff _).mpr (Or.inr (Or.inr (Or.inr hf)))] at hn; cases hn
  have hwr : ∀ y, (s'.side y).written = (s.side y).written := fun y =>
    (hside y).elim (fun h => by rw [h]) (·.2)
  have hf0 : s.flag ≠ 0 → s'.flag = s.flag := fun h0 => hflag.resolve_right fun h => h0 h.1
  -- a flag set by a reader that was still running is not the code of a joined one
  have hf1 : ∀ y, (s.side y).joined = true → s.flag ≠ code y → s'.flag ≠ code y := by
    intro y hj hne
    rcases hflag with h | ⟨_, z, h, hz⟩
    · rwa [h]
    · intro hyz
      rw [code_inj (h.symm.trans hyz), hj] at hz; cases hz
  have hse : ∀ st, SelfEnded s st → SelfEnded s' st := fun st h => by
    unfold SelfEnded at h ⊢; rwa [hc]
  have ho : (s.o.joined = true → s'.o = s.o) := keep .out
  have he : (s.e.joined = true → s'.e = s.e) := keep .err
  unfold PcInv at h ⊢
  rw [hpc]
  cases hp : s.pc <;> simp only [hp] at h ⊢
  case load | tryWait | deadline | sleep => rwa [hc]
  case kill | reap => rw [hc]; exact ⟨h.1, h.2.mono hnow hf0⟩
  case joinOut | joinWr => exact hse _ h
  case flagOut => rw [ho h.2.1]; exact ⟨hse _ h.1, h.2⟩
  case joinErr =>
    refine ⟨hse _ h.1, ?_, hf1 .out h.2.1 h.2.2.1, ?_⟩
    · rw [ho h.2.1]; exact h.2.1
    · unfold OutRes; rw [ho h.2.1]; exact h.2.2.2
  case flagErr =>
    refine ⟨hse _ h.1, ?_, hf1 .out h.2.1 h.2.2.1, ?_, ?_⟩
    · rw [ho h.2.1]; exact h.2.1
    · unfold OutRes; rw [ho h.2.1]; exact h.2.2.2.1
    · rw [he h.2.2.2.2.1]; exact h.2.2.2.2
  case done =>
    rw [hc]
    exact ⟨h.1, h.2.frame hc hnow (hwr .out) (hwr .err) (hfail .out) (hfail .err) hw⟩

theorem PcInv.childStep {cfg plan} {s s' : State} (h : PcInv cfg plan s) (ha : s.child = .alive)
    (hpc : s'.pc = s.pc) (hflag : s'.flag = s.flag) (hnow : s'.now = s.now)
    (hc : s'.child.isReaped = false ∧ s'.child.cause? ≠ some .killed) : PcInv cfg plan s' := by
  have hr : s.child.isReaped ≠ true := by rw [ha]; exact Bool.false_ne_true
  have hz : s.child.isZombie ≠ true := by rw [ha]; exact Bool.false_ne_true
  unfold PcInv at h ⊢
  rw [hpc]
  cases hp : s.pc <;> simp only [hp] at h ⊢
  case load | tryWait | deadline | sleep => exact hc
  case kill => exact ⟨hc.1, h.2.mono (Nat.le_of_eq hnow.symm) fun _ => hflag⟩
  case reap => exact absurd h.1 hz
  case joinWr | joinOut => exact absurd h.1 hr
  case flagOut | joinErr | flagErr => exact absurd h.1.1 hr
  case done => exact absurd h.1 hr

theorem setSide_flag (s : State) (x : Strm) (d : Side) :
    { s.setSide x d with flag := s.flag } = s.setSide x d := by cases x <;> rfl

/-- Stated for a variable `s'` equal to the updated record, so that a caller can `generalize` the record
away and work with these equations alone. -/
theorem setSide_frame (s : State) (x : Strm) (d : Side) (f : Nat) :
    ∀ s', s' = ({ s.setSide x d with flag := f } : State) →
      s'.side x = d ∧ (∀ y, y ≠ x → s'.side y = s.side y) ∧ s'.flag = f ∧ s'.pc = s.pc ∧
        s'.child = s.child ∧ s'.now = s.now ∧ s'.i = s.i := by
  rintro _ rfl
  cases x <;> refine ⟨rfl, fun y hy => ?_, rfl, rfl, rfl, rfl, rfl⟩ <;> cases y <;>
    first | rfl | exact absurd rfl hy

theorem Inv.readerStep {cfg plan} {s : State} {x : Strm} {d' : Side} {f' : Nat} (h : Inv cfg plan s)
    (hi : SideInv cfg.cap (cfg.captured x) (plan.bytes x) d')
    (hnf : (s.side x).finished = false)
    (hw : d'.written = (s.side x).written) (hp : d'.pending = (s.side x).pending)
    (heof : d'.rd = .eof → s.child.isAlive = false ∨ d'.wopen = false)
    (hflag : (d'.rd ≠ .ovf ∧ f' = s.flag) ∨ (d'.rd = .ovf ∧ f' = if s.flag = 0 then code x else s.flag)) :
    Inv cfg plan { s.setSide x d' with flag := f' } := by
  obtain ⟨hsx, hsy, hfl, hpc, hc, hnow, hin⟩ := setSide_frame s x d' f' _ rfl
  generalize ({ s.setSide x d' with flag := f' } : State) = s' at *
  subst hsx hfl
  -- `x`'s reader was running, so no clause about a finished reader spoke of it
  have hnj : (s.side x).joined = false := by
    cases hj : (s.side x).joined
    · rfl
    · rw [Side.finished_of_joined hj] at hnf; cases hnf
  have hrun : (s.side x).rd ≠ .ovf ∧ (s.side x).rd ≠ .failed := by
    rw [← Bool.not_eq_true, Side.finished_iff] at hnf
    exact ⟨fun hr => hnf (Or.inr (Or.inr (Or.inl hr))), fun hr => hnf (Or.inr (Or.inr (Or.inr hr)))⟩
  have hf0 : s.flag ≠ 0 → s'.flag = s.flag := by
    intro h0; rcases hflag with ⟨_, h⟩ | ⟨_, h⟩
    · exact h
    · rw [h, if_neg h0]
  have hf0' : s.flag ≠ 0 → s'.flag ≠ 0 := fun h0 => by rwa [hf0 h0]
  refine Inv.ofSides ?_ ?_ ?_ ?_ ?_ ?_ ?_ ?_
  · intro y
    by_cases hy : y = x
    · exact hy ▸ hi
    · rw [hsy y hy]; exact h.side y
  · by_cases h0 : s.flag = 0
    · rcases hflag with ⟨_, hf⟩ | ⟨_, hf⟩
      · rw [hf]; exact h.flagRange
      · rw [hf, if_pos h0]; cases x <;> simp [code]
    · rw [hf0 h0]; exact h.flagRange
  · intro y hy
    by_cases hyx : y = x
    · subst hyx
      rcases hflag with ⟨_, hf⟩ | ⟨hov, _⟩
      · exact absurd (h.ovf_of_flag (hf ▸ hy)) hrun.1
      · exact hov
    · rw [hsy y hyx]
      by_cases h0 : s.flag = 0
      · rcases hflag with ⟨_, hf⟩ | ⟨_, hf⟩
        · exact h.ovf_of_flag (hf ▸ hy)
        · rw [hf, if_pos h0] at hy; exact absurd (code_inj hy).symm hyx
      · exact h.ovf_of_flag (hf0 h0 ▸ hy)
  · intro y hy
    by_cases hyx : y = x
    · subst hyx
      rcases hflag with ⟨hno, _⟩ | ⟨_, hf⟩
      · exact absurd hy hno
      · rw [hf]; split
        · exact code_ne_zero y
        · assumption
    · rw [hsy y hyx] at hy; exact hf0' (h.flag_of_ovf hy)
  · intro y hy
    rw [hc]
    by_cases hyx : y = x
    · subst hyx; exact heof hy
    · rw [hsy y hyx] at hy ⊢; exact h.eofDead y hy
  · intro hcp
    rw [hc] at hcp ⊢
    have := h.causePlan hcp
    refine ⟨fun y => ?_, this.2.2⟩
    have hpy : (s.side y).pending = [] := by cases y; exact this.1; exact this.2.1
    by_cases hyx : y = x
    · subst hyx; rw [hp, hpy]
    · rw [hsy y hyx, hpy]
  · intro hcs
    rw [hc] at hcs
    obtain ⟨hwhy, hd⟩ := h.failed_of_sigpipe hcs
    refine ⟨hwhy.imp hf0' fun ⟨y, hy⟩ => ⟨y, ?_⟩, hd⟩
    by_cases hyx : y = x
    · exact absurd (hyx ▸ hy) hrun.2
    · rw [hsy y hyx]; exact hy
  · refine h.pcInv.frame hpc hc (Nat.le_of_eq hnow.symm) ?_ ?_ (hin ▸ id)
    · by_cases h0 : s.flag = 0
      · rcases hflag with ⟨_, hf⟩ | ⟨_, hf⟩
        · exact Or.inl hf
        · exact Or.inr ⟨h0, x, by rw [hf, if_pos h0], hnj⟩
      · exact Or.inl (hf0 h0)
    · intro y
      by_cases hyx : y = x
      · exact Or.inr (hyx ▸ ⟨hnf, hw⟩)
      · exact Or.inl (hsy y hyx)

theorem Inv.childSideStep {cfg plan} {s : State} {x : Strm} {d' : Side} (h : Inv cfg plan s)
    (ha : s.child = .alive) (hi : SideInv cfg.cap (cfg.captured x) (plan.bytes x) d')
    (hrd : d'.rd = (s.side x).rd) (heof : d'.rd = .eof → d'.wopen = false) :
    Inv cfg plan (s.setSide x d') := by
  obtain ⟨hsx, hsy, hfl, hpc, hc, hnow, hin⟩ := setSide_frame s x d' s.flag _ rfl
  rw [setSide_flag] at hsx hsy hfl hpc hc hnow hin
  generalize s.setSide x d' = s' at *
  subst hsx
  have hrdy : ∀ y, (s'.side y).rd = (s.side y).rd := fun y => by
    by_cases hyx : y = x
    · exact hyx ▸ hrd
    · rw [hsy y hyx]
  have hcause : s'.child.cause? = none := by rw [hc, ha]; rfl
  refine Inv.ofSides ?_ (hfl ▸ h.flagRange) ?_ ?_ ?_ ?_ ?_ ?_
  · intro y
    by_cases hy : y = x
    · exact hy ▸ hi
    · rw [hsy y hy]; exact h.side y
  · intro y hy; rw [hrdy]; exact h.ovf_of_flag (hfl ▸ hy)
  · intro y hy; rw [hfl]; exact h.flag_of_ovf (hrdy y ▸ hy)
  · intro y hy
    by_cases hyx : y = x
    · subst hyx; exact Or.inr (heof hy)
    · rw [hsy y hyx] at hy ⊢; rw [hc]; exact h.eofDead y hy
  · intro hcp; rw [hcause] at hcp; cases hcp
  · intro hcs; rw [hcause] at hcs; cases hcs
  · exact h.pcInv.childStep ha hpc hfl hnow (by rw [hc, ha]; exact ⟨rfl, nofun⟩)

theorem Inv.childDies {cfg plan} {s : State} {st : Option Nat} {c : Cause} (h : Inv cfg plan s)
    (ha : s.child = .alive) (hck : c ≠ .killed)
    (hplan : c = .plan → s.o.pending = [] ∧ s.e.pending = [] ∧ plan.ending.status = some st)
    (hsig : c = .sigpipe →
      (s.flag ≠ 0 ∨ s.o.rd = .failed ∨ s.e.rd = .failed) ∧ plan.sigpipeDies = true) :
    Inv cfg plan { s with child := .zombie st c } :=
  ⟨h.so, h.se, h.flagRange, h.flag1, h.flag2, h.ovfFlag, fun _ _ => Or.inl rfl,
    fun hc => hplan (Option.some.inj hc), fun hc => hsig (Option.some.inj hc),
    h.pcInv.childStep ha rfl rfl rfl ⟨rfl, fun hc => hck (Option.some.inj hc)⟩⟩

theorem Side.closed_iff (d : Side) : d.closed = true ↔ d.rd = .ovf ∨ d.rd = .failed := by
  unfold Side.closed; cases d.rd <;> simp

/-- On its own; `Inv.step` reaches the same label through `Effect.of_step` and `Inv.childSideStep`. -/
theorem Inv.childClose {cfg plan x} {s s' : State} (h : Inv cfg plan s)
    (hs : step cfg plan s (.childClose x) = some s') : Inv cfg plan s' := by
  obtain ⟨ha, d, hd, rfl⟩ := step_inv hs
  obtain ⟨_, _, rfl⟩ := Side.close_some hd
  exact h.childSideStep ha ((h.side x).close hd) rfl fun _ => rfl

theorem prefixInvalidFrom_of_take (bs : Bytes) :
    ∀ (st : Option U8) (fuel k : Nat), k ≤ fuel → k ≤ bs.length →
      U8.accepting ((bs.take k).foldl u8step st) = false → prefixInvalidFrom st fuel bs = true := by
  induction bs with
  | nil =>
    intro st fuel k _ hk h
    have : k = 0 := by simpa using hk
    subst this
    unfold prefixInvalidFrom
    simp at h; simp [h]
  | cons b r ih =>
    intro st fuel k hf hk h
    cases k with
    | zero => unfold prefixInvalidFrom; simp at h; simp [h]
    | succ k' =>
      cases fuel with
      | zero => omega
      | succ f =>
        unfold prefixInvalidFrom
        simp only [List.take_succ_cons, List.foldl_cons] at h
        have := ih (u8step st b) f k' (Nat.le_of_succ_le_succ hf) (by simpa using hk) h
        simp [this]

theorem prefixInvalid_of_prefix {cap : Nat} {acc rest pb : Bytes} (hp : acc ++ rest = pb)
    (hl : acc.length ≤ cap) (hv : validUtf8 acc = false) : prefixInvalid cap pb = true := by
  unfold prefixInvalid
  apply prefixInvalidFrom_of_take pb _ cap acc.length hl (by rw [← hp]; simp)
  rw [← hp]; simpa [validUtf8] using hv

theorem over_iff (cfg : Cfg) (plan : Plan) (x : Strm) :
    over cfg plan x = true ↔ cfg.captured x = true ∧ cfg.cap < (plan.bytes x).length := by
  simp [over]

theorem over_eq_false_iff (cfg : Cfg) (plan : Plan) (x : Strm) :
    over cfg plan x = false ↔ cfg.captured x = false ∨ (plan.bytes x).length ≤ cfg.cap := by
  unfold over; cases cfg.captured x <;> simp

theorem over_false_of_le {cfg : Cfg} {plan : Plan} {x : Strm} (h : (plan.bytes x).length ≤ cfg.cap) :
    over cfg plan x = false := (over_eq_false_iff cfg plan x).mpr (Or.inr h)

theorem Inv.withPc {cfg plan} {s : State} (h : Inv cfg plan s) (p : Pc)
    (hp : PcInv cfg plan { s with pc := p }) : Inv cfg plan { s with pc := p } :=
  ⟨h.so, h.se, h.flagRange, h.flag1, h.flag2, h.ovfFlag, h.eofDead, h.causePlan, h.causeSig, hp⟩

theorem Inv.withChildPc {cfg plan} {s : State} (h : Inv cfg plan s) (c' : Child) (p : Pc)
    (hal : c'.isAlive = false)
    (hcause : (c'.cause? = s.child.cause? ∧ c'.st? = s.child.st?) ∨ c'.cause? = some .killed)
    (hp : PcInv cfg plan { s with child := c', pc := p }) :
    Inv cfg plan { s with child := c', pc := p } := by
  refine ⟨h.so, h.se, h.flagRange, h.flag1, h.flag2, h.ovfFlag, fun _ _ => Or.inl hal, ?_, ?_, hp⟩
  · intro hc
    rcases hcause with ⟨h1, h2⟩ | h1
    · simp only at hc ⊢; rw [h2]; exact h.causePlan (h1 ▸ hc)
    · simp only at hc; rw [h1] at hc; cases hc
  · intro hc
    rcases hcause with ⟨h1, _⟩ | h1
    · exact h.causeSig (h1 ▸ hc)
    · simp only at hc; rw [h1] at hc; cases hc

theorem code_fromCode {f : Nat} (hr : f = 0 ∨ f = 1 ∨ f = 2) (h0 : f ≠ 0) : code (fromCode f) = f := by
  rcases hr with h | h | h <;> simp_all [code, fromCode]

theorem Inv.over_of_flag {cfg plan} {s : State} (h : Inv cfg plan s) {x : Strm}
    (hf : s.flag = code x) : over cfg plan x = true := by
  have hovf := h.ovf_of_flag hf
  exact (over_iff cfg plan x).mpr
    ⟨(h.side x).captured_of (by rw [hovf]; nofun), ((h.side x).ovfPrefix hovf).2⟩

theorem SelfEnded.child {s : State} {st : Option Nat} (h : SelfEnded s st) :
    ∃ c, s.child = .reaped st c ∧ c ≠ .killed := by
  obtain ⟨h1, h2, h3⟩ := h
  cases hc : s.child <;> simp_all [Child.isReaped, Child.cause?, Child.st?]

theorem Inv.cause_of_reaped {cfg plan} {s : State} {st : Option Nat} {c : Cause} (h : Inv cfg plan s)
    (hc : s.child = .reaped st c) :
    c = .killed ∨
      (c = .plan ∧ s.o.pending = [] ∧ s.e.pending = [] ∧ plan.ending.status = some st) ∨
      (c = .sigpipe ∧ (s.flag ≠ 0 ∨ s.o.rd = .failed ∨ s.e.rd = .failed) ∧ plan.sigpipeDies = true) := by
  cases c with
  | killed => exact .inl rfl
  | plan =>
    have := h.causePlan (by rw [hc]; rfl)
    rw [hc] at this
    exact .inr (.inl ⟨rfl, this⟩)
  | sigpipe => exact .inr (.inr ⟨rfl, h.causeSig (by rw [hc]; rfl)⟩)

theorem Inv.plan_of_flag0 {cfg plan} {s : State} {st : Option Nat} (h : Inv cfg plan s)
    (he : SelfEnded s st) (h0 : s.flag = 0) (hno : s.o.rd ≠ .failed) (hne : s.e.rd ≠ .failed) :
    s.child = .reaped st .plan ∧ s.o.pending = [] ∧ s.e.pending = [] ∧ plan.ending.status = some st := by
  obtain ⟨c, hc, hk⟩ := he.child
  rcases h.cause_of_reaped hc with rfl | ⟨rfl, hp⟩ | ⟨rfl, hwhy, _⟩
  · exact absurd rfl hk
  · exact ⟨hc, hp⟩
  · rcases hwhy with h1 | h1 | h1
    · exact absurd h0 h1
    · exact absurd h1 hno
    · exact absurd h1 hne

theorem SideInv.eof_acc {cap cpt pb d} (h : SideInv cap cpt pb d) (he : d.rd = .eof) :
    d.acc = d.written ∧ d.written ++ d.pending = pb := by
  have := SideInv.iff_byRd.mp h
  simp only [he] at this
  exact this.2.2.2.2

theorem Side.joined_cases {d : Side} (hj : d.joined = true) (ha : d.rd ≠ .absent) :
    d.rd = .eof ∨ d.rd = .ovf := by
  rw [Side.joined_iff] at hj; simp_all

theorem Side.joined_of_rd {d : Side} (h : d.rd = .eof ∨ d.rd = .ovf) :
    d.joined = true ∧ d.rd ≠ .absent := by
  unfold Side.joined; rcases h with h | h <;> rw [h] <;> exact ⟨rfl, nofun⟩

theorem Side.not_failed_of_joined {d : Side} (hj : d.joined = true) : d.rd ≠ .failed := by
  rw [Side.joined_iff] at hj; intro hf; simp [hf] at hj

theorem allowedIn_of_allowed {cfg plan} {s : State} {r : Outcome} (h : allowed cfg plan r = true) :
    allowedIn cfg plan s r = true := by simp [allowedIn, h]

theorem Good.ole {cfg plan} {s : State} {x : Strm} (h : Inv cfg plan s) (hf : s.flag = code x) :
    Good cfg plan s (.error (.ole x)) :=
  Good.of_error (allowedIn_of_allowed (by simpa [allowed] using h.over_of_flag hf)) nofun nofun

theorem Inv.joinOverflow_some {cfg plan} {s : State} {x y : Strm} (h : Inv cfg plan s)
    (hj : joinOverflow cfg.fixedJoin s.flag x = some y) : s.flag = code y := by
  unfold joinOverflow at hj
  split at hj
  · split at hj
    · next h0 => cases hj; exact (code_fromCode h.flagRange h0).symm
    · cases hj
  · split at hj
    · next hc => cases hj; exact hc
    · cases hj

theorem joinOverflow_none {fixed : Bool} {flag : Nat} {x : Strm}
    (hj : joinOverflow fixed flag x = none) : (fixed = true ∧ flag = 0) ∨ (fixed = false ∧ flag ≠ code x) := by
  unfold joinOverflow at hj
  cases fixed <;> simp_all

/-- "Never truncated". The overflow arm of a joined reader is excluded by the clear flag (`flag_of_ovf`),
which leaves end of file. -/
theorem Inv.complete {cfg plan} {s : State} (h : Inv cfg plan s) (x : Strm)
    (hp : (s.side x).pending = []) (h0 : s.flag = 0) (hj : (s.side x).joined = true)
    (hna : (s.side x).rd ≠ .absent) :
    (s.side x).acc = plan.bytes x ∧ (s.side x).written = plan.bytes x ∧
      (plan.bytes x).length ≤ cfg.cap ∧ cfg.captured x = true := by
  rcases Side.joined_cases hj hna with heof | hovf
  · obtain ⟨hacc, hplanned⟩ := (h.side x).eof_acc heof
    have hw : (s.side x).written = plan.bytes x := by rw [← hplanned, hp, List.append_nil]
    exact ⟨hacc.trans hw, hw, by rw [← hw, ← hacc]; exact (h.side x).accCap,
      (h.side x).captured_of hna⟩
  · exact absurd h0 (h.flag_of_ovf hovf)

theorem expect_complete {cfg : Cfg} {plan : Plan} {x : Strm} {r : Option Bytes}
    (ho : over cfg plan x = false) (hr : r = expect cfg plan x)
    (hv : (!cfg.captured x || validUtf8 (plan.bytes x)) = true) :
    (cfg.pol x = .capture →
      r = some (plan.bytes x) ∧ (plan.bytes x).length ≤ cfg.cap ∧ validUtf8 (plan.bytes x) = true) ∧
    (cfg.pol x ≠ .capture → r = none) := by
  subst hr
  unfold expect
  cases hc : cfg.captured x
  · have hp : cfg.pol x ≠ .capture := by simpa [Cfg.captured] using hc
    exact ⟨fun h => absurd h hp, fun _ => rfl⟩
  · have hp : cfg.pol x = .capture := by simpa [Cfg.captured] using hc
    rw [hc] at hv
    rw [over_eq_false_iff, hc] at ho
    exact ⟨fun _ => ⟨rfl, ho.resolve_left nofun, hv⟩, fun h => absurd hp h⟩

theorem Inv.sideRes_complete {cfg plan} {s : State} {r : Option Bytes} (h : Inv cfg plan s) (x : Strm)
    (hp : (s.side x).pending = []) (h0 : s.flag = 0) (hj : (s.side x).joined = true)
    (hr : SideRes (s.side x) r) :
    r = expect cfg plan x ∧ over cfg plan x = false ∧
      (!cfg.captured x || validUtf8 (plan.bytes x)) = true := by
  rcases hr with ⟨habs, rfl⟩ | ⟨hna, rfl, hv⟩
  · have hc := (h.side x).absentIff.mp habs
    exact ⟨by simp [expect, hc], (over_eq_false_iff cfg plan x).mpr (.inl hc), by simp [hc]⟩
  · obtain ⟨hacc, _, hlen, hc⟩ := h.complete x hp h0 hj hna
    exact ⟨by simp [expect, hc, hacc], over_false_of_le hlen, by simp [hc, ← hacc, hv]⟩

theorem Inv.good_ok {cfg plan} {s : State} {st : Option Nat} {ro re : Option Bytes}
    (h : Inv cfg plan s) (hse : SelfEnded s st) (h0 : s.flag = 0) (hjo : s.o.joined = true)
    (hje : s.e.joined = true) (hro : SideRes s.o ro) (hre : SideRes s.e re) :
    Good cfg plan s (.ok st ro re) := by
  obtain ⟨hchild, hpo, hpe, hstatus⟩ :=
    h.plan_of_flag0 hse h0 (Side.not_failed_of_joined hjo) (Side.not_failed_of_joined hje)
  obtain ⟨rfl, hoo, hvo⟩ := h.sideRes_complete .out hpo h0 hjo hro
  obtain ⟨rfl, hoe, hve⟩ := h.sideRes_complete .err hpe h0 hje hre
  refine ⟨allowedIn_of_allowed ?_, nofun, fun _ _ _ hr => ?_, nofun, nofun⟩
  · simp only [allowed, hstatus, hoo, hoe, beq_self_eq_true, Bool.not_false, Bool.and_self, Bool.true_and]
    exact Bool.and_eq_true_iff.mpr ⟨hvo, hve⟩
  · cases hr; exact hchild

theorem Inv.good_errBad {cfg plan} {s : State} {st : Option Nat} {ro : Option Bytes}
    (h : Inv cfg plan s) (hse : SelfEnded s st) (h0 : s.flag = 0) (hjo : s.o.joined = true)
    (hje : s.e.joined = true) (hro : SideRes s.o ro) (hnae : s.e.rd ≠ .absent)
    (hv : validUtf8 s.e.acc = false) : Good cfg plan s (.error (.badUtf8 .err)) := by
  obtain ⟨_, hpo, hpe, _⟩ :=
    h.plan_of_flag0 hse h0 (Side.not_failed_of_joined hjo) (Side.not_failed_of_joined hje)
  obtain ⟨_, hoo, hvo⟩ := h.sideRes_complete .out hpo h0 hjo hro
  obtain ⟨hacc, hw, hlen, hce⟩ : s.e.acc = plan.err ∧ s.e.written = plan.err ∧ plan.err.length ≤ cfg.cap ∧ _ :=
    h.complete .err hpe h0 hje hnae
  rw [hacc] at hv
  refine ⟨allowedIn_of_allowed ?_, nofun, nofun, nofun, fun _ => hw ▸ hv⟩
  simp only [allowed, hce, over_false_of_le (x := .err) hlen, hoo, hv, Bool.not_false, Bool.and_self,
    Bool.true_and]
  exact hvo

/-- `InvalidUtf8(stdout)`: the one result whose justification depends on how the child ended. -/
theorem Inv.good_outBad {cfg plan} {s : State} {st : Option Nat} (h : Inv cfg plan s)
    (hse : SelfEnded s st) (hjo : s.o.joined = true) (hna : s.o.rd ≠ .absent)
    (hnone : joinOverflow cfg.fixedJoin s.flag .out = none) (hv : validUtf8 s.o.acc = false) :
    Good cfg plan s (.error (.badUtf8 .out)) := by
  have hcap : cfg.captured .out = true := h.so.captured_of hna
  obtain ⟨c, hchild, hck⟩ := hse.child
  have hmode := joinOverflow_none hnone
  -- a set flag that this `join_capture` overlooked: the `fixedJoin = false` test, and stderr's code
  have hlost : s.flag ≠ 0 → cfg.fixedJoin = false ∧ over cfg plan .err = true := fun h0 =>
    ⟨hmode.elim (fun hz => absurd hz.2 h0) (·.1),
      h.over_of_flag (x := .err) (show s.flag = 2 by
        have := h.flagRange; have : s.flag ≠ 1 := hmode.elim (fun hz => by omega) (·.2); omega)⟩
  rcases Side.joined_cases hjo hna with heof | hovf
  · -- the reader saw EOF: its buffer is everything the child wrote
    obtain ⟨hacc, hplanned⟩ := h.so.eof_acc heof
    have hwv : validUtf8 s.o.written = false := hacc ▸ hv
    have hpi : prefixInvalid cfg.cap plan.out = true :=
      prefixInvalid_of_prefix hplanned (hacc ▸ h.so.accCap) hwv
    refine ⟨?_, nofun, nofun, fun _ => Or.inl hwv, nofun⟩
    rcases h.cause_of_reaped hchild with rfl | ⟨rfl, hpo, _⟩ | ⟨rfl, hwhy, hdies⟩
    · exact absurd rfl hck
    · -- it wrote everything: the plan itself is invalid, and within the cap
      have hfull : s.o.acc = plan.out := by rw [hacc, ← hplanned, hpo]; simp
      have hno : over cfg plan .out = false :=
        over_false_of_le (x := .out) (show plan.out.length ≤ cfg.cap from hfull ▸ h.so.accCap)
      simp [allowedIn, allowed, hcap, hno, ← hfull, hv]
    · -- a closed pipe killed it: stderr's reader had overflowed, or (flag clear) failed
      by_cases h0 : s.flag = 0
      · have hfe : s.e.rd = .failed := by
          rcases hwhy with h1 | h1 | h1
          · exact absurd h0 h1
          · rw [heof] at h1; cases h1
          · exact h1
        simp [allowedIn, faultAllowed, hfe, hdies, hcap, hpi]
      · obtain ⟨hfix, hoe⟩ := hlost h0
        simp [allowedIn, allowed, hcap, hfix, hoe, hpi, hdies]
  · -- the reader stopped on the size check but lost the CAS: D-16 (`fixedJoin = false` only)
    obtain ⟨hfix, hoe⟩ := hlost (h.ovfFlag (Or.inl hovf))
    obtain ⟨⟨rest, hrest⟩, hlen⟩ := h.so.ovfPrefix hovf
    have hoo : over cfg plan .out = true := by rw [over_iff]; exact ⟨hcap, hlen⟩
    have hpi : prefixInvalid cfg.cap plan.out = true := prefixInvalid_of_prefix hrest h.so.accCap hv
    refine ⟨?_, nofun, nofun, fun _ => Or.inr ⟨hfix, hoo, hoe⟩, nofun⟩
    simp [allowedIn, allowed, hcap, hfix, hoe, hoo, hpi]

theorem Inv.flag0_of_errNone {cfg plan} {s : State} (h : Inv cfg plan s) (hf1 : s.flag ≠ 1)
    (hnone : joinOverflow cfg.fixedJoin s.flag .err = none) : s.flag = 0 := by
  rcases joinOverflow_none hnone with ⟨_, h0⟩ | ⟨_, h2⟩
  · exact h0
  · have := h.flagRange; have : s.flag ≠ 2 := h2; omega

/-- `PcInv` is a table by program counter: with the main thread at `p` it is the row for `p`. For a constructor
`p` the conclusion unfolds to that row, so its conjuncts are read off it directly (`(hp.row hpc).1`,
`obtain ⟨_, _⟩ := hp.row hpc`); they speak of `{ s with pc := p }`, which has the fields of `s`. -/
theorem PcInv.row {cfg plan} {s : State} {p : Pc} (h : PcInv cfg plan s) (hpc : s.pc = p) :
    PcInv cfg plan { s with pc := p } := by
  subst hpc; exact h

/-- Is the main thread in the wait loop or on the kill path (before any `join`)? -/
def Pc.inWait : Pc → Bool
  | .load | .tryWait | .deadline | .sleep _ | .kill _ | .reap _ => true
  | _ => false

theorem Inv.inWait_enabled {cfg plan} {s : State} (h : Inv cfg plan s) (hw : s.pc.inWait = true) :
    (stepMain cfg s).isSome = true ∨ ∃ w, s.pc = .sleep w ∧ s.now < w := by
  have hp := h.pcInv
  rw [stepMain_isSome_iff]
  -- at a program counter outside the wait loop and the kill path `hw` is `false = true`
  cases hpc : s.pc <;> simp only [hpc, Pc.inWait] at hw <;> try (cases hw)
  case load | deadline | kill => exact .inl trivial
  case tryWait => exact .inl (hp.row hpc).1
  case reap e => exact .inl (hp.row hpc).1
  case sleep w => exact if hw : w ≤ s.now then .inl hw else .inr ⟨w, rfl, Nat.lt_of_not_le hw⟩

/-- In the wait loop and on the kill path — which is the whole error path, up to and including the
statement that produces the error (nothing is joined there, finding D-21) — the main thread reads
its program counter, the flag, the child and the clock, and nothing else: two states that agree on
these take the same step. -/
theorem stepMain_inWait_congr (cfg : Cfg) {s t : State} (hw : s.pc.inWait = true) (hpc : t.pc = s.pc)
    (hf : t.flag = s.flag) (hc : t.child = s.child) (hn : t.now = s.now) :
    stepMain cfg t = (stepMain cfg s).map fun s' => { t with child := s'.child, pc := s'.pc } := by
  obtain ⟨_, _, _, child, _, _, _, pc, _⟩ := s
  obtain ⟨_, _, _, _, _, _, _, _, _⟩ := t
  cases hpc; cases hf; cases hc; cases hn
  cases pc <;> cases hw <;> simp only [stepMain] <;> split <;> rfl

/-- So a change `u` to the rest of the state — one that commutes with the main thread's own updates —
commutes with its step: the stdin side, the two stream sides, the foreign holders. -/
theorem stepMain_inWait_indep_of (cfg : Cfg) (s : State) (u : State → State) (hw : s.pc.inWait = true)
    (hu : ∀ t c p, u { t with child := c, pc := p } = { u t with child := c, pc := p })
    (hpc : (u s).pc = s.pc) (hf : (u s).flag = s.flag) (hc : (u s).child = s.child)
    (hn : (u s).now = s.now) : stepMain cfg (u s) = (stepMain cfg s).map u := by
  rw [stepMain_inWait_congr cfg hw hpc hf hc hn]
  cases hs : stepMain cfg s with
  | none => rfl
  | some s' => exact congrArg some ((hu s _ _).symm.trans (congrArg u (stepMain_frame hs).symm))

theorem Inv.withDone {cfg plan} {s : State} {r : Outcome} (h : Inv cfg plan s)
    (hr : s.child.isReaped = true) (hg : Good cfg plan s r) : Inv cfg plan { s with pc := .done r } :=
  h.withPc _ (And.intro hr hg)

/-- The main thread's own steps, statement by statement: each arm establishes the row of `PcInv` for the
program counter it goes to from the row for the one it leaves and the statement's guard. `hp` is the table
`PcInv` with the program counter a variable; `cases hm` puts the statement's own program counter there, so
in each arm `hp` is the row to start from. The goal of an arm is `PcInv` at a state whose program counter
is a constructor, a `match` still to be reduced: `show _ ∧ _ from` unifies it with the row before the
anonymous constructor is elaborated. -/
theorem Inv.main {cfg plan} {s s' : State} (h : Inv cfg plan s)
    (hs : stepMain cfg s = some s') : Inv cfg plan s' := by
  obtain ⟨p₀, c, p, hpc, hm, rfl⟩ := MainStep.of_stepMain hs
  have hp := h.pcInv
  unfold PcInv at hp
  rw [hpc] at hp
  cases hm with
  | flagSet hf => exact h.withPc _ (show _ ∧ _ from ⟨hp.1, (code_fromCode h.flagRange hf).symm⟩)
  | flagClear | running | early | wake => exact h.withPc _ hp
  | late ht => exact h.withPc _ (show _ ∧ _ from ⟨hp.1, ht⟩)
  | exited hc =>
    obtain ⟨_, hnk⟩ := hp
    rw [hc] at hnk
    exact h.withChildPc _ _ rfl (.inl (by rw [hc]; exact ⟨rfl, rfl⟩)) (show _ ∧ _ from ⟨rfl, hnk, rfl⟩)
  | kill =>
    exact h.withChildPc _ _ rfl (.inr rfl) (show _ ∧ _ from ⟨rfl, hp.2.mono (Nat.le_refl _) fun _ => rfl⟩)
  | killGone hna =>
    refine h.withPc _ (show _ ∧ _ from ⟨?_, hp.2.mono (Nat.le_refl _) fun _ => rfl⟩)
    cases hch : s.child with
    | alive => exact absurd hch hna
    | zombie => rfl
    | reaped => have := hp.1; rw [hch] at this; cases this
  | @reap e _ _ hc =>
    -- the end of the error path: the thread handles are dropped, no join
    have hk : ErrOk cfg s e := hp.2
    refine h.withChildPc _ _ rfl (.inl (by rw [hc]; exact ⟨rfl, rfl⟩)) (show _ ∧ _ from ⟨rfl, ?_⟩)
    cases e with
    | ole x => exact Good.of_error (Good.ole h hk).1 nofun nofun
    | timeout => exact Good.of_error (by simp [allowedIn, allowed]) (fun _ => hk) nofun
    | _ => exact hk.elim
  | wrFailed hw =>
    exact h.withDone hp.1 (Good.of_error (by simp [allowedIn, faultAllowed, hw]) nofun nofun)
  | wrDone => exact h.withPc _ hp
  | outAbsent hrd =>
    refine h.withPc _ (show _ ∧ _ from ⟨hp, by simp [Side.joined, hrd], fun h1 => ?_, Or.inl ⟨hrd, rfl⟩⟩)
    rw [h.flag1 h1] at hrd; cases hrd
  | outJoined hrd => exact h.withPc _ (show _ ∧ _ from ⟨hp, Side.joined_of_rd hrd⟩)
  | outFailed hrd =>
    -- the reader thread ended with `Err`: `join_capture` reports it, whatever the flag says
    exact h.withDone hp.1 (Good.of_error (by simp [allowedIn, faultAllowed, hrd]) nofun nofun)
  | outOver hy => exact h.withDone hp.1.1 (Good.ole h (h.joinOverflow_some hy))
  | outText hnone hv =>
    obtain ⟨hse, hjo, hna⟩ := hp
    have hf1 : s.flag ≠ 1 := (joinOverflow_none hnone).elim (fun hz => by omega) (·.2)
    exact h.withPc _ (show _ ∧ _ from ⟨hse, hjo, hf1, Or.inr ⟨hna, rfl, hv⟩⟩)
  | outBad hnone hv =>
    obtain ⟨hse, hjo, hna⟩ := hp
    exact h.withDone hse.1 (h.good_outBad hse hjo hna hnone hv)
  | errAbsent hrd =>
    obtain ⟨hse, hjo, hf1, hres⟩ := hp
    have h0 : s.flag = 0 := by
      have := h.flagRange
      have : s.flag ≠ 2 := fun h2 => by rw [h.flag2 h2] at hrd; cases hrd
      omega
    exact h.withDone hse.1
      (h.good_ok hse h0 hjo (by simp [Side.joined, hrd]) hres (.inl ⟨hrd, rfl⟩))
  | errJoined hrd =>
    obtain ⟨hse, hjo, hf1, hres⟩ := hp
    exact h.withPc _ (show _ ∧ _ from ⟨hse, hjo, hf1, hres, Side.joined_of_rd hrd⟩)
  | errFailed hrd =>
    exact h.withDone hp.1.1 (Good.of_error (by simp [allowedIn, faultAllowed, hrd]) nofun nofun)
  | errOver hy => exact h.withDone hp.1.1 (Good.ole h (h.joinOverflow_some hy))
  | errText hnone hv =>
    obtain ⟨hse, hjo, hf1, hres, hje, hnae⟩ := hp
    exact h.withDone hse.1 (h.good_ok hse (h.flag0_of_errNone hf1 hnone) hjo hje hres
      (.inr ⟨hnae, rfl, hv⟩))
  | errBad hnone hv =>
    obtain ⟨hse, hjo, hf1, hres, hje, hnae⟩ := hp
    exact h.withDone hse.1
      (h.good_errBad hse (h.flag0_of_errNone hf1 hnone) hjo hje hres hnae hv)

/-- The invariant looks at the stdin side for one permanent mark only (a writer that has failed
stays failed), at the clock only to see that it has not gone back, and not at the child's age or at
the foreign holders at all. -/
theorem Inv.frame {cfg plan} {s : State} (h : Inv cfg plan s) (i' : Inp) (hd : Held) (now age : Nat)
    (hw : s.i.wr = .failed → i'.wr = .failed) (hnow : s.now ≤ now) :
    Inv cfg plan { s with i := i', held := hd, now := now, age := age } :=
  ⟨h.so, h.se, h.flagRange, h.flag1, h.flag2, h.ovfFlag, h.eofDead, h.causePlan, h.causeSig,
    h.pcInv.frame rfl rfl hnow (Or.inl rfl) (fun _ => Or.inl rfl) hw⟩

theorem Inv.inpStep {cfg plan} {s : State} (h : Inv cfg plan s) (i' : Inp)
    (hw : s.i.wr = .busy ∨ i'.wr = s.i.wr) : Inv cfg plan { s with i := i' } :=
  h.frame i' s.held s.now s.age
    (fun hf => hw.elim (fun hb => absurd (hb.symm.trans hf) nofun) (fun he => he.trans hf))
    (Nat.le_refl _)

theorem Inv.init (cfg : Cfg) (plan : Plan) : Inv cfg plan (init cfg plan) := by
  have hrd : ∀ x, ((Capture.init cfg plan).side x).rd = .idle ∨
      ((Capture.init cfg plan).side x).rd = .absent := by
    intro x; cases x <;> simp only [Capture.init, Side.init, side_out, side_err] <;> split <;> simp
  refine Inv.ofSides (fun x => ?_) (Or.inl rfl) (fun x hx => absurd hx.symm (code_ne_zero x)) ?_ ?_
    nofun nofun ⟨rfl, nofun⟩
  · cases x <;> exact SideInv.init _ _ _
  · intro x hx; rcases hrd x with h | h <;> rw [h] at hx <;> cases hx
  · intro x hx; rcases hrd x with h | h <;> rw [h] at hx <;> cases hx

/-! The steps of the threads other than the main one, by what they do to the state: five shapes, each with
what the thread that takes the step guarantees to the others — the hypotheses under which `Inv` (and the
timing invariant, and the facts about finished readers and held pipes) are kept. A step of the system is
the main thread's (`MainStep`), a tick, or one of these: `Effect.of_step` walks the labels once for all of
them. Only the variant walks them again (`step_mu_lt`): it needs the sizes, which `Effect` forgets. -/

inductive Effect (cfg : Cfg) (plan : Plan) (s : State) : State → Prop
  /-- the child writes to stream `x`, gives up on bytes for it, or closes it: the reader stays where it is -/
  | childSide (x : Strm) (d' : Side) : s.child = .alive →
      (SideInv cfg.cap (cfg.captured x) (plan.bytes x) (s.side x) →
        SideInv cfg.cap (cfg.captured x) (plan.bytes x) d') →
      d'.rd = (s.side x).rd → (d'.rd = .eof → d'.wopen = false) → Effect cfg plan s (s.setSide x d')
  /-- the reader of stream `x`, still running, takes a step; it alone may set the flag, from 0 to its code -/
  | reader (x : Strm) (d' : Side) (f' : Nat) : (s.side x).finished = false →
      (SideInv cfg.cap (cfg.captured x) (plan.bytes x) (s.side x) →
        SideInv cfg.cap (cfg.captured x) (plan.bytes x) d') →
      d'.written = (s.side x).written → d'.pending = (s.side x).pending →
      (d'.rd = .eof → s.child.isAlive = false ∨ d'.wopen = false) →
      ((d'.rd ≠ .ovf ∧ f' = s.flag) ∨ (d'.rd = .ovf ∧ f' = if s.flag = 0 then code x else s.flag)) →
      Effect cfg plan s { s.setSide x d' with flag := f' }
  /-- the child ends as planned, or dies writing to a pipe whose read end is closed -/
  | childDies (st : Option Nat) (c : Cause) : s.child = .alive → c ≠ .killed →
      (c = .plan → s.o.pending = [] ∧ s.e.pending = [] ∧ plan.ending.status = some st ∧
        plan.endAfter ≤ s.age) →
      (c = .sigpipe → (∃ x, (s.side x).closed = true) ∧ plan.sigpipeDies = true) →
      Effect cfg plan s { s with child := .zombie st c }
  /-- the stdin pipe: the writer thread while it is running, or the child reading / closing its stdin -/
  | inp (i' : Inp) : s.i.wr = .busy ∨ i'.wr = s.i.wr → Effect cfg plan s { s with i := i' }
  /-- a foreign holder lets go of a pipe end -/
  | held (h' : Held) :
      (h'.out = true → s.held.out = true) ∧ (h'.err = true → s.held.err = true) ∧
        (h'.inp = true → s.held.inp = true) → Effect cfg plan s { s with held := h' }

theorem Effect.of_step {cfg : Cfg} {plan : Plan} {s s' : State} {l : Label}
    (hs : step cfg plan s l = some s') (hm : l ≠ .main) (ht : l ≠ .tick) : Effect cfg plan s s' := by
  have hs := step_inv hs
  cases l with
  | main => exact absurd rfl hm
  | tick => exact absurd rfl ht
  | childWrite x n =>
    obtain ⟨ha, d, hd, rfl⟩ := hs
    obtain ⟨_, _, _, hrd, rfl⟩ := Side.write_some hd
    refine .childSide x _ ha (·.write hd) rfl fun he => ?_
    rcases hrd with hrd | hrd | ⟨c, hrd⟩ <;> rw [hrd] at he <;> cases he
  | childDrop x n =>
    obtain ⟨ha, d, hd, rfl⟩ := hs
    obtain ⟨_, _, hrd, rfl⟩ := Side.drop_some hd
    refine .childSide x _ ha (·.drop hd) rfl fun he => ?_
    rcases hrd with hrd | hrd <;> rw [hrd] at he <;> cases he
  | childClose x =>
    obtain ⟨ha, d, hd, rfl⟩ := hs
    obtain ⟨_, _, rfl⟩ := Side.close_some hd
    exact .childSide x _ ha (·.close hd) rfl fun _ => rfl
  | childSigpipe x =>
    obtain ⟨ha, hdies, hcl, rfl⟩ := hs
    exact .childDies none .sigpipe ha nofun nofun fun _ => ⟨⟨x, hcl⟩, hdies⟩
  | childEnd =>
    obtain ⟨ha, hpo, hpe, hage, st, hst, rfl⟩ := hs
    exact .childDies st .plan ha nofun (fun _ => ⟨hpo, hpe, hst, hage⟩) nofun
  | rdRead x =>
    obtain ⟨d, hd, rfl⟩ := hs
    obtain ⟨hrd, _, _, rfl⟩ := Side.read_some hd
    rw [← setSide_flag]
    exact .reader x _ _ (by simp [Side.finished, hrd]) (·.read hd) rfl rfl nofun (Or.inl ⟨nofun, rfl⟩)
  | rdEof x =>
    obtain ⟨d, hd, rfl⟩ := hs
    obtain ⟨hrd, _, _, hal, rfl⟩ := Side.eof_some hd
    rw [← setSide_flag]
    exact .reader x _ _ (by simp [Side.finished, hrd]) (·.eof hd) rfl rfl (fun _ => hal)
      (Or.inl ⟨nofun, rfl⟩)
  | rdFail x =>
    obtain ⟨d, hd, rfl⟩ := hs
    obtain ⟨hrd, rfl⟩ := Side.fail_some hd
    rw [← setSide_flag]
    exact .reader x _ _ (by simp [Side.finished, hrd]) (·.fail hd) rfl rfl nofun (Or.inl ⟨nofun, rfl⟩)
  | rdCheck x =>
    obtain ⟨d, f, hd, rfl⟩ := hs
    obtain ⟨c, hrd, hd'⟩ := Side.check_some hd
    have hnf : (s.side x).finished = false := by simp [Side.finished, hrd]
    split at hd'
    · obtain ⟨rfl, rfl⟩ := hd'
      exact .reader x _ _ hnf (·.check hd) rfl rfl nofun (Or.inr ⟨rfl, rfl⟩)
    · obtain ⟨rfl, rfl⟩ := hd'
      exact .reader x _ _ hnf (·.check hd) rfl rfl nofun (Or.inl ⟨nofun, rfl⟩)
  | wrWrite n => obtain ⟨i', hi, rfl⟩ := hs; exact .inp i' (Or.inl (Inp.write_some hi).1)
  | wrEnd => obtain ⟨i', hi, rfl⟩ := hs; exact .inp i' (Or.inl (Inp.finish_some hi).1)
  | wrEpipe => obtain ⟨i', hi, rfl⟩ := hs; exact .inp i' (Or.inl (Inp.epipe_some hi).1)
  | wrFail => obtain ⟨i', hi, rfl⟩ := hs; exact .inp i' (Or.inl (Inp.fail_some hi).1)
  | childRead n =>
    obtain ⟨_, i', hi, rfl⟩ := hs
    obtain ⟨_, _, rfl⟩ := Inp.childRead_some hi
    exact .inp _ (Or.inr rfl)
  | childCloseIn =>
    obtain ⟨_, i', hi, rfl⟩ := hs
    obtain ⟨_, rfl⟩ := Inp.childClose_some hi
    exact .inp _ (Or.inr rfl)
  | holderClose x => obtain ⟨hd, hr, rfl⟩ := hs; exact .held hd (Held.release_le hr)
  | holderCloseIn => obtain ⟨hd, hr, rfl⟩ := hs; exact .held hd (Held.releaseIn_le hr)

theorem step_pc {cfg : Cfg} {plan : Plan} {s s' : State} {l : Label}
    (hs : step cfg plan s l = some s') (hm : l ≠ .main) : s'.pc = s.pc := by
  by_cases ht : l = .tick
  · subst ht; obtain ⟨_, rfl⟩ := step_inv hs; rfl
  · cases Effect.of_step hs hm ht with
    | childSide x | reader x => cases x <;> rfl
    | _ => rfl

theorem Inv.step {cfg plan} {s s' : State} {l : Label} (h : Inv cfg plan s)
    (hs : Capture.step cfg plan s l = some s') : Inv cfg plan s' := by
  by_cases hm : l = .main
  · subst hm; exact h.main (step_inv hs)
  by_cases ht : l = .tick
  · subst ht; obtain ⟨_, rfl⟩ := step_inv hs; exact h.frame s.i s.held _ _ id (Nat.le_succ _)
  cases Effect.of_step hs hm ht with
  | childSide x d' ha hi hrd heof => exact h.childSideStep ha (hi (h.side x)) hrd heof
  | reader x d' f' hnf hi hw hp heof hflag => exact h.readerStep (hi (h.side x)) hnf hw hp heof hflag
  | childDies st c ha hck hplan hsig =>
    refine h.childDies ha hck (fun hc => ⟨(hplan hc).1, (hplan hc).2.1, (hplan hc).2.2.1⟩) fun hc => ?_
    obtain ⟨⟨x, hcl⟩, hdies⟩ := hsig hc
    refine ⟨?_, hdies⟩
    rcases (Side.closed_iff _).mp hcl with ho | hf
    · exact Or.inl (h.flag_of_ovf ho)
    · exact Or.inr (by cases x; exact Or.inl hf; exact Or.inr hf)
  | inp i' hw => exact h.inpStep i' hw
  | held h' _ => exact h.frame s.i h' s.now s.age id (Nat.le_refl _)


theorem Inv.run {cfg plan} {s s' : State} {ls : List Label} (h : Inv cfg plan s)
    (hr : run cfg plan s ls = some s') : Inv cfg plan s' := by
  induction ls generalizing s with
  | nil => exact run_nil hr ▸ h
  | cons l ls ih => obtain ⟨s₁, hs, hr⟩ := run_cons hr; exact ih (h.step hs) hr

end NaijaVerif.Capture
