/-
The pool invariant in one line: the free list followed by the live slots is a rearrangement of
`0 … bump-1` (`Pool.Tidy`).  `Pool.Inv` of `Model/Pool.lean` spells the same out in seven clauses;
`Pool.Inv.tidy` and `Pool.Tidy.inv` prove the two equal, and `alloc` / `dealloc` are then moves of one element
between the two lists.
-/
import NaijaVerif.Model.Pool

namespace NaijaVerif.Pool

structure Pool.Tidy (p : Pool) : Prop where
  perm    : (p.free ++ p.live).Perm (List.range p.bump)
  bumpLe  : p.bump ≤ p.slotCount
  liveLen : p.liveCount = p.live.length

theorem Pool.Inv.tidy {p : Pool} (h : p.Inv) : p.Tidy :=
  ⟨(List.perm_ext_iff_of_nodup
      (List.nodup_append.2 ⟨h.freeNodup, h.liveNodup, fun a ha b hb e => h.disjoint a ha (e ▸ hb)⟩)
      List.nodup_range).2 fun i => by rw [List.mem_append, List.mem_range]; exact h.below i,
    h.bumpLe, h.liveLen⟩

theorem Pool.Tidy.inv {p : Pool} (h : p.Tidy) : p.Inv := by
  have hn := List.nodup_append.1 (h.perm.nodup_iff.2 List.nodup_range)
  have hl := h.perm.length_eq
  rw [List.length_append, List.length_range] at hl
  exact ⟨hn.1, hn.2.1, fun i hf hv => hn.2.2 i hf i hv rfl,
    fun i => by rw [← List.mem_append, h.perm.mem_iff, List.mem_range], h.bumpLe, h.liveLen, hl⟩

/-- `alloc` from the free list moves the head of `free` to the head of `live`. -/
theorem Pool.Tidy.pop {p : Pool} (h : p.Tidy) {i : Nat} {rest : List Nat} (hf : p.free = i :: rest) :
    Pool.Tidy { p with free := rest, live := i :: p.live, liveCount := p.liveCount + 1 } := by
  have hp := h.perm
  rw [hf] at hp
  exact ⟨List.perm_middle.trans hp, h.bumpLe, congrArg (· + 1) h.liveLen⟩

/-- `alloc` with an empty free list takes slot `bump`. -/
theorem Pool.Tidy.fresh {p : Pool} (h : p.Tidy) (hf : p.free = []) (hb : p.bump < p.slotCount) :
    Pool.Tidy { p with bump := p.bump + 1, live := p.bump :: p.live, liveCount := p.liveCount + 1 } := by
  refine ⟨?_, hb, congrArg (· + 1) h.liveLen⟩
  have hp := h.perm
  rw [hf, List.nil_append] at hp
  show (p.free ++ p.bump :: p.live).Perm (List.range (p.bump + 1))
  rw [hf, List.nil_append, List.range_succ]
  exact (List.perm_append_singleton _ _).symm.trans (hp.append_right _)

/-- `dealloc` of a live slot moves it to the head of `free`. -/
theorem Pool.Tidy.push {p : Pool} (h : p.Tidy) {i : Nat} (hi : i ∈ p.live) : (p.dealloc i).Tidy := by
  refine ⟨?_, h.bumpLe, ?_⟩
  · exact (List.perm_middle.symm.trans ((List.perm_cons_erase hi).symm.append_left _)).trans h.perm
  · show p.liveCount - 1 = (p.live.erase i).length
    rw [List.length_erase_of_mem hi, h.liveLen]

end NaijaVerif.Pool
