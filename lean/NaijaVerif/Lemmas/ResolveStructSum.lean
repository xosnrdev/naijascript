import NaijaVerif.Lemmas.AnalysisSets
import NaijaVerif.Lemmas.AnalysisLiveTop
/-
`C03.sumOkB c` (conjunct of `globalOkB`) says: for every direct callee `g` of a (reachable) statement of function `f`, the transitive
capture reads / writes of `g` are among those of `f`.  The summaries are unions over `calleesStar`, the
`nFns`-round iteration of "add the direct callees of every member" from `[f]`.  For all facts whose
function-level direct callees are function ids (`DirLt`):
* the iteration has converged — `calleesStar f` is closed under direct callees (pigeonhole: a round that
  adds something makes a duplicate-free list longer; its members are ids below `nFns`, or `f` itself);
* `calleesStar g` is contained in every closed set that contains `g`;
hence `g ∈ direct_callees(f)` gives `calleesStar g ⊆ calleesStar f`, and `sumOkB` follows once every
statement-level callee is a function-level callee of the statement's function (`StmtDir`, what the
resolver records — `Lemmas/ResolveStructSumWalk.lean`).
-/
namespace NaijaVerif.ResolveStruct
open NaijaVerif NaijaVerif.Analysis NaijaVerif.C03

section star
variable (c : Ctx)

def dcs (g : Nat) : List Nat := (c.direct g).directCallees

def starStep (s : List Nat) : List Nat := s.foldl (fun acc g => uni (dcs c g) acc) s

theorem calleesStar_eq (f : Nat) : c.calleesStar f = iter (starStep c) c.nFns [f] := rfl

theorem starStep_eq (s : List Nat) : starStep c s = addAll (fun _ => true) (dcs c) s s := by
  simp [starStep, addAll]

theorem mem_starStep {s : List Nat} {x : Nat} : x ∈ starStep c s ↔ x ∈ s ∨ ∃ g ∈ s, x ∈ dcs c g :=
  mem_foldl_uni (dcs c) s s

theorem starStep_grows (s : List Nat) : starStep c s = s ∨ s.length < (starStep c s).length := by
  rw [starStep_eq]; exact addAll_grows _ _ _ _

theorem starStep_nodup {s : List Nat} (h : s.Nodup) : (starStep c s).Nodup := by
  rw [starStep_eq]; exact addAll_nodup _ _ _ _ h

def DClosed (S : List Nat) : Prop := ∀ g ∈ S, ∀ h ∈ dcs c g, h ∈ S

theorem dclosed_of_fixed {s : List Nat} (h : starStep c s = s) : DClosed c s := by
  intro g hg x hx
  rw [← h, mem_starStep]
  exact Or.inr ⟨g, hg, hx⟩

theorem starStep_sub {S s : List Nat} (hS : DClosed c S) (hs : ∀ x ∈ s, x ∈ S) : ∀ x ∈ starStep c s, x ∈ S := by
  intro x hx
  rcases (mem_starStep c).1 hx with hx | ⟨g, hg, hx⟩
  · exact hs x hx
  · exact hS g (hs g hg) x hx

-- At the one use (`calleesStar_closed`) `N` is `c.nFns`, `a` the function the iteration starts from and `hA` is `DirLt c`.
variable {c} (N a : Nat) (hA : ∀ g, ∀ h ∈ dcs c g, h < N)
include hA

theorem starStep_lt {s : List Nat} (hs : ∀ x ∈ s, x < N ∨ x = a) : ∀ x ∈ starStep c s, x < N ∨ x = a := by
  intro x hx
  rcases (mem_starStep c).1 hx with hx | ⟨g, _, hx⟩
  · exact hs x hx
  · exact Or.inl (hA g x hx)

theorem iter_starStep_fixed (n : Nat) (s : List Nat) (hn : s.Nodup) (hlt : ∀ x ∈ s, x < N ∨ x = a)
    (hlen : N + 1 ≤ s.length + n) : starStep c (iter (starStep c) n s) = iter (starStep c) n s :=
  iter_fixed_of_bounded (I := fun s => s.Nodup ∧ ∀ x ∈ s, x < N ∨ x = a) (starStep_grows c)
    (fun _ h => ⟨starStep_nodup c h.1, starStep_lt N a hA h.2⟩) (fun _ h => length_le_of_nodup_lt_or h.1 h.2)
    n s ⟨hn, hlt⟩ hlen

end star

def DirLt (c : Ctx) : Prop := ∀ g, ∀ h ∈ dcs c g, h < c.nFns

def StmtDir (c : Ctx) : Prop := ∀ sid, ∀ g ∈ c.callees sid, g ∈ dcs c (c.fnOf sid)

section sum
variable {c : Ctx} (hA : DirLt c)
include hA

theorem calleesStar_closed (f : Nat) : DClosed c (c.calleesStar f) := by
  apply dclosed_of_fixed
  rw [calleesStar_eq]
  exact iter_starStep_fixed c.nFns f hA c.nFns [f] (by simp) (by simp) (by simp only [List.length_singleton]; omega)

omit hA in
theorem calleesStar_self (f : Nat) : f ∈ c.calleesStar f := by
  rw [calleesStar_eq]; exact iter_keeps (I := (f ∈ ·)) (fun _ h => (mem_starStep c).2 (Or.inl h)) _ _ (by simp)

theorem calleesStar_sub {f g : Nat} (hg : g ∈ dcs c f) : ∀ x ∈ c.calleesStar g, x ∈ c.calleesStar f := by
  have hcl := calleesStar_closed hA f
  have hgf : g ∈ c.calleesStar f := hcl f (calleesStar_self f) g hg
  rw [calleesStar_eq c g]
  exact iter_keeps (I := fun s => ∀ x ∈ s, x ∈ c.calleesStar f) (fun _ => starStep_sub c hcl) _ _ (by simpa using hgf)

omit hA in
theorem mem_transReads {f x : Nat} : x ∈ c.transReads f ↔ ∃ h ∈ c.calleesStar f, x ∈ (c.direct h).captureReads := by
  simp only [Ctx.transReads]
  rw [mem_foldl_uni (fun g => (c.direct g).captureReads)]
  simp

omit hA in
theorem mem_transWrites {f x : Nat} : x ∈ c.transWrites f ↔ ∃ h ∈ c.calleesStar f, x ∈ (c.direct h).captureWrites := by
  simp only [Ctx.transWrites]
  rw [mem_foldl_uni (fun g => (c.direct g).captureWrites)]
  simp

theorem sumOkB_of (hS : StmtDir c) : sumOkB c = true := by
  simp only [sumOkB, List.all_eq_true, Bool.or_eq_true, Bool.not_eq_true', Bool.and_eq_true]
  intro r _
  right
  intro g hg
  have hsub := calleesStar_sub hA (hS r.sid g hg)
  constructor
  · rw [subset_iff]
    intro x hx
    obtain ⟨h, hh, hx⟩ := mem_transReads.1 hx
    exact mem_transReads.2 ⟨h, hsub h hh, hx⟩
  · rw [subset_iff]
    intro x hx
    obtain ⟨h, hh, hx⟩ := mem_transWrites.1 hx
    exact mem_transWrites.2 ⟨h, hsub h hh, hx⟩

end sum

end NaijaVerif.ResolveStruct
