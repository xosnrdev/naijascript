import NaijaVerif.Lemmas.SpanEraseAnalysis
/-
C07, behind the parser: every warning of `Analysis.analyse root facts` is reported at a span of `root`
(`Parse.blockSpans`) or at `0..0` (`analyse_warn_spans`; WHICH span is not stated).  In the model a warning carries the span
of a row of the statement table — the statement's own span, the `var_span` of an assignment or the `name_span` of a function
definition; the one span the model synthesises is the default `0..0` of `spanOf` for a statement id without a row, which is
safe for every text.

The analyses are natural in spans (`SpanMap.analyse_map`).  Send every span that is not one of `root`
to `0..0`: the program is unchanged, so the warnings are, and the span of each is a fixed point.
-/
namespace NaijaVerif.SpanSafe
open NaijaVerif NaijaVerif.Parse NaijaVerif.Analysis

theorem analyse_warn_spans (root : Block) (facts : Facts) (w : Warn) (h : w ∈ (analyse root facts).warns) :
    w.span ∈ blockSpans root ∨ w.span = ⟨0, 0⟩ :=
  SpanMap.mem_of_all_fix (S := fun s => s ∈ blockSpans root ∨ s = ⟨0, 0⟩) fun φ hφ => by
    have hm := SpanMap.analyse_map φ (hφ _ (.inr rfl)) root facts
    rw [SpanMap.mapBlock_fix root fun x hx => hφ x (.inl hx)] at hm
    exact congrArg Warn.span
      (List.map_inj_left.1 ((congrArg Result.warns hm).symm.trans (List.map_id _).symm) w h : SpanMap.mapWarn φ w = w)

end NaijaVerif.SpanSafe
