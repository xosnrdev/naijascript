import NaijaVerif.Lemmas.ResolveShape
/-
What `check_expr` reports, as functions of the scopes and the expression alone (`exprDiags`; that the checker
reports exactly this is `checkExpr_ds` in `Lemmas/ResolveAnn.lean`).  A site that reports under a Boolean condition
is an `errIf` here, and so are the two where the model matches on the lookup of a variable (`segsDiags`, `exprDiags`
of a variable); the lookup of a function stays a match (`nameCallDiags`: its other branch needs the signature found),
and the sites that always report are literal lists.  So a property of the diagnostics of an expression is a property
of each site's condition, rule and span; the call of a name (`nameCallDiags`) and the receiver's part of a method
call (`recvDiags`) are not recursive and have lemmas of their own, which leaves the walks structural.
-/
namespace NaijaVerif.Resolve
open NaijaVerif

theorem mem_errIf {c : Bool} {d x : RDiag} (h : x ∈ errIf c d) : x = d := by
  cases c
  · cases h
  · exact List.mem_singleton.mp h

theorem errIf_eq_nil (c : Bool) (d : RDiag) : errIf c d = [] ↔ c = false := by
  cases c <;> simp [errIf]

theorem errIf_nil {c : Bool} {d : RDiag} (h : errIf c d = []) : c = false := (errIf_eq_nil c d).1 h

theorem errIf_nil_not {c : Bool} {d : RDiag} (h : errIf (!c) d = []) : c = true := by
  simpa using errIf_nil h

theorem errIf_nil_bne {a b : Nat} {d : RDiag} (h : errIf (a != b) d = []) : a = b := by
  simpa using errIf_nil h

def segsDiags (env : Env) (cur : Scope) (span : Span) : List Seg → List RDiag
  | [] => []
  | .lit _ :: rest => segsDiags env cur span rest
  | .var n _ :: rest =>
      errIf (lookupVar env cur n).isNone (RDiag.at .undeclaredSeg span) ++ segsDiags env cur span rest

/-- The diagnostics of `checkMethod` (`Model/Resolve.lean`), which are the first component of its result
(`checkMethod_ds`, `Lemmas/ResolveAnn.lean`). -/
def methodDiags (env : Env) (cur : Scope) (rt : VType) (obj : Expr) (field : Bytes) (args : List Expr)
    (ms : Span) : List RDiag :=
  match (MemberKind.ofType rt).bind (fun k => memberOf k field) with
  | some m =>
      errIf (m.mutRecv && (exprRootLocal env cur obj).isNone && m.kind == .processCommand) (RDiag.at .tyMutReceiver ms)
        ++ errIf (args.length != m.arity) (RDiag.at .arityMethod ms) ++ argDiags env cur m.argCheck args ms
  | none => errIf (rt != .dynamic) (RDiag.at .methodUnknown ms)

def recvDiags (env : Env) (cur : Scope) (obj : Expr) (field : Bytes) (args : List Expr) (ms : Span) : List RDiag :=
  match inferExpr env cur obj with
  | some rt => methodDiags env cur rt obj field args ms
  | none => []

def nameCallDiags (env : Env) (cur : Scope) (fname : Bytes) (args : List Expr) (s : Span) : List RDiag :=
  match GlobalB.ofName fname with
  | some g =>
      errIf (args.length != g.arity) (RDiag.at .arityGlobal s) ++
        (match g, args with
         | .command, a :: _ => errIf (!stringArgOk (inferExpr env cur a)) (RDiag.at .tyCommandArg s)
         | _, _ => [])
  | none =>
      match lookupFn env fname with
      | some g => errIf (args.length != g.arity) (RDiag.at .arityUser s)
      | none => [RDiag.at .undeclaredFn s]

mutual
  def exprDiags (env : Env) (cur : Scope) : Expr → List RDiag
    | .num _ _ | .bool _ _ | .null _ => []
    | .str (.static _) _ => []
    | .str (.interp segs) s => segsDiags env cur s segs
    | .array es _ => exprsDiags env cur es
    | .index a i isp s =>
        exprDiags env cur a ++ exprDiags env cur i
          ++ errIf (!indexBaseOk (inferExpr env cur a)) (RDiag.at .tyIndexBase s)
          ++ errIf (!indexIdxOk (inferExpr env cur i)) (RDiag.at .tyIndexIdx isp)
    | .var v _ s => errIf (lookupVar env cur v).isNone (RDiag.at .undeclaredVar s)
    | .binary op l r s =>
        exprDiags env cur l ++ exprDiags env cur r
          ++ errIf (!binaryOk op (inferExpr env cur l) (inferExpr env cur r)) (RDiag.at .tyBinary s)
    | .unary op e s => exprDiags env cur e ++ errIf (!unaryOk op (inferExpr env cur e)) (RDiag.at .tyUnary s)
    | .member o _ _ s => exprDiags env cur o ++ [RDiag.at .bareMember s]
    | .call callee args _ s =>
        match callee with
        | .var fname _ _ => nameCallDiags env cur fname args s ++ exprsDiags env cur args
        | .member obj field _ ms =>
            exprDiags env cur obj ++ recvDiags env cur obj field args ms ++ exprsDiags env cur args
        | c => exprDiags env cur c ++ [RDiag.at .badCallee s] ++ exprsDiags env cur args
  def exprsDiags (env : Env) (cur : Scope) : List Expr → List RDiag
    | [] => []
    | e :: es => exprDiags env cur e ++ exprsDiags env cur es
end

theorem exprDiags_call_other (env : Env) (cur : Scope) {c : Expr} (hc : otherCallee c = true) (args : List Expr)
    (fn : Option Nat) (s : Span) :
    exprDiags env cur (.call c args fn s) = exprDiags env cur c ++ [RDiag.at .badCallee s] ++ exprsDiags env cur args := by
  cases c with
  | var => cases hc
  | member => cases hc
  | _ => rw [exprDiags.eq_def]

end NaijaVerif.Resolve
