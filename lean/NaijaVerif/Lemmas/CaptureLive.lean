/-
Liveness side of C16: a variant (termination measure) that every non-tick step of the capture
transition system strictly decreases, and deadlock freedom of the runner's own threads.
-/
import NaijaVerif.Lemmas.Capture
namespace NaijaVerif.Capture

def Rd.rank : Rd → Nat
  | .idle => 2
  | .got _ => 3
  | _ => 0

/-- Work left for one reader: three units per byte that can still reach it, plus its own position,
plus the child's `close` of its end of the stream. -/
def Side.mu (d : Side) : Nat :=
  3 * (d.pipe.length + d.pending.length) + d.rd.rank + (if d.wopen = true then 1 else 0)

/-- Ranks of the program counters along the control flow. The kill path and the join phase count down
from 5 to `done = 0`. The four statements of the wait loop stand above both (`6 +`) and, within one pass,
in the order `load > tryWait > deadline` (`+4`, `+3`, `+2`). Each tick still to come before the deadline
is worth 5 (`5 *`): `deadline` goes to sleep until `w ≥ now + 1`, giving up at least one such 5 for the
`+5` of `sleep w`, and waking up (`w ≤ now`) goes down to `load`'s `+4` — so one 5 pays for the pass
through `load`, `tryWait`, `deadline`, `sleep` and back. A tick only lowers `timeout - now`. The `eJoin*`
ranks continue the kill path as `stepMainEJ` would; `stepMain` is never there. -/
def Pc.mu (timeout now : Nat) : Pc → Nat
  | .load => 6 + 5 * (timeout - now) + 4
  | .tryWait => 6 + 5 * (timeout - now) + 3
  | .deadline => 6 + 5 * (timeout - now) + 2
  | .sleep w => 6 + 5 * (timeout - w) + 5
  | .kill _ => 5
  | .reap _ => 4
  | .eJoinWr _ => 3
  | .eJoinOut _ => 2
  | .eJoinErr _ => 1
  | .joinWr _ => 5
  | .joinOut _ => 4
  | .flagOut _ => 3
  | .joinErr _ _ => 2
  | .flagErr _ _ => 1
  | .done _ => 0
  | .preJoinWr => 0
  | .drainFlag _ => 0
  | .blockWait => 0

def Inp.mu (i : Inp) : Nat :=
  2 * i.pending + i.pipe + (if i.wr = .busy then 1 else 0) + (if i.childOpen = true then 1 else 0)

def Child.mu : Child → Nat
  | .alive => 1
  | _ => 0

/-- One unit per pipe end a foreign holder can still let go of. -/
def Held.mu (h : Held) : Nat :=
  (if h.out = true then 1 else 0) + (if h.err = true then 1 else 0) + (if h.inp = true then 1 else 0)

/-- The variant. The `2 *` term: a write of the child moves bytes from `pending` to `pipe`, which leaves
`Side.mu` as it is (both count 3), so the child's writes need units of their own, two per byte still to be
written (`childDrop`, which gives up on bytes, lowers both). -/
def State.mu (cfg : Cfg) (s : State) : Nat :=
  Pc.mu cfg.timeout s.now s.pc + s.o.mu + s.e.mu +
    (2 * (s.o.pending.length + s.e.pending.length) + s.child.mu) + s.i.mu + s.held.mu

theorem Held.release_mu {h h' : Held} {x : Strm} (hr : h.release x = some h') : h'.mu < h.mu := by
  cases x <;> simp only [Held.release] at hr <;> split at hr <;> cases hr <;> simp_all [Held.mu]

theorem Held.releaseIn_mu {h h' : Held} (hr : h.releaseIn = some h') : h'.mu < h.mu := by
  simp only [Held.releaseIn] at hr
  split at hr <;> cases hr
  simp_all [Held.mu]

/-- `Pc.mu` orders the program counters along the control flow; `Child.mu` never grows. -/
theorem stepMain_mu {cfg : Cfg} {s s' : State} (h : stepMain cfg s = some s') :
    s'.mu cfg < s.mu cfg := by
  obtain ⟨p₀, c, p, hpc, hm, rfl⟩ := MainStep.of_stepMain h
  suffices Pc.mu cfg.timeout s.now p + c.mu < Pc.mu cfg.timeout s.now s.pc + s.child.mu by
    simp only [State.mu]; omega
  cases hm <;> simp only [*, Pc.mu, Child.mu] <;> omega

theorem State.mu_setSide {cfg : Cfg} {s : State} {x : Strm} {d : Side}
    (h : d.mu + 2 * d.pending.length < (s.side x).mu + 2 * (s.side x).pending.length) :
    State.mu cfg (s.setSide x d) < s.mu cfg := by
  cases x <;> simp only [State.mu, setSide_out, setSide_err, side_out, side_err] at h ⊢ <;> omega

theorem step_mu_lt {cfg : Cfg} {plan : Plan} {s s' : State} {l : Label}
    (h : step cfg plan s l = some s') (hl : l ≠ .tick) : s'.mu cfg < s.mu cfg := by
  have h := step_inv h
  have hinp : ∀ i : Inp, i.mu < s.i.mu → State.mu cfg { s with i := i } < s.mu cfg :=
    fun i hi => Nat.add_lt_add_right (Nat.add_lt_add_left hi _) _
  have hheld : ∀ hd : Held, hd.mu < s.held.mu → State.mu cfg { s with held := hd } < s.mu cfg :=
    fun hd hi => Nat.add_lt_add_left hi _
  have hdies : ∀ st c, s.child = .alive →
      State.mu cfg { s with child := .zombie st c } < s.mu cfg := by
    intro st c ha; simp only [State.mu, ha, Child.mu]; omega
  cases l with
  | tick => exact absurd rfl hl
  | main => exact stepMain_mu h
  | childWrite x n =>
    obtain ⟨_, d, hd, rfl⟩ := h
    obtain ⟨_, _, _, _, rfl⟩ := Side.write_some hd
    refine State.mu_setSide ?_
    simp only [Side.mu, List.length_drop]
    split
    · omega
    · simp only [List.length_append, List.length_take]; omega
  | childDrop x n =>
    obtain ⟨_, d, hd, rfl⟩ := h
    obtain ⟨_, _, _, rfl⟩ := Side.drop_some hd
    refine State.mu_setSide ?_
    simp only [Side.mu, List.length_drop]; omega
  | childSigpipe x => obtain ⟨ha, _, _, rfl⟩ := h; exact hdies _ _ ha
  | childEnd => obtain ⟨ha, _, _, _, st, _, rfl⟩ := h; exact hdies _ _ ha
  | childClose x =>
    obtain ⟨_, d, hd, rfl⟩ := h
    obtain ⟨hwo, _, rfl⟩ := Side.close_some hd
    refine State.mu_setSide ?_
    simp only [Side.mu, hwo, if_true, if_neg Bool.false_ne_true]; omega
  | rdRead x =>
    obtain ⟨d, hd, rfl⟩ := h
    obtain ⟨hrd, _, hne, rfl⟩ := Side.read_some hd
    have := List.length_pos_iff.mpr hne
    refine State.mu_setSide ?_
    simp only [Side.mu, hrd, Rd.rank, List.length_drop]; omega
  | rdEof x =>
    obtain ⟨d, hd, rfl⟩ := h
    obtain ⟨hrd, _, _, _, rfl⟩ := Side.eof_some hd
    refine State.mu_setSide ?_
    simp only [Side.mu, hrd, Rd.rank]; omega
  | rdFail x =>
    obtain ⟨d, hd, rfl⟩ := h
    obtain ⟨hrd, rfl⟩ := Side.fail_some hd
    refine State.mu_setSide ?_
    simp only [Side.mu, hrd, Rd.rank]; omega
  | rdCheck x =>
    obtain ⟨d, f, hd, rfl⟩ := h
    obtain ⟨c, hrd, hd'⟩ := Side.check_some hd
    refine State.mu_setSide (s := s) ?_
    split at hd' <;> obtain ⟨rfl, _⟩ := hd' <;> simp only [Side.mu, hrd, Rd.rank] <;> omega
  | wrWrite n =>
    obtain ⟨i, hi, rfl⟩ := h
    obtain ⟨_, _, _, _, _, rfl⟩ := Inp.write_some hi
    exact hinp _ (by simp only [Inp.mu]; omega)
  | wrEnd =>
    obtain ⟨i, hi, rfl⟩ := h
    obtain ⟨hb, _, rfl⟩ := Inp.finish_some hi
    exact hinp _ (by simp [Inp.mu, hb])
  | wrEpipe =>
    obtain ⟨i, hi, rfl⟩ := h
    obtain ⟨hb, _, _, rfl⟩ := Inp.epipe_some hi
    exact hinp _ (by simp [Inp.mu, hb])
  | wrFail =>
    obtain ⟨i, hi, rfl⟩ := h
    obtain ⟨hb, _, rfl⟩ := Inp.fail_some hi
    exact hinp _ (by simp [Inp.mu, hb])
  | childRead n =>
    obtain ⟨_, i, hi, rfl⟩ := h
    obtain ⟨_, _, rfl⟩ := Inp.childRead_some hi
    exact hinp _ (by simp only [Inp.mu]; omega)
  | childCloseIn =>
    obtain ⟨_, i, hi, rfl⟩ := h
    obtain ⟨ho, rfl⟩ := Inp.childClose_some hi
    exact hinp _ (by simp [Inp.mu, ho])
  | holderClose x => obtain ⟨hd, hr, rfl⟩ := h; exact hheld _ (Held.release_mu hr)
  | holderCloseIn => obtain ⟨hd, hr, rfl⟩ := h; exact hheld _ (Held.releaseIn_mu hr)

theorem step_mu_tick {cfg : Cfg} {plan : Plan} {s s' : State}
    (h : step cfg plan s .tick = some s') : s'.mu cfg ≤ s.mu cfg := by
  obtain ⟨_, rfl⟩ := step_inv h
  have h5 : 5 * (cfg.timeout - (s.now + 1)) ≤ 5 * (cfg.timeout - s.now) :=
    Nat.mul_le_mul_left 5 (Nat.sub_le_sub_left (Nat.le_succ _) _)
  have : Pc.mu cfg.timeout (s.now + 1) s.pc ≤ Pc.mu cfg.timeout s.now s.pc := by
    cases s.pc <;> first | exact Nat.le_refl _ | exact Nat.add_le_add_right (Nat.add_le_add_left h5 _) _
  simp only [State.mu]; omega

def nonTicks (ls : List Label) : Nat := (ls.filter (· ≠ .tick)).length

theorem run_nonTicks_le {cfg : Cfg} {plan : Plan} {s s' : State} {ls : List Label}
    (h : run cfg plan s ls = some s') : nonTicks ls + s'.mu cfg ≤ s.mu cfg := by
  induction ls generalizing s with
  | nil => cases run_nil h; simp [nonTicks]
  | cons l ls ih =>
    obtain ⟨s₁, hs, h'⟩ := run_cons h
    have := ih h'
    by_cases hl : l = .tick
    · subst hl
      have := step_mu_tick hs
      simp [nonTicks] at *; omega
    · have := step_mu_lt hs hl
      simp [nonTicks, hl] at *; omega

theorem Side.can_step {cap chunk my flag : Nat} {d : Side} (hchunk : 0 < chunk) (hj : d.finished = false) :
    (Side.read chunk d).isSome = true ∨ (Side.check cap my flag d).isSome = true ∨
      (Side.eof false false d).isSome = true := by
  obtain ⟨pending, written, pipe, acc, rd, wopen⟩ := d
  cases rd <;> simp [Side.finished] at hj
  · by_cases hp : pipe = []
    · right; right; simp [Side.eof, hp]
    · left; simp [Side.read, hp]; omega
  · right; left; simp only [Side.check]; split <;> simp

def readerEnabled (cfg : Cfg) (plan : Plan) (s : State) (x : Strm) : Prop :=
  (step cfg plan s (.rdRead x)).isSome = true ∨ (step cfg plan s (.rdCheck x)).isSome = true ∨
    (step cfg plan s (.rdEof x)).isSome = true

theorem readerEnabled_of {cfg : Cfg} {plan : Plan} {s : State} {x : Strm} (hchunk : 0 < cfg.chunk)
    (hj : (s.side x).finished = false) (hd : s.child.isAlive = false) (hh : s.held.get x = false) :
    readerEnabled cfg plan s x := by
  unfold readerEnabled
  simp only [step, Option.isSome_map, hd, hh]
  exact Side.can_step hchunk hj

def writerEnabled (cfg : Cfg) (plan : Plan) (s : State) : Prop :=
  (∃ n, (step cfg plan s (.wrWrite n)).isSome = true) ∨ (step cfg plan s .wrEnd).isSome = true ∨
    (step cfg plan s .wrEpipe).isSome = true

theorem step_wrWrite_one {cfg : Cfg} {plan : Plan} {s : State} {n : Nat}
    (h : (step cfg plan s (.wrWrite n)).isSome = true) :
    (step cfg plan s (.wrWrite 1)).isSome = true := by
  simp only [step, Option.isSome_map] at h ⊢
  obtain ⟨i', hi⟩ := Option.isSome_iff_exists.mp h
  obtain ⟨hw, _, _, hr, _, _⟩ := Inp.write_some hi
  unfold Inp.write
  rw [hw, if_pos ⟨Nat.one_pos, by omega, hr, by omega⟩]
  rfl

/-- Once the child is gone and nobody else holds the read end of the stdin pipe, the writer can always
finish: with nothing left to write it ends, otherwise its next `write` gets `EPIPE`. -/
theorem writerEnabled_of {cfg : Cfg} {plan : Plan} {s : State}
    (hb : s.i.finished = false) (hd : s.child.isAlive = false) (hh : s.held.inp = false) :
    (step cfg plan s .wrEnd).isSome = true ∨ (step cfg plan s .wrEpipe).isSome = true := by
  have hwr : s.i.wr = .busy := by
    unfold Inp.finished at hb; cases hw : s.i.wr <;> simp_all
  simp only [step, Option.isSome_map, Inp.finish, Inp.epipe, hwr, Inp.readable, hd, hh, Bool.false_and,
    Bool.or_false]
  by_cases hp : s.i.pending = 0
  · left; simp [hp]
  · right; simp; omega

/-- The main thread waits in a join of the **success path** for a helper thread whose pipe a foreign
process still holds an end of: the stdin writer (somebody can still read, so no `EPIPE`), or a capture
reader (somebody can still write, so no end of file). The complete output is owed on this path, and it
is complete only at end of file: the runner waits for the holder, by design. -/
def State.waitsForHolder (s : State) : Bool :=
  match s.pc with
  | .joinWr _ => s.held.inp
  | .joinOut _ => s.held.out
  | .joinErr _ _ => s.held.err
  | _ => false

theorem stepMain_joinWr_isSome {cfg : Cfg} {s : State} {st : Option Nat} (hpc : s.pc = .joinWr st)
    (hf : s.i.finished = true) : (stepMain cfg s).isSome = true :=
  (stepMain_isSome_iff cfg s).mpr (by rw [hpc]; exact hf)

theorem State.not_waitsForHolder_of_free {s : State} (hf : s.held.free = true) :
    s.waitsForHolder = false := by
  unfold Held.free at hf
  simp only [Bool.and_eq_true, Bool.not_eq_true'] at hf
  unfold State.waitsForHolder
  split
  · exact hf.2
  · exact hf.1.1
  · exact hf.1.2
  · rfl

/-- No deadlock, and no dependence on the child's cooperation: in every reachable non-terminal state the
runner itself can move, or it is on the success path, joining a thread whose pipe a foreign process
holds (`waitsForHolder`). The error path never waits for anybody. -/

theorem progress_of_inv {cfg : Cfg} {plan : Plan} {s : State} (hchunk : 0 < cfg.chunk)
    (h : Inv cfg plan s) (hnt : s.result = none) :
    (step cfg plan s .main).isSome = true ∨ (∃ w, s.pc = .sleep w ∧ s.now < w) ∨
      (∃ x, readerEnabled cfg plan s x) ∨ writerEnabled cfg plan s ∨ s.waitsForHolder = true := by
  have hp := h.pcInv
  unfold PcInv at hp
  have hdead : s.child.isReaped = true → s.child.isAlive = false := Child.not_alive_of_reaped
  by_cases hw : s.pc.inWait = true
  · rcases h.inWait_enabled hw with hm | hsl
    · exact Or.inl hm
    · exact Or.inr (Or.inl hsl)
  cases hpc : s.pc <;> simp only [hpc, Pc.inWait, not_true_eq_false] at hp hw
  case joinWr st =>
    cases hj : s.i.finished
    · cases hh : s.held.inp
      · right; right; right; left
        exact Or.inr (writerEnabled_of hj (hdead hp.1) hh)
      · right; right; right; right; simp [State.waitsForHolder, hpc, hh]
    · exact Or.inl (stepMain_joinWr_isSome hpc hj)
  case joinOut st =>
    cases hj : s.o.finished
    · cases hh : s.held.out
      · right; right; left; exact ⟨.out, readerEnabled_of hchunk hj (hdead hp.1) hh⟩
      · right; right; right; right; simp [State.waitsForHolder, hpc, hh]
    · exact Or.inl ((stepMain_isSome_iff cfg s).mpr (by rw [hpc]; exact hj))
  case joinErr st ro =>
    cases hj : s.e.finished
    · cases hh : s.held.err
      · right; right; left; exact ⟨.err, readerEnabled_of hchunk hj (hdead hp.1.1) hh⟩
      · right; right; right; right; simp [State.waitsForHolder, hpc, hh]
    · exact Or.inl ((stepMain_isSome_iff cfg s).mpr (by rw [hpc]; exact hj))
  case flagOut | flagErr => exact Or.inl ((stepMain_isSome_iff cfg s).mpr (by rw [hpc]; trivial))
  case done r => simp [State.result, hpc] at hnt

end NaijaVerif.Capture
