/-
Lemmas for C13: the loops of `replace`, `split` and `join` equal their list specifications and keep
UTF-8 well-formedness; the `f64 → isize` cast of `slice` lands in `isize`.
-/
import NaijaVerif.Lemmas.StrsUtf8

namespace NaijaVerif.Strs
open NaijaVerif NaijaVerif.Bytes

theorem replaceLoop_eq {fnd : Bytes → Bytes → Except Fail (Option Nat)}
    (hf : ∀ a b, fnd a b = .ok (firstOcc a b)) (h f t : Bytes) (hne : f ≠ []) :
    ∀ (fuel pos : Nat) (buf : Bytes), pos ≤ h.length → h.length - pos + 1 ≤ fuel →
      replaceLoop fnd h f t fuel pos buf = .ok (buf ++ replaceSpecAux f t fuel (h.drop pos)) := by
  have hfl : 0 < f.length := List.length_pos_iff.mpr hne
  intro fuel
  induction fuel with
  | zero => intro pos buf hp hfu; omega
  | succ fuel ih =>
    intro pos buf hp hfu
    rw [replaceLoop, slice?_ok hp (Nat.le_refl _), List.take_of_length_le (by simp)]
    simp only [hf]
    rw [replaceSpecAux]
    cases hfo : firstOcc (h.drop pos) f with
    | none => simp
    | some i =>
      simp only
      have hb := firstOcc_bound hne hfo
      simp only [List.length_drop] at hb
      rw [slice?_ok (Nat.le_add_right _ _) (by omega)]
      simp only
      rw [Nat.add_sub_cancel_left, ih (pos + i + f.length) _ (by omega) (by omega)]
      simp only [List.drop_drop, List.append_assoc]
      rw [Nat.add_assoc]

theorem replaceEmptyLoop_eq (to : Bytes) (hlen : Nat) :
    ∀ (cs : List Bytes) (i : Nat) (buf : Bytes), (∀ c ∈ cs, c ≠ []) → i + cs.flatten.length = hlen →
      replaceEmptyLoop to hlen cs i buf =
        buf ++ (cs.map (to ++ ·)).flatten ++ (if cs = [] then [] else to) := by
  intro cs
  induction cs with
  | nil => intro i buf _ _; simp [replaceEmptyLoop]
  | cons ch rest ih =>
    intro i buf hne hl
    rw [replaceEmptyLoop]
    simp only [List.flatten_cons, List.length_append] at hl
    have hrest : ∀ c ∈ rest, c ≠ [] := fun c hc => hne c (by simp [hc])
    by_cases hr : rest = []
    · subst hr
      simp at hl
      simp [hl, replaceEmptyLoop]
    · have hpos : 0 < rest.flatten.length := by
        cases rest with
        | nil => exact absurd rfl hr
        | cons c r =>
          have := hne c (by simp)
          have : 0 < c.length := List.length_pos_iff.mpr this
          simp; omega
      have hcond : (i + ch.length == hlen) = false := by
        simp; omega
      simp only [hcond, Bool.false_eq_true, if_false]
      rw [ih (i + ch.length) _ hrest (by omega)]
      simp [hr]

theorem replaceEmpty_eq (h t : Bytes) :
    replaceEmpty h t = ((chars h).map (t ++ ·)).flatten ++ t := by
  unfold replaceEmpty
  simp only
  rw [replaceEmptyLoop_eq t h.length (chars h) 0 [] (chars_ne_nil h) (by simp [chars_flatten])]
  by_cases he : h = []
  · subst he; simp [chars]
  · have : chars h ≠ [] := mt (chars_eq_nil_iff h).mp he
    have hb : h.isEmpty = false := by simpa using he
    simp [this, hb]

theorem replaceSpecAux_fuel (f t : Bytes) (hne : f ≠ []) :
    ∀ (fuel fuel' : Nat) (h : Bytes), h.length + 1 ≤ fuel → h.length + 1 ≤ fuel' →
      replaceSpecAux f t fuel h = replaceSpecAux f t fuel' h := by
  have hfl : 0 < f.length := List.length_pos_iff.mpr hne
  intro fuel
  induction fuel with
  | zero => intro fuel' h h1; omega
  | succ fuel ih =>
    intro fuel' h h1 h2
    cases fuel' with
    | zero => omega
    | succ fuel' =>
      rw [replaceSpecAux, replaceSpecAux]
      cases hfo : firstOcc h f with
      | none => rfl
      | some i =>
        simp only
        have hb := firstOcc_bound hne hfo
        rw [ih fuel' _ (by simp; omega) (by simp; omega)]

theorem joinLoop_eq (sep : Bytes) :
    ∀ (xs : List Bytes) (i : Nat) (buf : Bytes),
      joinLoop sep xs i buf =
        buf ++ (if i > 0 ∧ xs ≠ [] then sep else []) ++ joinSpec sep xs := by
  intro xs
  induction xs with
  | nil => intro i buf; simp [joinLoop, joinSpec]
  | cons x xs ih =>
    intro i buf
    rw [joinLoop, ih]
    cases xs with
    | nil =>
      by_cases hi : i > 0 <;> simp [hi, joinSpec]
    | cons y r =>
      by_cases hi : i > 0 <;> simp [hi, joinSpec]

theorem joinSpec_cons (sep x : Bytes) (xs : List Bytes) (hx : xs ≠ []) :
    joinSpec sep (x :: xs) = x ++ sep ++ joinSpec sep xs := by
  cases xs with
  | nil => exact absurd rfl hx
  | cons y r => simp [joinSpec]

theorem splitAux_ne_nil (p : Bytes) : ∀ (fuel : Nat) (s : Bytes), splitAux p fuel s ≠ [] := by
  intro fuel s
  cases fuel with
  | zero => simp [splitAux]
  | succ fuel =>
    rw [splitAux]
    split <;> simp

theorem join_splitAux (p : Bytes) :
    ∀ (fuel : Nat) (s : Bytes), joinSpec p (splitAux p fuel s) = s := by
  intro fuel
  induction fuel with
  | zero => intro s; simp [splitAux, joinSpec]
  | succ fuel ih =>
    intro s
    rw [splitAux]
    cases hfo : firstOcc s p with
    | none => simp [joinSpec]
    | some i =>
      simp only
      rw [joinSpec_cons _ _ _ (splitAux_ne_nil p fuel _), ih]
      have hocc := firstOcc_some hfo
      obtain ⟨t, ht⟩ := hocc.1
      have : s.drop (i + p.length) = t := by
        rw [← List.drop_drop, ← ht]; simp
      rw [this, List.append_assoc, ht, List.take_append_drop]

theorem joinSpec_nil_sep (xs : List Bytes) : joinSpec [] xs = xs.flatten := by
  induction xs with
  | nil => simp [joinSpec]
  | cons x xs ih =>
    cases xs with
    | nil => simp [joinSpec]
    | cons y r =>
      rw [joinSpec, ih]; simp

/-- `Props/C13.lean` works with the exact `normIdx_spec`. -/
theorem normIdx_le (len : Nat) (x : Int) : normIdx len x ≤ len := by
  unfold normIdx; omega

theorem replaceSpecAux_valid {f t : Bytes} (fv : ValidUtf8 f) (tv : ValidUtf8 t) (hne : f ≠ []) :
    ∀ (fuel : Nat) (h : Bytes), ValidUtf8 h → ValidUtf8 (replaceSpecAux f t fuel h) := by
  intro fuel
  induction fuel with
  | zero => intro h hv; simpa [replaceSpecAux] using hv
  | succ fuel ih =>
    intro h hv
    rw [replaceSpecAux]
    cases hfo : firstOcc h f with
    | none => simpa using hv
    | some i =>
      simp only
      have hocc := firstOcc_some hfo
      obtain ⟨b1, b2⟩ := occ_boundary hv fv hne hocc.1
      exact valid_append (valid_append b1.2.1 tv) (ih _ b2.2.2)

theorem replaceSpec_valid {h f t : Bytes} (hv : ValidUtf8 h) (fv : ValidUtf8 f) (tv : ValidUtf8 t) :
    ValidUtf8 (replaceSpec h f t) := by
  unfold replaceSpec
  split
  · apply valid_append _ tv
    apply valid_flatten
    intro x hx
    obtain ⟨c, hc, rfl⟩ := List.mem_map.mp hx
    exact valid_append tv (valid_char (valid_chars hv c hc))
  · next hne => exact replaceSpecAux_valid fv tv hne _ _ hv

theorem splitAux_valid {p : Bytes} (pv : ValidUtf8 p) (hne : p ≠ []) :
    ∀ (fuel : Nat) (s : Bytes), ValidUtf8 s → ∀ x ∈ splitAux p fuel s, ValidUtf8 x := by
  intro fuel
  induction fuel with
  | zero => intro s sv x hx; simp [splitAux] at hx; subst hx; exact sv
  | succ fuel ih =>
    intro s sv x hx
    rw [splitAux] at hx
    cases hfo : firstOcc s p with
    | none => rw [hfo] at hx; simp at hx; subst hx; exact sv
    | some i =>
      rw [hfo] at hx
      simp only [List.mem_cons] at hx
      have hocc := firstOcc_some hfo
      obtain ⟨b1, b2⟩ := occ_boundary sv pv hne hocc.1
      rcases hx with rfl | hx
      · exact b1.2.1
      · exact ih _ b2.2.2 x hx

theorem saturate_range (x : Int) : isizeMin ≤ saturate x ∧ saturate x ≤ isizeMax := by
  unfold saturate
  have : isizeMin ≤ isizeMax := by decide
  split
  · exact ⟨Int.le_refl _, this⟩
  · split
    · exact ⟨this, Int.le_refl _⟩
    · omega

theorem range_ite {c : Prop} [Decidable c] {x y : Int}
    (hx : isizeMin ≤ x ∧ x ≤ isizeMax) (hy : isizeMin ≤ y ∧ y ≤ isizeMax) :
    isizeMin ≤ (if c then x else y) ∧ (if c then x else y) ≤ isizeMax := by
  split <;> assumption

/-- A number below `2^53`, possibly rounded up, with either sign. -/
theorem range_of_small (q c : Nat) (neg : Bool) (hq : q < 2 ^ 53) (hc : c ≤ 1) :
    isizeMin ≤ (if neg then -((q + c : Nat) : Int) else (q : Int)) ∧
      (if neg then -((q + c : Nat) : Int) else (q : Int)) ≤ isizeMax := by
  unfold isizeMin isizeMax
  split <;> omega

end NaijaVerif.Strs
