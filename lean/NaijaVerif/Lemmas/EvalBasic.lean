import NaijaVerif.Model.Eval
/-
Inversion lemmas for the combinators the evaluator is written with (`Res.bind`, `Res.ofExcept`, `trap`): what a
successful result tells about the parts; and small facts about the helpers of `Model/Eval.lean` that the walk
(`Lemmas/EvalLogic.lean`) and its instances read.  `hoist_congr` is what the block-entry law of an instance between two
different configurations rests on; `hoist_eq` is `hoist` in closed form, for whoever needs to know WHAT block entry
registers.
-/
namespace NaijaVerif.Eval
open NaijaVerif

variable {N : Type}

theorem Res.bind_eq_ok {α β : Type} {r : Res N α} {k : α → State N → Res N β} {b : β} {st' : State N}
    (h : r.bind k = .ok b st') : ∃ a st1, r = .ok a st1 ∧ k a st1 = .ok b st' := by
  cases r with
  | ok a st1 => exact ⟨a, st1, rfl, h⟩
  | err | panic | fuel => cases h

theorem trap_ne_ok {α : Type} (cfg : RunCfg) (site : PanicSite) (sp : Span) (st : State N) (a : α)
    (st' : State N) : (trap cfg site sp st : Res N α) ≠ .ok a st' := by
  unfold trap; split <;> simp

theorem Res.ofFault_ne_ok {α : Type} (cfg : RunCfg) (flt : Fault) (sp : Span) (st : State N) (a : α)
    (st' : State N) : (Res.ofFault cfg flt sp st : Res N α) ≠ .ok a st' := by
  unfold Res.ofFault
  cases flt with
  | rt => simp
  | panic => exact trap_ne_ok cfg _ sp st a st'

theorem Res.ofExcept_eq_ok {α : Type} {cfg : RunCfg} {x : Except Fault α} {sp : Span} {st : State N}
    {a : α} {st' : State N} (h : Res.ofExcept cfg x sp st = .ok a st') : x = .ok a ∧ st' = st := by
  unfold Res.ofExcept at h
  cases x with
  | ok b => simp at h; exact ⟨by rw [h.1], h.2.symm⟩
  | error flt => exact absurd h (Res.ofFault_ne_ok cfg flt sp st a st')

/- By `Res.bind_ok` and `Res.bind_assoc`, `Lemmas/AnalysisRefineConvMember.lean` brings a chain of binds into the shape of
the other evaluator's steps; `Res.bind_congr` is the `bind` law of a `Logic` whose relation is equality;
`Res.ofExcept_panic` is read by no proof: it is stated for whoever follows a panicking run. -/
theorem Res.bind_ok {α β : Type} (a : α) (st : State N) (k : α → State N → Res N β) :
    (Res.ok a st : Res N α).bind k = k a st := rfl

theorem Res.bind_assoc {α β γ : Type} (x : Res N α) (k1 : α → State N → Res N β) (k2 : β → State N → Res N γ) :
    (x.bind k1).bind k2 = x.bind (fun a s => (k1 a s).bind k2) := by
  cases x <;> rfl

theorem Res.bind_congr {α β : Type} {r r' : Res N α} {k k' : α → State N → Res N β} (h : r = r')
    (hk : ∀ a st, r = .ok a st → k a st = k' a st) : r.bind k = r'.bind k' := by
  cases h
  cases r with
  | ok a st => exact hk a st rfl
  | _ => rfl

theorem Res.ofExcept_panic {α : Type} {cfg : RunCfg} {x : Except Fault α} {sp : Span} {st : State N}
    {site : PanicSite} {st' : State N} (h : Res.ofExcept cfg x sp st = .panic site st') :
    x = .error (.panic site) := by
  unfold Res.ofExcept at h
  cases x with
  | ok b => cases h
  | error flt =>
    cases flt with
    | rt k s => cases h
    | panic s =>
      simp only [Res.ofFault, trap] at h
      split at h
      · simp at h; rw [h.1]
      · cases h

/-- "None of the five" is said as the tests `b!"…" == name` that a `find?` over a table of names makes
(`Analysis.globalClass`, `Resolve.GlobalB.ofName`). -/
theorem GlobalB.ofName_cases (name : Bytes) :
    (name = b!"shout" ∧ GlobalB.ofName name = some .shout) ∨
    (name = b!"typeof" ∧ GlobalB.ofName name = some .typeOf) ∨
    (name = b!"read_line" ∧ GlobalB.ofName name = some .readLine) ∨
    (name = b!"to_string" ∧ GlobalB.ofName name = some .toString) ∨
    (name = b!"command" ∧ GlobalB.ofName name = some .command) ∨
    ((b!"shout" == name) = false ∧ (b!"typeof" == name) = false ∧ (b!"read_line" == name) = false ∧
      (b!"to_string" == name) = false ∧ (b!"command" == name) = false ∧ GlobalB.ofName name = none) := by
  by_cases h1 : name = b!"shout"
  · exact Or.inl ⟨h1, by subst h1; rfl⟩
  by_cases h2 : name = b!"typeof"
  · exact Or.inr (Or.inl ⟨h2, by subst h2; rfl⟩)
  by_cases h3 : name = b!"read_line"
  · exact Or.inr (Or.inr (Or.inl ⟨h3, by subst h3; rfl⟩))
  by_cases h4 : name = b!"to_string"
  · exact Or.inr (Or.inr (Or.inr (Or.inl ⟨h4, by subst h4; rfl⟩)))
  by_cases h5 : name = b!"command"
  · exact Or.inr (Or.inr (Or.inr (Or.inr (Or.inl ⟨h5, by subst h5; rfl⟩))))
  · exact Or.inr (Or.inr (Or.inr (Or.inr (Or.inr ⟨by simpa using fun e => h1 e.symm, by simpa using fun e => h2 e.symm,
      by simpa using fun e => h3 e.symm, by simpa using fun e => h4 e.symm, by simpa using fun e => h5 e.symm,
      by simp [GlobalB.ofName, h1, h2, h3, h4, h5]⟩))))

theorem hoist_congr {cfg cfg' : RunCfg} (hf : ∀ fid, Plan.prunesFn cfg'.plan fid = Plan.prunesFn cfg.plan fid)
    (ss : List Stmt) (st : State N) : hoist cfg' ss st = hoist cfg ss st := by
  induction ss generalizing st with
  | nil => rfl
  | cons s rest ih => cases s <;> simp only [hoist, hf, ih]

/-- The entries `hoist` registers for a statement list, in statement order (`hoist_eq`: it pushes them one by one,
so the scope ends up with their reverse in front).  The statements that are not definitions are listed form by form
instead of `_ :: rest`, so that the function unfolds on each of them and the proofs about it close those cases by the
induction hypothesis alone. -/
def hoistL (cfg : RunCfg) (chain : List Nat) : List Stmt → List FnEntry
  | [] => []
  | .fnDef name _ params body fn _ _ :: rest =>
    if Plan.prunesFn cfg.plan fn then hoistL cfg chain rest
    else { id := fn, name := name, params := params, body := body, chain := chain } :: hoistL cfg chain rest
  | .assign .. :: rest | .assignExisting .. :: rest | .assignIndex .. :: rest | .ifS .. :: rest
  | .loop .. :: rest | .block .. :: rest | .ret .. :: rest | .brk .. :: rest | .cont .. :: rest
  | .expr .. :: rest => hoistL cfg chain rest

theorem hoist_eq (cfg : RunCfg) (stmts : List Stmt) : ∀ (st : State N) (sc : Scope N) (r : List (Scope N)),
    st.env = sc :: r →
    hoist cfg stmts st = { st with env := { sc with fns := (hoistL cfg st.chain stmts).reverse ++ sc.fns } :: r } := by
  induction stmts with
  | nil => intro st sc r h; simp [hoist, hoistL, ← h]
  | cons s rest ih =>
    intro st sc r h
    cases s
    case fnDef name _ params body fn _ _ =>
      simp only [hoist, hoistL]
      split
      · exact ih st sc r h
      · rw [h]
        simp only
        rw [ih _ _ r rfl]
        simp
    all_goals exact ih st sc r h

theorem prunesFn_noId (p : Option Plan) : Plan.prunesFn p none = false := by cases p <;> rfl

theorem hoistL_ids (cfg : RunCfg) (chain : List Nat) (stmts : List Stmt) :
    ((hoistL cfg chain stmts).filterMap (·.id)).Sublist (fnIdsOf stmts) := by
  induction stmts with
  | nil => exact .slnil
  | cons s rest ih =>
    cases s
    case fnDef _ _ _ _ fn _ _ =>
      cases fn with
      | none =>
        simpa only [hoistL, prunesFn_noId, Bool.false_eq_true, ↓reduceIte, List.filterMap_cons, fnIdsOf] using ih
      | some f =>
        simp only [hoistL, fnIdsOf]
        split
        · exact ih.cons _
        · exact ih.cons_cons _
    all_goals exact ih

theorem hoistL_find_none (cfg : RunCfg) (chain : List Nat) (stmts : List Stmt) (g : Nat)
    (hg : g ∉ fnIdsOf stmts) : (hoistL cfg chain stmts).find? (fun fd => fd.id == some g) = none := by
  rw [List.find?_eq_none]
  intro e he hp
  exact hg ((hoistL_ids cfg chain stmts).subset (List.mem_filterMap.mpr ⟨e, he, by simpa using hp⟩))

theorem interp_congr [NumOps N] {cfg cfg' : RunCfg} {st : State N} : ∀ (segs : List Seg) (acc : Bytes),
    (∀ name bind, Seg.var name bind ∈ segs → lookupVal cfg' st bind name = lookupVal cfg st bind name) →
    interp cfg' st segs acc = interp cfg st segs acc
  | [], _, _ => rfl
  | .lit s :: rest, _, h => interp_congr rest _ fun n b hm => h n b (List.mem_cons_of_mem _ hm)
  | .var name bind :: rest, _, h => by
    have ih := fun acc => interp_congr rest acc fun n b hm => h n b (List.mem_cons_of_mem _ hm)
    simp only [interp, h name bind List.mem_cons_self, ih]

/- `P`: any predicate that an index node hands down to its two children.  The walk takes the side condition of its
logic (`L.E Γ`) for it, so that the root variable and the index expressions of an l-value meet it. -/
section
variable {P : Expr → Prop} (hP : ∀ a i isp sp, P (.index a i isp sp) → P a ∧ P i)
include hP

theorem flattenIdx_all (e : Expr) (acc : List (Expr × Span)) (he : P e) (hacc : ∀ q ∈ acc, P q.1) :
    P (flattenIdx e acc).1 ∧ ∀ q ∈ (flattenIdx e acc).2, P q.1 := by
  fun_induction flattenIdx e acc with
  | case1 a i isp sp acc ih =>
    obtain ⟨ha, hi⟩ := hP _ _ _ _ he
    exact ih ha (List.forall_mem_cons.2 ⟨hi, hacc⟩)
  | case2 e acc _ => exact ⟨he, hacc⟩

theorem lvOf_all {e : Expr} (he : P e) {name : Bytes} {bind : Option Nat} {idxs : List (Expr × Span)}
    (h : lvOf e = .path name bind idxs) : (∃ sp, P (.var name bind sp)) ∧ ∀ q ∈ idxs, P q.1 := by
  cases e with
  | var n b sp => cases h; exact ⟨⟨sp, he⟩, fun _ hq => nomatch hq⟩
  | index a i isp sp =>
    have := flattenIdx_all hP _ [] he (fun _ hq => nomatch hq)
    unfold lvOf at h
    generalize flattenIdx (.index a i isp sp) [] = q at h this
    obtain ⟨r, idxs'⟩ := q
    cases r with
    | var n b vsp => cases h; exact ⟨⟨vsp, this.1⟩, this.2⟩
    | _ => cases h
  | _ => cases h

end

theorem flattenIdx_length (e : Expr) (acc : List (Expr × Span)) : acc.length ≤ (flattenIdx e acc).2.length := by
  fun_induction flattenIdx e acc with
  | case1 a i isp sp acc ih => exact Nat.le_of_succ_le ih
  | case2 e acc _ => exact Nat.le_refl _

theorem lvOf_index_ne_nil {a i : Expr} {isp sp : Span} {name : Bytes} {bind : Option Nat}
    {idxs : List (Expr × Span)} (h : lvOf (.index a i isp sp) = .path name bind idxs) : idxs ≠ [] := by
  have hl := flattenIdx_length a [(i, isp)]
  unfold lvOf at h
  rw [show flattenIdx (.index a i isp sp) [] = flattenIdx a [(i, isp)] from rfl] at h
  generalize flattenIdx a [(i, isp)] = q at h hl
  obtain ⟨r, idxs'⟩ := q
  cases r with
  | var n b vsp => cases h; intro hn; rw [hn] at hl; exact Nat.not_succ_le_zero _ hl
  | _ => cases h

theorem evalSel_length [NumOps N] (cfg : RunCfg) : ∀ (f : Nat) (es : List (Except (PanicSite × Span) Expr))
    (st : State N) (vs : List (Value N)) (st' : State N), evalSel cfg f es st = .ok vs st' → vs.length = es.length
  | 0, _, _, _, _, h => nomatch h
  | f + 1, [], st, vs, st', h => by cases h; rfl
  | f + 1, .error s :: rest, st, vs, st', h => absurd h (trap_ne_ok _ _ _ _ _ _)
  | f + 1, .ok e :: rest, st, vs, st', h => by
      obtain ⟨v, st1, _, h2⟩ := Res.bind_eq_ok h
      obtain ⟨vs', st2, h3, h4⟩ := Res.bind_eq_ok h2
      cases h4
      simp only [List.length_cons, evalSel_length cfg f rest st1 vs' _ h3]

theorem evalIdxs_length [NumOps N] (cfg : RunCfg) : ∀ (f : Nat) (is : List (Expr × Span))
    (st : State N) (path : List (Nat × Span)) (st' : State N), evalIdxs cfg f is st = .ok path st' →
      path.length = is.length
  | 0, _, _, _, _, h => nomatch h
  | f + 1, [], st, vs, st', h => by cases h; rfl
  | f + 1, (e, isp) :: rest, st, vs, st', h => by
      obtain ⟨v, st1, _, h2⟩ := Res.bind_eq_ok h
      obtain ⟨i, st1', _, h3⟩ := Res.bind_eq_ok h2
      obtain ⟨is', st2, h4, h5⟩ := Res.bind_eq_ok h3
      cases h5
      simp only [List.length_cons, evalIdxs_length cfg f rest st1' is' _ h4]

/-- For a user who steps the evaluator by hand (`Props/C01Eval.lean` records it as `binary_order`); the walk splits
on `op` itself. -/
theorem evalExpr_arith [NumOps N] (cfg : RunCfg) (f : Nat) {op : BinOp} {aop : ArithOp} (hop : ArithOp.ofBin op = some aop)
    (l r : Expr) (sp : Span) (st : State N) :
    evalExpr cfg (f + 1) (.binary op l r sp) st =
      (evalExpr cfg f l st).bind fun lv st1 =>
        (evalExpr cfg f r st1).bind fun rv st2 => Res.ofExcept cfg (arith aop lv rv sp) sp st2 := by
  cases op <;> cases hop <;> rfl

theorem declIds_cons (s : Stmt) (ss : List Stmt) :
    declIds (s :: ss) = declIds [s] ++ declIds ss := by
  cases s with
  | assign _ _ _ b _ _ => cases b <;> simp [declIds]
  | _ => simp [declIds]

theorem fnIdsOf_cons (s : Stmt) (ss : List Stmt) :
    fnIdsOf (s :: ss) = fnIdsOf [s] ++ fnIdsOf ss := by
  cases s with
  | fnDef _ _ _ _ fn _ _ => cases fn <;> simp [fnIdsOf]
  | _ => simp [fnIdsOf]

theorem declared_cons (β : Binder) (Γ : List Binder) (l : Nat) :
    declared (β :: Γ) l = (β.decls.contains l || declared Γ l) := by
  simp [declared]

theorem fnDeclared_cons (β : Binder) (Γ : List Binder) (i : Nat) :
    fnDeclared (β :: Γ) i = (β.fnIds.contains i || fnDeclared Γ i) := by
  simp [fnDeclared]

end NaijaVerif.Eval
