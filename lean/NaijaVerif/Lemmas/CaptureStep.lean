/-
What a step of the capture transition system (`Model/Capture.lean`) is. Every operation of the model is
an `Option`-valued function; here each is inverted once: `*_some` say what an enabled operation of a side
or of the stdin pipe required and produced, `step_inv` says which operation a label stands for, and
`MainStep` lists the statements of the main thread as a relation — one constructor per statement and outcome
of its test; everything but child and program counter stays (`MainStep.of_stepMain`). A proof about a step of
the main thread is a `cases` on `MainStep`, which puts the statement's program counter wherever the proof
speaks of the one the thread is at.

-/
import NaijaVerif.Model.Capture

namespace NaijaVerif.Capture

theorem Side.write_some {pipeCap n} {d d' : Side} (h : Side.write pipeCap d n = some d') :
    0 < n ∧ n ≤ d.pending.length ∧ d.wopen = true ∧
      (d.rd = .absent ∨ d.rd = .idle ∨ ∃ c, d.rd = .got c) ∧
      d' = { d with pending := d.pending.drop n, written := d.written ++ d.pending.take n,
                    pipe := if d.rd = .absent then d.pipe else d.pipe ++ d.pending.take n } := by
  revert h
  fun_cases Side.write pipeCap d n <;> rintro ⟨⟩
  -- each branch that returns a side has `¬(n = 0 ∨ d.pending.length < n ∨ d.wopen = false)` and its `d.rd` at hand
  all_goals simp_all [Nat.pos_iff_ne_zero]

theorem Side.drop_some {n} {d d' : Side} (h : Side.drop d n = some d') :
    0 < n ∧ n ≤ d.pending.length ∧ (d.rd = .ovf ∨ d.rd = .failed) ∧
      d' = { d with pending := d.pending.drop n } := by
  revert h
  fun_cases Side.drop d n <;> rintro ⟨⟩
  all_goals (rename_i hn hrd; simp only [not_or, Nat.not_lt] at hn)
  · exact ⟨Nat.pos_of_ne_zero hn.1, hn.2, Or.inl hrd, rfl⟩
  · exact ⟨Nat.pos_of_ne_zero hn.1, hn.2, Or.inr hrd, rfl⟩

theorem Side.read_some {chunk} {d d' : Side} (h : Side.read chunk d = some d') :
    d.rd = .idle ∧ 0 < chunk ∧ d.pipe ≠ [] ∧
      d' = { d with rd := .got (d.pipe.take chunk), pipe := d.pipe.drop chunk } := by
  revert h
  fun_cases Side.read chunk d <;> rintro ⟨⟩
  next hrd hc => simp only [not_or] at hc; exact ⟨hrd, Nat.pos_of_ne_zero hc.1, hc.2, rfl⟩

theorem Side.eof_some {alive held} {d d' : Side} (h : Side.eof alive held d = some d') :
    d.rd = .idle ∧ d.pipe = [] ∧ held = false ∧ (alive = false ∨ d.wopen = false) ∧
      d' = { d with rd := .eof } := by
  revert h
  fun_cases Side.eof alive held d <;> rintro ⟨⟩
  next hrd hc => exact ⟨hrd, hc.1, hc.2.1, hc.2.2, rfl⟩

theorem Side.close_some {d d' : Side} (h : Side.close d = some d') :
    d.wopen = true ∧ d.pending = [] ∧ d' = { d with wopen := false } := by
  unfold Side.close at h
  split at h <;> cases h
  next hc => exact ⟨hc.1, hc.2, rfl⟩

theorem Side.fail_some {d d' : Side} (h : Side.fail d = some d') :
    d.rd = .idle ∧ d' = { d with rd := .failed } := by
  unfold Side.fail at h
  split at h <;> cases h
  next hrd => exact ⟨hrd, rfl⟩

theorem Side.check_some {cap my flag flag'} {d d' : Side}
    (h : Side.check cap my flag d = some (d', flag')) :
    ∃ c, d.rd = .got c ∧
      if d.acc.length + c.length > cap then
        d' = { d with rd := .ovf } ∧ flag' = (if flag = 0 then my else flag)
      else d' = { d with rd := .idle, acc := d.acc ++ c } ∧ flag' = flag := by
  unfold Side.check at h
  split at h
  · next c hrd =>
    refine ⟨c, hrd, ?_⟩
    split at h <;> cases h <;> simp [*]
  · cases h

theorem Inp.write_some {pipeCap al hd n} {i i' : Inp} (h : Inp.write pipeCap al hd i n = some i') :
    i.wr = .busy ∧ 0 < n ∧ n ≤ i.pending ∧ i.readable al hd = true ∧ i.pipe + n ≤ pipeCap ∧
      i' = { i with pending := i.pending - n, pipe := i.pipe + n } := by
  revert h
  fun_cases Inp.write pipeCap al hd i n <;> rintro ⟨⟩
  next hw hc => exact ⟨hw, hc.1, hc.2.1, hc.2.2.1, hc.2.2.2, rfl⟩

theorem Inp.finish_some {i i' : Inp} (h : Inp.finish i = some i') :
    i.wr = .busy ∧ i.pending = 0 ∧ i' = { i with wr := .fin } := by
  revert h
  fun_cases Inp.finish i <;> rintro ⟨⟩
  next hw hc => exact ⟨hw, hc, rfl⟩

theorem Inp.epipe_some {al hd} {i i' : Inp} (h : Inp.epipe al hd i = some i') :
    i.wr = .busy ∧ 0 < i.pending ∧ i.readable al hd = false ∧ i' = { i with wr := .fin } := by
  revert h
  fun_cases Inp.epipe al hd i <;> rintro ⟨⟩
  next hw hc => exact ⟨hw, hc.1, hc.2, rfl⟩

theorem Inp.fail_some {i i' : Inp} (h : Inp.fail i = some i') :
    i.wr = .busy ∧ 0 < i.pending ∧ i' = { i with wr := .failed } := by
  revert h
  fun_cases Inp.fail i <;> rintro ⟨⟩
  next hw hc => exact ⟨hw, hc, rfl⟩

theorem Inp.childRead_some {n} {i i' : Inp} (h : Inp.childRead i n = some i') :
    0 < n ∧ n ≤ i.pipe ∧ i' = { i with pipe := i.pipe - n } := by
  unfold Inp.childRead at h
  split at h <;> cases h
  next hc => exact ⟨hc.1, hc.2.1, rfl⟩

theorem Inp.childClose_some {i i' : Inp} (h : Inp.childClose i = some i') :
    i.childOpen = true ∧ i' = { i with childOpen := false } := by
  unfold Inp.childClose at h
  split at h <;> cases h
  next hc => exact ⟨hc, rfl⟩

theorem Child.isAlive_iff (c : Child) : c.isAlive = true ↔ c = .alive := by
  cases c <;> simp [Child.isAlive]


theorem step_inv {cfg : Cfg} {plan : Plan} {s s' : State} {l : Label}
    (hs : step cfg plan s l = some s') :
    match l with
    | .childWrite x n =>
        s.child = .alive ∧ ∃ d, Side.write cfg.pipeCap (s.side x) n = some d ∧ s' = s.setSide x d
    | .childDrop x n => s.child = .alive ∧ ∃ d, Side.drop (s.side x) n = some d ∧ s' = s.setSide x d
    | .childSigpipe x =>
        s.child = .alive ∧ plan.sigpipeDies = true ∧ (s.side x).closed = true ∧
          s' = { s with child := .zombie none .sigpipe }
    | .childEnd =>
        s.child = .alive ∧ s.o.pending = [] ∧ s.e.pending = [] ∧ plan.endAfter ≤ s.age ∧
          ∃ st, plan.ending.status = some st ∧ s' = { s with child := .zombie st .plan }
    | .childClose x => s.child = .alive ∧ ∃ d, Side.close (s.side x) = some d ∧ s' = s.setSide x d
    | .rdRead x => ∃ d, Side.read cfg.chunk (s.side x) = some d ∧ s' = s.setSide x d
    | .rdCheck x =>
        ∃ d f, Side.check cfg.cap (code x) s.flag (s.side x) = some (d, f) ∧
          s' = { s.setSide x d with flag := f }
    | .rdEof x =>
        ∃ d, Side.eof s.child.isAlive (s.held.get x) (s.side x) = some d ∧ s' = s.setSide x d
    | .rdFail x => ∃ d, Side.fail (s.side x) = some d ∧ s' = s.setSide x d
    | .wrWrite n =>
        ∃ i, Inp.write cfg.pipeCap s.child.isAlive s.held.inp s.i n = some i ∧ s' = { s with i := i }
    | .wrEnd => ∃ i, Inp.finish s.i = some i ∧ s' = { s with i := i }
    | .wrEpipe => ∃ i, Inp.epipe s.child.isAlive s.held.inp s.i = some i ∧ s' = { s with i := i }
    | .wrFail => ∃ i, Inp.fail s.i = some i ∧ s' = { s with i := i }
    | .childRead n => s.child = .alive ∧ ∃ i, Inp.childRead s.i n = some i ∧ s' = { s with i := i }
    | .childCloseIn => s.child = .alive ∧ ∃ i, Inp.childClose s.i = some i ∧ s' = { s with i := i }
    | .holderClose x => ∃ h, s.held.release x = some h ∧ s' = { s with held := h }
    | .holderCloseIn => ∃ h, s.held.releaseIn = some h ∧ s' = { s with held := h }
    | .main => stepMain cfg s = some s'
    | .tick => s.result = none ∧ s' = { s with now := s.now + 1, age := s.age + 1 } := by
  cases l <;> simp only [step, Option.map_eq_some_iff] at hs ⊢
  case main => exact hs
  case tick =>
    unfold State.result
    split at hs <;> cases hs
    exact ⟨rfl, rfl⟩
  case childEnd =>
    split at hs
    · next hc =>
      rw [Child.isAlive_iff] at hc
      split at hs <;> cases hs
      next st hst => exact ⟨hc.1, hc.2.1, hc.2.2.1, hc.2.2.2, st, hst, rfl⟩
    · cases hs
  case childSigpipe x =>
    split at hs <;> cases hs
    next hc => rw [Child.isAlive_iff] at hc; exact ⟨hc.1, hc.2.1, hc.2.2.1, rfl⟩
  case childWrite | childDrop | childClose | childRead | childCloseIn =>
    split at hs
    · next hc =>
      rw [Child.isAlive_iff] at hc
      simp only [Option.map_eq_some_iff] at hs
      obtain ⟨d, hd, rfl⟩ := hs
      exact ⟨hc, d, hd, rfl⟩
    · cases hs
  case rdCheck => obtain ⟨⟨d, f⟩, hd, rfl⟩ := hs; exact ⟨d, f, hd, rfl⟩
  all_goals (obtain ⟨d, hd, rfl⟩ := hs; exact ⟨d, hd, rfl⟩)

@[simp] theorem setSide_out (s : State) (d : Side) : s.setSide .out d = { s with o := d } := rfl
@[simp] theorem setSide_err (s : State) (d : Side) : s.setSide .err d = { s with e := d } := rfl
@[simp] theorem side_out (s : State) : s.side .out = s.o := rfl
@[simp] theorem side_err (s : State) : s.side .err = s.e := rfl

theorem side_setSide (s : State) (x y : Strm) (d : Side) :
    (s.setSide x d).side y = if y = x then d else s.side y := by
  cases x <;> cases y <;> rfl

theorem Held.release_le {h h' : Held} {x : Strm} (hr : h.release x = some h') :
    (h'.out = true → h.out = true) ∧ (h'.err = true → h.err = true) ∧ (h'.inp = true → h.inp = true) := by
  cases x <;> simp only [Held.release] at hr <;> split at hr <;> cases hr <;> simp_all

theorem Held.releaseIn_le {h h' : Held} (hr : h.releaseIn = some h') :
    (h'.out = true → h.out = true) ∧ (h'.err = true → h.err = true) ∧ (h'.inp = true → h.inp = true) := by
  simp only [Held.releaseIn] at hr
  split at hr <;> cases hr
  simp_all

inductive MainStep (cfg : Cfg) (s : State) : Pc → Child → Pc → Prop
  | flagSet : s.flag ≠ 0 → MainStep cfg s .load s.child (.kill (.ole (fromCode s.flag)))
  | flagClear : s.flag = 0 → MainStep cfg s .load s.child .tryWait
  | exited {st c} : s.child = .zombie st c → MainStep cfg s .tryWait (.reaped st c) (.joinWr st)
  | running : s.child = .alive → MainStep cfg s .tryWait s.child .deadline
  | late : cfg.timeout ≤ s.now → MainStep cfg s .deadline s.child (.kill .timeout)
  | early : s.now < cfg.timeout → MainStep cfg s .deadline s.child (.sleep (s.now + max cfg.poll 1))
  | wake {w} : w ≤ s.now → MainStep cfg s (.sleep w) s.child .load
  | kill {e} : s.child = .alive → MainStep cfg s (.kill e) (.zombie none .killed) (.reap e)
  | killGone {e} : s.child ≠ .alive → MainStep cfg s (.kill e) s.child (.reap e)
  | reap {e st c} : s.child = .zombie st c → MainStep cfg s (.reap e) (.reaped st c) (.done (.error e))
  | wrFailed {st} : s.i.wr = .failed → MainStep cfg s (.joinWr st) s.child (.done (.error .writeFailed))
  | wrDone {st} : s.i.wr = .absent ∨ s.i.wr = .fin → MainStep cfg s (.joinWr st) s.child (.joinOut st)
  | outAbsent {st} : s.o.rd = .absent → MainStep cfg s (.joinOut st) s.child (.joinErr st none)
  | outJoined {st} : s.o.rd = .eof ∨ s.o.rd = .ovf → MainStep cfg s (.joinOut st) s.child (.flagOut st)
  | outFailed {st} : s.o.rd = .failed →
      MainStep cfg s (.joinOut st) s.child (.done (.error (.readFailed .out)))
  | outOver {st y} : joinOverflow cfg.fixedJoin s.flag .out = some y →
      MainStep cfg s (.flagOut st) s.child (.done (.error (.ole y)))
  | outText {st} : joinOverflow cfg.fixedJoin s.flag .out = none → validUtf8 s.o.acc = true →
      MainStep cfg s (.flagOut st) s.child (.joinErr st (some s.o.acc))
  | outBad {st} : joinOverflow cfg.fixedJoin s.flag .out = none → validUtf8 s.o.acc = false →
      MainStep cfg s (.flagOut st) s.child (.done (.error (.badUtf8 .out)))
  | errAbsent {st ro} : s.e.rd = .absent → MainStep cfg s (.joinErr st ro) s.child (.done (.ok st ro none))
  | errJoined {st ro} : s.e.rd = .eof ∨ s.e.rd = .ovf →
      MainStep cfg s (.joinErr st ro) s.child (.flagErr st ro)
  | errFailed {st ro} : s.e.rd = .failed →
      MainStep cfg s (.joinErr st ro) s.child (.done (.error (.readFailed .err)))
  | errOver {st ro y} : joinOverflow cfg.fixedJoin s.flag .err = some y →
      MainStep cfg s (.flagErr st ro) s.child (.done (.error (.ole y)))
  | errText {st ro} : joinOverflow cfg.fixedJoin s.flag .err = none → validUtf8 s.e.acc = true →
      MainStep cfg s (.flagErr st ro) s.child (.done (.ok st ro (some s.e.acc)))
  | errBad {st ro} : joinOverflow cfg.fixedJoin s.flag .err = none → validUtf8 s.e.acc = false →
      MainStep cfg s (.flagErr st ro) s.child (.done (.error (.badUtf8 .err)))

theorem MainStep.of_stepMain {cfg : Cfg} {s s' : State} (h : stepMain cfg s = some s') :
    ∃ p₀ c p, s.pc = p₀ ∧ MainStep cfg s p₀ c p ∧ s' = { s with child := c, pc := p } := by
  revert h
  fun_cases stepMain cfg s <;> rintro ⟨⟩ <;> refine ⟨_, _, _, ‹_›, ?_, rfl⟩
  -- the arms of `stepMain` that return a state, in its order; the constructor named fixes statement, guard
  -- and target, so a bullet that met another arm would not typecheck
  · exact .flagSet ‹_›
  · exact .flagClear (Decidable.not_not.mp ‹_›)
  · exact .exited ‹_›
  · exact .running ‹_›
  · exact .late ‹_›
  · exact .early (Nat.lt_of_not_le ‹_›)
  · exact .wake ‹_›
  · exact .kill ‹_›
  · next hna => exact .killGone hna
  · exact .reap ‹_›
  · exact .wrFailed ‹_›
  · exact .wrDone (.inl ‹_›)
  · exact .wrDone (.inr ‹_›)
  · exact .outAbsent ‹_›
  · exact .outJoined (.inl ‹_›)
  · exact .outJoined (.inr ‹_›)
  · exact .outFailed ‹_›
  · exact .outOver ‹_›
  · exact .outText ‹_› ‹_›
  · exact .outBad ‹_› (Bool.eq_false_iff.mpr ‹_›)
  · exact .errAbsent ‹_›
  · exact .errJoined (.inl ‹_›)
  · exact .errJoined (.inr ‹_›)
  · exact .errFailed ‹_›
  · exact .errOver ‹_›
  · exact .errText ‹_› ‹_›
  · exact .errBad ‹_› (Bool.eq_false_iff.mpr ‹_›)

theorem stepMain_frame {cfg : Cfg} {s s' : State} (h : stepMain cfg s = some s') :
    s' = { s with child := s'.child, pc := s'.pc } := by
  obtain ⟨_, c, p, _, _, rfl⟩ := MainStep.of_stepMain h; rfl

theorem run_nil {cfg plan} {s s' : State} (hr : run cfg plan s [] = some s') : s' = s :=
  (Option.some.inj hr).symm

theorem run_cons {cfg plan} {s s' : State} {l : Label} {ls : List Label}
    (hr : run cfg plan s (l :: ls) = some s') :
    ∃ s₁, step cfg plan s l = some s₁ ∧ run cfg plan s₁ ls = some s' := by
  rw [run] at hr
  split at hr
  · next s₁ hs => exact ⟨s₁, hs, hr⟩
  · cases hr

theorem run_append {cfg : Cfg} {plan : Plan} {s : State} (ls ls' : List Label) :
    run cfg plan s (ls ++ ls') = (run cfg plan s ls).bind (fun t => run cfg plan t ls') := by
  induction ls generalizing s with
  | nil => simp [run]
  | cons l ls ih =>
    simp only [List.cons_append, run]
    split
    · exact ih
    · rfl

end NaijaVerif.Capture
