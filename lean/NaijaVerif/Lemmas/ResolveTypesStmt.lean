import NaijaVerif.Lemmas.ResolveTypesTable
/-
The typing half of C09 on statements, blocks, programs.  `SRel` is the scope stack seen by types (see the head of
`Lemmas/ResolveScope.lean`): every variable lookup of the checker (`Env.vars`, the current block's `Cur.vars`) yields the
declared type the specification's environment (`TEnv.vars`, `cur`) holds for the name, every function lookup the result
type of `TEnv.fns`.  Every statement keeps it (`checkStmt_srel`), under it every statement is in step (`Lock`), and at block
entry it is re-established by `block_table`, for every block, whether or not the result types of its functions settle.
-/
namespace NaijaVerif.Resolve
open NaijaVerif NaijaVerif.Spec

structure SRel (env : Env) (cur : Scope) (te : TEnv) (tcur : TScope) : Prop extends BRelT env te where
  cur : ∀ x, tFind tcur x = (findVar cur x).map (·.ty)

theorem scopes_cons (cur : Scope) (ss : List Scope) (tcur : TScope) (ts : List TScope)
    (hc : ∀ x, tFind tcur x = (findVar cur x).map (·.ty))
    (hv : ∀ x, tLookup ts x = (lookupScopes ss x).map (·.ty)) (x : Bytes) :
    tLookup (tcur :: ts) x = (lookupScopes (cur :: ss) x).map (·.ty) := by
  simp only [tLookup, lookupScopes, hc x]
  cases findVar cur x with
  | some e => rfl
  | none => exact hv x

theorem SRel.rel {env : Env} {cur : Scope} {te : TEnv} {tcur : TScope} (h : SRel env cur te tcur) :
    Rel env cur { te with vars := tcur :: te.vars } := by
  constructor
  · intro x
    simp only [varTy, lookupVar]
    exact scopes_cons cur env.vars tcur te.vars h.cur h.vars x
  · intro x
    simp only [fnTy, lookupFn]
    exact h.fns x
  · exact h.fixed

theorem SRel.nested {env : Env} {cur : Scope} {te : TEnv} {tcur : TScope} (h : SRel env cur te tcur) (env' : Env)
    (hv : env'.vars = cur :: env.vars) (hf : env'.fns = env.fns) (hs : env'.shadowRet = env.shadowRet)
    (hr : env'.recovery = env.recovery) :
    BRelT env' { te with vars := tcur :: te.vars } := by
  constructor
  · intro x; rw [hv]; exact scopes_cons cur env.vars tcur te.vars h.cur h.vars x
  · intro x; rw [hf]; exact h.fns x
  · rw [hs]; exact h.sh
  · rw [hr]; exact h.fixed

theorem tFind_cons (p : Bytes × VType) (s : TScope) (y : Bytes) :
    tFind (p :: s) y = if p.1 == y then some p.2 else tFind s y := by
  simp only [tFind, List.find?_cons]
  cases p.1 == y <;> rfl

theorem tFind_map (x y : Bytes) (t : VType) : ∀ s : TScope,
    tFind (s.map (fun p => if p.1 == x then (x, t) else p)) y =
      if x == y then (tFind s x).map (fun _ => t) else tFind s y
  | [] => by cases x == y <;> rfl
  | p :: s => by
      rw [List.map_cons, tFind_cons, tFind_map x y t s, tFind_cons, tFind_cons]
      by_cases hp : p.1 = x
      · subst hp; simp only [beq_self_eq_true, if_true]; cases p.1 == y <;> rfl
      · have hp' : (p.1 == x) = false := by simpa using hp
        simp only [hp', Bool.false_eq_true, if_false]
        by_cases hxy : x = y
        · subst hxy; simp only [hp', beq_self_eq_true, Bool.false_eq_true, if_false, if_true]
        · have : (x == y) = false := by simpa using hxy
          simp only [this, Bool.false_eq_true, if_false]

theorem tFind_tDeclare (s : TScope) (x y : Bytes) (t : VType) :
    tFind (tDeclare s x t) y = if x == y then some t else tFind s y := by
  unfold tDeclare
  split
  · next h =>
    obtain ⟨t', ht'⟩ := Option.isSome_iff_exists.mp h
    rw [tFind_map, ht']; rfl
  · exact tFind_cons (x, t) s y

theorem findVar_updateTy_some (s : Scope) (x y : Bytes) (t : VType) (h : (findVar s x).isSome = true) :
    (findVar (updateTy s x t) y).map (·.ty) = if x == y then some t else (findVar s y).map (·.ty) := by
  rw [findVar_updateTy_eq]
  by_cases hxy : x = y
  · subst hxy
    obtain ⟨e, he⟩ := Option.isSome_iff_exists.mp h
    rw [if_pos rfl, if_pos (beq_self_eq_true x), he]; rfl
  · rw [if_neg hxy, if_neg (mt beq_iff_eq.mp hxy)]

theorem tFind_entries (y : Bytes) (s : Scope) :
    tFind (s.map fun e => (e.name, e.ty)) y = (findVar s y).map (·.ty) := by
  rw [tFind, List.find?_map, Option.map_map]; rfl

theorem params_scope (sp : Bool) (owner scope : Nat) (ps : List Param) (f : Facts) (y : Bytes) :
    tFind ((ps.map (fun p => (p.name, VType.dynamic))).reverse) y
      = (findVar (declareParams sp owner scope ps [] f).2.1 y).map (·.ty) := by
  rw [declareParams_eq, List.append_nil, ← tFind_entries, List.map_reverse,
    paramEntries_map (k' := fun p => (p.name, VType.dynamic)) (fun _ _ => rfl)]

theorem paramDiags_allScoping : ∀ (seen : List Bytes) (ps : List Param), ∀ d ∈ paramDiags seen ps, d.rule.isScoping = true
  | _, [], d, hd => by simp [paramDiags] at hd
  | seen, p :: ps, d, hd => by
      simp only [paramDiags, List.mem_append] at hd
      rcases hd with (hd | hd) | hd
      · rw [mem_errIf hd]; rfl
      · rw [mem_errIf hd]; rfl
      · exact paramDiags_allScoping _ ps d hd

theorem predeclare_allScoping (env : Env) : ∀ (ss : List Stmt) (sigs : List FnSig) (f : Facts),
    ∀ d ∈ (predeclare env ss sigs f).ds, d.rule.isScoping = true := by
  intro ss
  induction ss using stmts_fnDef_induction with
  | nil => intro _ _ d hd; simp [predeclare] at hd
  | other s rest hs ih => intro sigs f; rw [predeclare_cons_other env hs]; exact ih sigs f
  | fnDef name nsp ps body _ _ _ rest ih =>
    intro sigs f d hd
    simp only [predeclare] at hd
    have hres : ∀ d ∈ errIf (isReservedName name) (RDiag.at .reservedFn nsp), d.rule.isScoping = true := by
      intro d hd
      rw [mem_errIf hd]; rfl
    cases h : findFn sigs name with
    | some ex =>
      simp only [h, List.mem_append, List.mem_singleton] at hd
      rcases hd with (hd | hd) | hd
      · exact hres d hd
      · subst hd; rfl
      · exact ih sigs f d hd
    | none =>
      simp only [h, List.mem_append] at hd
      rcases hd with (hd | hd) | hd
      · exact hres d hd
      · exact paramDiags_allScoping [] ps d hd
      · exact ih _ _ d hd

theorem cond_lock (env : Env) (cur : Scope) (te : TEnv) (c : Expr) (h : typeOf te c = inferExpr env cur c) :
    Lock (errIf (!condOk (inferExpr env cur c)) (RDiag.at .tyCond c.span))
      (tyIf (typeOf te c) Doc.condOk .tyCond c.span) := by
  rw [h]; exact Lock.site condOk_doc _ (.inl rfl) _ _

theorem nextT_other (te : TEnv) (tcur : TScope) {s : Stmt} (hm : madeName s = []) : nextT te tcur s = tcur := by
  cases s with
  | assign => cases hm
  | _ => rfl

/-- `SRel` is an invariant of the statements of a block, whatever the checker reports: only `make` changes the block's
scope, and it records the type `infer_expr_type` answers, which is the documented one (`typeOf_eq`). -/
theorem checkStmt_srel {env : Env} {cur : Cur} {te : TEnv} {tcur : TScope} (hR : SRel env cur.vars te tcur) (s : Stmt)
    (f : Facts) : SRel env (checkStmt env cur s f).cur.vars te (nextT te tcur s) := by
  cases s using Stmt.make_fnDef_cases with
  | other s hm hd => rw [(checkStmt_cur_other env cur hm hd f).1, nextT_other te tcur hm]; exact hR
  | fnDef name nsp ps body fn sid sp =>
    rw [ResolveStruct.checkStmt_fnDef]; cases ResolveStruct.sigOf env cur name <;> exact hR
  | assign x xs e b sid sp =>
    have hty := typeOf_eq hR.rel e
    simp only [checkStmt, nextT]
    cases hfv : findVar cur.vars x with
    | some ent =>
      refine { toBRelT := hR.toBRelT, cur := fun y => ?_ }
      rw [tFind_tDeclare, hty, findVar_updateTy_some _ _ _ _ (by simp [hfv])]
      split
      · rfl
      · exact hR.cur y
    | none =>
      refine { toBRelT := hR.toBRelT, cur := fun y => ?_ }
      rw [tFind_tDeclare, hty, findVar_cons]
      simp only []
      cases x == y
      · simp only [Bool.false_eq_true, if_false]; exact hR.cur y
      · simp

theorem check_lock :
    (∀ (s : Stmt) (env : Env) (cur : Cur) (te : TEnv) (tcur : TScope) (f : Facts), SRel env cur.vars te tcur →
      (∀ name, name ∈ fnNames [s] → ownHas env name = true) →
      Lock (checkStmt env cur s f).ds (stmtT te tcur cur.seenFns s)) ∧
    (∀ (ss : List Stmt) (env : Env) (cur : Cur) (te : TEnv) (tcur : TScope) (f : Facts), SRel env cur.vars te tcur →
      (∀ name, name ∈ fnNames ss → ownHas env name = true) →
      Lock (checkStmts env cur ss f).ds (stmtsT te tcur cur.seenFns ss)) ∧
    (∀ (b : Block) (env : Env) (parent : Option Nat) (te : TEnv) (f : Facts), BRelT env te →
      Lock (checkBlock env parent b f).ds (blockT te b)) ∧
    (∀ (b : Option Block) (env : Env) (parent : Option Nat) (te : TEnv) (f : Facts), BRelT env te →
      Lock (checkOptBlock env parent b f).ds (optBlockT te b)) := by
  apply Stmt.walk
  case assign =>
    intro x xs e _ _ sp env cur te tcur f hR _
    have hL := (Lock.ownS (isReservedName x) .reservedVar xs rfl).app
      (checkExpr_lock env cur.vars f.stmtEffects.length _ hR.rel e (pushStmt f env.owner env.scope))
    simp only [checkStmt, stmtT]
    cases findVar cur.vars x <;> simpa using hL
  case assignExisting =>
    intro x xs e _ _ sp env cur te tcur f hR _
    simp only [checkStmt, stmtT]
    cases hl : lookupVar env cur.vars x with
    | some ent => exact checkExpr_lock env cur.vars _ _ hR.rel e _
    | none => exact Or.inr ⟨by simp, Or.inr ⟨RDiag.at .assignUndeclared xs, by simp, rfl⟩⟩
  case assignIndex =>
    intro t e _ sp env cur te tcur f hR _
    simp only [checkStmt, stmtT]
    exact ((checkExpr_lock env cur.vars _ _ hR.rel t _).app (checkExpr_lock env cur.vars _ _ hR.rel e _)).app
      (Lock.own _ _ _)
  case ifS =>
    intro c t e _ sp iht ihe env cur te tcur f hR _
    simp only [checkStmt, stmtT]
    have hB := hR.nested { env with vars := cur.vars :: env.vars } rfl rfl rfl rfl
    exact (((checkExpr_lock env cur.vars _ _ hR.rel c _).app (cond_lock env cur.vars _ c (typeOf_eq hR.rel c))).app
      (iht _ _ _ _ hB)).app (ihe _ _ _ _ hB)
  case loop =>
    intro c b _ sp ih env cur te tcur f hR _
    simp only [checkStmt, stmtT]
    exact ((checkExpr_lock env cur.vars _ _ hR.rel c _).app (cond_lock env cur.vars _ c (typeOf_eq hR.rel c))).app
      (ih _ _ _ _ (hR.nested { env with vars := cur.vars :: env.vars, inLoop := env.inLoop + 1 } rfl rfl rfl rfl))
  case block =>
    intro b _ sp ih env cur te tcur f hR _
    simp only [checkStmt, stmtT]
    exact ih _ _ _ _ (hR.nested { env with vars := cur.vars :: env.vars } rfl rfl rfl rfl)
  case fnDef =>
    intro name nsp ps body _ _ sp ih env cur te tcur f hR hown
    obtain ⟨g, hg⟩ := ownHas_sigOf (hown name (by simp [fnNames])) cur
    rw [ResolveStruct.checkStmt_fnDef, hg, stmtT]
    by_cases hs : cur.seenFns.contains name = true
    · rw [if_pos hs, if_pos hs]; exact Lock.nil
    · rw [if_neg hs, if_neg hs]
      exact ih _ _ _ _ ⟨fun x => scopes_cons _ (cur.vars :: env.vars) _ (tcur :: te.vars)
          (params_scope env.spanLen g.id _ ps _) (scopes_cons cur.vars env.vars tcur te.vars hR.cur hR.vars) x,
        hR.fns, hR.sh, hR.fixed⟩
  case ret =>
    intro e _ sp env cur te tcur f hR _
    simp only [checkStmt]
    have hS := Lock.ownS env.curFn.isNone .returnOutside sp rfl
    cases e with
    | some e =>
      simp only [stmtT]
      simpa using hS.app (checkExpr_lock env cur.vars f.stmtEffects.length _ hR.rel e (pushStmt f env.owner env.scope))
    | none => exact hS
  case brk => intro _ sp env cur te tcur f hR _; exact Lock.ownS _ .breakOutside sp rfl
  case cont => intro _ sp env cur te tcur f hR _; exact Lock.ownS _ .continueOutside sp rfl
  case expr =>
    intro e _ sp env cur te tcur f hR _
    simp only [checkStmt, stmtT]
    exact checkExpr_lock env cur.vars _ _ hR.rel e _
  case nil => intro env cur te tcur f _ _; exact Lock.nil
  case cons =>
    intro s ss ih ihs env cur te tcur f hR hown
    have h1 : ∀ name, name ∈ fnNames [s] → ownHas env name = true :=
      fun n hn => hown n (fnNames_cons_sub s ss n hn)
    simp only [checkStmts, stmtsT]
    refine (ih env cur te tcur f hR h1).app ?_
    rw [← (checkStmt_cur env cur s f h1).2]
    exact ihs env _ te _ _ (checkStmt_srel hR s f) (fun n hn => hown n (fnNames_tail_sub s ss n hn))
  case mk =>
    intro ss sp ih env parent te f hB
    rw [ResolveStruct.checkBlock_mk, blockT]
    have hkeys : (ResolveStruct.blkSigs env parent ss f).map key2 = fnTable te ss :=
      block_table (ResolveStruct.blkEnvScope env f) te ⟨hB.vars, hB.fns, hB.sh, hB.fixed⟩ ss (ResolveStruct.blkF2 env parent f)
    refine Lock.app (T1 := []) (Lock.ofScoping (predeclare_allScoping _ ss [] _))
      (ih _ {} { te with fns := fnTable te ss :: te.fns } [] _ ⟨⟨hB.vars, fun x => ?_, hB.sh, hB.fixed⟩, ?_⟩ ?_)
    · simp only [ResolveStruct.blkEnvBody, tLookup, lookupFns, ← hkeys, tFind_map_key2]
      cases findFn _ x with
      | some g => rfl
      | none => exact hB.fns x
    · intro x; simp [tFind, findVar]
    · exact ownHas_block env parent ss f
  case none => intro env parent te f _; exact Lock.nil
  case some => intro b ih env parent te f hB; simp only [checkOptBlock, optBlockT]; exact ih env parent te f hB

theorem checkStmts_lock (env : Env) (te : TEnv) :
    ∀ (ss : List Stmt) (cur : Cur) (tcur : TScope) (f : Facts), SRel env cur.vars te tcur →
      (∀ name, name ∈ fnNames ss → ownHas env name = true) →
      Lock (checkStmts env cur ss f).ds (stmtsT te tcur cur.seenFns ss) :=
  fun ss cur => check_lock.2.1 ss env cur te

theorem checkBlock_lock (env : Env) (parent : Option Nat) (te : TEnv) (hB : BRelT env te) :
    ∀ (b : Block) (f : Facts), Lock (checkBlock env parent b f).ds (blockT te b) :=
  fun b f => check_lock.2.2.1 b env parent te f hB

theorem checkOptBlock_lock (env : Env) (parent : Option Nat) (te : TEnv) (hB : BRelT env te) :
    ∀ (b : Option Block) (f : Facts), Lock (checkOptBlock env parent b f).ds (optBlockT te b) :=
  fun b f => check_lock.2.2.2 b env parent te f hB

/-- C09, typing half: for EVERY program the checker model's diagnostics and the
specification's typing violations are in step. -/
theorem resolve_lock (p : Block) : Lock (resolve p).rdiags (typeViolations p) := by
  simp only [resolve, resolveWith, typeViolations]
  apply checkBlock_lock (rootEnv true) none _ _ p rootFacts
  constructor
  · intro x; simp [tLookup, rootEnv, lookupScopes]
  · intro x; simp [tLookup, rootEnv, lookupFns]
  · rfl
  · rfl

end NaijaVerif.Resolve
