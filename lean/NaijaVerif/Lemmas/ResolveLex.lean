import NaijaVerif.Lemmas.ResolveAnn
/-
Lexical binding of variables (static half of C04), stated on the resolver model's OUTPUT: the
annotated program.  The first part of the file is the SPECIFICATION (`Binder` … `lexBlock`; `Props/C04Static.lean`
states its theorem with it).  `nearestDecl` is defined from the program text alone — the binder groups that
enclose an occurrence, innermost first: for a block the `make` statements that textually precede the
occurrence's statement, for a function its parameter list — and every declaration is identified by
the annotation it carries.  Hence the answers of type `Option (Option Nat)`: the outer option says whether a group
DECLARES the name at all, the inner one is the annotation written on that declaration (which the specification
does not presuppose to be filled in); an occurrence must carry the join of the two (`nearestId`).
The scope-stack invariant (`CtxRel`): the resolver's variable scopes at any point are exactly the declarations
visible there, entry by entry with the SAME id (the other two relations of that stack: head of `Lemmas/ResolveScope.lean`).
-/
namespace NaijaVerif.Resolve
open NaijaVerif

inductive Binder where
  /-- the statements of an enclosing block that precede the occurrence's statement, most recent first -/
  | stmts (before : List Stmt)
  /-- the parameter list of an enclosing function -/
  | params (ps : List Param)

/-- The most recent `make` of `x` among the statements `before` (most recent first), with its annotation. -/
def declStmts (x : Bytes) : List Stmt → Option (Option Nat)
  | [] => none
  | .assign y _ _ b _ _ :: rest => if y == x then some b else declStmts x rest
  | _ :: rest => declStmts x rest

/-- The parameter named `x` (the last one, should the erroneous list repeat a name). -/
def declParams (x : Bytes) : List Param → Option (Option Nat)
  | [] => none
  | p :: ps =>
      match declParams x ps with
      | some b => some b
      | none => if p.name == x then some p.bind else none

def Binder.decl (x : Bytes) : Binder → Option (Option Nat)
  | .stmts before => declStmts x before
  | .params ps => declParams x ps

def nearestDecl (x : Bytes) : List Binder → Option (Option Nat)
  | [] => none
  | b :: bs =>
      match b.decl x with
      | some r => some r
      | none => nearestDecl x bs

/-- The local a use of `x` must denote (`none`: no declaration is visible). -/
def nearestId (ctx : List Binder) (x : Bytes) : Option Nat := (nearestDecl x ctx).join

def lexSegs (ctx : List Binder) : List Seg → Bool
  | [] => true
  | .lit _ :: rest => lexSegs ctx rest
  | .var x b :: rest => b == nearestId ctx x && lexSegs ctx rest

/-- A callee that is a plain name is a function name, not a variable occurrence. -/
def isNameExpr : Expr → Bool
  | .var _ _ _ => true
  | _ => false

mutual
  def lexExpr (ctx : List Binder) : Expr → Bool
    | .var x b _ => b == nearestId ctx x
    | .str (.interp segs) _ => lexSegs ctx segs
    | .str (.static _) _ | .num _ _ | .bool _ _ | .null _ => true
    | .array es _ => lexExprs ctx es
    | .index a i _ _ => lexExpr ctx a && lexExpr ctx i
    | .binary _ l r _ => lexExpr ctx l && lexExpr ctx r
    | .unary _ e _ => lexExpr ctx e
    | .member o _ _ _ => lexExpr ctx o
    | .call callee args _ _ => (isNameExpr callee || lexExpr ctx callee) && lexExprs ctx args
  def lexExprs (ctx : List Binder) : List Expr → Bool
    | [] => true
    | e :: es => lexExpr ctx e && lexExprs ctx es
end

/-- A `make` carries an annotation, and a second `make` of a name in the same block denotes the
same local as the first. -/
def sameLocal (before : List Stmt) : Stmt → Bool
  | .assign x _ _ b _ _ =>
      b.isSome && (match declStmts x before with
                   | some b' => b == b'
                   | none => true)
  | _ => true

mutual
  /-- `ctx` includes the binder group of the statement's own block. -/
  def lexStmt (ctx : List Binder) : Stmt → Bool
    | .assign _ _ e _ _ _ => lexExpr ctx e
    | .assignExisting x _ e b _ _ => b == nearestId ctx x && lexExpr ctx e
    | .assignIndex t e _ _ => lexExpr ctx t && lexExpr ctx e
    | .ifS c t e _ _ => lexExpr ctx c && lexBlock ctx t && lexOptBlock ctx e
    | .loop c b _ _ => lexExpr ctx c && lexBlock ctx b
    | .block b _ _ => lexBlock ctx b
    /- the body of a rejected duplicate definition (`fn = none`) is not analysed -/
    | .fnDef _ _ ps body fn _ _ => fn.isNone || lexBlock (.params ps :: ctx) body
    | .ret (some e) _ _ => lexExpr ctx e
    | .ret none _ _ => true
    | .brk _ _ => true
    | .cont _ _ => true
    | .expr e _ _ => lexExpr ctx e
  def lexStmts (ctx : List Binder) (before : List Stmt) : List Stmt → Bool
    | [] => true
    | s :: rest => lexStmt (.stmts before :: ctx) s && sameLocal before s && lexStmts ctx (s :: before) rest
  def lexBlock (ctx : List Binder) : Block → Bool
    | .mk ss _ => lexStmts ctx [] ss
  def lexOptBlock (ctx : List Binder) : Option Block → Bool
    | none => true
    | some b => lexBlock ctx b
end

/-- A scope entry as a declaration's annotation: the resolver always has the id. -/
def entId (e : VarEntry) : Option Nat := some e.id

/-- One scope of the resolver is one binder group (`B` for `Binder`; `BRelT` of `Lemmas/ResolveTypesTable.lean` is
another notion, the typing invariant at block entry). -/
def BRel (s : Scope) (b : Binder) : Prop := ∀ x, (findVar s x).map entId = b.decl x

def CtxRel (ss : List Scope) (ctx : List Binder) : Prop :=
  ∀ x, (lookupScopes ss x).map entId = nearestDecl x ctx

theorem CtxRel.nil : CtxRel [] [] := fun _ => rfl

theorem CtxRel.cons {s : Scope} {b : Binder} {ss : List Scope} {ctx : List Binder}
    (h1 : BRel s b) (h2 : CtxRel ss ctx) : CtxRel (s :: ss) (b :: ctx) := by
  intro x
  have h1x := h1 x
  simp only [lookupScopes, nearestDecl]
  -- by `h1` the head scope finds `x` exactly when its binder group declares it, and then with the same id
  cases h : findVar s x with
  | some e => simp [h, entId] at h1x; simp [← h1x, entId]
  | none => simp [h] at h1x; simp [← h1x]; exact h2 x

theorem CtxRel.id {ss : List Scope} {ctx : List Binder} (h : CtxRel ss ctx) (x : Bytes) :
    (lookupScopes ss x).map (·.id) = nearestId ctx x := by
  have := h x
  simp only [nearestId, ← this]
  cases lookupScopes ss x <;> simp [entId]

theorem CtxRel.use {env : Env} {cur : Scope} {ctx : List Binder} (h : CtxRel (cur :: env.vars) ctx) (x : Bytes) :
    ((lookupVar env cur x).map (·.id) == nearestId ctx x) = true := by
  rw [lookupVar, h.id x]; exact beq_self_eq_true _

theorem annSegs_lex {env : Env} {cur : Scope} {ctx : List Binder} (h : CtxRel (cur :: env.vars) ctx) :
    ∀ segs : List Seg, lexSegs ctx (annSegs env cur segs) = true
  | [] => rfl
  | .lit _ :: rest => annSegs_lex h rest
  | .var n _ :: rest => Bool.and_eq_true_iff.2 ⟨h.use n, annSegs_lex h rest⟩

theorem annExpr_lex {env : Env} {cur : Scope} {ctx : List Binder} (h : CtxRel (cur :: env.vars) ctx) :
    (∀ e : Expr, lexExpr ctx (annExpr env cur e) = true) ∧ (∀ es : List Expr, lexExprs ctx (annExprs env cur es) = true) := by
  apply Expr.walk
  case str =>
    intro p s
    cases p with
    | static _ => rfl
    | interp segs => exact annSegs_lex h segs
  case array => exact fun es _ ih => ih
  case index => exact fun a i _ _ iha ihi => Bool.and_eq_true_iff.2 ⟨iha, ihi⟩
  case var => exact fun v _ s => h.use v
  case binary => exact fun _ l r _ ihl ihr => Bool.and_eq_true_iff.2 ⟨ihl, ihr⟩
  case unary => exact fun _ e _ ih => ih
  case member => exact fun o _ _ _ ih => ih
  case callMember => exact fun obj field fs ms args _ s iho iha => Bool.and_eq_true_iff.2 ⟨iho, iha⟩
  case call =>
    intro callee args _ s hc ihc iha
    cases callee using Expr.callee_cases with
    | var fname vb vs => exact iha
    | member o fld fs ms => exact absurd rfl (hc o fld fs ms)
    | other c ho =>
      rw [annExpr_call_other _ _ ho]
      exact Bool.and_eq_true_iff.2 ⟨Bool.or_eq_true_iff.2 (Or.inr ihc), iha⟩
  case cons => exact fun e es ihe ihes => Bool.and_eq_true_iff.2 ⟨ihe, ihes⟩
  case num | bool | null | nil => intros; rfl

theorem checkExpr_lex (env : Env) (cur : Scope) (sid : Nat) (ctx : List Binder)
    (h : CtxRel (cur :: env.vars) ctx) :
    ∀ (e : Expr) (f : Facts), lexExpr ctx (checkExpr env cur sid e f).val = true :=
  fun e f => checkExpr_val env cur sid e f ▸ (annExpr_lex h).1 e

theorem checkExprs_lex (env : Env) (cur : Scope) (sid : Nat) (ctx : List Binder)
    (h : CtxRel (cur :: env.vars) ctx) :
    ∀ (es : List Expr) (f : Facts), lexExprs ctx (checkExprs env cur sid es f).val = true :=
  fun es f => checkExprs_val env cur sid es f ▸ (annExpr_lex h).2 es

theorem declareParams_decl (sp : Bool) (owner scope : Nat) : ∀ (ps : List Param) (sc : Scope) (f : Facts) (x : Bytes),
    (findVar (declareParams sp owner scope ps sc f).2.1 x).map entId =
      match declParams x (declareParams sp owner scope ps sc f).1 with
      | some b => some b
      | none => (findVar sc x).map entId := by
  intro ps
  induction ps with
  | nil => intro sc f x; rfl
  | cons p ps ih =>
    intro sc f x
    simp only [declareParams, declParams]
    rw [ih]
    cases declParams x (declareParams sp owner scope ps _ _).1 with
    | some b => rfl
    | none =>
      rw [findVar_cons]
      cases p.name == x <;> rfl

theorem declareParams_brel (sp : Bool) (owner scope : Nat) (ps : List Param) (f : Facts) :
    BRel (declareParams sp owner scope ps [] f).2.1 (.params (declareParams sp owner scope ps [] f).1) := by
  intro x
  rw [declareParams_decl]
  simp only [Binder.decl]
  cases declParams x (declareParams sp owner scope ps [] f).1 <;> simp [findVar]

theorem findVar_updateTy (s : Scope) (x : Bytes) (t : VType) (y : Bytes) :
    (findVar (updateTy s x t) y).map entId = (findVar s y).map entId := by
  rw [findVar_updateTy_eq]
  split
  · rw [Option.map_map]; rfl
  · rfl

theorem declStmts_cons_other (x : Bytes) {s : Stmt} (hm : Spec.madeName s = []) (before : List Stmt) :
    declStmts x (s :: before) = declStmts x before := by
  cases s with
  | assign => cases hm
  | _ => rfl

theorem sameLocal_other (before : List Stmt) {s : Stmt} (hm : Spec.madeName s = []) : sameLocal before s = true := by
  cases s with
  | assign => cases hm
  | _ => rfl

theorem checkStmt_brel (env : Env) (cur : Cur) (s : Stmt) (f : Facts) (before : List Stmt)
    (h : BRel cur.vars (.stmts before)) :
    BRel (checkStmt env cur s f).cur.vars (.stmts ((checkStmt env cur s f).val :: before)) ∧
    sameLocal before (checkStmt env cur s f).val = true := by
  cases s using Stmt.make_fnDef_cases with
  | assign x xs e b sid sp =>
    have hx := h x
    simp only [Binder.decl] at hx
    unfold checkStmt
    cases hf : findVar cur.vars x with
    | some ent =>
      simp only [hf, Option.map_some] at hx
      refine ⟨?_, ?_⟩
      · intro y
        simp only [Binder.decl, declStmts, findVar_updateTy]
        cases hxy : x == y
        · exact h y
        · cases eq_of_beq hxy; rw [hf]; rfl
      · simp [sameLocal, ← hx, entId]
    | none =>
      simp only [hf, Option.map_none] at hx
      refine ⟨?_, ?_⟩
      · intro y
        simp only [Binder.decl, declStmts, findVar, List.find?_cons]
        cases hxy : x == y
        · exact h y
        · rfl
      · simp [sameLocal, ← hx]
  | fnDef name nsp ps body fn sid sp =>
    rw [ResolveStruct.checkStmt_fnDef]
    cases ResolveStruct.sigOf env cur name <;> exact ⟨h, rfl⟩
  | other s hm hd =>
    obtain ⟨hc, hv, _⟩ := checkStmt_cur_other env cur hm hd f
    rw [hc]
    exact ⟨fun y => by rw [Binder.decl, declStmts_cons_other y hv]; exact h y, sameLocal_other before hv⟩

theorem checkAll_lex :
    (∀ (env : Env) (cur : Cur) (s : Stmt) (f : Facts) (ctx : List Binder), CtxRel (cur.vars :: env.vars) ctx →
      lexStmt ctx (checkStmt env cur s f).val = true) ∧
    (∀ (env : Env) (parent : Option Nat) (b : Option Block) (f : Facts) (ctx : List Binder), CtxRel env.vars ctx →
      lexOptBlock ctx (checkOptBlock env parent b f).val = true) ∧
    (∀ (env : Env) (parent : Option Nat) (b : Block) (f : Facts) (ctx : List Binder), CtxRel env.vars ctx →
      lexBlock ctx (checkBlock env parent b f).val = true) ∧
    (∀ (env : Env) (cur : Cur) (ss : List Stmt) (f : Facts) (ctx : List Binder) (before : List Stmt),
      CtxRel env.vars ctx → BRel cur.vars (.stmts before) → lexStmts ctx before (checkStmts env cur ss f).val = true) := by
  -- the case numbers and the order of the names a case introduces: head of `Lemmas/ResolveShape.lean`
  apply checkStmt.mutual_induct_unfolding
    (motive_1 := fun env cur _ _ out => ∀ ctx : List Binder, CtxRel (cur.vars :: env.vars) ctx → lexStmt ctx out.val = true)
    (motive_2 := fun env _ _ _ out => ∀ ctx : List Binder, CtxRel env.vars ctx → lexOptBlock ctx out.val = true)
    (motive_3 := fun env _ _ _ out => ∀ ctx : List Binder, CtxRel env.vars ctx → lexBlock ctx out.val = true)
    (motive_4 := fun env cur _ _ out => ∀ (ctx : List Binder) (before : List Stmt), CtxRel env.vars ctx →
      BRel cur.vars (.stmts before) → lexStmts ctx before out.val = true)
  case case1 | case2 | case11 | case15 => intros; exact checkExpr_lex _ _ _ _ ‹_› _ _
  case case3 =>
    intro env cur x xs e _ _ sp f0 sid f1 ent hl f2 r ctx h
    have hb := h.use x
    rw [hl] at hb
    exact Bool.and_eq_true_iff.2 ⟨hb, checkExpr_lex env cur.vars _ ctx h e _⟩
  case case4 =>
    intro env cur x xs e _ _ sp f0 sid f1 hl r ctx h
    have hb := h.use x
    rw [hl] at hb
    exact Bool.and_eq_true_iff.2 ⟨hb, checkExpr_lex env cur.vars _ ctx h e _⟩
  case case5 =>
    intro env cur t e _ sp f0 sid f1 rt re f2 ctx h
    exact Bool.and_eq_true_iff.2 ⟨checkExpr_lex env cur.vars _ ctx h t _, checkExpr_lex env cur.vars _ ctx h e _⟩
  case case6 =>
    intro env cur c t e _ sp f0 sid f1 rc d f2 envB rt re iht ihe ctx h
    exact Bool.and_eq_true_iff.2 ⟨Bool.and_eq_true_iff.2 ⟨checkExpr_lex env cur.vars _ ctx h c _, iht ctx h⟩, ihe ctx h⟩
  case case7 =>
    intro env cur c b _ sp f0 sid f1 rc d f2 envB rb ih ctx h
    exact Bool.and_eq_true_iff.2 ⟨checkExpr_lex env cur.vars _ ctx h c _, ih ctx h⟩
  case case8 => intro env cur b _ sp f0 sid f1 rb ih ctx h; exact ih ctx h
  case case10 =>
    intro env cur name nsp ps body _ _ sp f0 sid f1 sig g _ f2 pscope f3 pr envB rb ih ctx h
    exact ih _ (CtxRel.cons (declareParams_brel _ _ _ _ _) h)
  case case16 => intro env parent ss sp f scope f1 f2 env1 pre sigs r ih ctx h; exact ih ctx [] h fun x => rfl
  case case18 => intro env parent b f r ih ctx h; exact ih ctx h
  case case20 =>
    intro env cur s ss f r rs ih ihs ctx before hctx hb
    have hs := checkStmt_brel env cur s f before hb
    exact Bool.and_eq_true_iff.2 ⟨Bool.and_eq_true_iff.2 ⟨ih _ (CtxRel.cons hb hctx), hs.2⟩, ihs ctx _ hctx hs.1⟩
  case case9 | case12 | case13 | case14 | case17 | case19 => intros; rfl

theorem checkStmt_lex (env : Env) (cur : Cur) (ctx : List Binder)
    (h : CtxRel (cur.vars :: env.vars) ctx) :
    ∀ (s : Stmt) (f : Facts), lexStmt ctx (checkStmt env cur s f).val = true :=
  fun s f => checkAll_lex.1 env cur s f ctx h

theorem checkStmts_lex (env : Env) (ctx : List Binder) (hctx : CtxRel env.vars ctx) :
    ∀ (ss : List Stmt) (cur : Cur) (f : Facts) (before : List Stmt), BRel cur.vars (.stmts before) →
      lexStmts ctx before (checkStmts env cur ss f).val = true :=
  fun ss cur f before => checkAll_lex.2.2.2 env cur ss f ctx before hctx

theorem checkBlock_lex (env : Env) (parent : Option Nat) (ctx : List Binder) (h : CtxRel env.vars ctx) :
    ∀ (b : Block) (f : Facts), lexBlock ctx (checkBlock env parent b f).val = true :=
  fun b f => checkAll_lex.2.2.1 env parent b f ctx h

theorem checkOptBlock_lex (env : Env) (parent : Option Nat) (ctx : List Binder) (h : CtxRel env.vars ctx) :
    ∀ (b : Option Block) (f : Facts), lexOptBlock ctx (checkOptBlock env parent b f).val = true :=
  fun b f => checkAll_lex.2.1 env parent b f ctx h

/-- Static half of C04; what it claims and what it leaves out is said at
`C04Static.variables_bind_to_nearest_declaration` (`Props/C04Static.lean`). -/
theorem resolve_lexical (spanLen : Bool) (p : Block) : lexBlock [] (resolveWith spanLen p).root = true :=
  checkBlock_lex _ _ [] CtxRel.nil p _

end NaijaVerif.Resolve
