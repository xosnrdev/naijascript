import NaijaVerif.Lemmas.SpanEraseAnalysis
import NaijaVerif.Lemmas.SpanEraseResolve
import NaijaVerif.Lemmas.SpanEraseEval
import NaijaVerif.Lemmas.PipelineEq
/-
C10, downstream of the parser: the part of `Pipeline.runSource` behind the parser (`runParsed`:
resolver → limit preflight → analyses → evaluator with the analyses' plan) shows the same (`obs`) on
a program and on its span erasure (`runParsed_erase`), hence on any two programs that are equal up to spans
(`C10.span_independent_back_end`).

`afterParse` and `runParsed` write the tail of `Pipeline.frontEnd` / `Pipeline.runSource` out for a given parse, so that a
statement can speak of the pipeline behind the parser; `afterParse_eq` and `runParsed_eq` give them in the form of
`Lemmas/PipelineEq.lean` (`Pipeline.handOver`: what is handed to the runtime when the resolver found no error), and the
proofs go through that form.
-/
namespace NaijaVerif.SpanErase
open NaijaVerif NaijaVerif.Parse NaijaVerif.Pipeline

variable {N : Type}

/-- What a pipeline result shows without positions: the stage it stopped at; its diagnostics (for a
run: the warnings printed before it) in order, each without its span and with only the number of its
labels; for a run the printed values and the runtime-error kind / panic site. -/
def obs : Pipeline.Result N → Pipeline.Result N
  | .syntax ds => .syntax (ds.map eraseDiag)
  | .semantic ds => .semantic (ds.map eraseDiag)
  | .ran ws o => .ran (ws.map eraseDiag) (eraseOutcome o)

theorem eraseDiag_idem (d : Diag) : eraseDiag (eraseDiag d) = eraseDiag d := by
  simp [eraseDiag, List.map_map, Function.comp_def]

theorem map_eraseDiag_idem (ds : List Diag) : (ds.map eraseDiag).map eraseDiag = ds.map eraseDiag := by
  simp [List.map_map, Function.comp_def, eraseDiag_idem]

theorem eraseOutcome_idem (o : Eval.Outcome N) : eraseOutcome (eraseOutcome o) = eraseOutcome o := by
  cases o <;> rfl

def afterParse (caps : Limits.Caps) (p : Block) : Except (List Diag) Accepted :=
  let r := Resolve.resolve p
  if hasErrors r.diags then .error r.diags
  else
    let a := Analysis.analyse r.root r.facts
    let passW := a.warns.map warnDiag
    let planOf : Eval.Plan := { stmts := a.plan.stmts, fns := a.plan.fns }
    match CfgCount.countProgram r.root r.facts with
    | none => .ok { root := r.root, facts := r.facts, warnings := r.diags ++ passW, plan := some planOf }
    | some c =>
        let o := Limits.emitAnalysis caps c p.span planOf passW
        .ok { root := r.root, facts := r.facts, warnings := r.diags ++ o.warnings, plan := o.plan }

def runParsed [NumOps N] (caps : Limits.Caps) (cfg : Eval.RunCfg) (fuel : Nat) (p : Block) : Pipeline.Result N :=
  match afterParse caps p with
  | .error ds => .semantic ds
  | .ok a => .ran a.warnings (Eval.run { cfg with plan := a.plan } fuel a.root)

theorem afterParse_eq (caps : Limits.Caps) (q : Block) :
    afterParse caps q =
      if hasErrors (Resolve.resolve q).diags then .error (Resolve.resolve q).diags else .ok (handOver caps q) :=
  congrArg (ite _ _) (preflight_eq ..)

theorem runParsed_eq [NumOps N] (caps : Limits.Caps) (cfg : Eval.RunCfg) (fuel : Nat) (q : Block) :
    (runParsed caps cfg fuel q : Pipeline.Result N) =
      if hasErrors (Resolve.resolve q).diags then .semantic (Resolve.resolve q).diags
      else .ran (handOver caps q).warnings (Eval.run { cfg with plan := (handOver caps q).plan } fuel (handOver caps q).root) := by
  rw [runParsed, afterParse_eq]
  cases hasErrors (Resolve.resolve q).diags <;> rfl

def eraseAccepted (a : Accepted) : Accepted :=
  { root := eraseSpans a.root, facts := a.facts, warnings := a.warnings.map eraseDiag, plan := a.plan }

def eraseFront : Except (List Diag) Accepted → Except (List Diag) Accepted
  | .error ds => .error (ds.map eraseDiag)
  | .ok a => .ok (eraseAccepted a)

theorem warnDiag_erase (w : Analysis.Warn) : warnDiag (eraseWarn w) = eraseDiag (warnDiag w) := rfl

theorem emitAnalysis_erase (caps : Limits.Caps) (c : Limits.Counts) (sp : Span) (planOf : Eval.Plan)
    (passW : List Diag) :
    Limits.emitAnalysis caps c zspan planOf (passW.map eraseDiag)
      = { plan := (Limits.emitAnalysis caps c sp planOf passW).plan,
          warnings := (Limits.emitAnalysis caps c sp planOf passW).warnings.map eraseDiag } := by
  unfold Limits.emitAnalysis
  cases Limits.firstExceeded caps c <;> rfl

theorem resolve_erase (p : Block) :
    (Resolve.resolve (eraseSpans p)).root = eraseSpans (Resolve.resolve p).root ∧
    (Resolve.resolve (eraseSpans p)).diags = (Resolve.resolve p).diags.map eraseDiag ∧
    (Resolve.resolve (eraseSpans p)).facts = (Resolve.resolve p).facts :=
  ⟨(resolveWith_erase true p).1, (resolveWith_erase true p).2.1, (resolveWith_erase true p).2.2.1⟩

/-- The limit decision reads the counts, and those do not change. -/
theorem handOver_erase (caps : Limits.Caps) (p : Block) :
    handOver caps (eraseSpans p) = eraseAccepted (handOver caps p) := by
  obtain ⟨hroot, hdiags, hfacts⟩ := resolve_erase p
  have ho (root : Block) (facts : Facts) : overLimit caps (eraseBlock root) facts = overLimit caps root facts := by
    rw [overLimit, countProgram_erase, overLimit]
  have hw (ws : List Analysis.Warn) : (ws.map eraseWarn).map warnDiag = (ws.map warnDiag).map eraseDiag := by
    rw [List.map_map, List.map_map]; exact List.map_congr_left fun w _ => warnDiag_erase w
  simp only [handOver, eraseAccepted, hroot, hdiags, hfacts, eraseSpans, ho, analyse_erase, eraseBlock_span, hw,
    List.map_append]
  cases overLimit caps (Resolve.resolve p).root (Resolve.resolve p).facts <;> rfl

theorem afterParse_erase (caps : Limits.Caps) (p : Block) :
    afterParse caps (eraseSpans p) = eraseFront (afterParse caps p) := by
  rw [afterParse_eq, afterParse_eq, handOver_erase, (resolve_erase p).2.1, hasErrors_eraseDiag]
  cases hasErrors (Resolve.resolve p).diags <;> rfl

theorem runParsed_erase [NumOps N] (caps : Limits.Caps) (cfg : Eval.RunCfg) (fuel : Nat) (p : Block) :
    (obs (runParsed caps cfg fuel (eraseSpans p)) : Pipeline.Result N) = obs (runParsed caps cfg fuel p) := by
  unfold runParsed
  rw [afterParse_erase]
  cases afterParse caps p with
  | error ds => simp only [eraseFront, obs, map_eraseDiag_idem]
  | ok a =>
    simp only [eraseFront, eraseAccepted, obs, map_eraseDiag_idem, eraseSpans, run_erase, eraseOutcome_idem]

end NaijaVerif.SpanErase
