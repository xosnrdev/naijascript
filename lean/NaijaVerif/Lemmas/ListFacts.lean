/-
Facts about lists and optional values that mention nothing of the model.
-/

namespace NaijaVerif

theorem eq_of_nodup_filterMap {α β : Type} {f : α → Option β} {l : List α} (h : (l.filterMap f).Nodup) {c : β} :
    ∀ a ∈ l, ∀ b ∈ l, f a = some c → f b = some c → a = b := by
  have P := List.pairwise_filterMap.1 h
  intro a ha b hb
  exact List.Pairwise.forall_of_forall_of_flip (R := fun a b => f a = some c → f b = some c → a = b)
    (fun _ _ _ _ => rfl) (P.imp fun p ha hb => absurd rfl (p _ ha _ hb))
    (P.imp fun p hb ha => absurd rfl (p _ ha _ hb)) ha hb

theorem eq_of_nodup_map {α β : Type} {f : α → β} {l : List α} (h : (l.map f).Nodup) :
    ∀ a ∈ l, ∀ b ∈ l, f a = f b → a = b :=
  fun a ha b hb e => eq_of_nodup_filterMap (f := fun x => some (f x)) (by rwa [List.filterMap_eq_map'])
    a ha b hb rfl (congrArg some e.symm)

theorem pairs_unique {α β : Type} {l : List (α × β)} {a : α} {b c : β} (h : (l.map (·.1)).Nodup)
    (hb : (a, b) ∈ l) (hc : (a, c) ∈ l) : b = c :=
  (Prod.mk.inj (eq_of_nodup_map h _ hb _ hc rfl)).2

theorem find?_reverse_of_unique {α : Type} (p : α → Bool) (l : List α)
    (hu : ∀ x y, x ∈ l → y ∈ l → p x = true → p y = true → x = y) : l.reverse.find? p = l.find? p := by
  cases h : l.find? p with
  | none =>
    rw [List.find?_eq_none] at h ⊢
    intro x hx
    exact h x (List.mem_reverse.mp hx)
  | some x =>
    have hx := List.find?_some h
    have hxm := List.mem_of_find?_eq_some h
    cases h' : l.reverse.find? p with
    | none =>
      rw [List.find?_eq_none] at h'
      exact absurd hx (h' x (List.mem_reverse.mpr hxm))
    | some y =>
      have hy := List.find?_some h'
      have hym := List.mem_reverse.mp (List.mem_of_find?_eq_some h')
      rw [hu y x hym hxm hy hx]

theorem find?_reverse_of_nodup {α : Type} (key : α → Option Nat) (g : Nat) (l : List α) (hn : (l.filterMap key).Nodup) :
    l.reverse.find? (fun x => key x == some g) = l.find? (fun x => key x == some g) :=
  find?_reverse_of_unique _ _ fun x y hx hy px py =>
    eq_of_nodup_filterMap hn x hx y hy (by simpa using px) (by simpa using py)

theorem lookup_mem {α β : Type} [BEq α] [LawfulBEq α] {l : List (α × β)} {k : α} {v : β}
    (h : l.lookup k = some v) : (k, v) ∈ l := by
  obtain ⟨l₁, l₂, rfl, -⟩ := List.lookup_eq_some_iff.mp h
  exact List.mem_append_right _ List.mem_cons_self

theorem length_le_of_nodup_lt {l : List Nat} {n : Nat} (hn : l.Nodup) (hlt : ∀ x ∈ l, x < n) :
    l.length ≤ n := by
  have h := List.Nodup.length_le_of_subset (l₂ := List.range n) hn
    (fun x hx => List.mem_range.mpr (hlt x hx))
  rwa [List.length_range] at h

theorem length_le_of_nodup_lt_or {l : List Nat} {n a : Nat} (hn : l.Nodup) (hlt : ∀ x ∈ l, x < n ∨ x = a) :
    l.length ≤ n + 1 := by
  have h1 : (l.erase a).Nodup := hn.erase a
  have h2 : ∀ x ∈ l.erase a, x < n := by
    intro x hx
    have hne : x ≠ a := fun h => by
      subst h
      exact (List.Nodup.mem_erase_iff hn).1 hx |>.1 rfl
    rcases hlt x (List.mem_of_mem_erase hx) with h | h
    · exact h
    · exact absurd h hne
  have h3 := length_le_of_nodup_lt h1 h2
  have h4 : l.length ≤ (l.erase a).length + 1 := by
    rw [List.length_erase]
    split <;> omega
  omega

theorem prefix_getElem? {α : Type} {l l' : List α} (h : l <+: l') {i : Nat} {a : α} (hi : l[i]? = some a) :
    l'[i]? = some a := by
  obtain ⟨t, rfl⟩ := h
  rw [List.getElem?_append_left (List.getElem?_eq_some_iff.1 hi).1]
  exact hi

theorem getElem?_set_isSome {α : Type} (l : List α) (c c' : Nat) (x : α)
    (h : (l[c']?).isSome = true) : ((l.set c x)[c']?).isSome = true := by
  rw [isSome_getElem?] at h ⊢
  rwa [List.length_set]

theorem drop_cons_getElem? {α : Type} {l : List α} {i : Nat} {a : α} {tl : List α} (h : l.drop i = a :: tl) :
    l[i]? = some a ∧ l.drop (i + 1) = tl := by
  constructor
  · have := congrArg List.head? h
    simpa [List.head?_drop] using this
  · have := congrArg List.tail h
    simpa [List.tail_drop] using this

theorem map_eq_self {α : Type} {g : α → α} : ∀ l : List α, l.map g = l → ∀ x ∈ l, g x = x
  | [], _, _, h => nomatch h
  | a :: l, h, x, hx => by
    rw [List.map_cons, List.cons.injEq] at h
    rcases List.mem_cons.mp hx with rfl | hx
    · exact h.1
    · exact map_eq_self l h.2 x hx

theorem modify_map {α β : Type} (g : α → β) (h : α → α) (h' : β → β) (hc : ∀ a, h' (g a) = g (h a)) :
    ∀ (l : List α) (i : Nat), (l.map g).modify i h' = (l.modify i h).map g
  | [], _ => by rw [List.map_nil, List.modify_nil, List.modify_nil, List.map_nil]
  | a :: l, 0 => by rw [List.map_cons, List.modify_zero_cons, List.modify_zero_cons, List.map_cons, hc]
  | a :: l, i + 1 => by
    rw [List.map_cons, List.modify_succ_cons, List.modify_succ_cons, List.map_cons, modify_map g h h' hc l i]

theorem modify_map_eq {α β : Type} (F : α → β) (g : α → α) (hg : ∀ a, F (g a) = F a) (l : List α) (i : Nat) :
    (l.modify i g).map F = l.map F := by
  rw [← modify_map F g id (fun a => (hg a).symm), List.modify_id]

theorem mem_second {α : Type} {a b : α} {l : List α} : b ∈ a :: b :: l := List.mem_cons_of_mem _ List.mem_cons_self

/-- `ORel2` of `Lemmas/AnalysisRefineState.lean` is the same relation, under the name the refinement's statements use. -/
def ORel {α β : Type} (r : α → β → Prop) : Option α → Option β → Prop
  | some a, some b => r a b
  | none, none => True
  | _, _ => False

theorem ORel.cases {α β : Type} {r : α → β → Prop} {a : Option α} {b : Option β} (h : ORel r a b) :
    (a = none ∧ b = none) ∨ ∃ x y, a = some x ∧ b = some y ∧ r x y :=
  match a, b, h with
  | none, none, _ => .inl ⟨rfl, rfl⟩
  | some x, some y, h => .inr ⟨x, y, rfl, rfl, h⟩

theorem ORel.map {α β γ δ : Type} {r : α → β → Prop} {r' : γ → δ → Prop} {a : Option α} {b : Option β}
    (h : ORel r a b) {f : α → γ} {g : β → δ} (hfg : ∀ x y, r x y → r' (f x) (g y)) : ORel r' (a.map f) (b.map g) := by
  rcases h.cases with ⟨rfl, rfl⟩ | ⟨x, y, rfl, rfl, hxy⟩
  · trivial
  · exact hfg x y hxy

theorem ORel.mono {α β : Type} {r r' : α → β → Prop} {a : Option α} {b : Option β} (h : ORel r a b)
    (hr : ∀ x y, r x y → r' x y) : ORel r' a b := by
  rcases h.cases with ⟨rfl, rfl⟩ | ⟨x, y, rfl, rfl, hxy⟩
  · trivial
  · exact hr x y hxy

theorem ORel.of_map {α β γ δ : Type} {r' : γ → δ → Prop} {a : Option α} {b : Option β} {f : α → γ} {g : β → δ}
    (h : ORel r' (a.map f) (b.map g)) : ORel (fun x y => r' (f x) (g y)) a b := by
  cases a <;> cases b <;> exact h

theorem ORel.isSome_eq {α β : Type} {r : α → β → Prop} {a : Option α} {b : Option β} (h : ORel r a b) :
    a.isSome = b.isSome := by
  obtain ⟨h₁, h₂⟩ | ⟨_, _, h₁, h₂, _⟩ := h.cases <;> rw [h₁, h₂] <;> rfl

/-! a list cut at `takeWhile p` / `dropWhile p`, as `memchr` cuts a text -/

theorem dropWhile_head_not {α : Type} {p : α → Bool} {l : List α} {x : α} {t : List α} (h : l.dropWhile p = x :: t) :
    p x = false := by
  have := List.head?_dropWhile_not p l
  rwa [h] at this

theorem dropWhile_eq_drop {α : Type} (p : α → Bool) (l : List α) : l.dropWhile p = l.drop (l.takeWhile p).length := by
  have := List.drop_left (l₁ := l.takeWhile p) (l₂ := l.dropWhile p)
  rw [List.takeWhile_append_dropWhile] at this
  exact this.symm

theorem dropWhile_length {α : Type} {p : α → Bool} {l : List α} {x : α} {t : List α} (h : l.dropWhile p = x :: t) :
    l.length = (l.takeWhile p).length + 1 + t.length := by
  have := congrArg List.length (List.takeWhile_append_dropWhile (p := p) (l := l))
  rw [h] at this; simp at this; omega

theorem dropWhile_split {α : Type} {p : α → Bool} {l : List α} {x : α} {t : List α} (h : l.dropWhile p = x :: t) :
    l = l.takeWhile p ++ x :: t := by
  rw [← h, List.takeWhile_append_dropWhile]

theorem drop_of_dropWhile {α : Type} {p : α → Bool} {l : List α} {x : α} {t : List α} (h : l.dropWhile p = x :: t) (k : Nat) :
    l.drop ((l.takeWhile p).length + 1 + k) = t.drop k := by
  rw [← List.drop_drop, ← List.drop_drop, ← dropWhile_eq_drop, h]; rfl

theorem takeWhile_pos {α : Type} {p : α → Bool} {b : α} {r : List α} (h : p b = true) :
    0 < ((b :: r).takeWhile p).length := by
  simp [h]

theorem takeWhile_length_mono {α : Type} {p r : α → Bool} (h : ∀ x, p x = true → r x = true) : ∀ (l : List α),
    (l.takeWhile p).length ≤ (l.takeWhile r).length := by
  intro l
  induction l with
  | nil => simp
  | cons a t ih =>
    simp only [List.takeWhile_cons]
    by_cases hp : p a = true
    · simp [hp, h a hp, ih]
    · simp [hp]

theorem min_takeWhile_le {α : Type} (p r : α → Bool) : ∀ (l : List α),
    min (l.takeWhile p).length (l.takeWhile r).length ≤ (l.takeWhile (fun x => p x && r x)).length := by
  intro l
  induction l with
  | nil => simp
  | cons a t ih =>
    simp only [List.takeWhile_cons]
    cases hp : p a <;> cases hr : r a <;> simp <;> omega

theorem takeWhile_length_le_add_drop {α : Type} (p : α → Bool) : ∀ (l : List α) (m : Nat),
    (l.takeWhile p).length ≤ m + ((l.drop m).takeWhile p).length := by
  intro l
  induction l with
  | nil => intro m; simp
  | cons a t ih =>
    intro m
    cases m with
    | zero => simp
    | succ m =>
      rw [List.drop_succ_cons, List.takeWhile_cons]
      split
      · have := ih m; simp only [List.length_cons]; omega
      · simp

theorem take_drop_length {α : Type} (t : List α) (k : Nat) :
    (t.take k).length + (t.drop k).length = t.length ∧ ((t.take k).length = k ∨ (t.drop k).length = 0) :=
  ⟨by rw [← List.length_append, List.take_append_drop], by rw [List.length_take, List.length_drop]; omega⟩

theorem mem_drop_of_getElem? {α : Type} {src : List α} {p i : Nat} {q : α} (h : src[i]? = some q) (hp : p ≤ i) : q ∈ src.drop p := by
  have : (src.drop p)[i - p]? = some q := by
    rw [List.getElem?_drop, show p + (i - p) = i by omega]; exact h
  exact List.mem_of_getElem? this

end NaijaVerif
