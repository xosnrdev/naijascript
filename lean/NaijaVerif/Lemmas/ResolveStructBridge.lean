import NaijaVerif.Lemmas.ResolveStructScopeWalk
/-
The bridge condition of `c03_eval`, `C03.okBlock (orcOf numOk facts) root` (`Lemmas/AnalysisRefineOk.lean`), for every
accepted output of the resolver model.  It asks two kinds of things of the annotated program:
* ANNOTATIONS (the ids on references, targets, parameters, statements and user calls; number lexemes accepted by `o.num`).
  These follow, by a lemma about the AST alone (`okBlock_of`), from what the bridge resolver → evaluator proves of an
  accepted output: `Eval.wsBlock` (`resolve_wellScoped`), `Bridge.numBlock` (`resolve_num`), `Bridge.okBlock`
  (`resolve_ok`, the number lexemes from the scanner's guarantee `srcBlock`);
* ORACLES: `o.blk` of every block and `o.par` of every parameter list (`orcBlock`), proved of the
  oracle computed from the facts in `Lemmas/ResolveStructScopeWalk.lean` (`resolveWith_orc`).
Two families share the names `okExpr … okBlock`: `Bridge.ok… C` is what the run of `Eval` itself needs of the tree
(arities, number lexemes), `C03.ok… o` what the refinement to the analyses' evaluator needs; every occurrence below is
qualified.
-/
namespace NaijaVerif.ResolveStruct
open NaijaVerif NaijaVerif.Resolve NaijaVerif.C03

theorem okSegs_of (Γ : List Eval.Binder) : ∀ segs : List Seg, segs.all (Eval.wsSeg Γ) = true → segs.all okSeg = true
  | [] => fun _ => rfl
  | .lit _ :: rest => fun h => by
      simp only [List.all_cons, Eval.wsSeg, Bool.true_and] at h
      simp only [List.all_cons, okSeg, Bool.true_and]
      exact okSegs_of Γ rest h
  | .var _ b :: rest => fun h => by
      simp only [List.all_cons, Eval.wsSeg, Bool.and_eq_true] at h
      simp only [List.all_cons, okSeg, Bool.and_eq_true]
      refine ⟨?_, okSegs_of Γ rest h.2⟩
      cases b with
      | none => simp [Eval.boundIn] at h
      | some _ => rfl

theorem isSome_of_headDecl {Γ : List Eval.Binder} {b : Option Nat} (h : Eval.headDecl Γ b = true) : b.isSome = true := by
  cases b with
  | none => cases Γ <;> simp [Eval.headDecl] at h
  | some _ => rfl

theorem isSome_of_boundIn {Γ : List Eval.Binder} {b : Option Nat} (h : Eval.boundIn Γ b = true) : b.isSome = true := by
  cases b with
  | none => simp [Eval.boundIn] at h
  | some _ => rfl

section parts
variable (o : Orc) (C : Bridge.SCfg) (hnum : ∀ lex, C.numOk lex = true → o.num lex = true) (hm : o.members = true)
include hnum hm

theorem okExpr_both (Γ : List Eval.Binder) :
    (∀ e : Expr, Bridge.okExpr C e = true → Eval.wsExpr Γ e = true → C03.okExpr o e = true) ∧
    (∀ es : List Expr, Bridge.okExprs C es = true → Eval.wsExprs Γ es = true → C03.okExprs o es = true) := by
  apply Expr.walk
  case num => intro lex _ h _; simp only [Bridge.okExpr] at h; simp only [C03.okExpr]; exact hnum lex h
  case bool => intros; simp [C03.okExpr]
  case null => intros; simp [C03.okExpr]
  case member => intros; simp [C03.okExpr]
  case str =>
    intro p _ _ hw
    cases p with
    | static => simp [C03.okExpr]
    | interp segs =>
      simp only [Eval.wsExpr] at hw
      simp only [C03.okExpr]
      exact okSegs_of Γ segs hw
  case var =>
    intro _ b _ _ hw
    simp only [Eval.wsExpr] at hw
    simp only [C03.okExpr]
    exact isSome_of_boundIn hw
  case binary =>
    intro _ l r _ ihl ihr h hw
    simp only [Bridge.okExpr, Eval.wsExpr, C03.okExpr, Bool.and_eq_true] at h hw ⊢
    exact ⟨ihl h.1 hw.1, ihr h.2 hw.2⟩
  case unary =>
    intro _ x _ ih h hw
    simp only [Bridge.okExpr, Eval.wsExpr, C03.okExpr] at h hw ⊢
    exact ih h hw
  case array =>
    intro es _ ih h hw
    simp only [Bridge.okExpr, Eval.wsExpr, C03.okExpr] at h hw ⊢
    exact ih h hw
  case index =>
    intro a i _ _ iha ihi h hw
    simp only [Bridge.okExpr, Eval.wsExpr, C03.okExpr, Bool.and_eq_true] at h hw ⊢
    exact ⟨iha h.1 hw.1, ihi h.2 hw.2⟩
  case callMember =>
    intro obj _ _ _ args _ _ iho iha h hw
    simp only [Bridge.okExpr, Eval.wsExpr, C03.okExpr, Bool.and_eq_true] at h hw ⊢
    exact ⟨⟨hm, iho h.1 hw.1⟩, iha h.2 hw.2⟩
  case call =>
    intro c args fn _ hne _ iha h hw
    cases c with
    | var name _ _ =>
      simp only [Bridge.okExpr, Eval.wsExpr, C03.okExpr, Bool.and_eq_true, Bool.or_eq_true] at h hw ⊢
      refine ⟨iha h.1 hw.1, ?_⟩
      rcases hw.2 with hg | hf
      · exact Or.inl hg
      · right
        cases fn with
        | none => simp [Eval.fnBoundIn] at hf
        | some _ => rfl
    | member obj fld fs ms => exact absurd rfl (hne obj fld fs ms)
    | _ => simp [C03.okExpr]
  case nil => intros; simp [C03.okExprs]
  case cons =>
    intro e es ihe ihes h hw
    simp only [Bridge.okExprs, Eval.wsExprs, C03.okExprs, Bool.and_eq_true] at h hw ⊢
    exact ⟨ihe h.1 hw.1, ihes h.2 hw.2⟩

/-! The two conjuncts of `okExpr_both`; `okStmt_both` needs the one for a single expression only. -/

theorem okExpr_of (Γ : List Eval.Binder) (e : Expr) : Bridge.okExpr C e = true → Eval.wsExpr Γ e = true →
    C03.okExpr o e = true := (okExpr_both o C hnum hm Γ).1 e

theorem okExprs_of (Γ : List Eval.Binder) : ∀ es : List Expr, Bridge.okExprs C es = true → Eval.wsExprs Γ es = true →
      C03.okExprs o es = true := (okExpr_both o C hnum hm Γ).2

variable (hpl : C.plan = none)
include hpl

/-- `d` is the in-loop flag of `Bridge.okStmt` (set under a loop, cleared under a definition); `C03.okStmt` has no such
flag and the conclusion does not depend on it. -/
theorem okStmt_both :
    (∀ (s : Stmt) (Γ : List Eval.Binder) (d : Bool), Bridge.okStmt C d s = true → Eval.wsStmt Γ s = true →
      Bridge.numStmt s = true → orcStmt o s = true → C03.okStmt o s = true) ∧
    (∀ (ss : List Stmt) (Γ : List Eval.Binder) (d : Bool), Bridge.okStmts C d ss = true → Eval.wsStmts Γ ss = true →
      Bridge.numStmts ss = true → orcStmts o ss = true → C03.okStmts o ss = true) ∧
    (∀ (b : Block) (Γ : List Eval.Binder) (d : Bool), Bridge.okBlock C d b = true → Eval.wsBlock Γ b = true →
      Bridge.numBlock b = true → orcBlock o b = true → C03.okBlock o b = true) ∧
    (∀ (b : Option Block) (Γ : List Eval.Binder) (d : Bool), Bridge.okOptBlock C d b = true →
      Eval.wsOptBlock Γ b = true → Bridge.numOptBlock b = true → orcOptBlock o b = true → C03.okOptBlock o b = true) := by
  apply Stmt.walk
  case assign =>
    intro _ _ e b sid _ Γ d h hw hn _
    simp only [Bridge.okStmt, Eval.wsStmt, Bridge.numStmt, C03.okStmt, Bool.and_eq_true] at h hw hn ⊢
    exact ⟨⟨okExpr_of o C hnum hm Γ e h hw.1, isSome_of_headDecl hw.2⟩, hn⟩
  case assignExisting =>
    intro _ _ e b sid _ Γ d h hw hn _
    simp only [Bridge.okStmt, Eval.wsStmt, Bridge.numStmt, C03.okStmt, Bool.and_eq_true] at h hw hn ⊢
    exact ⟨⟨okExpr_of o C hnum hm Γ e h hw.1, isSome_of_boundIn hw.2⟩, hn⟩
  case assignIndex =>
    intro t e sid _ Γ d h hw hn _
    simp only [Bridge.okStmt, Eval.wsStmt, Bridge.numStmt, C03.okStmt, Bool.and_eq_true] at h hw hn ⊢
    exact ⟨⟨⟨hm, okExpr_of o C hnum hm Γ t h.1.1 hw.1⟩, okExpr_of o C hnum hm Γ e h.1.2 hw.2⟩, hn⟩
  case ifS =>
    intro c t e sid _ iht ihe Γ d h hw hn ho
    simp only [Bridge.okStmt, Eval.wsStmt, Bridge.numStmt, orcStmt, C03.okStmt, Bool.and_eq_true] at h hw hn ho ⊢
    exact ⟨⟨⟨okExpr_of o C hnum hm Γ c h.1.1 hw.1.1, iht Γ d h.1.2 hw.1.2 hn.1.2 ho.1⟩,
      ihe Γ d h.2 hw.2 hn.2 ho.2⟩, hn.1.1⟩
  case loop =>
    intro c b sid _ ihb Γ d h hw hn ho
    simp only [Bridge.okStmt, Eval.wsStmt, Bridge.numStmt, orcStmt, C03.okStmt, Bool.and_eq_true] at h hw hn ho ⊢
    exact ⟨⟨okExpr_of o C hnum hm Γ c h.1 hw.1, ihb Γ true h.2 hw.2 hn.2 ho⟩, hn.1⟩
  case block =>
    intro b sid _ ihb Γ d h hw hn ho
    simp only [Bridge.okStmt, Eval.wsStmt, Bridge.numStmt, orcStmt, C03.okStmt, Bool.and_eq_true] at h hw hn ho ⊢
    exact ⟨ihb Γ d h hw hn.2 ho, hn.1⟩
  case fnDef =>
    intro _ _ ps body fn sid _ ihb Γ d h hw hn ho
    simp only [Bridge.okStmt, Eval.wsStmt, Bridge.numStmt, orcStmt, C03.okStmt, Bool.and_eq_true, hpl, Eval.Plan.prunesFn,
      Bool.false_or] at h hw hn ho ⊢
    exact ⟨⟨ho.1, ihb (.ofParams ps :: Γ) false h.2 hw.2 hn.2 ho.2⟩, hn.1.2⟩
  case ret =>
    intro e sid _ Γ d h hw hn _
    cases e with
    | some e =>
      simp only [Bridge.okStmt, Eval.wsStmt, Bridge.numStmt, C03.okStmt, Bool.and_eq_true] at h hw hn ⊢
      exact ⟨okExpr_of o C hnum hm Γ e h hw, hn⟩
    | none => simp only [Bridge.numStmt, C03.okStmt] at hn ⊢; exact hn
  case brk => intro sid _ Γ d _ _ hn _; simp only [Bridge.numStmt, C03.okStmt] at hn ⊢; exact hn
  case cont => intro sid _ Γ d _ _ hn _; simp only [Bridge.numStmt, C03.okStmt] at hn ⊢; exact hn
  case expr =>
    intro e sid _ Γ d h hw hn _
    simp only [Bridge.okStmt, Eval.wsStmt, Bridge.numStmt, C03.okStmt, Bool.and_eq_true] at h hw hn ⊢
    exact ⟨okExpr_of o C hnum hm Γ e h hw, hn⟩
  case nil => intros; simp [C03.okStmts]
  case cons =>
    intro s rest ihs ihr Γ d h hw hn ho
    simp only [Bridge.okStmts, Eval.wsStmts, Bridge.numStmts, orcStmts, C03.okStmts, Bool.and_eq_true, hpl,
      Bridge.stmtSkipped_none, Bool.false_or] at h hw hn ho ⊢
    exact ⟨ihs Γ d h.1 hw.1 hn.1 ho.1, ihr Γ d h.2 hw.2 hn.2 ho.2⟩
  case mk =>
    intro ss _ ih Γ d h hw hn ho
    simp only [Bridge.okBlock, Eval.wsBlock, Bridge.numBlock, orcBlock, C03.okBlock, Bool.and_eq_true] at h hw hn ho ⊢
    exact ⟨ho.1, ih (.ofStmts ss :: Γ) d h hw.2 hn ho.2⟩
  case none => intros; simp [C03.okOptBlock]
  case some =>
    intro b ih Γ d h hw hn ho
    simp only [Bridge.okOptBlock, Eval.wsOptBlock, Bridge.numOptBlock, orcOptBlock, C03.okOptBlock] at h hw hn ho ⊢
    exact ih Γ d h hw hn ho

/-! The conjuncts of `okStmt_both`; `resolveWith_okBlock` needs the one for blocks only. -/

theorem okStmt_of (Γ : List Eval.Binder) (d : Bool) : ∀ s : Stmt, Bridge.okStmt C d s = true → Eval.wsStmt Γ s = true →
      Bridge.numStmt s = true → orcStmt o s = true → C03.okStmt o s = true :=
  fun s => (okStmt_both o C hnum hm hpl).1 s Γ d

theorem okStmts_of (Γ : List Eval.Binder) (d : Bool) : ∀ ss : List Stmt, Bridge.okStmts C d ss = true →
      Eval.wsStmts Γ ss = true → Bridge.numStmts ss = true → orcStmts o ss = true → C03.okStmts o ss = true :=
  fun ss => (okStmt_both o C hnum hm hpl).2.1 ss Γ d

theorem okBlock_of (Γ : List Eval.Binder) (d : Bool) (b : Block) : Bridge.okBlock C d b = true →
    Eval.wsBlock Γ b = true → Bridge.numBlock b = true → orcBlock o b = true → C03.okBlock o b = true :=
  (okStmt_both o C hnum hm hpl).2.2.1 b Γ d

theorem okOptBlock_of (Γ : List Eval.Binder) (d : Bool) : ∀ b : Option Block, Bridge.okOptBlock C d b = true →
      Eval.wsOptBlock Γ b = true → Bridge.numOptBlock b = true → orcOptBlock o b = true → C03.okOptBlock o b = true :=
  fun b => (okStmt_both o C hnum hm hpl).2.2.2 b Γ d

end parts

/-- `hsrc`: the number lexemes of the input are accepted by `numOk` (the scanner's guarantee). -/
theorem resolveWith_okBlock (numOk : Bytes → Bool) (spanLen : Bool) (q : Block)
    (hsrc : Bridge.srcBlock ⟨[], numOk, false, none⟩ q = true) (h : (resolveWith spanLen q).rdiags = []) :
    C03.okBlock (orcOf numOk (resolveWith spanLen q).facts) (resolveWith spanLen q).root = true :=
  okBlock_of (orcOf numOk (resolveWith spanLen q).facts) ⟨Bridge.arityTable (resolveWith spanLen q), numOk, false, none⟩
    (fun _ hl => hl) rfl rfl [Eval.Binder.root] false _ (Bridge.resolve_ok spanLen numOk false q hsrc h)
    (resolve_wellScoped spanLen q h) (Bridge.resolve_num spanLen q h) (resolveWith_orc numOk spanLen q h)

end NaijaVerif.ResolveStruct
