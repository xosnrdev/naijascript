import NaijaVerif.Lemmas.AnalysisRefineConvAll
import NaijaVerif.Lemmas.AnalysisRefineOrc
/-
BRIDGE: the refinement theorem as the statement `BridgeToEval` of `Lemmas/AnalysisBridge.lean`, about a configuration and its
hypotheses one by one instead of the record `Brg`, and its converse: the two halves of `bridge_conv`.
Nothing here uses `Lemmas/AnalysisRefineOrc.lean`; it is imported for `Driver/Plan.lean`, which takes `orcOf` with this module.
-/
namespace NaijaVerif.C03
open NaijaVerif NaijaVerif.Analysis

variable {N : Type} [NumOps N]

theorem memberE_plan (cfg : Eval.RunCfg) (p : Option Eval.Plan) :
    memberE (N := N) { cfg with plan := p } = memberE cfg := by
  funext field recv vs
  cases recv with
  | host h => cases h <;> rfl
  | _ => rfl

theorem evalPrims_plan (cfg : Eval.RunCfg) (p : Option Eval.Plan) (ds ss : Nat → Option Nat) :
    evalPrims (N := N) { cfg with plan := p } ds ss = evalPrims cfg ds ss := by
  simp only [evalPrims, memberE_plan]

theorem bridge_to_eval : BridgeToEval := by
  intro N _ cfg ds ss o hl hp hin ho prog plan fuel hok hnf
  let B : Brg := { rc := { cfg with plan := plan.map toEvalPlan }, ds := ds, ss := ss, plan := plan, o := o }
  have hB : B.Ok N := ⟨hl, hp, rfl, ho⟩
  have hP : B.P (N := N) = evalPrims cfg ds ss := evalPrims_plan cfg _ ds ss
  obtain ⟨ob, hA, hE⟩ := bridge_conv (N := N) hB prog hok hin (Or.inl ⟨fuel, by rw [hP]; exact hnf⟩)
  obtain ⟨f0, h0⟩ := hE.ev
  rw [hP] at hA
  exact ⟨f0, (h0 f0 (Nat.le_refl _)).trans (hA.det fuel hnf).symm⟩

/-- The converse of `BridgeToEval`: a run of `Eval` on an annotated program that does not exhaust its fuel is the run of the
fragment for some fuel. -/
theorem bridge_from_eval (cfg : Eval.RunCfg) (ds ss : Nat → Option Nat) (o : Orc)
    (hl : cfg.lookup = .dynamic) (hp : cfg.panics = false) (hin : cfg.input = []) (ho : OrcOk N ds ss o)
    (prog : Block) (plan : Option Analysis.Plan) (f : Nat) (hok : okBlock o prog = true)
    (hne : evalObs (Eval.run (N := N) { cfg with plan := plan.map toEvalPlan } f prog) ≠ none) :
    ∃ n, fragObs (AEval.run (evalPrims (N := N) cfg ds ss) plan n prog) =
      evalObs (Eval.run (N := N) { cfg with plan := plan.map toEvalPlan } f prog) := by
  let B : Brg := { rc := { cfg with plan := plan.map toEvalPlan }, ds := ds, ss := ss, plan := plan, o := o }
  have hB : B.Ok N := ⟨hl, hp, rfl, ho⟩
  have hP : B.P (N := N) = evalPrims cfg ds ss := evalPrims_plan cfg _ ds ss
  obtain ⟨ob, hA, hE⟩ := bridge_conv (N := N) hB prog hok hin (Or.inr ⟨f, hne⟩)
  obtain ⟨n0, h0⟩ := hA.ev
  rw [hP] at hA h0
  exact ⟨n0, (h0 n0 (Nat.le_refl _)).trans (hE.det f hne).symm⟩

end NaijaVerif.C03
