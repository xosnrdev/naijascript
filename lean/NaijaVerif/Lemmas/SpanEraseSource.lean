import NaijaVerif.Lemmas.BridgeOk
import NaijaVerif.Lemmas.SpanEraseEval
import NaijaVerif.Lemmas.AnalysisBridge
/-
Two span-independence facts that compose C01 (text ↔ tree) with C03 (plan ↔ no plan): the guarantees of
scanner and parser about the checker's input (`Bridge.srcBlock`: the shape of the number lexemes, index
assignments have an index) do not read spans (`srcBlock_erase`); and the observation `C03.evalObs` of a
run (printed values, ending, runtime-error kind) is what `eraseOutcome` keeps (`evalObs_congr`; it keeps `Outcome.isPanic`
as well, `isPanic_eraseOutcome`).  `srcBlock_erase` is the
constant-map instance of `srcStmt_map`; the instances for the other functions of the family are recorded beside it.
-/
namespace NaijaVerif.SpanMap
open NaijaVerif NaijaVerif.Parse NaijaVerif.Bridge

theorem isIndexExpr_map (φ : Span → Span) (e : Expr) : isIndexExpr (mapExpr φ e) = isIndexExpr e := by
  cases e <;> rfl

theorem srcExpr_map (φ : Span → Span) (C : SCfg) :
    (∀ e : Expr, srcExpr C (mapExpr φ e) = srcExpr C e) ∧
    (∀ es : List Expr, srcExprs C (mapExprs φ es) = srcExprs C es) := by
  apply Expr.walk
  case index => intro a i _ _ ha hi; simp only [mapExpr, srcExpr, ha, hi]
  case binary => intro _ l r _ hl hr; simp only [mapExpr, srcExpr, hl, hr]
  case callMember => intro o _ _ _ args _ _ ho ha; simp only [mapExpr, srcExpr, ho, ha]
  case call => intro c args _ _ _ hc ha; simp only [mapExpr, srcExpr, hc, ha]
  case array => intro es _ h; simp only [mapExpr, srcExpr, h]
  case unary => intro _ e _ h; simp only [mapExpr, srcExpr, h]
  case member => intro o _ _ _ h; simp only [mapExpr, srcExpr, h]
  case cons => intro e es he hes; simp only [mapExprs, srcExprs, he, hes]
  all_goals intros; rfl

theorem srcStmt_map (φ : Span → Span) (C : SCfg) :
    (∀ s : Stmt, srcStmt C (mapStmt φ s) = srcStmt C s) ∧
    (∀ ss : List Stmt, srcStmts C (mapStmts φ ss) = srcStmts C ss) ∧
    (∀ b : Block, srcBlock C (mapBlock φ b) = srcBlock C b) ∧
    (∀ o : Option Block, srcOptBlock C (o.map (mapBlock φ)) = srcOptBlock C o) := by
  have hE := (srcExpr_map φ C).1
  apply Stmt.walk
  case fnDef => intro _ _ _ body _ _ _ hb; exact hb
  case assign => intro _ _ e _ _ _; exact hE e
  case assignExisting => intro _ _ e _ _ _; exact hE e
  case assignIndex => intro t e _ _; simp only [mapStmt, srcStmt, hE, isIndexExpr_map]
  case ifS => intro c t e _ _ ht he; rw [mapStmt_ifS]; simp only [srcStmt, hE, ht, he]
  case loop => intro c b _ _ hb; simp only [mapStmt, srcStmt, hE, hb]
  case block => intro b _ _ hb; exact hb
  case ret =>
    intro e _ _
    cases e with
    | none => rfl
    | some e => exact hE e
  case expr => intro e _ _; exact hE e
  case mk => intro ss _ h; exact h
  case some => intro b hb; exact hb
  case cons => intro s ss hs hss; simp only [mapStmts, srcStmts, hs, hss]
  all_goals intros; rfl

end NaijaVerif.SpanMap

namespace NaijaVerif.SpanErase
open NaijaVerif NaijaVerif.Parse NaijaVerif.Bridge NaijaVerif.SpanMap

theorem srcExprs_erase (C : SCfg) : ∀ es : List Expr, srcExprs C (eraseExprs es) = srcExprs C es :=
  fun es => by rw [eraseExpr_eq_mapExpr.eraseExprs_eq_mapExprs]; exact (srcExpr_map _ C).2 es

theorem srcStmt_erase (C : SCfg) : ∀ s : Stmt, srcStmt C (eraseStmt s) = srcStmt C s :=
  fun s => by rw [eraseStmt_eq_mapStmt]; exact (srcStmt_map _ C).1 s

theorem srcStmts_erase (C : SCfg) : ∀ ss : List Stmt, srcStmts C (eraseStmts ss) = srcStmts C ss :=
  fun ss => by rw [eraseStmts_eq_mapStmts]; exact (srcStmt_map _ C).2.1 ss

theorem srcBlock_erase (C : SCfg) : ∀ b : Block, srcBlock C (eraseBlock b) = srcBlock C b :=
  fun b => by rw [eraseBlock_eq_mapBlock]; exact (srcStmt_map _ C).2.2.1 b

theorem srcBlock_congr_erase (C : SCfg) {b b' : Block} (h : eraseSpans b = eraseSpans b') :
    srcBlock C b = srcBlock C b' := by
  rw [← srcBlock_erase C b, ← srcBlock_erase C b']
  exact congrArg _ h

section Obs
variable {N : Type}

theorem evalObs_eraseOutcome (o : Eval.Outcome N) : C03.evalObs (eraseOutcome o) = C03.evalObs o := by
  cases o <;> rfl

theorem evalObs_congr {o o' : Eval.Outcome N} (h : eraseOutcome o = eraseOutcome o') :
    C03.evalObs o = C03.evalObs o' := by
  rw [← evalObs_eraseOutcome o, ← evalObs_eraseOutcome o', h]

theorem isPanic_eraseOutcome (o : Eval.Outcome N) : (eraseOutcome o).isPanic = o.isPanic := by
  cases o <;> rfl

end Obs

end NaijaVerif.SpanErase
