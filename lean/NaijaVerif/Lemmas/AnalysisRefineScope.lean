import NaijaVerif.Lemmas.AnalysisRefineState
import NaijaVerif.Lemmas.ListFacts
import NaijaVerif.Lemmas.EvalBasic
/-
BRIDGE: the state relation `StSim` is kept by the state-level operations of the two evaluators: variable lookup and
store, `shout`, entering a block (push + hoist), entering a function (parameter scope), leaving a scope.
Lookup and store are matched for `rc.lookup = .dynamic` only: a bound reference is looked up in the most recent instance of
its declaring scope, which is what the fragment does with its scope tags (head of `Lemmas/AnalysisBridge.lean`).
-/
namespace NaijaVerif.C03
open NaijaVerif NaijaVerif.Analysis

variable {N : Type} {o : Orc} {ds : Nat → Option Nat} {drop : Nat → Bool}

/-- `owned_sim` for states and the lookup of the bridge (`slotOf`). -/
theorem owned_st {rc : Eval.RunCfg} (hl : rc.lookup = .dynamic) {s : Eval.State N} {t : AEval.St (VE N)}
    (h : StSim o ds drop s t) (l : Nat) (name : Bytes) :
    (Eval.slotOf rc s (some l) name = none ∧ AEval.lookupEnv ds l t.env = none ∧
      ∀ w, AEval.assignEnv ds l w t.env = none) ∨
    ∃ pos old, Eval.slotOf rc s (some l) name = some pos ∧ Eval.getAt s.env pos = some old ∧
      AEval.lookupEnv ds l t.env = some old ∧
      ∀ g : VE N → VE N, ∃ env', AEval.assignEnv ds l (g old) t.env = some env' ∧
        StSim o ds drop { s with env := Eval.updateAt s.env pos g } { t with env := env' } := by
  simp only [Eval.slotOf, hl]
  rcases owned_sim l h.env with h0 | ⟨pos, old, h1, h2, h3, h4⟩
  · exact Or.inl h0
  · exact Or.inr ⟨pos, old, h1, h2, h3, fun g => (h4 g).imp fun _ h' => ⟨h'.1, h'.2, h.out, h.input⟩⟩

theorem lookupVal_sim {rc : Eval.RunCfg} (hl : rc.lookup = .dynamic) {s : Eval.State N} {t : AEval.St (VE N)}
    (h : StSim o ds drop s t) (l : Nat) (name : Bytes) :
    Eval.lookupVal rc s (some l) name = AEval.lookupEnv ds l t.env := by
  simp only [Eval.lookupVal]
  rcases owned_st hl h l name with ⟨h1, h2, _⟩ | ⟨pos, old, h1, h2, h3, _⟩
  · rw [h1, h2]; rfl
  · rw [h1, h3]; exact h2

/-- `assign_bound_local` against `assignEnv`. -/
theorem assign_st_sim {rc : Eval.RunCfg} (hl : rc.lookup = .dynamic) {s : Eval.State N} {t : AEval.St (VE N)}
    (h : StSim o ds drop s t) (l : Nat) (name : Bytes) (w : VE N) :
    ORel2 (fun s' env' => StSim o ds drop s' { t with env := env' }) (Eval.assign rc s (some l) name w)
      (AEval.assignEnv ds l w t.env) := by
  simp only [Eval.assign]
  rcases owned_st hl h l name with ⟨h1, _, h3⟩ | ⟨pos, old, h1, _, _, h4⟩
  · rw [h1, h3]; trivial
  · obtain ⟨env', ha, hsim⟩ := h4 fun _ => w
    rw [h1, ha]; exact hsim

theorem shout_sim {s : Eval.State N} {t : AEval.St (VE N)} (h : StSim o ds drop s t) (v : VE N) :
    StSim o ds drop { s with out := s.out ++ [v] } { t with out := v :: t.out } :=
  ⟨h.env, by simp [h.out], h.input⟩

theorem push_sim {s : Eval.State N} {t : AEval.St (VE N)} (h : StSim o ds drop s t) {tag : Option Nat} {decls : List Nat}
    (htag : TagOk ds tag decls) (kind : Eval.ScopeKind) (chain : List Nat) :
    StSim o ds drop (Eval.pushScope s kind chain [] decls)
      { t with env := ⟨tag, []⟩ :: t.env, fns := [] :: t.fns } := by
  refine ⟨⟨⟨fun l => by simp [slotValE, AEval.findSlot], htag, fun g => ?_⟩, h.env⟩, h.out, h.input⟩
  cases drop g <;> simp [ORel2]

theorem pop_sim {s : Eval.State N} {t : AEval.St (VE N)} (h : StSim o ds drop s t) (chain : List Nat) :
    StSim o ds drop (Eval.popScope s chain) { t with env := t.env.drop 1, fns := t.fns.drop 1 } := by
  obtain ⟨henv, hout, hin⟩ := h
  refine ⟨?_, hout, hin⟩
  simp only [Eval.popScope]
  match hse : s.env, hte : t.env, htf : t.fns, henv with
  | [], [], [], _ => simp [EnvSim]
  | se :: es, ta :: ts, fa :: fs, ⟨_, hrest⟩ => simpa using hrest

theorem hoistL_find {rc : Eval.RunCfg} (hdrop : ∀ i, Eval.Plan.prunesFn rc.plan (some i) = drop i) (chain : List Nat) (g : Nat)
    (stmts : List Stmt) : okStmts o stmts = true → (Eval.fnIdsOf stmts).Nodup →
    ORel2 (FnRel o) ((Eval.hoistL rc chain stmts).find? (fun fd => fd.id == some g))
      (if drop g then none else (AEval.hoist stmts).find? (fun f => f.id == g)) := by
  induction stmts with
  | nil => intro _ _; cases drop g <;> exact trivial
  | cons s rest ih =>
    intro hok hn
    cases s
    case fnDef name nsp ps body fn sid sp =>
      obtain ⟨body, bsp⟩ := body
      cases fn with
      | none =>
        simpa only [Eval.hoistL, Eval.prunesFn_noId, Bool.false_eq_true, ↓reduceIte, List.find?_cons, AEval.hoist,
          show ((none : Option Nat) == some g) = false from rfl] using ih (okStmts_tail hok) hn
      | some f =>
        simp only [okStmts, okStmt, Bool.and_eq_true] at hok
        simp only [Eval.fnIdsOf, List.nodup_cons] at hn
        have ih := ih hok.2 hn.2
        simp only [Eval.hoistL, hdrop, AEval.hoist, List.find?_cons]
        by_cases hgf : f = g
        · subst hgf
          cases hd : drop f with
          | true => simp only [↓reduceIte, Eval.hoistL_find_none rc chain rest f hn.1, ORel2]
          | false =>
            simp only [Bool.false_eq_true, ↓reduceIte, List.find?_cons, beq_self_eq_true, ORel2]
            exact ⟨rfl, rfl, rfl, hok.1.1.1, hok.1.1.2⟩
        · have h1 : (some f == some g) = false := by simpa using hgf
          have h2 : (f == g) = false := by simpa using hgf
          cases hd : drop f with
          | true => simpa only [↓reduceIte, h2, Bool.false_eq_true] using ih
          | false => simpa only [Bool.false_eq_true, ↓reduceIte, List.find?_cons, h1, h2] using ih
    all_goals exact ih (okStmts_tail hok) hn

/-- `push_scope` + `hoist_block_functions` on both sides. -/
theorem block_enter_sim {rc : Eval.RunCfg} (hdrop : ∀ i, Eval.Plan.prunesFn rc.plan (some i) = drop i)
    {s : Eval.State N} {t : AEval.St (VE N)} (h : StSim o ds drop s t) (ss : Nat → Option Nat) (stmts : List Stmt)
    (htag : TagOk ds (AEval.blockTag ss stmts) (Eval.declIds stmts)) (hn : (Eval.fnIdsOf stmts).Nodup)
    (hok : okStmts o stmts = true) (sp : Span) :
    StSim o ds drop (Eval.hoist rc stmts (Eval.pushScope s (.block sp) s.chain [] (Eval.declIds stmts)))
      { t with env := ⟨AEval.blockTag ss stmts, []⟩ :: t.env, fns := AEval.hoist stmts :: t.fns } := by
  rw [Eval.hoist_eq rc stmts _ _ _ rfl]
  obtain ⟨⟨hsc, henv⟩, hout, hin⟩ := push_sim h htag (.block sp) s.chain
  refine ⟨⟨⟨hsc.slots, hsc.tag, fun g => ?_⟩, henv⟩, hout, hin⟩
  simp only [List.append_nil]
  rw [find?_reverse_of_nodup Eval.FnEntry.id g _ ((Eval.hoistL_ids rc _ stmts).nodup hn)]
  exact hoistL_find hdrop _ g stmts hok hn

/-- The parameter slots in parameter order (`paramSlots` is the reverse: the last parameter is pushed last, so it is
searched first). -/
def pslots : List Param → List (VE N) → List (Eval.Slot N)
  | p :: ps, v :: vs => { id := p.bind, name := p.name, val := v } :: pslots ps vs
  | [], _ => []
  | _ :: _, [] => []

theorem paramSlots_eq : ∀ (ps : List Param) (vs : List (VE N)),
    Eval.paramSlots ps (ps.map (·.bind)) vs = (pslots ps vs).reverse := by
  intro ps vs
  simp only [Eval.paramSlots]
  congr 1
  induction ps generalizing vs with
  | nil => simp [pslots]
  | cons p ps ih =>
    cases vs with
    | nil => simp [pslots]
    | cons v vs => simp [pslots, ih vs]

/-- `bindParams` fails exactly on an arity mismatch, because every parameter of an annotated program carries its id. -/
theorem bindParams_spec : ∀ (ps : List Param) (vs : List (VE N)), (∀ p ∈ ps, p.bind.isSome = true) →
    match AEval.bindParams ps vs with
    | none => vs.length ≠ ps.length
    | some slots => vs.length = ps.length ∧ (pslots ps vs).filterMap (·.id) = ps.filterMap (·.bind) ∧
        ∀ l, ((pslots ps vs).find? (fun sl => sl.id == some l)).map (·.val) = AEval.findSlot l slots
  | [], [], _ => ⟨rfl, rfl, fun _ => rfl⟩
  | [], _ :: _, _ => by simp [AEval.bindParams]
  | _ :: _, [], _ => by simp [AEval.bindParams]
  | p :: ps, v :: vs, hb => by
      have ih := bindParams_spec ps vs (fun q hq => hb q (List.mem_cons_of_mem _ hq))
      obtain ⟨id, hpb⟩ := Option.isSome_iff_exists.mp (hb p (List.mem_cons_self ..))
      simp only [AEval.bindParams, hpb]
      cases hr : AEval.bindParams ps vs with
      | none => rw [hr] at ih; simpa using ih
      | some r =>
        rw [hr] at ih
        obtain ⟨hlen, hkeys, hfind⟩ := ih
        refine ⟨by simp [hlen], by simp [pslots, hpb, hkeys], fun l => ?_⟩
        simp only [pslots, hpb, List.find?_cons, AEval.findSlot]
        by_cases hl : id = l
        · subst hl; simp
        · have h1 : (some id == some l) = false := by simpa using hl
          have h2 : (id == l) = false := by simpa using hl
          simp only [h1, h2, Bool.false_eq_true, ↓reduceIte]
          exact hfind l

theorem params_sim {s : Eval.State N} {t : AEval.St (VE N)} (h : StSim o ds drop s t) (ps : List Param) (vs : List (VE N))
    (hb : ∀ p ∈ ps, p.bind.isSome = true) (hn : (ps.filterMap (·.bind)).Nodup)
    (htag : TagOk ds (AEval.paramTag ds ps) (ps.filterMap (·.bind))) (kind : Eval.ScopeKind) (chain : List Nat) :
    match AEval.bindParams ps vs with
    | none => vs.length ≠ ps.length
    | some slots => vs.length = ps.length ∧ StSim o ds drop
        (Eval.pushScope s kind chain (Eval.paramSlots ps (ps.map (·.bind)) vs) ((ps.map (·.bind)).filterMap id))
        { t with env := ⟨AEval.paramTag ds ps, slots⟩ :: t.env, fns := [] :: t.fns } := by
  have hsp := bindParams_spec ps vs hb
  cases hbp : AEval.bindParams ps vs with
  | none => rw [hbp] at hsp; exact hsp
  | some slots =>
    rw [hbp] at hsp
    obtain ⟨hlen, hkeys, hfind⟩ := hsp
    obtain ⟨⟨hsc, henv⟩, hout, hin⟩ :=
      push_sim h (decls := (ps.map (·.bind)).filterMap id) (by simpa [List.filterMap_map] using htag) kind chain
    refine ⟨hlen, ⟨⟨fun l => ?_, hsc.tag, hsc.fns⟩, henv⟩, hout, hin⟩
    simp only [slotValE, paramSlots_eq]
    rw [find?_reverse_of_nodup Eval.Slot.id l _ (by rw [hkeys]; exact hn)]
    exact hfind l

end NaijaVerif.C03
