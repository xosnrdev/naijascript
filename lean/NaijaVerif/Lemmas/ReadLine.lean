/-
For `Props/C17.lean`: the loop invariant of `readLoop` over the system-call model, `readLoopOld` (D-17) on a stream
that delivers whole lines, and that the UTF-8 automaton splits at ASCII bytes.  `validUtf8` here is the byte automaton of
`Model/ReadLine.lean`, a formulation of its own: no theorem relates it to `Utf8.validUtf8` (`Lemmas/LexUtf8`).
-/
import NaijaVerif.Model.ReadLine

namespace NaijaVerif.ReadLine

theorem sysRead_spec (count : Nat) (input : List (List Nat)) :
    ∃ got rest, sysRead count input = (got, rest) ∧ got ++ rest.flatten = input.flatten ∧ got.length ≤ count ∧
      (0 < count → got = [] → input.flatten = []) := by
  fun_induction sysRead count input with
  | case1 => exact ⟨_, _, rfl, rfl, Nat.zero_le _, fun _ _ => rfl⟩
  | case2 cs ih => exact ih
  | case3 b c cs h => exact ⟨_, _, rfl, rfl, h, fun _ e => nomatch e⟩
  | case4 b c cs h =>
    refine ⟨_, _, rfl, ?_, ?_, fun hc e => ?_⟩
    · rw [List.flatten_cons, List.flatten_cons, ← List.append_assoc, List.take_append_drop]
    · rw [List.length_take]; exact Nat.min_le_left _ _
    · cases count with
      | zero => cases hc
      | succ n => cases e

theorem findIdx_eq_length_iff (l : List Nat) (x : Nat) : l.findIdx (· == x) = l.length ↔ x ∉ l := by
  rw [List.findIdx_eq_length]
  exact ⟨fun h hx => by simpa using h x hx, fun h y hy => by simpa using fun e : y = x => h (e ▸ hy)⟩

theorem memchr_eq_findIdx (needle : Nat) (hay : List Nat) (off : Nat) (hoff : off ≤ hay.length)
    (hpre : needle ∉ hay.take off) :
    memchr needle hay off = hay.findIdx (· == needle) := by
  have hmin : min off hay.length = off := Nat.min_eq_left hoff
  simp only [memchr, hmin]
  conv => rhs; rw [← List.take_append_drop off hay]
  rw [List.findIdx_append]
  have h1 := (findIdx_eq_length_iff _ _).mpr hpre
  rw [h1]
  simp [List.length_take, hmin]
  omega

theorem splitLine_found (l r : List Nat) (h : l.findIdx (· == newline) < l.length) :
    splitLine (l ++ r) = (l.take (l.findIdx (· == newline)), l.drop (l.findIdx (· == newline) + 1) ++ r) := by
  induction l with
  | nil => cases h
  | cons b bs ih =>
      by_cases hb : b = newline
      · simp [splitLine, hb, List.findIdx_cons]
      · have hb' : (b == newline) = false := by simpa using hb
        simp only [List.findIdx_cons, hb', cond_false, List.length_cons, Nat.add_lt_add_iff_right] at h
        simp [splitLine, hb, hb', List.findIdx_cons, ih h]

theorem splitLine_append (l r : List Nat) (h : newline ∉ l) :
    splitLine (l ++ r) = (l ++ (splitLine r).1, (splitLine r).2) := by
  induction l with
  | nil => rfl
  | cons b bs ih =>
      have hb : b ≠ newline := fun e => h (by simp [e])
      have hbs : newline ∉ bs := fun e => h (by simp [e])
      simp [splitLine, hb, ih hbs]

theorem splitLine_append_newline (l r : List Nat) (h : newline ∉ l) :
    splitLine (l ++ newline :: r) = (l, r) := by
  simp [splitLine_append l _ h, splitLine]

theorem splitLine_no_newline (l : List Nat) (h : newline ∉ l) : splitLine l = (l, []) := by
  simpa [splitLine] using splitLine_append l [] h

/-- What holds at the `break` of the loop; the text to come is cut at `e`. -/

structure LoopPost (s : St) (e : Nat) (s' : St) : Prop where
  text  : s'.text = s.text
  fits  : s'.pending.length ≤ s'.cap
  split : splitLine s'.text = (s'.pending.take e, s'.pending.drop (e + 1) ++ s'.input.flatten)

theorem grow_gt (c0 len cap : Nat) (hc0 : 0 < c0) (hle : len ≤ cap) : len < grow c0 len cap := by
  unfold grow
  split <;> omega

/-- The loop needs the strict `grow_gt` only. -/

theorem grow_ge (c0 len cap : Nat) : cap ≤ grow c0 len cap := by
  unfold grow
  split <;> omega

/-- The loop's contract, by induction on `fuel`, which bounds what is left of the input. `scanned` is sound (no
newline before it), so `memchr` from there is the search from the start (`hm`). When that finds nothing, the
buffer grows strictly beyond `pending` (`grow_gt`), so the read asks for at least one byte: an empty answer then
means the input is exhausted (`sysRead_spec`) and the loop breaks; any other answer shortens the input. -/
theorem readLoop_spec (c0 : Nat) (hc0 : 0 < c0) :
    ∀ (fuel scanned : Nat) (s : St), s.input.flatten.length < fuel →
      scanned ≤ s.pending.length → newline ∉ s.pending.take scanned → s.pending.length ≤ s.cap →
      ∃ e s', readLoop c0 fuel scanned s = some (e, s') ∧ LoopPost s e s' := by
  intro fuel
  induction fuel with
  | zero => intro scanned s h; omega
  | succ fuel ih =>
      intro scanned s hfuel hsc hpre hfit
      have hm := memchr_eq_findIdx newline s.pending scanned hsc hpre
      unfold readLoop
      simp only [hm]
      by_cases hfound : s.pending.findIdx (· == newline) < s.pending.length
      · simp only [hfound, if_true]
        exact ⟨_, _, rfl, ⟨rfl, hfit, splitLine_found _ _ hfound⟩⟩
      · simp only [hfound, if_false]
        have hnone : s.pending.findIdx (· == newline) = s.pending.length := by
          have := List.findIdx_le_length (p := (· == newline)) (xs := s.pending)
          omega
        have hnot : newline ∉ s.pending := (findIdx_eq_length_iff _ _).mp hnone
        have hgt := grow_gt c0 s.pending.length s.cap hc0 hfit
        have hcnt : 0 < grow c0 s.pending.length s.cap - s.pending.length := by omega
        obtain ⟨got, rest, hr, hfl, hle, hnil⟩ :=
          sysRead_spec (grow c0 s.pending.length s.cap - s.pending.length) s.input
        rw [hr]
        cases got with
        | nil =>
            have hin : s.input.flatten = [] := hnil hcnt rfl
            have hrest : rest.flatten = [] := by simpa [hin] using hfl
            refine ⟨_, _, rfl, ⟨?_, ?_, ?_⟩⟩
            · simp [St.text, hin, hrest]
            · simp only; omega
            · simp only [St.text, hrest, List.append_nil, List.take_length, splitLine_no_newline _ hnot,
                List.drop_of_length_le (Nat.le_succ _)]
        | cons g gs =>
            have hlen : rest.flatten.length < fuel := by
              have : (g :: gs).length + rest.flatten.length = s.input.flatten.length := by
                rw [← List.length_append, hfl]
              simp only [List.length_cons] at this; omega
            -- the next round searches from the old end of `pending`: there is no newline before it (`hnot`)
            obtain ⟨e, s', hrun, hpost⟩ :=
              ih s.pending.length
                { pending := s.pending ++ g :: gs,
                  cap := grow c0 s.pending.length s.cap, input := rest }
                hlen (by simp) (by simpa using hnot) (by simp at hle ⊢; omega)
            refine ⟨e, s', hrun, ⟨?_, hpost.fits, hpost.split⟩⟩
            rw [hpost.text]
            simp only [St.text, List.append_assoc]
            rw [hfl]

theorem sysRead_fits (n : Nat) (c : List Nat) (cs : List (List Nat)) (hc : c ≠ []) (h : c.length ≤ n) :
    sysRead n (c :: cs) = (c, cs) := by
  cases c with
  | nil => exact absurd rfl hc
  | cons b c' =>
      have h' : (b :: c').length ≤ n := h
      simp only [sysRead, h', if_true]

theorem readLineOld_nil (c0 : Nat) : readLineOld c0 [] = some ([], []) := by
  simp [readLineOld, readLoopOld, sysRead]

theorem readLinesOldFrom_nil (c0 k : Nat) : readLinesOldFrom c0 k [] = some (takeLines k []) := by
  induction k with
  | zero => rfl
  | succ k ih => simp [readLinesOldFrom, readLineOld_nil, ih, takeLines, splitLine]

theorem readLineOld_line (c0 : Nat) (hc0 : 0 < c0) (l : List Nat) (cs : List (List Nat))
    (hl : newline ∉ l) (hlen : (l ++ [newline]).length ≤ c0) :
    readLineOld c0 ((l ++ [newline]) :: cs) = some (l, cs) := by
  have hne : l ++ [newline] ≠ [] := by simp
  have hcap : (if 0 = c0 then c0 * 2 else c0) = c0 := by
    have : ¬ (0 = c0) := by omega
    simp only [this, if_false]
  unfold readLineOld
  simp only [List.flatten_cons, List.length_append, readLoopOld,
    List.length_nil, Nat.sub_zero, hcap]
  rw [sysRead_fits c0 _ cs hne hlen]
  have hidx : memchr newline (l ++ [newline]) 0 = l.length := by
    rw [memchr_eq_findIdx _ _ 0 (Nat.zero_le _) (by simp), List.findIdx_append, (findIdx_eq_length_iff _ _).mpr hl]
    simp [List.findIdx_cons]
  cases hl' : l ++ [newline] with
  | nil => exact absurd hl' hne
  | cons b t =>
      simp only [List.nil_append]
      rw [← hl', hidx]
      simp

theorem dropLast_append_of_getLast? (l : List Nat) (a : Nat) (h : l.getLast? = some a) :
    l.dropLast ++ [a] = l := by
  have hne : l ≠ [] := by intro e; simp [e] at h
  have h2 := List.dropLast_concat_getLast hne
  have h3 : l.getLast hne = a := by
    rw [List.getLast?_eq_some_getLast hne] at h
    exact Option.some.inj h
  rw [h3] at h2
  exact h2

theorem ite_some_cases {α} {c : Prop} [Decidable c] {a q : α} {o : Option α}
    (h : (if c then some a else o) = some q) : a = q ∨ o = some q := by
  by_cases hc : c
  · rw [if_pos hc] at h; exact Or.inl (Option.some.inj h)
  · rw [if_neg hc] at h; exact Or.inr h

theorem u8step_canon (s s' : U8) (b : Nat) (h : u8step s b = some s') (h0 : s'.need = 0) :
    s' = U8.start := by
  unfold u8step at h
  by_cases hn : s.need = 0
  · -- a lead byte: ASCII goes back to `start`, every other class owes at least one byte
    -- (peeled link by link: `split at h` is very slow on this cascade)
    rw [if_pos hn] at h
    obtain rfl | h := ite_some_cases h
    · rfl
    -- each of the seven multi-byte classes owes `need ≥ 1` bytes, against `h0`; behind them the cascade answers `none`
    iterate 7
      obtain rfl | h := ite_some_cases h
      · cases h0
    cases h
  · -- a continuation byte: the last one goes back to `start`, before that `need - 1 ≠ 0`
    rw [if_neg hn] at h
    by_cases hb : 0x80 ≤ b ∧ s.lo ≤ b ∧ b ≤ s.hi
    · rw [if_pos hb] at h
      by_cases h1 : s.need = 1
      · rw [if_pos h1] at h; exact (Option.some.inj h).symm
      · rw [if_neg h1] at h; cases h; exact absurd h0 (by simp only; omega)
    · rw [if_neg hb] at h; cases h

theorem u8run_canon : ∀ (l : List Nat) (s s' : U8), u8run s l = some s' →
    (s.need = 0 → s = U8.start) → s'.need = 0 → s' = U8.start := by
  intro l
  induction l with
  | nil => intro s s' h hs h0; simp [u8run] at h; subst h; exact hs h0
  | cons b bs ih =>
      intro s s' h hs h0
      simp only [u8run] at h
      split at h
      · cases h
      · next q hq => exact ih q s' h (u8step_canon s q b hq) h0

theorem u8step_ascii (s s' : U8) (b : Nat) (hb : b < 128) (h : u8step s b = some s') :
    s.need = 0 ∧ s' = U8.start := by
  unfold u8step at h
  by_cases hn : s.need = 0
  · rw [if_pos hn, if_pos hb] at h
    exact ⟨hn, (Option.some.inj h).symm⟩
  · rw [if_neg hn, if_neg (by omega)] at h
    cases h

theorem u8run_append (s : U8) (l r : List Nat) :
    u8run s (l ++ r) = (u8run s l).bind (fun q => u8run q r) := by
  induction l generalizing s with
  | nil => simp [u8run]
  | cons b bs ih =>
      simp only [List.cons_append, u8run]
      split
      · simp
      · next q hq => exact ih q

theorem validUtf8_split (l r : List Nat) (b : Nat) (hb : b < 128)
    (h : validUtf8 (l ++ b :: r) = true) : validUtf8 l = true ∧ validUtf8 r = true := by
  simp only [validUtf8, beq_iff_eq] at h ⊢
  rw [u8run_append] at h
  cases hq : u8run U8.start l with
  | none => simp [hq] at h
  | some q =>
      simp only [hq, Option.bind_some, u8run] at h
      split at h
      · cases h
      · next q' hq' =>
        obtain ⟨hn, rfl⟩ := u8step_ascii q q' b hb hq'
        have : q = U8.start := u8run_canon l U8.start q hq (fun _ => rfl) hn
        exact ⟨by rw [this], h⟩

end NaijaVerif.ReadLine
