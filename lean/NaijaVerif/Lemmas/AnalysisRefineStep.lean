import NaijaVerif.Lemmas.AnalysisRefineRel
import NaijaVerif.Lemmas.AnalysisEvalEq
import NaijaVerif.Lemmas.SpanMapEval
/-
BRIDGE: what one step does on both sides.  The fields of the instance `B.P` as `Eval`'s own primitives (`P_*`); the
static readings that agree on annotated programs (interpolated strings, callee lookup, the two readings of a receiver /
assignment target); and, for each step of `Eval` that is not a recursive call, the `RSim` fact that relates it to the
fragment's step in related states.  The walk (`Lemmas/AnalysisRefineConv*.lean`) uses them under `Bis.const`.
-/
namespace NaijaVerif.C03
open NaijaVerif NaijaVerif.Analysis

variable {N : Type} [NumOps N] {B : Brg}

/-! One `rfl` equation per field of the instance, so that a `simp only` of the walk rewrites the field it meets without
unfolding the record `evalPrims`. -/

theorem P_null : (B.P (N := N)).null = .null := rfl
theorem P_node : (B.P (N := N)).node = nodeE := rfl
theorem P_falsy : (B.P (N := N)).falsy = Eval.andStops := rfl
theorem P_truthy : (B.P (N := N)).truthy = Eval.orStops := rfl
theorem P_logicRhs (v : VE N) : (B.P (N := N)).logicRhs v = liftE (Eval.logicRhs .andRhs v) := rfl
theorem P_logicShort_and : (B.P (N := N)).logicShort .and = .bool false := rfl
theorem P_logicShort_or : (B.P (N := N)).logicShort .or = .bool true := rfl
theorem P_cond (v : VE N) : (B.P (N := N)).cond v = liftE (Eval.truthy .ifCond v) := rfl
theorem P_isGlobal (name : Bytes) : (B.P (N := N)).isGlobal name = (Eval.GlobalB.ofName name).isSome := rfl
theorem P_isShout (name : Bytes) : (B.P (N := N)).isShout name = (Eval.GlobalB.ofName name == some .shout) := rfl
theorem P_global : (B.P (N := N)).global = globalE := rfl
theorem P_isMut (field : Bytes) : (B.P (N := N)).isMut field = (Eval.MutM.ofName field).isSome := rfl
theorem P_memberSel : (B.P (N := N)).memberSel = memberSelE := rfl
theorem P_member (o : Expr) (field : Bytes) (fs sp : Span) (args : List Expr) (fn : Option Nat) (sp2 : Span)
    (recv : VE N) (vs : List (VE N)) :
    (B.P (N := N)).member (.call (.member o field fs sp) args fn sp2) recv vs = memberE B.rc field recv vs := rfl
theorem P_argMissing : (B.P (N := N)).argMissing = tmErr := rfl
theorem P_mutSteps (field : Bytes) : (B.P (N := N)).mutSteps field =
    match Eval.MutM.ofName field with | some m => mutStepsM m | none => [] := rfl
theorem P_mutMember : (B.P (N := N)).mutMember = mutMemberE := rfl
theorem P_setPath : (B.P (N := N)).setPath = setPathE := rfl
theorem P_idx : (B.P (N := N)).idx = idxChk := rfl
theorem P_lvErr : (B.P (N := N)).lvErr = tmErr := rfl
theorem P_dscope : (B.P (N := N)).dscope = B.ds := rfl
theorem P_sscope : (B.P (N := N)).sscope = B.ss := rfl

omit [NumOps N] in
theorem liftE_logicRhs_or (v : VE N) : liftE (Eval.logicRhs .orRhs v) = liftE (Eval.logicRhs .andRhs v) := by
  cases v <;> rfl

theorem interp_sim (hB : B.Ok N) {s : Eval.State N} {t : AEval.St (VE N)} (hs : B.Sim s t) :
    ∀ (segs : List Seg) (acc : Bytes), segs.all okSeg = true →
      Eval.interp B.rc s segs acc = (AEval.readAll B.ds t.env (AEval.segIds segs)).map (fun rs => buildInterp segs rs acc)
  | [], acc, _ => by simp [Eval.interp, AEval.segIds, AEval.readAll, buildInterp]
  | .lit x :: rest, acc, h => by
      simp only [List.all_cons, Bool.and_eq_true] at h
      simp only [Eval.interp, AEval.segIds, interp_sim hB hs rest (acc ++ x) h.2, buildInterp]
  | .var name b :: rest, acc, h => by
      simp only [List.all_cons, okSeg, Bool.and_eq_true] at h
      obtain ⟨l, rfl⟩ := Option.isSome_iff_exists.mp h.1
      simp only [Eval.interp, AEval.segIds, AEval.readAll, lookupVal_sim hB.lookup hs]
      cases hl : AEval.lookupEnv B.ds l t.env with
      | none => simp
      | some v =>
        simp only [interp_sim hB hs rest (acc ++ v.display) h.2]
        cases AEval.readAll B.ds t.env (AEval.segIds rest) with
        | none => simp
        | some rs => simp [buildInterp]

theorem visible_dynamic (hB : B.Ok N) (chain : List Nat) : Eval.visible (N := N) B.rc chain = fun _ => true := by
  funext sc
  simp [Eval.visible, hB.lookup]

theorem lookupFn_sim (hB : B.Ok N) {s : Eval.State N} {t : AEval.St (VE N)} (hs : B.Sim s t) (g : Nat) (name : Bytes) :
    ORel2 (FnRel B.o) (Eval.lookupFn B.rc s (some g) name) (AEval.findFnC B.ac g t.fns) := by
  simp only [Eval.lookupFn, visible_dynamic hB, AEval.findFnC]
  exact findFn_sim g hs.env

omit [NumOps N] in
theorem sim_ghost {s : Eval.State N} {t : AEval.St (VE N)} (hs : B.Sim s t) (lk tr : List Nat) :
    B.Sim s { t with looked := lk, trace := tr } := ⟨hs.env, hs.out, hs.input⟩

theorem paramIds_eq {fe : Eval.FnEntry} {g : Nat} (hid : fe.id = some g) (hb : ∀ p ∈ fe.params, p.bind.isSome = true) :
    Eval.paramIds fe = some (fe.params.map (·.bind)) := by
  simp only [Eval.paramIds, hid]
  rw [if_pos]
  simpa using hb

omit [NumOps N] in
theorem liftE_truthy_loop (v : VE N) : liftE (Eval.truthy .loopCond v) = liftE (Eval.truthy .ifCond v) := by
  cases v <;> rfl

theorem lvalue_flatten (o : Orc) : ∀ (e : Expr) (acc : List (Expr × Span)), okExpr o e = true →
    match AEval.lvalue e with
    | some (root, p) => ∃ name sp idxs, Eval.flattenIdx e acc = (.var name (some root) sp, idxs ++ acc) ∧
        idxs.map (·.1) = p ∧ ∀ q ∈ idxs, okExpr o q.1 = true
    | none => ∀ name b sp, (Eval.flattenIdx e acc).1 ≠ .var name b sp
  | .var name b sp, acc, h => by
      simp only [okExpr] at h
      obtain ⟨id, rfl⟩ := Option.isSome_iff_exists.mp h
      simp only [AEval.lvalue, Eval.flattenIdx]
      exact ⟨name, sp, [], rfl, rfl, by simp⟩
  | .index a i isp sp, acc, h => by
      rw [okExpr_index, Bool.and_eq_true] at h
      have ih := lvalue_flatten o a ((i, isp) :: acc) h.1
      simp only [AEval.lvalue, Eval.flattenIdx]
      cases hl : AEval.lvalue a with
      | none => simpa [hl] using ih
      | some rp =>
        obtain ⟨root, p⟩ := rp
        simp only [hl] at ih
        obtain ⟨name, vsp, idxs, hf, hm, hq⟩ := ih
        refine ⟨name, vsp, idxs ++ [(i, isp)], by simp [hf], by simp [hm], ?_⟩
        intro q hqm
        rcases List.mem_append.mp hqm with h1 | h1
        · exact hq q h1
        · simp only [List.mem_singleton] at h1; subst h1; exact h.2
  | .str _ _, _, _ | .num _ _, _, _ | .binary _ _ _ _, _, _ | .call _ _ _ _, _, _ | .array _ _, _, _
  | .unary _ _ _, _, _ | .bool _ _, _, _ | .member _ _ _ _, _, _ | .null _, _, _ => by
      simp [AEval.lvalue, Eval.flattenIdx]

/-- The two readings of a receiver / assignment target.  Without a variable root the fragment reports `P.lvErr = tmErr`
whatever the expression is; `Eval` tells `badRoot` from `other`, and its two users answer differently on purpose:
`execStmt` (index assignment) traps at `indexTargetRoot` on both, `evalExpr` (mutating method) traps there on `badRoot` and
reports `typeMismatch` on `other`.  All of these are `tmErr` on the fragment's side (`siteErr .indexTargetRoot = tmErr`). -/
theorem lv_sim (o : Orc) (e : Expr) (hok : okExpr o e = true) :
    match AEval.lvalue e with
    | some (root, p) => ∃ name idxs, Eval.lvOf e = .path name (some root) idxs ∧ idxs.map (·.1) = p ∧
        ∀ q ∈ idxs, okExpr o q.1 = true
    | none => Eval.lvOf e = .badRoot ∨ Eval.lvOf e = .other := by
  cases e with
  | var name b sp =>
    simp only [okExpr] at hok
    obtain ⟨id, rfl⟩ := Option.isSome_iff_exists.mp hok
    simp only [AEval.lvalue, Eval.lvOf]
    exact ⟨name, [], rfl, rfl, by simp⟩
  | index a i isp sp =>
    have h := lvalue_flatten o (.index a i isp sp) [] hok
    cases hl : AEval.lvalue (.index a i isp sp) with
    | none =>
      simp only [hl] at h
      left
      simp only [Eval.lvOf]
      generalize Eval.flattenIdx (.index a i isp sp) [] = fl at h
      obtain ⟨b, idxs⟩ := fl
      -- `h` excludes a `var` root; on every other root `lvOf` is `badRoot` by definition
      cases b <;> first | rfl | exact absurd rfl (h _ _ _)
    | some rp =>
      obtain ⟨root, p⟩ := rp
      simp only [hl] at h
      obtain ⟨name, vsp, idxs, hf, hm, hq⟩ := h
      simp only [Eval.lvOf, hf, List.append_nil]
      exact ⟨name, idxs, rfl, hm, hq⟩
  | str _ _ | num _ _ | binary _ _ _ _ | call _ _ _ _ | array _ _ | unary _ _ _ | bool _ _ | member _ _ _ _
  | null _ => simp [AEval.lvalue, Eval.lvOf]

/-- The value relation of `Bis` for an index path: the fragment keeps the checked index values, `Eval` their decodings
(`idxDec`) with the spans of the index expressions. -/
def PathRel (pvs : List (VE N)) (path : List (Nat × Span)) : Prop := path.map (·.1) = pvs.map idxDec

/-! The fragment makes every check without a span (`noSpan`), `Eval` at the span of the syntax.  The pure steps of `Eval` are
natural in their spans (`Lemmas/SpanMapEval.lean`, for any map of spans; here the constant one) and `liftE` forgets the span
of an error, so the two agree under `liftE`. -/

omit [NumOps N] in
theorem faultErr_map (φ : Span → Span) (flt : Eval.Fault) : faultErr (SpanMap.mapFault φ flt) = faultErr flt := by
  cases flt <;> rfl

omit [NumOps N] in
theorem liftE_mapEx {α : Type} (φ : Span → Span) (x : Except Eval.Fault α) : liftE (SpanMap.mapEx φ x) = liftE x := by
  cases x with
  | ok a => rfl
  | error flt => exact congrArg Except.error (faultErr_map φ flt)

omit [NumOps N] in
theorem liftE_span {α : Type} {f : Span → Except Eval.Fault α}
    (h : ∀ (φ : Span → Span) sp, f (φ sp) = SpanMap.mapEx φ (f sp)) (sp : Span) : liftE (f sp) = liftE (f noSpan) := by
  rw [← liftE_mapEx (fun _ => noSpan) (f sp), ← h]

section
variable {pvs : List (VE N)} {path : List (Nat × Span)} (hp : PathRel pvs path)
include hp

theorem pathOf_eq : pathOf pvs = SpanMap.mapPath (fun _ => noSpan) path := by
  have : pathOf pvs = (pvs.map idxDec).map fun i => (i, noSpan) := by simp only [pathOf, List.map_map, Function.comp_def]
  rw [this, ← hp, SpanMap.mapPath, List.map_map]; rfl

theorem pathOf_fst : (pathOf pvs).map (·.1) = path.map (·.1) := by rw [pathOf_eq hp, SpanMap.mapPath_map_fst]

theorem walkMut_pathOf (v : VE N) :
    Eval.walkMut v (pathOf pvs) = SpanMap.mapEx (fun _ => noSpan) (Eval.walkMut v path) := by
  rw [pathOf_eq hp, SpanMap.walkMut_map]

theorem walkAssign_pathOf (sp : Span) (v : VE N) :
    Eval.walkAssign noSpan v (pathOf pvs) = SpanMap.mapEx (fun _ => noSpan) (Eval.walkAssign sp v path) := by
  rw [pathOf_eq hp]; exact SpanMap.walkAssign_map (fun _ => noSpan) sp v path

end

theorem unbound_err (hB : B.Ok N) {s : Eval.State N} {t : AEval.St (VE N)} (hs : B.Sim s t) {β : Type}
    (site : Eval.PanicSite) (hf : site.fixed = true) (hk : site.fallback = .undefinedVariable) (sp : Span) :
    ErrSim (β := β) .unbound t (Eval.trap B.rc site sp s) := by
  simp only [Eval.trap, hB.panics, hf, Bool.false_or, Bool.not_true, Bool.false_eq_true, ↓reduceIte, hk]
  exact ⟨Or.inr ⟨rfl, rfl⟩, hs.out⟩

/-- The tail of `AEval.updateRoot` (`updateRoot_eq`) once the index path is evaluated: read the root, compute (`op`), store.
Named because the facts about one step (`applyMut_sim`, `assignIndex_sim`) are about this tail and the walk is about the
path before it. -/
def storeRoot {α : Type} (ds : Nat → Option Nat) (root : Nat) (op : VE N → Except AEval.Err (VE N × α))
    (t : AEval.St (VE N)) : AEval.R (VE N) α :=
  match AEval.lookupEnv ds root t.env with
  | none => (.error .unbound, t)
  | some old =>
    match op old with
    | .error e => (.error e, t)
    | .ok (new, res) =>
      match AEval.assignEnv ds root new t.env with
      | none => (.error .panic, t)
      | some env' => (.ok res, { t with env := env' })

omit [NumOps N] in
theorem updateRoot_eq {α : Type} (P : AEval.Prims (VE N)) (ac : AEval.Cfg) (n root : Nat) (path : List Expr)
    (f : VE N → List (VE N) → Except AEval.Err (VE N × α)) (t : AEval.St (VE N)) :
    AEval.updateRoot P ac n root path f t =
      AEval.andThen (AEval.evalChecked (AEval.evalExpr P ac n) P.argMissing (AEval.pathItems P.idx path) t) fun pvs t2 =>
        storeRoot P.dscope root (fun old => f old pvs) t2 := by
  rw [AEval.updateRoot]
  congr 1
  funext pvs t2
  dsimp only [storeRoot]
  cases AEval.lookupEnv P.dscope root t2.env with
  | none => rfl
  | some old =>
    dsimp only
    rcases f old pvs with _ | ⟨new, res⟩
    · rfl
    dsimp only [AEval.andThen]
    cases AEval.assignEnv P.dscope root new t2.env <;> rfl

theorem applyMut_sim (hB : B.Ok N) {s : Eval.State N} {t : AEval.St (VE N)} (hs : B.Sim s t) (field name : Bytes)
    (m : Eval.MutM) (hm : Eval.MutM.ofName field = some m) (root : Nat) (pvs vs : List (VE N))
    (path : List (Nat × Span)) (hp : PathRel pvs path) (sp : Span) :
    RSim B Eq (storeRoot B.ds root (fun old => mutMemberE field old pvs vs) t)
      (Eval.applyMut B.rc s name (some root) path (mutOpOf m vs) sp) := by
  simp only [storeRoot, Eval.applyMut]
  rcases owned_st hB.lookup hs root name with ⟨hpos, hlk, _⟩ | ⟨pos, old, hpos, hget, hlk, hupd⟩
  · simp only [hlk, hpos]
    refine RSim.err ?_
    cases mutOpOf m vs <;> cases path.isEmpty <;> exact unbound_err hB hs _ rfl rfl sp
  · simp only [hlk, hpos, hget, mutMemberE, hm, walkMut_pathOf hp, pathOf_fst hp]
    cases Eval.walkMut old path with
    | error flt => exact RSim.err (faultErr_map _ flt ▸ fault_sim hB hs.out flt sp)
    | ok cell =>
      simp only [SpanMap.mapEx, SpanMap.mutApply_map (fun _ => noSpan) (mutOpOf m vs) cell sp]
      cases (mutOpOf m vs).apply cell sp with
      | error flt => exact RSim.err (faultErr_map _ flt ▸ fault_sim hB hs.out flt sp)
      | ok cr =>
        obtain ⟨env', hae, hsim⟩ := hupd fun r => Eval.setPath r (path.map (·.1)) cr.1
        simp only [hae]
        exact RSim.ok rfl hsim

/-- Stated with a continuation `fun _ st3 => .ok y st3` on `Eval`'s side and any related pair `x`, `y`, so that it fits the
arm of `Eval.execStmt` as it stands (`bis_assignIndex`: `x = .normal`, `y = .cont`). -/
theorem assignIndex_sim (hB : B.Ok N) {s : Eval.State N} {t : AEval.St (VE N)} (hs : B.Sim s t) (name : Bytes)
    (root : Nat) (pvs : List (VE N)) (v : VE N) (path : List (Nat × Span)) (hp : PathRel pvs path) (sp : Span)
    {α β : Type} (vr : α → β → Prop) (x : α) (y : β) (hxy : vr x y) :
    RSim B vr (storeRoot B.ds root (fun old => (setPathE old pvs v).map fun new => (new, x)) t)
      ((Eval.assignIndex B.rc s name (some root) path v sp).bind fun _ st3 => .ok y st3) := by
  simp only [storeRoot, Eval.assignIndex]
  rcases owned_st hB.lookup hs root name with ⟨hpos, hlk, _⟩ | ⟨pos, old, hpos, hget, hlk, hupd⟩
  · simp only [hlk, hpos]
    exact RSim.err (ErrSim.bind (unbound_err hB hs _ rfl rfl sp) _).1
  · simp only [hlk, hpos, hget, setPathE, Except.map, walkAssign_pathOf hp sp, pathOf_fst hp]
    cases Eval.walkAssign sp old path with
    | error flt => exact RSim.err (faultErr_map _ flt ▸ (ErrSim.bind (fault_sim hB hs.out flt sp) _).1)
    | ok u =>
      obtain ⟨env', hae, hsim⟩ := hupd fun r => Eval.setPath r (path.map (·.1)) v
      simp only [SpanMap.mapEx, hae, Eval.Res.bind]
      exact RSim.ok hxy hsim

omit [NumOps N] in
theorem strOf_eq {v : VE N} {sp : Span} {x : Bytes} (h : Eval.requiredString v sp = .ok x) : strOf v = x := by
  cases v <;> simp only [Eval.requiredString] at h <;> cases h
  rfl

/-- A check on an argument value (`requiredString`, `timeoutMs`): the fragment keeps the value and makes the check
without a span (`x0`), `Eval` uses what the check returns (`x`, at the span of the call). -/
theorem chk_sim (hB : B.Ok N) {s : Eval.State N} {t : AEval.St (VE N)} (hs : B.Sim s t) {γ : Type}
    {x x0 : Except Eval.Fault γ} (h : liftE x = liftE x0) (v : VE N) (sp : Span) :
    RSim B (fun v' a => v' = v ∧ x0 = .ok a) (((liftE x0).map fun _ => v, t) : AEval.R (VE N) (VE N))
      (Eval.Res.ofExcept B.rc x sp s) := by
  have hc := ofExcept_sim hB hs x sp
  rw [h] at hc
  cases x0 with
  | error flt => exact hc
  | ok a =>
    obtain ⟨y, s', hr, rfl, hs'⟩ := (show ∃ y s', _ = Eval.Res.ok y s' ∧ a = y ∧ B.Sim s' t from hc)
    exact ⟨a, s', hr, ⟨rfl, rfl⟩, hs'⟩

omit [NumOps N] in
theorem runCommand_sim {s : Eval.State N} {t : AEval.St (VE N)} (hs : B.Sim s t) (c : Proc.Cmd) (sp : Span) :
    RSim B Eq ((runCommandE B.rc c, t) : AEval.R (VE N) (VE N)) (Eval.runCommand B.rc c sp s) := by
  simp only [runCommandE, Eval.runCommand]
  split
  · exact RSim.err ⟨Or.inl rfl, hs.out⟩
  · cases Proc.validate c B.rc.policy.caps with
    | error _ => exact RSim.err ⟨Or.inl rfl, hs.out⟩
    | ok spec =>
      dsimp only
      cases B.rc.runProc spec with
      | error k => exact RSim.err ⟨Or.inl rfl, hs.out⟩
      | ok r => exact RSim.ok rfl hs

theorem strM_sites (sm : Eval.StrM) : ∀ q ∈ sm.argIdx, siteErr q.2 = tmErr := by
  cases sm <;> decide

omit [NumOps N] in
theorem tm_err {s : Eval.State N} {t : AEval.St (VE N)} (hs : B.Sim s t) (sp : Span) :
    RSim B Eq ((.error tmErr, t) : AEval.R (VE N) (VE N)) (Eval.Res.err .typeMismatch sp s) :=
  RSim.err ⟨Or.inl rfl, hs.out⟩

omit [NumOps N] in
theorem evalChecked_nil (ev : Expr → AEval.St (VE N) → AEval.R (VE N) (VE N)) (miss : AEval.Err) (args : List Expr)
    (t : AEval.St (VE N)) : AEval.evalChecked ev miss (AEval.selArgs args []) t = (.ok [], t) := by
  simp [AEval.selArgs, AEval.evalChecked]

end NaijaVerif.C03
