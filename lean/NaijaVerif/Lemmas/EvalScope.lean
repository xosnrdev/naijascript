import NaijaVerif.Lemmas.EvalBasic
/-
C04, dynamic half — definitions.  The static hypothesis (`Binder`, `wsExpr … wsBlock`, `WellScoped`) is in
`Model/Eval.lean` (the driver evaluates it).  `Link cfg Γ chain env` walks the dynamic stack `env` (head =
innermost) together with the static chain and the lexical context `Γ`: a scope ON the chain instantiates the
next binder of `Γ` (`take`: I1 for its hoisted functions, I2, I4), a scope NOT on the chain declares nothing
that a chain scope BELOW it declares (`skip`: I3).  Both ask that the scope's `uid` exceed those below it: instance
ids grow towards the head of the stack, which is how a scope pushed later is known not to be on an older chain
(`Link.not_on_chain`, under every lookup lemma).  `SlotsOK` is I1 for slots (I1–I4: DESIGN.md, C04).  A scope is
tied to the block it instantiates by what it declares (`decls`, the ids of its `fns`), not by its tag: `Scope.kind` is
read by no clause, and I3 in this form says that an off-chain scope declares none of the ids that the binders of the
chain scopes below it declare, not that it instantiates another block than they.
-/
namespace NaijaVerif.Eval
open NaijaVerif

variable {N : Type}

def CtxOK : List Binder → Prop
  | [] => True
  | β :: Γ => freshIn Γ β = true ∧ CtxOK Γ

def WSFn (Γ : List Binder) (fd : FnEntry) : Prop :=
  fd.params.all (fun p => p.bind.isSome) = true ∧ freshIn Γ (.ofParams fd.params) = true ∧
    wsBlock (.ofParams fd.params :: Γ) fd.body = true

/-- What the evaluation of a piece of code leaves unchanged in every scope that is there when it starts.  (`hoist` adds to
`fns`, but at block entry, in the scope just pushed, and that scope is popped when the block is left.) -/
structure Skel where
  uid : Nat
  decls : List Nat
  fns : List FnEntry

def Scope.skel (s : Scope N) : Skel := ⟨s.uid, s.decls, s.fns⟩

/-- A callee changes only VALUES below its own scopes; `make` adds a slot to the innermost scope. -/
structure Frame (st st' : State N) : Prop where
  chain : st'.chain = st.chain
  skel : st'.env.map Scope.skel = st.env.map Scope.skel
  next : st.next ≤ st'.next

theorem Frame.refl (st : State N) : Frame st st := ⟨rfl, rfl, Nat.le_refl _⟩

theorem Frame.trans {a b c : State N} (h1 : Frame a b) (h2 : Frame b c) : Frame a c :=
  ⟨h2.chain.trans h1.chain, h2.skel.trans h1.skel, Nat.le_trans h1.next h2.next⟩

def SlotsOK (env : List (Scope N)) : Prop :=
  ∀ S ∈ env, ∀ sl ∈ S.slots, ∃ l, sl.id = some l ∧ l ∈ S.decls

/-- I1 (functions) + I4 for a scope on the chain that instantiates `β`; `Γ'` is the lexical context INCLUDING `β`,
`ch` the static chain from this scope down. -/
def FnsOK (cfg : RunCfg) (Γ' : List Binder) (ch : List Nat) (β : Binder) (fns : List FnEntry) : Prop :=
  (∀ fd ∈ fns, ∃ i, fd.id = some i ∧ i ∈ β.fnIds ∧ Plan.prunesFn cfg.plan (some i) = false ∧
      fd.chain = ch ∧ WSFn Γ' fd) ∧
  (∀ i ∈ β.fnIds, Plan.prunesFn cfg.plan (some i) = false → ∃ fd ∈ fns, fd.id = some i)

inductive Link (cfg : RunCfg) : List Binder → List Nat → List (Scope N) → Prop where
  | nil : Link cfg [] [] []
  /-- NOT on the static chain: another activation, or the caller's blocks -/
  | skip {Γ : List Binder} {chain : List Nat} {env : List (Scope N)} (S : Scope N) :
      (∀ T ∈ env, T.uid < S.uid) →
      (∀ l ∈ S.decls, declared Γ l = false) →
      (∀ fd ∈ S.fns, ∃ i, fd.id = some i ∧ fnDeclared Γ i = false ∧
          Plan.prunesFn cfg.plan (some i) = false) →
      Link cfg Γ chain env → Link cfg Γ chain (S :: env)
  | take {Γ : List Binder} {chain : List Nat} {env : List (Scope N)} (S : Scope N) (β : Binder) :
      (∀ T ∈ env, T.uid < S.uid) →
      S.decls = β.decls →
      FnsOK cfg (β :: Γ) (S.uid :: chain) β S.fns →
      Link cfg Γ chain env → Link cfg (β :: Γ) (S.uid :: chain) (S :: env)

/-- The most-recent-instance invariant, for a state whose running code sits in the lexical context `Γ`. -/
structure MR (cfg : RunCfg) (Γ : List Binder) (st : State N) : Prop where
  link : Link cfg Γ st.chain st.env
  ctx : CtxOK Γ
  slots : SlotsOK st.env
  fresh : ∀ S ∈ st.env, S.uid < st.next
  /-- the innermost scope instantiates the innermost binder (`Link` alone would allow other scopes above it): `make`
  writes the innermost scope (`MR.define`).  A field cannot match on the parameter `Γ`, hence the equation: a user with
  `Γ = β :: Γ'` in hand passes `rfl`, a prover does `cases` on it. -/
  top : ∀ β Γ', Γ = β :: Γ' → ∃ S rest, st.env = S :: rest ∧ S.decls = β.decls

end NaijaVerif.Eval
