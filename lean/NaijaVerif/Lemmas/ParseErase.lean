import NaijaVerif.Lemmas.ParseMap
/-
Parsing commutes with span erasure (property C10, parser part): the parser's decisions depend on
the token kinds only.  Span erasure is the relabelling of every position by `0`
(`Lemmas/ParseMap.lean` with the identity on tokens and `ν = fun _ => 0`): `eraseSt`, `eraseTok` and
`eraseDiag` are `mapSt`, `mapTok` and `mapDiag` at these arguments by unfolding, and the tree maps are
those of the constant span map.
-/
namespace NaijaVerif.Parse
open NaijaVerif NaijaVerif.SpanMap

theorem mapSpan_const_zero : mapSpan (fun _ => 0) = fun _ => zspan := rfl

/-! What `eraseSt` and `eraseTok` do on the parts of a state, each by `rfl`.  The three instances of `Lemmas/ParseMap.lean`
below need none of them. -/

@[simp] theorem eraseSt_rest (st : PState) : (eraseSt st).rest = st.rest.map eraseTok := rfl
@[simp] theorem eraseSt_errs (st : PState) : (eraseSt st).errs = st.errs.map eraseDiag := rfl
theorem eraseSt_cur_tok (st : PState) : (eraseSt st).cur.tok = st.cur.tok := rfl
theorem eraseSt_cur_span (st : PState) : (eraseSt st).cur.span = zspan := rfl

@[simp] theorem eraseTok_eofAt (p : Nat) : eraseTok (eofAt p) = eofAt 0 := rfl

theorem expr_erase (f : Nat) :
    (∀ bp st, parseExpr f bp (eraseSt st)
        = (parseExpr f bp st).map (fun r => (eraseExpr r.1, eraseSt r.2))) ∧
    (∀ bp l st, parseCont f bp (eraseExpr l) (eraseSt st)
        = (parseCont f bp l st).map (fun r => (eraseExpr r.1, eraseSt r.2))) ∧
    (∀ c st, isStrTok c = false → parseElems f c (eraseSt st)
        = (parseElems f c st).map (fun r => (eraseExprs r.1, eraseSt r.2))) := by
  have h := expr_map (ν := fun _ => 0) unseen_id f
  simp only [mapSpan_const_zero, ← eraseExpr_eq_mapExpr, ← eraseExpr_eq_mapExpr.eraseExprs_eq_mapExprs] at h
  exact h

theorem parseProgramFuel_erase (f : Nat) (toks : List SpTok) :
    parseProgramFuel f (toks.map eraseTok)
      = (parseProgramFuel f toks).map (fun r => (eraseSpans r.1, r.2.map eraseDiag)) := by
  have h := parseProgramFuel_map (ν := fun _ => 0) rfl unseen_id f toks
  simp only [mapSpan_const_zero, ← eraseBlock_eq_mapBlock] at h
  exact h

theorem parseProgram_erase (toks : List SpTok) :
    parseProgram (toks.map eraseTok)
      = (eraseSpans (parseProgram toks).1, (parseProgram toks).2.map eraseDiag) := by
  have h := parseProgram_map (ν := fun _ => 0) rfl unseen_id toks
  rw [mapSpan_const_zero, ← eraseBlock_eq_mapBlock] at h
  exact h

theorem eraseTok_congr {toks₁ toks₂ : List SpTok} (h : toks₁.map (·.tok) = toks₂.map (·.tok)) :
    toks₁.map eraseTok = toks₂.map eraseTok := by
  have h' := congrArg (List.map fun t : Tok => (⟨t, zspan⟩ : SpTok)) h
  rw [List.map_map, List.map_map] at h'
  exact h'

theorem eraseDiag_kind (ds : List Diag) : (ds.map eraseDiag).map (·.kind) = ds.map (·.kind) := by
  simp [List.map_map, Function.comp_def, eraseDiag]

end NaijaVerif.Parse
