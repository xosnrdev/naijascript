import NaijaVerif.Lemmas.SpanMapEval
/-
C10, downstream of the parser: the evaluator commutes with span erasure.

Running the span-erased program in the span-erased state (the hoisted function bodies in the state
are ASTs; the ghost `ScopeKind.block span` tag is a span) yields the same value, printed output, ending
class and runtime-error kind / panic site — only the span a runtime error is reported at becomes
`0..0`.  Erasure is the constant span map, and the evaluator commutes with every span map
(`Lemmas/SpanMapEval.lean`): the `erase…` forms below are that file's `map…` forms at the constant map (the `_eq`
lemmas), and `allErase` states C10's commutation for all eight functions in them; the pipeline reads `run_erase` only.
-/
namespace NaijaVerif.SpanErase
open NaijaVerif NaijaVerif.Parse NaijaVerif.Eval NaijaVerif.SpanMap

variable {N : Type}

def eraseFn (fd : FnEntry) : FnEntry :=
  { fd with params := fd.params.map eraseParam, body := eraseBlock fd.body }

def eraseKind : ScopeKind → ScopeKind
  | .root => .root
  | .block _ => .block zspan
  | .params fn => .params fn

def eraseScope (s : Scope N) : Scope N := { s with kind := eraseKind s.kind, fns := s.fns.map eraseFn }

def eraseState (st : State N) : State N := { st with env := st.env.map eraseScope }

def eraseRes {α : Type} (g : α → α) : Res N α → Res N α
  | .ok a st => .ok (g a) (eraseState st)
  | .err k _ st => .err k zspan (eraseState st)
  | .panic site st => .panic site (eraseState st)
  | .fuel => .fuel

/-- Evaluated index paths carry the span of each index expression. -/
def erasePath (p : List (Nat × Span)) : List (Nat × Span) := p.map fun q => (q.1, zspan)

def eraseIdx (q : Expr × Span) : Expr × Span := (eraseExpr q.1, zspan)

def eraseSelE : Except (PanicSite × Span) Expr → Except (PanicSite × Span) Expr
  | .ok e => .ok (eraseExpr e)
  | .error q => .error (q.1, zspan)


@[simp] theorem eraseState_out (st : State N) : (eraseState st).out = st.out := rfl
@[simp] theorem eraseState_chain (st : State N) : (eraseState st).chain = st.chain := rfl
@[simp] theorem eraseState_next (st : State N) : (eraseState st).next = st.next := rfl
@[simp] theorem eraseState_input (st : State N) : (eraseState st).input = st.input := rfl
@[simp] theorem eraseState_env (st : State N) : (eraseState st).env = st.env.map eraseScope := rfl
@[simp] theorem eraseScope_slots (s : Scope N) : (eraseScope s).slots = s.slots := rfl
@[simp] theorem eraseScope_uid (s : Scope N) : (eraseScope s).uid = s.uid := rfl
@[simp] theorem eraseScope_decls (s : Scope N) : (eraseScope s).decls = s.decls := rfl
@[simp] theorem eraseScope_fns (s : Scope N) : (eraseScope s).fns = s.fns.map eraseFn := rfl

@[simp] theorem visible_erase (cfg : RunCfg) (chain : List Nat) (s : Scope N) :
    visible cfg chain (eraseScope s) = visible cfg chain s := rfl

@[simp] theorem pushScope_erase (st : State N) (kind : ScopeKind) (chain : List Nat) (slots : List (Slot N))
    (decls : List Nat) :
    pushScope (eraseState st) (eraseKind kind) chain slots decls
      = eraseState (pushScope st kind chain slots decls) := rfl

theorem pushScope_erase_block (st : State N) (sp : Span) (chain : List Nat) (slots : List (Slot N))
    (decls : List Nat) :
    pushScope (eraseState st) (.block zspan) chain slots decls
      = eraseState (pushScope st (.block sp) chain slots decls) := rfl

theorem pushScope_erase_params (st : State N) (fn : Option Nat) (chain : List Nat) (slots : List (Slot N))
    (decls : List Nat) :
    pushScope (eraseState st) (.params fn) chain slots decls
      = eraseState (pushScope st (.params fn) chain slots decls) := rfl


theorem eraseFn_eq : eraseFn = mapFn fun _ => zspan := by
  funext fd
  rw [eraseFn, mapFn, eraseBlock_eq_mapBlock, eraseParam_eq_mapParam]

theorem eraseKind_eq : eraseKind = mapKind fun _ => zspan := by
  funext k
  cases k <;> rfl

theorem eraseScope_eq : eraseScope (N := N) = mapScope fun _ => zspan := by
  funext s
  rw [eraseScope, mapScope, eraseFn_eq, eraseKind_eq]

theorem eraseState_eq : eraseState (N := N) = mapState fun _ => zspan := by
  funext st
  rw [eraseState, mapState, eraseScope_eq]

theorem eraseRes_eq {α : Type} (g : α → α) : eraseRes (N := N) g = mapRes (fun _ => zspan) g := by
  funext r
  cases r <;> simp only [eraseRes, mapRes, eraseState_eq]

theorem erasePath_eq : erasePath = mapPath fun _ => zspan := rfl

theorem eraseIdx_eq : eraseIdx = mapIdx fun _ => zspan := by
  funext q
  rw [eraseIdx, mapIdx, eraseExpr_eq_mapExpr]

theorem eraseSelE_eq : eraseSelE = mapSelE fun _ => zspan := by
  funext x
  cases x <;> simp only [eraseSelE, mapSelE, eraseExpr_eq_mapExpr]

section Evaluator
variable [NumOps N]

structure AllErase (cfg : RunCfg) (f : Nat) : Prop where
  expr : ∀ (e : Expr) (st : State N),
    evalExpr cfg f (eraseExpr e) (eraseState st) = eraseRes id (evalExpr cfg f e st)
  sel : ∀ (es : List (Except (PanicSite × Span) Expr)) (st : State N),
    evalSel cfg f (es.map eraseSelE) (eraseState st) = eraseRes id (evalSel cfg f es st)
  idxs : ∀ (is : List (Expr × Span)) (st : State N),
    evalIdxs cfg f (is.map eraseIdx) (eraseState st) = eraseRes erasePath (evalIdxs cfg f is st)
  mutOp : ∀ (m : MutM) (args : List Expr) (sp : Span) (st : State N),
    evalMutOp cfg f m (eraseExprs args) zspan (eraseState st) = eraseRes id (evalMutOp cfg f m args sp st)
  stmt : ∀ (s : Stmt) (st : State N),
    execStmt cfg f (eraseStmt s) (eraseState st) = eraseRes id (execStmt cfg f s st)
  stmts : ∀ (ss : List Stmt) (st : State N),
    execStmts cfg f (eraseStmts ss) (eraseState st) = eraseRes id (execStmts cfg f ss st)
  block : ∀ (b : Block) (st : State N),
    execBlock cfg f (eraseBlock b) (eraseState st) = eraseRes id (execBlock cfg f b st)
  loop : ∀ (c : Expr) (b : Block) (sp : Span) (st : State N),
    loopW cfg f (eraseExpr c) (eraseBlock b) zspan (eraseState st) = eraseRes id (loopW cfg f c b sp st)

theorem allErase (cfg : RunCfg) : ∀ f : Nat, AllErase (N := N) cfg f := by
  intro f
  have h := allMap (N := N) (fun _ => zspan) cfg f
  refine ⟨?_, ?_, ?_, ?_, ?_, ?_, ?_, ?_⟩ <;>
    simp only [eraseExpr_eq_mapExpr, eraseExpr_eq_mapExpr.eraseExprs_eq_mapExprs, eraseStmt_eq_mapStmt,
      eraseStmts_eq_mapStmts, eraseBlock_eq_mapBlock, eraseState_eq, eraseRes_eq, erasePath_eq, eraseIdx_eq, eraseSelE_eq]
  · exact h.expr
  · exact h.sel
  · exact h.idxs
  · exact h.mutOp
  · exact h.stmt
  · exact h.stmts
  · exact h.block
  · exact h.loop

/-- What a run shows of a runtime error is its kind; the span it is reported at is dropped. -/
def eraseOutcome : Outcome N → Outcome N
  | .ok out => .ok out
  | .rt k _ out => .rt k zspan out
  | .panic site out => .panic site out
  | .fuelOut => .fuelOut

/-- C10 for the evaluator: it does not read spans. -/
theorem run_erase (cfg : RunCfg) (fuel : Nat) (prog : Block) :
    (run cfg fuel (eraseBlock prog) : Outcome N) = eraseOutcome (run cfg fuel prog) := by
  rw [eraseBlock_eq_mapBlock, run_map (N := N)]
  cases (run cfg fuel prog : Outcome N) <;> rfl

end Evaluator

end NaijaVerif.SpanErase
