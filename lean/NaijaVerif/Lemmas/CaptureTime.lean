/-
Timing side of C16, for a *prompt* main thread (`Capture.prompt`: time passes only while the main thread
is blocked). The wait loop then looks at the child at least once per poll interval until the deadline, so
a child still asleep one poll interval after the deadline is never seen to end by itself — whatever the
stdin writer thread is doing, because the wait loop does not wait for it.
-/
import NaijaVerif.Lemmas.Capture
namespace NaijaVerif.Capture

/-- The main thread is past the wait loop on the success path, or has produced a result that only
that path produces (an `ok`, or an error other than `OutputLimitExceeded` and `Timeout`). -/
def Pc.okPath : Pc → Bool
  | .joinWr _ | .joinOut _ | .flagOut _ | .joinErr _ _ | .flagErr _ _ => true
  | .done (.ok _ _ _) => true
  | .done (.error (.badUtf8 _)) | .done (.error (.readFailed _)) | .done (.error .writeFailed) => true
  | _ => false

/-- What a prompt main thread keeps true of the clock: the wait loop is never later than one poll
interval (`max cfg.poll 1`, the code's `wait_poll_ms.max(1)`) past the deadline, so what it sees the child
do, the child did before then. -/
structure TimeInv (cfg : Cfg) (plan : Plan) (s : State) : Prop where
  /-- the child was started when the clock was: both count the same ticks -/
  ageNow : s.age = s.now
  endedLate : s.child.cause? = some .plan → plan.endAfter ≤ s.age
  waitEarly : (s.pc = .load ∨ s.pc = .tryWait ∨ s.pc = .deadline) → s.now < cfg.timeout + max cfg.poll 1
  sleepEarly : ∀ w, s.pc = .sleep w → w < cfg.timeout + max cfg.poll 1 ∧ s.now ≤ w
  okEarly : s.pc.okPath = true → s.child.cause? = some .plan → plan.endAfter < cfg.timeout + max cfg.poll 1
  notKilled : s.pc.okPath = true → s.child.cause? ≠ some .killed

theorem TimeInv.not_plan_of_late {cfg plan} {s : State} (h : TimeInv cfg plan s)
    (hlate : cfg.timeout + max cfg.poll 1 ≤ plan.endAfter) (hok : s.pc.okPath = true) :
    s.child.cause? ≠ some .plan :=
  fun hc => absurd (h.okEarly hok hc) (Nat.not_lt.mpr hlate)

theorem TimeInv.init (cfg : Cfg) (plan : Plan) : TimeInv cfg plan (init cfg plan) := by
  refine ⟨rfl, nofun, fun _ => ?_, nofun, nofun, nofun⟩
  simp only [Capture.init]; omega

theorem Inv.okPath_reaped {cfg plan} {s : State} (h : Inv cfg plan s) (hp : s.pc.okPath = true) :
    s.child.isReaped = true := by
  have hi := h.pcInv
  unfold PcInv at hi
  -- at a program counter that is not on the success path `hp` is `false = true`
  cases hpc : s.pc <;> simp only [hpc, Pc.okPath] at hp hi <;> try (cases hp)
  case joinWr | joinOut | done => exact hi.1
  case flagOut | joinErr | flagErr => exact hi.1.1

theorem TimeInv.setPc {cfg plan} {s : State} (h : TimeInv cfg plan s) (p : Pc) (hp : p.okPath = false)
    (hwait : p = .load ∨ p = .tryWait ∨ p = .deadline → s.now < cfg.timeout + max cfg.poll 1)
    (hsleep : ∀ w, p = .sleep w → w < cfg.timeout + max cfg.poll 1 ∧ s.now ≤ w) :
    TimeInv cfg plan { s with pc := p } :=
  ⟨h.ageNow, h.endedLate, hwait, hsleep, fun hok => absurd (hp.symm.trans hok) nofun,
    fun hok => absurd (hp.symm.trans hok) nofun⟩

/-- Past the wait loop on the success path nothing of `TimeInv` is about the program counter any more. -/
theorem TimeInv.onOkPath {cfg plan} {s : State} (h : TimeInv cfg plan s) (hok : s.pc.okPath = true)
    {p : Pc} (hp : p.inWait = false) : TimeInv cfg plan { s with pc := p } :=
  ⟨h.ageNow, h.endedLate,
    fun hw => (by rcases hw with hw | hw | hw <;> (change p = _ at hw; rw [hw] at hp; cases hp)),
    fun w hw => (by change p = _ at hw; rw [hw] at hp; cases hp),
    fun _ => h.okEarly hok, fun _ => h.notKilled hok⟩

/-- The wait loop, statement by statement: `load`, `try_wait` and the deadline check pass the bound
`now < timeout + poll` along; `sleep` is entered only with `now < timeout` and left at its wake-up
time; `try_wait` is the one statement that enters the success path, and the child it reaps had ended
by `age = now`. -/
theorem TimeInv.main {cfg plan} {s s' : State} (hi : Inv cfg plan s) (h : TimeInv cfg plan s)
    (hs : stepMain cfg s = some s') : TimeInv cfg plan s' := by
  obtain ⟨p₀, c, p, hpc, hm, rfl⟩ := MainStep.of_stepMain hs
  cases hm with
  | flagSet | late | killGone => exact h.setPc _ rfl nofun nofun
  | flagClear => exact h.setPc _ rfl (fun _ => h.waitEarly (.inl hpc)) nofun
  | running => exact h.setPc _ rfl (fun _ => h.waitEarly (.inr (.inl hpc))) nofun
  | early hlt =>
    refine h.setPc _ rfl nofun fun w hw => ?_
    cases hw
    omega
  | wake hw => exact h.setPc _ rfl (fun _ => by have := h.sleepEarly _ hpc; omega) nofun
  | exited hc =>
    have hend := h.endedLate
    have hnk := (hi.pcInv.row hpc).2
    rw [hc] at hend hnk
    have := h.waitEarly (.inr (.inl hpc))
    have := h.ageNow
    exact ⟨h.ageNow, hend, nofun, nofun, fun _ hcp => by have := hend hcp; omega, fun _ => hnk⟩
  | kill => exact ⟨h.ageNow, nofun, nofun, nofun, nofun, nofun⟩
  | @reap e _ _ hc =>
    have hend := h.endedLate
    rw [hc] at hend
    have hnok : (Pc.done (.error e)).okPath = false := by
      cases e <;> first | rfl | exact (hi.pcInv.row hpc).2.elim
    exact ⟨h.ageNow, hend, nofun, nofun, fun hok => absurd (hnok.symm.trans hok) nofun,
      fun hok => absurd (hnok.symm.trans hok) nofun⟩
  -- the statements of the success path: the child stays, and none of them goes back to the wait loop
  | _ => exact h.onOkPath (by rw [hpc]; rfl) rfl

theorem TimeInv.congr {cfg plan} {s s' : State} (h : TimeInv cfg plan s) (hpc : s'.pc = s.pc)
    (hc : s'.child = s.child) (hnow : s'.now = s.now) (hage : s'.age = s.age) : TimeInv cfg plan s' :=
  ⟨by rw [hnow, hage]; exact h.ageNow, by rw [hc, hage]; exact h.endedLate,
    by rw [hpc, hnow]; exact h.waitEarly, by rw [hpc, hnow]; exact h.sleepEarly,
    by rw [hpc, hc]; exact h.okEarly, by rw [hpc, hc]; exact h.notKilled⟩

theorem TimeInv.step {cfg plan} {s s' : State} {l : Label} (hi : Inv cfg plan s)
    (h : TimeInv cfg plan s) (hs : Capture.step cfg plan s l = some s')
    (hp : l = .tick → stepMain cfg s = none) : TimeInv cfg plan s' := by
  by_cases hm : l = .main
  · subst hm; exact h.main hi (step_inv hs)
  by_cases ht : l = .tick
  · subst ht
    have hblocked := hp rfl
    obtain ⟨_, rfl⟩ := step_inv hs
    refine ⟨by simp only [h.ageNow], fun hc => Nat.le_succ_of_le (h.endedLate hc), ?_, ?_,
      h.okEarly, h.notKilled⟩
    · -- the wait loop's statements are never blocked: no tick can happen there
      intro hpc
      have hw : s.pc.inWait = true := by
        rcases hpc with hpc | hpc | hpc <;> (change s.pc = _ at hpc; rw [hpc]; rfl)
      rcases hi.inWait_enabled hw with hen | ⟨w, hsl, _⟩
      · rw [hblocked] at hen; cases hen
      · rcases hpc with hpc | hpc | hpc <;> (change s.pc = _ at hpc; rw [hpc] at hsl; cases hsl)
    · intro w hpc
      have := h.sleepEarly w hpc
      have hnw : ¬ w ≤ s.now := fun hw => by
        have := (stepMain_isSome_iff cfg s).mpr (by rw [hpc]; exact hw)
        rw [hblocked] at this; cases this
      change _ ∧ s.now + 1 ≤ w
      omega
  cases Effect.of_step hs hm ht with
  | childDies st c ha hck hplan _ =>
    -- the child dies by itself: it was alive, so the main thread is not on the success path yet
    have hnok : s.pc.okPath ≠ true := fun hok => by
      have := hi.okPath_reaped hok
      rw [ha] at this; cases this
    exact ⟨h.ageNow, fun hc => (hplan (Option.some.inj hc)).2.2.2, h.waitEarly, h.sleepEarly,
      fun hok => absurd hok hnok, fun _ hc => hck (Option.some.inj hc)⟩
  | childSide x | reader x => cases x <;> exact h.congr rfl rfl rfl rfl
  | _ => exact h.congr rfl rfl rfl rfl


theorem TimeInv.run {cfg plan} {s s' : State} {ls : List Label} (hi : Inv cfg plan s)
    (h : TimeInv cfg plan s) (hr : Capture.run cfg plan s ls = some s')
    (hp : prompt (stepMain cfg) (Capture.step cfg plan) s ls = true) : TimeInv cfg plan s' := by
  induction ls generalizing s with
  | nil => exact run_nil hr ▸ h
  | cons l ls ih =>
    obtain ⟨s₁, hs, hr⟩ := run_cons hr
    simp only [prompt, hs, Bool.and_eq_true, Bool.or_eq_true, bne_iff_ne, ne_eq,
      Option.isNone_iff_eq_none] at hp
    exact ih (hi.step hs) (h.step hi hs fun hl => hp.1.resolve_left (not_not_intro hl)) hr hp.2

end NaijaVerif.Capture
