import NaijaVerif.Lemmas.AnalysisRefineConv
import NaijaVerif.Lemmas.AnalysisRefineStep
import NaijaVerif.Lemmas.AnalysisRefineConvExpr
/- BRIDGE, both directions: calls of global builtins and of user functions, and the call whose callee is neither a name nor a
member expression (a leaf for both evaluators: `bis_leaf`). -/
namespace NaijaVerif.C03
open NaijaVerif NaijaVerif.Analysis

variable {N : Type} [NumOps N] {B : Brg}

theorem bis_global (hB : B.Ok N) {m : Nat} (IH : Both (N := N) B m) (name : Bytes) (b0 : Option Nat) (vsp : Span)
    (args : List Expr) (fn : Option Nat) (sp : Span) (g : Eval.GlobalB) (hg : Eval.GlobalB.ofName name = some g)
    (s : Eval.State N) (t : AEval.St (VE N)) (hok : okExprs B.o args = true) (hs : B.Sim s t) :
    Bis B Eq (m + 1) (fun n => AEval.evalExpr B.P B.ac n (.call (.var name b0 vsp) args fn sp) t)
      (fun f => Eval.evalExpr B.rc f (.call (.var name b0 vsp) args fn sp) s) := by
  refine Bis.step rfl rfl ?_
  simp only [AEval.evalExpr_callName, P_isGlobal, P_isShout, P_null, P_global, hg,
    Option.isSome_some, ↓reduceIte, Eval.evalExpr]
  refine Bis.bind (IH.list args s t hok hs) fun vs t1 s1 hs1 => ?_
  have hpan : ∀ a : AEval.R (VE N) (VE N), a = (.error .panic, t1) →
      Bis B Eq m (fun _ => a) (fun _ => Eval.trap B.rc .builtinArity sp s1) := by
    intro a ha; subst ha
    exact Bis.const (RSim.err (trap_sim hB hs1.out .builtinArity sp))
  -- every global builtin takes exactly one argument: any other count is `.panic` in `globalE`, `builtinArity` in `Eval`
  match vs with
  | [] => exact hpan _ (by cases g <;> simp [globalE, hg])
  | _ :: _ :: _ => exact hpan _ (by cases g <;> simp [globalE, hg])
  | [v] =>
    cases g with
    | shout => exact Bis.const (RSim.ok rfl (shout_sim hs1 v))
    | typeOf => simp only [globalE, hg]; exact Bis.const (RSim.ok rfl hs1)
    | readLine =>
      simp only [globalE, hg, Eval.globalCall, hs1.input]
      exact Bis.const (RSim.ok rfl hs1)
    | toString => simp only [globalE, hg]; exact Bis.const (RSim.ok rfl hs1)
    | command =>
      simp only [globalE, hg]
      cases v with
      | str p => exact Bis.const (RSim.ok rfl hs1)
      | num _ | bool _ | arr _ | host _ | null => exact Bis.const (RSim.err (trap_sim hB hs1.out .commandArg sp))

theorem bis_userCall (hB : B.Ok N) {m : Nat} (IH : Both (N := N) B m) (name : Bytes) (b0 : Option Nat) (vsp : Span)
    (args : List Expr) (g : Nat) (sp : Span) (hg : Eval.GlobalB.ofName name = none)
    (s : Eval.State N) (t : AEval.St (VE N)) (hok : okExprs B.o args = true) (hs : B.Sim s t) :
    Bis B Eq (m + 1) (fun n => AEval.evalExpr B.P B.ac n (.call (.var name b0 vsp) args (some g) sp) t)
      (fun f => Eval.evalExpr B.rc f (.call (.var name b0 vsp) args (some g) sp) s) := by
  refine Bis.step rfl rfl ?_
  simp only [AEval.evalExpr_callName, P_isGlobal, hg, Option.isSome_none, Bool.false_eq_true, ↓reduceIte,
    AEval.userCall, P_dscope, Eval.evalExpr]
  have hs0 : B.Sim s { t with looked := g :: t.looked } := sim_ghost hs _ _
  rcases (lookupFn_sim hB hs g name).cases with ⟨hfe, hfa⟩ | ⟨fe, fa, hfe, hfa, hfn⟩ <;> rw [hfe, hfa]
  · simp only [Option.isSome_some, ↓reduceIte]
    exact Bis.const (RSim.err (trap_sim hB hs0.out .fnById sp))
  · obtain ⟨hpb, hpn, hpt⟩ := hB.orc.par fa.params hfn.okp
    dsimp only
    refine Bis.bind (IH.list args s _ hok hs0) fun vs t1 s1 hs1 => ?_
    rw [hfn.params]
    have hps := params_sim hs1 fa.params vs hpb hpn hpt (.params fe.id) fe.chain
    cases hbp : AEval.bindParams fa.params vs with
    | none =>
      rw [hbp] at hps
      simp only [hps, ne_eq, not_false_eq_true, ↓reduceIte]
      exact Bis.const (RSim.err (trap_sim hB hs1.out .callArity sp))
    | some slots =>
      rw [hbp] at hps
      obtain ⟨hlen, hs2⟩ := hps
      have hpi : Eval.paramIds fe = some (fa.params.map (·.bind)) := by
        rw [← hfn.params]; exact paramIds_eq hfn.id (by rw [hfn.params]; exact hpb)
      simp only [hlen, ne_eq, not_true_eq_false, ↓reduceIte, hpi]
      rw [← hfn.body]
      refine Bis.leave (fun r => r.bind (AEval.callValue B.P)) (fun _ => rfl) (IH.block fe.body _ _ hfn.okb hs2)
        fun fl t3 fl' s3 hfl hs3 => ?_
      have hs4 := pop_sim hs3 s1.chain
      rcases hfl.inv with ⟨rfl, rfl⟩ | ⟨v, rfl, rfl⟩ | ⟨rfl, rfl⟩ | ⟨rfl, rfl⟩
      · exact RSim.ok rfl hs4
      · exact RSim.ok rfl hs4
      · exact RSim.err (trap_sim hB hs4.out .flowEscape sp)
      · exact RSim.err (trap_sim hB hs4.out .flowEscape sp)

theorem bis_calleeShape (hB : B.Ok N) (callee : Expr) (args : List Expr) (fn : Option Nat) (sp : Span)
    (s : Eval.State N) (t : AEval.St (VE N)) (m : Nat) (hs : B.Sim s t)
    (hv : ∀ name b vsp, callee ≠ .var name b vsp) (hm : ∀ o f fs msp, callee ≠ .member o f fs msp) :
    Bis B Eq (m + 1) (fun n => AEval.evalExpr B.P B.ac n (.call callee args fn sp) t)
      (fun f => Eval.evalExpr B.rc f (.call callee args fn sp) s) := by
  have hr : RSim B Eq ((nodeE (.call callee args fn sp) [], t) : AEval.R (VE N) (VE N))
      (Eval.trap B.rc .calleeShape sp s) := RSim.err (trap_sim hB hs.out .calleeShape sp)
  cases callee
  case var name b vsp => exact absurd rfl (hv name b vsp)
  case member o f fs msp => exact absurd rfl (hm o f fs msp)
  all_goals
    exact bis_leaf _ s t m rfl rfl nofun _ hr (fun f => by simp only [Eval.evalExpr])

end NaijaVerif.C03
