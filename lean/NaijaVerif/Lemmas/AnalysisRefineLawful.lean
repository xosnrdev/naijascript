import NaijaVerif.Model.AnalysisPrims
import NaijaVerif.Lemmas.AnalysisNoTrap
import NaijaVerif.Lemmas.EvalBasic
/- The primitives of `Model/Eval.lean` satisfy the laws `Lawful` the C03 theorems ask of the primitive semantics
(`evalPrims_lawful`, for `c03_concrete`).  Nothing of the refinement (`Lemmas/AnalysisRefine*.lean` otherwise) is used here or
uses this. -/
namespace NaijaVerif.C03
open NaijaVerif NaijaVerif.Analysis

variable {N : Type}

/-- The typing of values that `Lawful` is stated over (its parameter `ty`), for this instance: a value has the literal type
of its constructor; arrays and host values have none. -/
def tyE : Eval.Value N → LTy → Prop
  | .num _, .num => True
  | .str _, .str => True
  | .bool _, .bool => True
  | .null, .null => True
  | _, _ => False

theorem globalClass_other {name : Bytes} (e1 : (b!"shout" == name) = false) (e2 : (b!"typeof" == name) = false)
    (e3 : (b!"read_line" == name) = false) (e4 : (b!"to_string" == name) = false) (e5 : (b!"command" == name) = false) :
    globalClass name = none := by
  simp only [globalClass, Gen.Builtins.globals, List.find?, e1, e2, e3, e4, e5, Option.map_none]

theorem mutM_impure (field : Bytes) (h : (Eval.MutM.ofName field).isSome = true) : memberClass field = some .impure := by
  -- `MutM.ofName` is an `if`-chain and `memberClass` a search in the tables of `Gen.Builtins`, so the two are compared name by
  -- name: the sixteen names the chain accepts (`c0`–`c15`) are each `impure` in the table; on `len`, `join`, `run`, which it
  -- also knows (`d0`–`d2`), and on any other name (the closing `simp`) the chain answers `none`.
  by_cases c0 : field = b!"push"
  · subst c0; decide
  by_cases c1 : field = b!"pop"
  · subst c1; decide
  by_cases c2 : field = b!"reverse"
  · subst c2; decide
  by_cases c3 : field = b!"arg"
  · subst c3; decide
  by_cases c4 : field = b!"cwd"
  · subst c4; decide
  by_cases c5 : field = b!"env"
  · subst c5; decide
  by_cases c6 : field = b!"stdin_text"
  · subst c6; decide
  by_cases c7 : field = b!"stdin_inherit"
  · subst c7; decide
  by_cases c8 : field = b!"stdin_null"
  · subst c8; decide
  by_cases c9 : field = b!"stdout_capture"
  · subst c9; decide
  by_cases c10 : field = b!"stdout_inherit"
  · subst c10; decide
  by_cases c11 : field = b!"stdout_null"
  · subst c11; decide
  by_cases c12 : field = b!"stderr_capture"
  · subst c12; decide
  by_cases c13 : field = b!"stderr_inherit"
  · subst c13; decide
  by_cases c14 : field = b!"stderr_null"
  · subst c14; decide
  by_cases c15 : field = b!"timeout_ms"
  · subst c15; decide
  by_cases d0 : field = b!"len"
  · subst d0; exact absurd h (by decide)
  by_cases d1 : field = b!"join"
  · subst d1; exact absurd h (by decide)
  by_cases d2 : field = b!"run"
  · subst d2; exact absurd h (by decide)
  · simp [Eval.MutM.ofName, Eval.ArrM.ofName, Eval.CmdM.ofName, c0, c1, c2, c3, c4, c5, c6, c7, c8, c9, c10, c11, c12, c13, c14, c15, d0, d1, d2] at h

theorem tyE_num {v : Eval.Value N} (h : tyE v .num) : ∃ n, v = .num n := by cases v <;> simp [tyE] at h; exact ⟨_, rfl⟩
theorem tyE_str {v : Eval.Value N} (h : tyE v .str) : ∃ s, v = .str s := by cases v <;> simp [tyE] at h; exact ⟨_, rfl⟩
theorem tyE_bool {v : Eval.Value N} (h : tyE v .bool) : ∃ b, v = .bool b := by cases v <;> simp [tyE] at h; exact ⟨_, rfl⟩
theorem tyE_null {v : Eval.Value N} (h : tyE v .null) : v = .null := by cases v <;> simp [tyE] at h; rfl

variable [NumOps N]

theorem lawful_unary (op : UnOp) (x : Expr) (sp : Span) (a : Eval.Value N) (ta t : LTy) (ha : tyE a ta)
    (ht : litUnary op ta = some t) : ∃ v, nodeE (.unary op x sp) [a] = .ok v ∧ tyE v t := by
  -- `litUnary` is defined on `not`/`bool`, `not`/`null` and `neg`/`num` only
  cases op <;> cases ta <;> simp [litUnary] at ht <;> subst ht
  · obtain ⟨b, rfl⟩ := tyE_bool ha; exact ⟨_, rfl, trivial⟩
  · have := tyE_null ha; subst this; exact ⟨_, rfl, trivial⟩
  · obtain ⟨n, rfl⟩ := tyE_num ha; exact ⟨_, rfl, trivial⟩

theorem lawful_binary (op : BinOp) (l r : Expr) (sp : Span) (a b : Eval.Value N) (ta tb t : LTy)
    (hl : Analysis.isLogic op = false) (hd : op ≠ .divide) (hm : op ≠ .mod) (ha : tyE a ta) (hb : tyE b tb)
    (ht : litBinary op ta tb = some t) : ∃ v, nodeE (.binary op l r sp) [a, b] = .ok v ∧ tyE v t := by
  -- a table: 4 × 4 operand types, then the six operators left
  cases a <;> cases ta <;> try exact ha.elim
  all_goals cases b <;> cases tb <;> try exact hb.elim
  all_goals
    cases op
    case and | or => cases hl
    case divide => exact absurd rfl hd
    case mod => exact absurd rfl hm
    all_goals cases ht
    all_goals exact ⟨_, rfl, trivial⟩

theorem evalPrims_lawful (cfg : Eval.RunCfg) (ds ss : Nat → Option Nat) :
    Lawful (evalPrims (N := N) cfg ds ss) tyE where
  global_iff := by
    intro name
    show (Eval.GlobalB.ofName name).isSome = (globalClass name).isSome
    rcases Eval.GlobalB.ofName_cases name with ⟨rfl, h⟩ | ⟨rfl, h⟩ | ⟨rfl, h⟩ | ⟨rfl, h⟩ | ⟨rfl, h⟩ | ⟨h1, h2, h3, h4, h5, h⟩
    · rw [h]; decide
    · rw [h]; decide
    · rw [h]; decide
    · rw [h]; decide
    · rw [h]; decide
    · rw [h, globalClass_other h1 h2 h3 h4 h5]; rfl
  shout_impure := by
    intro name hs
    have hs' : Eval.GlobalB.ofName name = some .shout := by simpa [evalPrims] using hs
    rcases Eval.GlobalB.ofName_cases name with ⟨rfl, _⟩ | ⟨rfl, h⟩ | ⟨rfl, h⟩ | ⟨rfl, h⟩ | ⟨rfl, h⟩ | ⟨_, _, _, _, _, h⟩
    · decide
    all_goals (rw [h] at hs'; cases hs')
  mut_impure := fun f h => mutM_impure f h
  num := fun _ _ => ⟨_, rfl, trivial⟩
  bool := fun _ _ => ⟨_, rfl, trivial⟩
  null := fun _ => ⟨_, rfl, trivial⟩
  str := by
    intro p sp rs
    cases p with
    | «static» s => exact ⟨_, rfl, trivial⟩
    | interp segs => exact ⟨_, rfl, trivial⟩
  array := fun _ _ _ => ⟨_, rfl⟩
  unary := lawful_unary
  binary := lawful_binary
  logicShort := by intro op; cases op <;> trivial
  logicRhs := by
    intro b tb hb htb
    rcases htb with rfl | rfl
    · obtain ⟨x, rfl⟩ := tyE_bool hb; exact ⟨_, rfl, trivial⟩
    · have := tyE_null hb; subst this; exact ⟨_, rfl, trivial⟩
  pureGlobal := by
    intro name a hc hn
    show ∃ v, globalE name [a] = .ok v
    rcases Eval.GlobalB.ofName_cases name with ⟨rfl, _⟩ | ⟨rfl, h⟩ | ⟨rfl, h⟩ | ⟨rfl, h⟩ | ⟨rfl, h⟩ | ⟨h1, h2, h3, h4, h5, _⟩
    · exact absurd hc (by decide)
    · exact ⟨.str a.typeOf, by simp [globalE, h]⟩
    · exact absurd hc (by decide)
    · exact ⟨.str a.display, by simp [globalE, h]⟩
    · exact absurd rfl hn
    · rw [globalClass_other h1 h2 h3 h4 h5] at hc; cases hc
  command := by
    intro a ha
    obtain ⟨s, rfl⟩ := tyE_str ha
    exact ⟨_, rfl⟩
  cond := by
    intro v hv
    rcases hv with hv | hv
    · obtain ⟨b, rfl⟩ := tyE_bool hv; exact ⟨b, rfl⟩
    · have := tyE_null hv; subst this; exact ⟨false, rfl⟩

end NaijaVerif.C03
