import NaijaVerif.Lemmas.ResolveScope
/-
The typing half of C09 on expressions.  `Lock ds T`: the diagnostics `ds` of the checker model and the typing violations
`T` of the specification are in step — both empty, or both sides reject (a reported scoping diagnostic counts as a
rejection of the specification: `Dirty`).  The equation `typeDs ds = T` does
not hold (see `Props/C09.lean`), in either direction: after a first diagnostic the checker also reports the enclosing
operator, whose operand has no type, where the specification lists the root cause only; and a method call with the wrong
number of arguments is reported once by the checker, where the specification also lists the argument type it breaks.
Under related environments (`Rel`) every expression has the same static type on both sides (`typeOf_eq_infer`); that
needs `Env.recovery = false` (D-09f fixed): `infer_expr_type` then has a type for an operator application exactly when
the operator table accepts the operand types.
-/
namespace NaijaVerif.Resolve
open NaijaVerif NaijaVerif.Spec

def typeDs (ds : List RDiag) : List Viol :=
  (ds.filter (fun d => !d.rule.isScoping)).map (fun d => (d.rule, d.span))

/-- Both sides reject: the checker reports something, and the specification lists a typing violation or — the decision
the typing half rests on — the checker's report holds a SCOPING diagnostic, which `resolve_scope` turns into a scoping
violation of the specification. -/
def Dirty (ds : List RDiag) (T : List Viol) : Prop :=
  ds ≠ [] ∧ (T ≠ [] ∨ ∃ d ∈ ds, d.rule.isScoping = true)

def Lock (ds : List RDiag) (T : List Viol) : Prop := (ds = [] ∧ T = []) ∨ Dirty ds T

theorem Lock.nil : Lock [] [] := Or.inl ⟨rfl, rfl⟩

theorem Lock.clean {ds : List RDiag} {T : List Viol} (h : Lock ds T) (hd : ds = []) : T = [] := by
  rcases h with h | h
  · exact h.2
  · exact absurd hd h.1

theorem Dirty.left {ds : List RDiag} {T : List Viol} (h : Dirty ds T) (b : List RDiag) (B : List Viol) :
    Dirty (ds ++ b) (T ++ B) := by
  obtain ⟨h1, h2⟩ := h
  refine ⟨by simp [h1], ?_⟩
  rcases h2 with h2 | ⟨d, hd, hs⟩
  · exact Or.inl (by simp [h2])
  · exact Or.inr ⟨d, by simp [hd], hs⟩

theorem Lock.append {ds1 ds2 : List RDiag} {T1 T2 : List Viol} (h1 : Lock ds1 T1)
    (h2 : ds1 = [] → Lock ds2 T2) : Lock (ds1 ++ ds2) (T1 ++ T2) := by
  rcases h1 with ⟨hd, ht⟩ | h
  · subst hd; subst ht; simpa using h2 rfl
  · exact Or.inr (h.left _ _)

theorem Lock.app {ds1 ds2 : List RDiag} {T1 T2 : List Viol} (h1 : Lock ds1 T1) (h2 : Lock ds2 T2) :
    Lock (ds1 ++ ds2) (T1 ++ T2) := h1.append fun _ => h2

theorem Lock.ofDirty {ds : List RDiag} {T : List Viol} (h : Dirty ds T) : Lock ds T := Or.inr h

theorem Lock.ofScoping {ds : List RDiag} (h : ∀ d ∈ ds, d.rule.isScoping = true) : Lock ds [] := by
  cases ds with
  | nil => exact Lock.nil
  | cons d ds => exact Or.inr ⟨by simp, Or.inr ⟨d, by simp, h d (by simp)⟩⟩

theorem Lock.own (c : Bool) (r : Rule) (s : Span) : Lock (errIf c (RDiag.at r s)) (vIf c r s) := by
  cases c
  · exact Lock.nil
  · exact Or.inr ⟨by simp [errIf], Or.inl (by simp [vIf])⟩

theorem Lock.ownS (c : Bool) (r : Rule) (s : Span) (hr : r.isScoping = true) :
    Lock (errIf c (RDiag.at r s)) [] := by
  apply Lock.ofScoping
  intro d hd
  cases c <;> simp [errIf] at hd
  subst hd; exact hr

theorem vIf_eq_nil (c : Bool) (r : Rule) (s : Span) : vIf c r s = [] ↔ c = false := by
  cases c <;> simp [vIf]

theorem Lock.ofIff {ds : List RDiag} (c : Bool) (r : Rule) (s : Span) (h : ds = [] ↔ c = false) :
    Lock ds (vIf c r s) := by
  cases c
  · exact Or.inl ⟨h.mpr rfl, rfl⟩
  · refine Or.inr ⟨fun hd => ?_, Or.inl (by simp [vIf])⟩
    exact absurd (h.mp hd) (by simp)

/-- A site that tests the static type `t` of an operand: the checker rejects by `ok`, the specification by the documented
`D` and only an operand that has a type. -/
theorem Lock.site {ok : Option VType → Bool} {D : VType → Bool} (hD : ∀ t, ok (some t) = D t) (t : Option VType)
    (ht : ok none = true ∨ t.isSome = true) (r : Rule) (s : Span) :
    Lock (errIf (!ok t) (RDiag.at r s)) (tyIf t D r s) := by
  cases t with
  | none => rw [ht.resolve_right nofun]; exact Lock.nil
  | some t => rw [tyIf, hD]; exact Lock.own _ _ _

/-- The list `C09.binOps` again, for `forall_binary`: the table theorems of `Props/C09.lean` are stated over that one. -/
def allBinOps : List BinOp := [.add, .minus, .times, .divide, .mod, .and, .or, .eq, .gt, .lt]

theorem mem_allBinOps (op : BinOp) : op ∈ allBinOps := by cases op <;> decide

theorem _root_.NaijaVerif.VType.mem_all (t : VType) : t ∈ VType.all := by cases t <;> decide

theorem forall_binary {P : BinOp → VType → VType → Prop} [∀ op a b, Decidable (P op a b)]
    (h : (allBinOps.all fun op => VType.all.all fun a => VType.all.all fun b => decide (P op a b)) = true)
    (op : BinOp) (a b : VType) : P op a b := by
  simp only [List.all_eq_true, decide_eq_true_eq] at h
  exact h op (mem_allBinOps op) a (VType.mem_all a) b (VType.mem_all b)

/-- One evaluation of the operator table for everything the proofs use of it.  `check_expr` accepts an operator
application exactly where the documents give it a meaning, and there `infer_expr_type` is the documented result type, and
nothing elsewhere (fix D-09f: no recovery types); the recovery types of D-09f (`Env.recovery = true`) differ only on
operand types that `check_expr` rejects. -/
theorem binary_table (op : BinOp) (a b : VType) :
    (binaryOk op (some a) (some b) = Doc.binaryOk op a b ∧
      inferBinary op a b = if Doc.binaryOk op a b then some (resultType op a b) else none) ∧
    (binaryOk op (some a) (some b) = true → inferBinaryPinned op a b = inferBinary op a b) :=
  forall_binary (P := fun op a b => (binaryOk op (some a) (some b) = Doc.binaryOk op a b ∧
      inferBinary op a b = if Doc.binaryOk op a b then some (resultType op a b) else none) ∧
    (binaryOk op (some a) (some b) = true → inferBinaryPinned op a b = inferBinary op a b)) (by decide +kernel) op a b

theorem binaryOk_doc (op : BinOp) (a b : VType) : binaryOk op (some a) (some b) = Doc.binaryOk op a b :=
  (binary_table op a b).1.1

theorem inferBinary_eq_doc (op : BinOp) (a b : VType) :
    inferBinary op a b = if Doc.binaryOk op a b then some (resultType op a b) else none :=
  (binary_table op a b).1.2

theorem inferBinaryPinned_of_ok (op : BinOp) (a b : VType) (h : binaryOk op (some a) (some b) = true) :
    inferBinaryPinned op a b = inferBinary op a b :=
  (binary_table op a b).2 h

theorem unaryOk_doc (op : UnOp) (t : VType) : unaryOk op (some t) = Doc.unaryOk op t := by
  cases op <;> cases t <;> rfl

theorem inferUnary_eq_doc (op : UnOp) (t : VType) :
    inferUnary op t =
      if Doc.unaryOk op t then some (match op with | .not => VType.bool | .neg => VType.number) else none := by
  cases op <;> cases t <;> rfl

theorem condOk_doc (t : VType) : condOk (some t) = Doc.condOk t := by cases t <;> rfl
theorem indexBaseOk_doc (t : VType) : indexBaseOk (some t) = Doc.indexBaseOk t := by cases t <;> rfl
theorem indexIdxOk_doc (t : VType) : indexIdxOk (some t) = Doc.indexIdxOk t := by cases t <;> rfl
theorem stringArgOk_doc (t : VType) : stringArgOk (some t) = Doc.stringArgOk t := by cases t <;> rfl
theorem numberArgOk_doc (t : VType) : numberArgOk (some t) = Doc.numberArgOk t := by cases t <;> rfl
theorem argOk_string (t : VType) : Doc.argOk (some .string) t = Doc.stringArgOk t := by cases t <;> rfl
theorem argOk_number (t : VType) : Doc.argOk (some .number) t = Doc.numberArgOk t := by cases t <;> rfl

def varTy (sh : Shadow) (env : Env) (cur : Scope) (x : Bytes) : Option VType :=
  if sh.vars.contains x then some .dynamic else (lookupVar env cur x).map (·.ty)

def fnTy (sh : Shadow) (env : Env) (x : Bytes) : Option VType :=
  if sh.fns.contains x then some .dynamic else (lookupFn env x).map (·.ret)

/-- The specification's environment gives every name the type the checker's lookups give it, where the names of `sh`
are dynamic on the checker's side: the relation in which a function's `return`s are typed (`Lemmas/ResolveTypesTable.lean`,
with the shadow lists of D-09b). -/
structure RelSh (sh : Shadow) (env : Env) (cur : Scope) (te : TEnv) : Prop where
  vars : ∀ x, tLookup te.vars x = varTy sh env cur x
  fns : ∀ x, tLookup te.fns x = fnTy sh env x
  /-- the code is the fixed one (D-09f): no recovery types -/
  fixed : env.recovery = false

/-- The relation in which the expressions of a statement are checked. -/
abbrev Rel (env : Env) (cur : Scope) (te : TEnv) : Prop := RelSh {} env cur te

theorem Rel.var {env : Env} {cur : Scope} {te : TEnv} (h : Rel env cur te) (x : Bytes) :
    tLookup te.vars x = (lookupVar env cur x).map (·.ty) := by
  simpa [varTy] using h.vars x

theorem Rel.fn {env : Env} {cur : Scope} {te : TEnv} (h : Rel env cur te) (x : Bytes) :
    tLookup te.fns x = (lookupFn env x).map (·.ret) := by
  simpa [fnTy] using h.fns x

theorem append_nil_iff3 {α : Type} {a b c : List α} : a ++ b ++ c = [] ↔ a = [] ∧ b = [] ∧ c = [] := by
  simp [List.append_eq_nil_iff]

/-- `infer_expr_type` is the documented static type (fix D-09f: also on expressions that break a typing
rule — a rejected operator application has no type on either side). -/
theorem typeOf_eq_infer (sh : Shadow) (env : Env) (cur : Scope) (te : TEnv) (h : RelSh sh env cur te) :
    ∀ e : Expr, typeOf te e = inferExprSh sh env cur e
  | .num _ _ | .null _ | .str _ _ | .bool _ _ | .array _ _ | .index _ _ _ _ | .member _ _ _ _ => rfl
  | .var v _ _ => by simp only [typeOf, inferExprSh]; exact h.vars v
  | .binary op l r s => by
      have hl := typeOf_eq_infer sh env cur te h l
      have hr := typeOf_eq_infer sh env cur te h r
      simp only [typeOf, inferExprSh, ← hl, ← hr, inferBin, h.fixed, Bool.false_eq_true, if_false]
      cases typeOf te l with
      | none => rfl
      | some a =>
        cases typeOf te r with
        | none => rfl
        | some b => simp only [inferBinary_eq_doc]
  | .unary op e s => by
      have he := typeOf_eq_infer sh env cur te h e
      simp only [typeOf, inferExprSh, ← he]
      cases typeOf te e with
      | none => rfl
      | some t => exact (inferUnary_eq_doc op t).symm
  | .call callee args fn s => by
      cases callee with
      | var fname vb vs =>
        simp only [typeOf, inferExprSh]
        cases GlobalB.ofName fname with
        | some g => rfl
        | none => simp only []; exact h.fns fname
      | member obj field fs ms =>
        have ho := typeOf_eq_infer sh env cur te h obj
        simp only [typeOf, inferExprSh, ← ho]
        cases typeOf te obj with
        | none => rfl
        | some rt => cases MemberKind.ofType rt <;> rfl
      | _ => rfl

theorem exprsT_nil_mem (te : TEnv) : ∀ (es : List Expr), exprsT te es = [] → ∀ a ∈ es, exprT te a = []
  | [], _, a, ha => by simp at ha
  | e :: es, h, a, ha => by
      simp only [exprsT, List.append_eq_nil_iff] at h
      rcases List.mem_cons.mp ha with rfl | ha
      · exact h.1
      · exact exprsT_nil_mem te es h.2 a ha

/-- The parameter types `check_expr` tests the leading arguments of a method call against. -/
def specOf : ArgCheck → List (Option VType)
  | .none => []
  | .string0 | .string0If2 => [some .string]
  | .number0 => [some .number]
  | .strings2 => [some .string, some .string]
  | .numbers2 => [some .number, some .number]

/-- Whole table: the documented parameter list of a method is what the code tests, followed by parameters that
take any value; `env`'s second argument is only looked at in a call with two arguments, its arity. -/
theorem argSpec_table : memberTable.all (fun m =>
    Doc.methodArgs m.kind m.name ==
      specOf m.argCheck ++ List.replicate ((Doc.methodArgs m.kind m.name).length - (specOf m.argCheck).length) none
    && (m.argCheck != .string0If2 || m.arity == 2)) = true := by decide +kernel

def specArg (te : TEnv) (w : Option VType) (a : Expr) : Bool :=
  match typeOf te a with
  | some t => Doc.argOk w t
  | none => true

theorem argsOk_cons (te : TEnv) (w : Option VType) (ws : List (Option VType)) (a : Expr) (as : List Expr) :
    argsOk te (w :: ws) (a :: as) = (specArg te w a && argsOk te ws as) := rfl

theorem argsOk_nil_left (te : TEnv) (args : List Expr) : argsOk te [] args = true := by
  cases args <;> rfl

theorem argsOk_nil_right (te : TEnv) (ws : List (Option VType)) : argsOk te ws [] = true := by
  cases ws <;> rfl

theorem argsOk_append_none (te : TEnv) (k : Nat) : ∀ (ws : List (Option VType)) (args : List Expr),
    argsOk te (ws ++ List.replicate k none) args = argsOk te ws args
  | _, [] => by rw [argsOk_nil_right, argsOk_nil_right]
  | w :: ws, a :: as => by rw [List.cons_append, argsOk_cons, argsOk_cons, argsOk_append_none te k ws as]
  | [], a :: as => by
      cases k with
      | zero => rfl
      | succ k =>
        have ih := argsOk_append_none te k [] as
        rw [List.nil_append, argsOk_nil_left] at ih
        rw [List.nil_append, List.replicate_succ, argsOk_cons, ih, argsOk_nil_left, Bool.and_true]
        unfold specArg; cases typeOf te a <;> rfl

theorem takeDiags_nil {env : Env} {cur : Scope} {te : TEnv} (hA : ∀ a, typeOf te a = inferExpr env cur a)
    (ok : Option VType → Bool) (w : Option VType) (d : RDiag) (h0 : ok none = true)
    (h1 : ∀ t, ok (some t) = Doc.argOk w t) : ∀ (n : Nat) (args : List Expr),
    ((args.take n).map fun a => errIf (!ok (inferExpr env cur a)) d).flatten = [] ↔
      argsOk te (List.replicate n w) args = true
  | 0, _ => by simp [argsOk_nil_left]
  | _ + 1, [] => by simp [argsOk_nil_right]
  | n + 1, a :: as => by
      have ha : ok (inferExpr env cur a) = specArg te w a := by
        unfold specArg
        rw [hA a]
        cases inferExpr env cur a with
        | none => exact h0
        | some t => exact h1 t
      rw [List.take_succ_cons, List.map_cons, List.flatten_cons, List.append_eq_nil_iff, errIf_eq_nil,
        List.replicate_succ, argsOk_cons, Bool.and_eq_true, takeDiags_nil hA ok w d h0 h1 n as, ha,
        Bool.not_eq_false']

theorem argDiags_iff (env : Env) (cur : Scope) (te : TEnv) (args : List Expr)
    (hA : ∀ a, typeOf te a = inferExpr env cur a) (m : MemberB) (hm : m ∈ memberTable)
    (hlen : args.length = m.arity) (ms : Span) :
    argDiags env cur m.argCheck args ms = [] ↔ argsOk te (Doc.methodArgs m.kind m.name) args = true := by
  have ht := List.all_eq_true.mp argSpec_table m hm
  rw [Bool.and_eq_true, beq_iff_eq] at ht
  rw [ht.1, argsOk_append_none]
  have h2 := ht.2
  have hs := takeDiags_nil hA stringArgOk (some .string) (RDiag.at .tyMethodArg ms) rfl
    (fun t => (stringArgOk_doc t).trans (argOk_string t).symm)
  have hn := takeDiags_nil hA numberArgOk (some .number) (RDiag.at .tyMethodArg ms) rfl
    (fun t => (numberArgOk_doc t).trans (argOk_number t).symm)
  cases hck : m.argCheck with
  | none => simp [argDiags, specOf, argsOk_nil_left]
  | string0 => exact hs 1 args
  | number0 => exact hn 1 args
  | strings2 => exact hs 2 args
  | numbers2 => exact hn 2 args
  | string0If2 =>
    have h2' : 2 ≤ args.length := by simp [hck] at h2; omega
    simp only [argDiags, ge_iff_le, h2', if_true]
    exact hs 1 args

theorem rootLocal_of_clean (env : Env) (cur : Scope) :
    ∀ e : Expr, exprDiags env cur e = [] → (exprRootLocal env cur e).isSome = isVarRooted e
  | .var v _ s, h => by
      rw [exprDiags, errIf_eq_nil] at h
      rw [exprRootLocal, Option.isSome_map, ← Option.not_isNone, h]; rfl
  | .index a i _ _, h => by
      simp only [exprDiags, List.append_eq_nil_iff] at h
      exact rootLocal_of_clean env cur a h.1.1.1
  | .member o _ _ _, h => by simp [exprDiags] at h
  | .num _ _, _ | .bool _ _, _ | .null _, _ | .str _ _, _ | .array _ _, _
  | .binary _ _ _ _, _ | .unary _ _ _, _ | .call _ _ _ _, _ => rfl

theorem segsDiags_allScoping (env : Env) (cur : Scope) (span : Span) :
    ∀ segs : List Seg, ∀ d ∈ segsDiags env cur span segs, d.rule.isScoping = true
  | [] => fun d hd => by cases hd
  | .lit _ :: rest => segsDiags_allScoping env cur span rest
  | .var n _ :: rest => fun d hd => by
      simp only [segsDiags, List.mem_append] at hd
      rcases hd with hd | hd
      · rw [mem_errIf hd]; rfl
      · exact segsDiags_allScoping env cur span rest d hd

theorem methodDiags_lock (env : Env) (cur : Scope) (te : TEnv) (rt : VType) (obj : Expr)
    (field : Bytes) (args : List Expr) (ms : Span)
    (hroot : (exprRootLocal env cur obj).isSome = isVarRooted obj)
    (hargs : ∀ a, typeOf te a = inferExpr env cur a) :
    Lock (methodDiags env cur rt obj field args ms)
      (if rt = .dynamic then [] else
        match (MemberKind.ofType rt).bind (fun k => memberOf k field) with
        | none => [(Rule.methodUnknown, ms)]
        | some m =>
            vIf (m.mutRecv && m.kind == .processCommand && !isVarRooted obj) .tyMutReceiver ms
              ++ vIf (args.length != m.arity) .arityMethod ms
              ++ vIf (!argsOk te (Doc.methodArgs m.kind m.name) args) .tyMethodArg ms) := by
  unfold methodDiags
  cases hb : (MemberKind.ofType rt).bind (fun k => memberOf k field) with
  | none =>
    -- one site with one condition on both sides
    have hv : (if rt = .dynamic then [] else [(Rule.methodUnknown, ms)]) = vIf (rt != .dynamic) .methodUnknown ms := by
      by_cases hrt : rt = .dynamic <;> simp [vIf, hrt]
    rw [hv]; exact Lock.own _ _ _
  | some m =>
    have hrt : rt ≠ .dynamic := by
      intro h; subst h; simp [MemberKind.ofType] at hb
    have hm : m ∈ memberTable := by
      cases hk : MemberKind.ofType rt with
      | none => simp [hk] at hb
      | some k => simp only [hk, Option.bind_some] at hb; exact List.mem_of_find?_eq_some hb
    simp only [hrt, if_false]
    have hc1 : (m.mutRecv && (exprRootLocal env cur obj).isNone && m.kind == .processCommand)
        = (m.mutRecv && m.kind == .processCommand && !isVarRooted obj) := by
      rw [← hroot]
      cases m.mutRecv <;> cases (m.kind == MemberKind.processCommand) <;> cases exprRootLocal env cur obj <;> rfl
    rw [hc1]
    refine ((Lock.own _ _ _).app (Lock.own _ _ _)).append fun hc => ?_
    have hlen : args.length = m.arity := by
      have := (List.append_eq_nil_iff.mp hc).2
      rw [errIf_eq_nil] at this
      simpa using this
    apply Lock.ofIff
    rw [argDiags_iff env cur te args hargs m hm hlen ms]
    cases argsOk te (Doc.methodArgs m.kind m.name) args <;> simp

theorem typeOf_eq {env : Env} {cur : Scope} {te : TEnv} (h : Rel env cur te) (e : Expr) :
    typeOf te e = inferExpr env cur e := by
  rw [← inferExprSh_nil]; exact typeOf_eq_infer {} env cur te h e

/-- An expression the checker has nothing to say about HAS a static type (in the fixed code, D-09f): an arm that can be
silent answers one once its operands have one — an operator because the table accepted the operand types. -/
theorem clean_typed {env : Env} {cur : Scope} (hfix : env.recovery = false) {e : Expr}
    (h : exprDiags env cur e = []) : (inferExpr env cur e).isSome = true := by
  refine (Expr.clean_walk (P := fun e _ => (inferExpr env cur e).isSome = true) (Q := fun _ _ => True)
    ?num ?bool ?null ?str ?interp ?array ?index ?var ?binary ?unary ?callGlobal ?callUser ?callMember ?nil ?cons).1 e h
  case var => intro v _ _ ent hl; rw [inferExpr, hl]; rfl
  case binary =>
    intro op l _ r _ _ hok hl hr
    obtain ⟨a, ha⟩ := Option.isSome_iff_exists.mp hl
    obtain ⟨b, hb⟩ := Option.isSome_iff_exists.mp hr
    rw [ha, hb] at hok
    simp only [inferExpr, ha, hb, inferBin, hfix, Bool.false_eq_true, if_false]
    rw [inferBinary_eq_doc, ← binaryOk_doc, hok]; rfl
  case unary =>
    intro op e _ _ hok he
    obtain ⟨t, ht⟩ := Option.isSome_iff_exists.mp he
    rw [ht] at hok
    simp only [inferExpr, ht]
    rw [inferUnary_eq_doc, ← unaryOk_doc, hok]; rfl
  case callGlobal => intro fname _ _ _ _ _ _ g hg _ _; simp only [inferExpr, hg]; rfl
  case callUser => intro fname _ _ _ _ _ _ g hg hl _ _; simp only [inferExpr, hg, hl]; rfl
  case callMember =>
    intro obj _ field _ _ _ _ _ _ _ ho _
    obtain ⟨rt, hrt⟩ := Option.isSome_iff_exists.mp ho
    simp only [inferExpr, hrt]
    cases MemberKind.ofType rt with
    | none => rfl
    | some k => simp only []; cases memberOf k field <;> rfl
  -- a literal, a list and an index have a type whatever they hold
  all_goals intros; trivial

/-- The call of a name: arity and existence are scoping rules; only `command`'s argument has a type to meet. -/
theorem nameCall_lock {env : Env} {cur : Scope} {te : TEnv} (h : Rel env cur te) (fname : Bytes) (vb : Option Nat)
    (vs : Span) (args : List Expr) (fn : Option Nat) (s : Span)
    (ha : Lock (exprsDiags env cur args) (exprsT te args)) :
    Lock (exprDiags env cur (.call (.var fname vb vs) args fn s)) (exprT te (.call (.var fname vb vs) args fn s)) := by
  simp only [exprDiags, exprT, nameCallDiags]
  cases hg : GlobalB.ofName fname with
  | some g =>
    have hS := Lock.ownS (args.length != g.arity) .arityGlobal s rfl
    cases g with
    | command =>
      cases args with
      | nil => exact (hS.app Lock.nil).app ha
      | cons a _ =>
        refine (hS.app ?_).app ha
        rw [typeOf_eq h a]; exact Lock.site stringArgOk_doc _ (.inl rfl) _ _
    | _ => cases args <;> exact (hS.app Lock.nil).app ha
  | none =>
    simp only []
    cases hl : lookupFn env fname with
    | some g => simpa using (Lock.ownS (args.length != g.arity) .arityUser s rfl).app ha
    | none => exact Or.inr ⟨by simp, Or.inr ⟨RDiag.at .undeclaredFn s, by simp, rfl⟩⟩

/-- Checker and specification are in step on every expression.  At an operator the checker rejects an untyped operand where
the specification stays silent (`tyIf`, the `match` on `typeOf`); the two agree because an untyped operand is never clean
(`clean_typed`), so once the operands are clean the site is `Lock.site`. -/
theorem exprDiags_lock {env : Env} {cur : Scope} {te : TEnv} (h : Rel env cur te) :
    (∀ e : Expr, Lock (exprDiags env cur e) (exprT te e)) ∧
    (∀ es : List Expr, Lock (exprsDiags env cur es) (exprsT te es)) := by
  apply Expr.walk
  case num => intro _ _; exact Lock.nil
  case bool => intro _ _; exact Lock.nil
  case null => intro _; exact Lock.nil
  case str =>
    intro p s
    cases p with
    | static _ => exact Lock.nil
    | interp segs => exact Lock.ofScoping (segsDiags_allScoping env cur s segs)
  case array => intro es _ ih; simp only [exprDiags, exprT]; exact ih
  case index =>
    intro a i isp s hLa hLi
    simp only [exprDiags, exprT, typeOf_eq h]
    refine ((hLa.app hLi).append fun hc => ?_).append fun hc => ?_
    · exact Lock.site indexBaseOk_doc _ (.inr (clean_typed h.fixed (List.append_eq_nil_iff.mp hc).1)) _ _
    · exact Lock.site indexIdxOk_doc _ (.inr (clean_typed h.fixed (append_nil_iff3.mp hc).2.1)) _ _
  case var => intro v _ s; exact Lock.ownS _ _ _ rfl
  case binary =>
    intro op l r s hLl hLr
    simp only [exprDiags, exprT]
    refine (hLl.app hLr).append fun hc => ?_
    obtain ⟨hc1, hc2⟩ := List.append_eq_nil_iff.mp hc
    obtain ⟨a, ha⟩ := Option.isSome_iff_exists.mp (clean_typed h.fixed hc1)
    obtain ⟨b, hb⟩ := Option.isSome_iff_exists.mp (clean_typed h.fixed hc2)
    rw [typeOf_eq h l, typeOf_eq h r, ha, hb, binaryOk_doc]
    exact Lock.own _ _ _
  case unary =>
    intro op e s hLe
    simp only [exprDiags, exprT, typeOf_eq h]
    exact hLe.append fun hc => Lock.site (unaryOk_doc op) _ (.inr (clean_typed h.fixed hc)) _ _
  case member => intro o fld fs s hLo; simp only [exprDiags, exprT]; exact hLo.app (Lock.own true _ _)
  case callMember =>
    intro obj field fs ms args fn s hLo hLa
    simp only [exprDiags, exprT, recvDiags, typeOf_eq h obj]
    refine (hLo.append fun hro => ?_).app hLa
    obtain ⟨rt, hrt⟩ := Option.isSome_iff_exists.mp (clean_typed h.fixed hro)
    rw [hrt]
    exact methodDiags_lock env cur te rt obj field args ms (rootLocal_of_clean env cur obj hro) (typeOf_eq h)
  case call =>
    intro callee args fn s hc hLc hLa
    cases callee using Expr.callee_cases with
    | var fname vb vs => exact nameCall_lock h fname vb vs args fn s hLa
    | member o fld fs ms => exact absurd rfl (hc o fld fs ms)
    | other c ho =>
      rw [exprDiags_call_other _ _ ho, exprT_call_other _ _ _ _ _ ho]
      exact (hLc.app (Lock.own true _ _)).app hLa
  case nil => exact Lock.nil
  case cons =>
    intro e es hLe hLes
    simp only [exprsDiags, exprsT]
    exact hLe.app hLes

theorem checkExpr_lock (env : Env) (cur : Scope) (sid : Nat) (te : TEnv) (h : Rel env cur te) (e : Expr) (f : Facts) :
    Lock (checkExpr env cur sid e f).ds (exprT te e) := by
  rw [checkExpr_ds]; exact (exprDiags_lock h).1 e

theorem checkExprs_lock (env : Env) (cur : Scope) (sid : Nat) (te : TEnv) (h : Rel env cur te) :
    ∀ (es : List Expr) (f : Facts), Lock (checkExprs env cur sid es f).ds (exprsT te es) := by
  intro es f
  rw [checkExprs_ds]; exact (exprDiags_lock h).2 es

end NaijaVerif.Resolve
