/-
The executable reader loop `Capture.readLoop` (what the `rd` requests of the `capture` protocol compare
with the real `read_captured_stream` on a scripted `Read`) against the transition system's own reader:
`Side.feed` iterates `Side.read` / `Side.check` / `Side.eof` / `Side.fail` over the same script, and
`joinOutSteps` is the main thread's `joinOut` / `flagOut` statements, to be compared with
`Capture.joinCapture`.

-/
import NaijaVerif.Model.Capture
namespace NaijaVerif.Capture

/-- What `handle.join()` returns for a reader thread that has finished in side `d`. -/
def RdRes.ofSide (d : Side) : RdRes := if d.rd = .failed then .err else .ok d.acc

/-- The transition system's reader of one side, driven by a script: before each `read` the pipe
holds exactly what the event says `read` returns (nothing, and the child gone, for a zero-length
read and at the end of the script). -/
def Side.feed (chunk cap my : Nat) : Nat → Side → List RdEv → Side × Nat
  | flag, d, [] => ((Side.eof false false { d with pipe := [] }).getD d, flag)
  | flag, d, .zero :: _ => ((Side.eof false false { d with pipe := [] }).getD d, flag)
  | flag, d, .fail :: _ => ((Side.fail d).getD d, flag)
  | flag, d, .data c :: rest =>
      match Side.read chunk { d with pipe := c } with
      | none => ((Side.eof false false { d with pipe := [] }).getD d, flag)
      | some d₁ =>
          match Side.check cap my flag d₁ with
          | none => (d₁, flag)
          | some (d₂, flag₂) =>
              if d₂.rd = .idle then Side.feed chunk cap my flag₂ d₂ rest else (d₂, flag₂)

theorem Side.read_script {chunk : Nat} {d : Side} {c : Bytes} (hchunk : 0 < chunk)
    (hd : d.rd = .idle) (hce : c ≠ []) (hc : c.length ≤ chunk) :
    Side.read chunk { d with pipe := c } = some { d with pipe := [], rd := .got c } := by
  have hc0 : chunk ≠ 0 := Nat.ne_of_gt hchunk
  simp [Side.read, hd, hc0, hce, List.take_of_length_le hc, List.drop_of_length_le hc]

theorem splitChunk_le {chunk : Nat} (hchunk : 0 < chunk) :
    ∀ (fuel : Nat) (c : Bytes), c.length ≤ fuel + chunk →
      ∀ c', RdEv.data c' ∈ splitChunk chunk fuel c → c'.length ≤ chunk := by
  intro fuel
  induction fuel with
  | zero =>
    intro c hl c' hm
    simp only [splitChunk, List.mem_singleton, RdEv.data.injEq] at hm
    subst hm; omega
  | succ f ih =>
    intro c hl c' hm
    simp only [splitChunk] at hm
    split at hm
    · next hsm =>
      simp only [List.mem_singleton, RdEv.data.injEq] at hm
      subst hm
      rcases hsm with h | h
      · omega
      · exact h
    · next hbig =>
      simp only [List.mem_cons, RdEv.data.injEq] at hm
      rcases hm with hm | hm
      · subst hm; simp; omega
      · refine ih (c.drop chunk) ?_ c' hm
        simp only [List.length_drop]
        omega

theorem expandEvents_le {chunk : Nat} (hchunk : 0 < chunk) :
    ∀ (evs : List RdEv) c', RdEv.data c' ∈ expandEvents chunk evs → c'.length ≤ chunk := by
  intro evs
  induction evs with
  | nil => intro c' hm; simp [expandEvents] at hm
  | cons ev rest ih =>
    intro c' hm
    cases ev with
    | data c =>
      simp only [expandEvents, List.mem_append] at hm
      rcases hm with hm | hm
      · exact splitChunk_le hchunk c.length c (by omega) c' hm
      · exact ih c' hm
    | zero | fail =>
      simp only [expandEvents, List.mem_cons] at hm
      exact hm.elim nofun (ih c')

/-! What the loop's result means: the oracle of the `rd` requests, proved of the model. -/

/-- All data up to the first zero-length read; `none` if a failing read comes first. -/
def cleanData : List RdEv → Option Bytes
  | [] => some []
  | .zero :: _ => some []
  | .fail :: _ => none
  | .data c :: rest => if c = [] then some [] else (cleanData rest).map (c ++ ·)

/-- `Ok(buf)` with the flag still clear is never a shortened stream. -/
theorem readLoop_clean (cap my : Nat) (hmy : my ≠ 0) :
    ∀ (evs : List RdEv) (buf out : Bytes), readLoop cap my 0 buf evs = (.ok out, 0) →
      ∃ rest, cleanData evs = some rest ∧ out = buf ++ rest := by
  intro evs
  induction evs with
  | nil => intro buf out h; simp [readLoop] at h; exact ⟨[], rfl, by simp [h]⟩
  | cons ev rest ih =>
    intro buf out h
    cases ev with
    | zero => simp [readLoop] at h; exact ⟨[], rfl, by simp [h]⟩
    | fail => simp [readLoop] at h
    | data c =>
      simp only [readLoop] at h
      split at h
      · next hc => simp at h; exact ⟨[], by simp [cleanData, hc], by simp [h]⟩
      · next hc =>
        split at h
        · simp at h; exact absurd h.2 hmy
        · obtain ⟨r, hr, ho⟩ := ih (buf ++ c) out h
          exact ⟨c ++ r, by simp [cleanData, hc, hr], by simp [ho]⟩

def RdEv.size : RdEv → Nat
  | .data c => c.length
  | _ => 0

theorem readLoop_err_of_fail (cap my flag : Nat) :
    ∀ (pre : List RdEv) (buf : Bytes) (post : List RdEv),
      (∀ e ∈ pre, ∃ c, e = RdEv.data c ∧ c ≠ []) →
      buf.length + (pre.map RdEv.size).sum ≤ cap →
      readLoop cap my flag buf (pre ++ .fail :: post) = (.err, flag) := by
  intro pre
  induction pre with
  | nil => intro buf post _ _; simp [readLoop]
  | cons e pre ih =>
    intro buf post hall hsum
    obtain ⟨c, rfl, hc⟩ := hall e (by simp)
    simp only [List.map_cons, List.sum_cons, RdEv.size] at hsum
    simp only [List.cons_append, readLoop, hc, if_false]
    have : ¬ (buf.length + c.length > cap) := by omega
    simp only [this, if_false]
    refine ih (buf ++ c) post (fun e he => hall e (by simp [he])) ?_
    simp only [List.length_append]; omega

/-- `join_capture(stdout)` as the main thread executes it: the join, then (if the reader returned
`Ok`) the flag re-check and the validation. -/
def joinOutSteps (cfg : Cfg) (s : State) : Option State :=
  (stepMain cfg s).bind (fun s₁ =>
    match s₁.pc with
    | .flagOut _ => stepMain cfg s₁
    | _ => some s₁)

end NaijaVerif.Capture
