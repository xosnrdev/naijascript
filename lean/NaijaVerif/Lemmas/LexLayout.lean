import NaijaVerif.Lemmas.LexInv
/-
C10, lexer part: separators, lexemes, valid layouts, and the lemmas of the round trip
`lex (render layout) = tokens`.
-/
namespace NaijaVerif.Lex
open NaijaVerif

/-- Separator texts: whitespace bytes (space, TAB, LF, FF, CR) and `#` comments that run up to and
including the first LF or CR (so CRLF ends a comment at the CR; the LF is then whitespace). -/
inductive Sep : Bytes → Prop
  | nil : Sep []
  | ws (b : Nat) (r : Bytes) : isWs b = true → Sep r → Sep (b :: r)
  | comment (body : Bytes) (t : Nat) (r : Bytes) :
      (∀ c ∈ body, notNl c = true) → notNl t = false → Sep r → Sep (35 :: body ++ t :: r)

/-- What may follow the last separator: nothing, or a comment that the end of the text cuts short.  (Not to be confused
with `Tail` of `Lemmas/LexMem.lean`, a condition on where a backslash may stand.) -/
def Trail (tr : Bytes) : Prop := tr = [] ∨ ∃ body, tr = 35 :: body ∧ ∀ c ∈ body, notNl c = true

/-- non-empty whitespace: what may stand between the words of a multi-word keyword (no comments:
`try_consume_word` skips whitespace only) -/
def WsGap (w : Bytes) : Prop := w ≠ [] ∧ ∀ c ∈ w, isWs c = true

def isWord : Bytes → Bool
  | [] => false
  | b :: r => isAlpha b && r.all isWordCh

/-- `StrBody q body content esc`: between two quotes `q`, `body` scans to `content`; chunks of plain
bytes (no quote `q`, backslash, LF, CR — any other byte, raw TAB and the other quote included)
separated by valid escapes; `esc` iff there is at least one escape (`ArenaCow::Owned`). -/
inductive StrBody (q : Nat) : Bytes → Bytes → Bool → Prop
  | plain (chunk : Bytes) : (∀ b ∈ chunk, notQuoteEsc q b = true ∧ notNl b = true) → StrBody q chunk chunk false
  | esc (chunk : Bytes) (x y : Nat) (body content : Bytes) (e : Bool) :
      (∀ b ∈ chunk, notQuoteEsc q b = true ∧ notNl b = true) → escapeOf q x = some y →
      StrBody q body content e → StrBody q (chunk ++ 92 :: x :: body) (chunk ++ y :: content) true

/-- `Lexeme t text`: `text` is a spelling of token `t`. Multi-word keywords have one spelling per
choice of whitespace between their words, strings one per quoting/escaping of their content. -/
inductive Lexeme : Tok → Bytes → Prop
  | punct (b : Nat) (t : Tok) : punct b = some t → Lexeme t [b]
  | kw (w : Bytes) (t : Tok) : kwTable.lookup w = some t → Lexeme t w
  | ident (w : Bytes) : isWord w = true → kwTable.lookup w = none → Lexeme (.ident w) w
  | numInt (d : Bytes) : d ≠ [] → (∀ c ∈ d, isDigit c = true) → Lexeme (.num d) d
  | numFrac (d e : Bytes) : d ≠ [] → e ≠ [] → (∀ c ∈ d, isDigit c = true) → (∀ c ∈ e, isDigit c = true) →
      Lexeme (.num (d ++ 46 :: e)) (d ++ 46 :: e)
  | str (q : Nat) (body content : Bytes) (esc : Bool) : q ∈ quoteChars → StrBody q body content esc →
      Lexeme (.str content esc) (q :: body ++ [q])
  | ifToSay (w1 w2 : Bytes) : WsGap w1 → WsGap w2 → Lexeme .ifToSay (b!"if" ++ w1 ++ b!"to" ++ w2 ++ b!"say")
  | ifNotSo (w1 w2 : Bytes) : WsGap w1 → WsGap w2 → Lexeme .ifNotSo (b!"if" ++ w1 ++ b!"not" ++ w2 ++ b!"so")
  | smallPass (w1 : Bytes) : WsGap w1 → Lexeme .smallPass (b!"small" ++ w1 ++ b!"pass")

def FirstNot (p : Nat → Bool) (rest : Bytes) : Prop := ∀ b r, rest = b :: r → p b = false

/-- `FollowOK t rest`: what must come directly after a spelling of `t` so that it neither merges
with what follows nor changes class. Word-like tokens: no letter/digit/`_`; the identifiers `if` and
`small` moreover must not be completed to a multi-word keyword by the look-ahead (stated with the
model's own `tryAlts`); numbers: no digit, no letter/`_`, and no `.` unless the number already has
one; multi-word keywords: no letter/`_` (a digit is fine: `if to say2` is `if to say`, `2`);
strings and punctuation: anything.  No `Lexeme` spells `.eof`, so `Valid` never consults that arm; it is `False` so that
`FollowOK` by itself admits no `.eof` inside a layout. -/
def FollowOK : Tok → Bytes → Prop
  | .ident w, rest => FirstNot isWordCh rest ∧
      ∀ alts, multiWord.lookup w = some alts → ∀ p, tryAlts alts ⟨p, rest⟩ = none
  | .num lx, rest => FirstNot isDigit rest ∧ FirstNot isAlpha rest ∧ (46 ∈ lx ∨ FirstNot (· == 46) rest)
  | .str _ _, _ => True
  | .lparen, _ | .rparen, _ | .lbracket, _ | .rbracket, _ | .comma, _ | .dot, _ => True
  | .ifToSay, rest | .ifNotSo, rest | .smallPass, rest => FirstNot isAlpha rest
  | .eof, _ => False
  | _, rest => FirstNot isWordCh rest

/-- a layout: every token with its spelling and the separator after it -/
abbrev Layout := List ((Tok × Bytes) × Bytes)

def render (tr : Bytes) : Layout → Bytes
  | [] => tr
  | ((_, text), sep) :: r => text ++ sep ++ render tr r

/-- `Valid tr l`: spellings are lexemes, separators are separators, and every token is followed by
something it does not merge with (so a non-empty separator where two adjacent spellings would merge:
word–word, word–number, number–word, number–`.`, …). -/
def Valid (tr : Bytes) : Layout → Prop
  | [] => True
  | ((t, text), sep) :: r => Lexeme t text ∧ Sep sep ∧ FollowOK t (sep ++ render tr r) ∧ Valid tr r

def Layout.toks (l : Layout) : List Tok := l.map (·.1.1)

theorem takeWhile_append_stop {p : Nat → Bool} (a X : Bytes) (ha : ∀ c ∈ a, p c = true) (hX : FirstNot p X) :
    (a ++ X).takeWhile p = a ∧ (a ++ X).dropWhile p = X := by
  rw [List.takeWhile_append_of_pos ha, List.dropWhile_append_of_pos ha]
  cases X with
  | nil => simp
  | cons b r => simp [hX b r rfl]

theorem skipWhile_append {p : Nat → Bool} (pos : Nat) (a X : Bytes) (ha : ∀ c ∈ a, p c = true) (hX : FirstNot p X) :
    Cur.skipWhile p ⟨pos, a ++ X⟩ = ⟨pos + a.length, X⟩ := by
  have := takeWhile_append_stop a X ha hX
  simp [Cur.skipWhile, this.1, this.2]

theorem skipWs_stop (pos : Nat) (X : Bytes) (hX : FirstNot isWs X) : skipWs ⟨pos, X⟩ = ⟨pos, X⟩ := by
  have := skipWhile_append (p := isWs) pos [] X (by simp) hX
  simpa [skipWs] using this

theorem skipWs_cons (pos b : Nat) (X : Bytes) (hb : isWs b = true) : skipWs ⟨pos, b :: X⟩ = skipWs ⟨pos + 1, X⟩ := by
  simp [skipWs, Cur.skipWhile, hb]; omega

theorem lexGo_ws (f pos b : Nat) (X : Bytes) (hb : isWs b = true) :
    lexGo f ⟨pos, b :: X⟩ = lexGo f ⟨pos + 1, X⟩ := by
  cases f with
  | zero => rfl
  | succ f => rw [lexGo, lexGo, step, step, skipWs_cons pos b X hb]

theorem firstNot_cons {p : Nat → Bool} {b : Nat} {r : Bytes} (h : p b = false) : FirstNot p (b :: r) := by
  intro b' r' he; cases he; exact h

theorem firstNot_nil {p : Nat → Bool} : FirstNot p [] := by intro b r he; cases he

/-- one comment is one `continue` of the loop; `Y` is the line end with what follows it, or nothing at the end of
the text -/
theorem step_comment (pos : Nat) (body Y : Bytes) (hb : ∀ c ∈ body, notNl c = true) (hY : FirstNot notNl Y) :
    ∃ pos', step ⟨pos, 35 :: body ++ Y⟩ = .skip ⟨pos', Y.tail⟩ [] := by
  have h1 := skipWs_stop pos (35 :: body ++ Y) (firstNot_cons (by decide))
  have h2 := skipWhile_append (p := notNl) pos (35 :: body) Y
    (by intro c hc; rcases List.mem_cons.mp hc with rfl | hc; decide; exact hb c hc) hY
  rw [step, h1]
  simp only [List.cons_append] at h2 ⊢
  cases Y with
  | nil =>
    rw [List.append_nil] at h2
    exact ⟨pos + (35 :: body).length, by simp [commentChar, skipComment, h2]⟩
  | cons t X => exact ⟨pos + (35 :: body).length + 1, by simp [commentChar, skipComment, h2, Cur.adv]⟩

/-- The fuel is not counted down exactly: whitespace costs none and a comment one unit for many bytes.  What passes
from one piece of the text to the next (here and in `lexGo_layout`) is that SOME fuel above the number of bytes left
remains. -/
theorem lexGo_sep {s : Bytes} (hs : Sep s) (X : Bytes) : ∀ (f pos : Nat), (s ++ X).length < f →
    ∃ f' pos', X.length < f' ∧ lexGo f ⟨pos, s ++ X⟩ = lexGo f' ⟨pos', X⟩ := by
  induction hs with
  | nil => intro f pos hf; exact ⟨f, pos, by simpa using hf, rfl⟩
  | ws b r hb _ ih =>
    intro f pos hf
    obtain ⟨f', pos', h1, h2⟩ := ih f (pos + 1) (by simp at hf ⊢; omega)
    exact ⟨f', pos', h1, by rw [List.cons_append, lexGo_ws f pos b _ hb, h2]⟩
  | comment body t r hbody ht _ ih =>
    intro f pos hf
    cases f with
    | zero => omega
    | succ f =>
      obtain ⟨p1, hstep⟩ := step_comment pos body (t :: (r ++ X)) hbody (firstNot_cons ht)
      obtain ⟨f', pos', h1, h2⟩ := ih f p1 (by simp at hf ⊢; omega)
      refine ⟨f', pos', h1, ?_⟩
      have : (35 :: body ++ t :: r) ++ X = 35 :: body ++ t :: (r ++ X) := by simp
      rw [this, lexGo_skip hstep]; exact h2

theorem lexGo_trail {tr : Bytes} (ht : Trail tr) (f pos : Nat) (hf : tr.length < f) :
    lexGo f ⟨pos, tr⟩ = ([], [], false) := by
  rcases ht with rfl | ⟨body, rfl, hb⟩
  · cases f with
    | zero => simp at hf
    | succ f => rfl
  · match f, hf with
    | f + 2, _ =>
      obtain ⟨p1, hstep⟩ : ∃ p1, step ⟨pos, 35 :: body⟩ = .skip ⟨p1, []⟩ [] := by
        simpa using step_comment pos body [] hb firstNot_nil
      rw [lexGo_skip hstep]; rfl
    | 1, hf => simp at hf
    | 0, hf => simp at hf

/-! byte class facts: finite checks over the ASCII range, lifted by `b < 128`.  Each `step_*` below opens the same way: the
first byte is no whitespace (`skipWs_stop`) and fails the tests of `next_token` that come before its own arm — comment, quote,
punctuation, digit, in that order —, which is what the closing `simp [h2, h3', …]` uses. -/

theorem alpha_facts {b : Nat} (h : isAlpha b = true) :
    isWs b = false ∧ (b == commentChar) = false ∧ quoteChars.contains b = false ∧ punct b = none ∧
      isDigit b = false ∧ isWordCh b = true := by
  have hb := isAlpha_ascii h
  revert h; revert hb; revert b
  decide +kernel

theorem digit_facts {b : Nat} (h : isDigit b = true) :
    isWs b = false ∧ (b == commentChar) = false ∧ quoteChars.contains b = false ∧ punct b = none := by
  have hb := isDigit_ascii h
  revert h; revert hb; revert b
  decide +kernel

theorem punct_facts {b : Nat} {t : Tok} (h : punct b = some t) :
    isWs b = false ∧ (b == commentChar) = false ∧ quoteChars.contains b = false :=
  (by decide : ∀ e ∈ punctTable, isWs e.1 = false ∧ (e.1 == commentChar) = false ∧ quoteChars.contains e.1 = false)
    (b, t) (lookup_mem h)

theorem ws_facts {b : Nat} (h : isWs b = true) : isAlpha b = false ∧ isWordCh b = false := by
  have hb := isWs_ascii h
  revert h; revert hb; revert b
  decide +kernel

theorem quote_facts {q : Nat} (h : q ∈ quoteChars) :
    isWs q = false ∧ (q == commentChar) = false ∧ quoteChars.contains q = true ∧ q ≠ 92 := by
  simp [quoteChars] at h
  rcases h with rfl | rfl <;> decide

def StepsTo (pos : Nat) (text rest : Bytes) (t : Tok) : Prop :=
  ∃ lo hi pos', step ⟨pos, text ++ rest⟩ = .tok ⟨t, ⟨lo, hi⟩⟩ ⟨pos', rest⟩ []

theorem step_punct {b : Nat} {t : Tok} (h : punct b = some t) (pos : Nat) (rest : Bytes) :
    StepsTo pos [b] rest t := by
  obtain ⟨h1, h2, h3⟩ := punct_facts h
  refine ⟨pos, pos + 1, pos + 1, ?_⟩
  have hs := skipWs_stop pos (b :: rest) (firstNot_cons h1)
  have h3' : b ∉ quoteChars := by simpa using h3
  simp only [List.cons_append, List.nil_append, step, hs]
  simp [h2, h3', h]

theorem word_split {w rest : Bytes} (hw : isWord w = true) (hr : FirstNot isWordCh rest) :
    (w ++ rest).takeWhile isWordCh = w ∧ ∀ pos, Cur.skipWhile isWordCh ⟨pos, w ++ rest⟩ = ⟨pos + w.length, rest⟩ := by
  cases w with
  | nil => simp [isWord] at hw
  | cons b tl =>
    simp only [isWord, Bool.and_eq_true, List.all_eq_true] at hw
    have hall : ∀ c ∈ b :: tl, isWordCh c = true := by
      intro c hc
      rcases List.mem_cons.mp hc with rfl | hc
      · exact (alpha_facts hw.1).2.2.2.2.2
      · exact hw.2 c hc
    exact ⟨(takeWhile_append_stop _ _ hall hr).1, fun pos => skipWhile_append pos _ _ hall hr⟩

/-- only the first byte matters: a letter or `_` sends `next_token` to the word scanner -/
theorem step_word {w : Bytes} (hw : isWord w = true) (pos : Nat) (rest : Bytes) :
    step ⟨pos, w ++ rest⟩ =
      .tok ⟨(scanWord ⟨pos, w ++ rest⟩).1, ⟨pos, (scanWord ⟨pos, w ++ rest⟩).2.pos⟩⟩ (scanWord ⟨pos, w ++ rest⟩).2 [] :=
  match w, hw with
  | b :: tl, hw => by
    have hb : isAlpha b = true := (Bool.and_eq_true_iff.mp hw).1
    obtain ⟨h1, h2, h3, h4, h5, _⟩ := alpha_facts hb
    have h3' : b ∉ quoteChars := by simpa using h3
    rw [List.cons_append, step, skipWs_stop pos _ (firstNot_cons h1)]
    simp [h2, h3', h4, h5, hb]

theorem kwTable_facts : ∀ e ∈ kwTable, isWord e.1 = true ∧ multiWord.lookup e.1 = none := by decide

theorem step_kw {w : Bytes} {t : Tok} (h : kwTable.lookup w = some t) (pos : Nat) (rest : Bytes)
    (hr : FirstNot isWordCh rest) : StepsTo pos w rest t := by
  obtain ⟨hw, hm⟩ := kwTable_facts _ (lookup_mem h)
  obtain ⟨htw, hsk⟩ := word_split hw hr
  refine ⟨pos, pos + w.length, pos + w.length, ?_⟩
  rw [step_word hw]
  simp [scanWord, htw, hsk, hm, h]

theorem step_ident {w : Bytes} (hw : isWord w = true) (hk : kwTable.lookup w = none) (pos : Nat) (rest : Bytes)
    (hf : FollowOK (.ident w) rest) : StepsTo pos w rest (.ident w) := by
  obtain ⟨hr, hmw⟩ := hf
  obtain ⟨htw, hsk⟩ := word_split hw hr
  refine ⟨pos, pos + w.length, pos + w.length, ?_⟩
  rw [step_word hw]
  cases hm : multiWord.lookup w with
  | none => simp [scanWord, htw, hsk, hm, hk]
  | some alts => simp [scanWord, htw, hsk, hm, hmw alts hm]

theorem step_num_start {d X : Bytes} (hne : d ≠ []) (hd : ∀ c ∈ d, isDigit c = true) (pos : Nat) :
    step ⟨pos, d ++ X⟩ = match scanNumber pos ⟨pos, d ++ X⟩ with
      | .ok lx c' ds => .tok ⟨.num lx, ⟨pos, c'.pos⟩⟩ c' ds
      | .invalid c' ds => .skip c' ds := by
  cases d with
  | nil => exact absurd rfl hne
  | cons b tl =>
    obtain ⟨h1, h2, h3, h4⟩ := digit_facts (hd b List.mem_cons_self)
    have hs := skipWs_stop pos ((b :: tl) ++ X) (by rw [List.cons_append]; exact firstNot_cons h1)
    have h3' : b ∉ quoteChars := by simpa using h3
    rw [step, hs]
    simp only [List.cons_append] at hs ⊢
    simp [h2, h3', h4, hd b List.mem_cons_self]
    -- both sides are a `match` on the result of `scanNumber`, with the same arms
    cases scanNumber pos ⟨pos, b :: (tl ++ X)⟩ <;> rfl

theorem numFinish_plain (start : Nat) (lx : Bytes) (c : Cur) (h : FirstNot isAlpha c.rest) :
    numFinish start lx c = .ok lx c [] := by
  simp only [numFinish]
  split
  · rfl
  next b r hr => simp [h b r hr]

theorem step_numInt {d : Bytes} (hne : d ≠ []) (hd : ∀ c ∈ d, isDigit c = true) (pos : Nat) (rest : Bytes)
    (hf : FollowOK (.num d) rest) : StepsTo pos d rest (.num d) := by
  obtain ⟨h1, h2, h3⟩ := hf
  have h46 : FirstNot (· == 46) rest := by
    rcases h3 with h | h
    · have := hd 46 h; simp [isDigit] at this
    · exact h
  have ht := takeWhile_append_stop d rest hd h1
  have hsk := skipWhile_append (p := isDigit) pos d rest hd h1
  refine ⟨pos, pos + d.length, pos + d.length, ?_⟩
  rw [step_num_start hne hd]
  have : scanNumber pos ⟨pos, d ++ rest⟩ = .ok d ⟨pos + d.length, rest⟩ [] := by
    simp only [scanNumber, hsk, ht.1]
    split
    · have := h46 46 _ rfl; simp at this
    · exact numFinish_plain _ _ _ h2
  rw [this]

theorem step_numFrac {d e : Bytes} (hne : d ≠ []) (hne' : e ≠ []) (hd : ∀ c ∈ d, isDigit c = true)
    (he : ∀ c ∈ e, isDigit c = true) (pos : Nat) (rest : Bytes) (hf : FollowOK (.num (d ++ 46 :: e)) rest) :
    StepsTo pos (d ++ 46 :: e) rest (.num (d ++ 46 :: e)) := by
  obtain ⟨h1, h2, _⟩ := hf
  have hdot : FirstNot isDigit (46 :: (e ++ rest)) := firstNot_cons (by decide)
  have ht := takeWhile_append_stop d (46 :: (e ++ rest)) hd hdot
  have hsk := skipWhile_append (p := isDigit) pos d (46 :: (e ++ rest)) hd hdot
  have ht2 := takeWhile_append_stop e rest he h1
  have hsk2 := skipWhile_append (p := isDigit) (pos + d.length + 1) e rest he h1
  refine ⟨pos, pos + d.length + 1 + e.length, pos + d.length + 1 + e.length, ?_⟩
  have hassoc : (d ++ 46 :: e) ++ rest = d ++ 46 :: (e ++ rest) := by simp
  rw [hassoc, step_num_start hne hd]
  have : scanNumber pos ⟨pos, d ++ 46 :: (e ++ rest)⟩ =
      .ok (d ++ 46 :: e) ⟨pos + d.length + 1 + e.length, rest⟩ [] := by
    cases e with
    | nil => exact absurd rfl hne'
    | cons x e' =>
      have hx : isDigit x = true := he x List.mem_cons_self
      simp only [scanNumber, hsk, ht.1]
      simp only [List.cons_append] at ht2 hsk2 ⊢
      simp only [hx, if_true, hsk2, ht2.1]
      exact numFinish_plain _ _ _ h2
  rw [this]

theorem tryWord_hit (w w1 X : Bytes) (pos : Nat) (hw1 : ∀ c ∈ w1, isWs c = true)
    (hw : ∃ x tl, w = x :: tl ∧ isWs x = false) (hX : FirstNot isAlpha X) :
    ∃ pos', tryWord w ⟨pos, w1 ++ (w ++ X)⟩ = some ⟨pos', X⟩ := by
  obtain ⟨x, tl, rfl, hx⟩ := hw
  have hs : skipWs ⟨pos, w1 ++ ((x :: tl) ++ X)⟩ = ⟨pos + w1.length, (x :: tl) ++ X⟩ :=
    skipWhile_append pos w1 _ hw1 (by rw [List.cons_append]; exact firstNot_cons hx)
  have hp : (x :: tl).isPrefixOf ((x :: tl) ++ X) = true :=
    List.isPrefixOf_iff_prefix.mpr (List.prefix_append _ _)
  refine ⟨pos + w1.length + (x :: tl).length, ?_⟩
  simp only [tryWord, hs, hp, if_true, Cur.adv, List.drop_left]
  cases X with
  | nil => rfl
  | cons b r => simp [hX b r rfl]

theorem tryWord_miss (w w1 Y : Bytes) (pos : Nat) (hw1 : ∀ c ∈ w1, isWs c = true) (hY : FirstNot isWs Y)
    (hnp : w.isPrefixOf Y = false) : tryWord w ⟨pos, w1 ++ Y⟩ = none := by
  have hs : skipWs ⟨pos, w1 ++ Y⟩ = ⟨pos + w1.length, Y⟩ := skipWhile_append pos w1 _ hw1 hY
  simp [tryWord, hs, hnp]

theorem WsGap.firstNot {w X : Bytes} (h : WsGap w) : FirstNot isAlpha (w ++ X) ∧ FirstNot isWordCh (w ++ X) := by
  obtain ⟨hne, hall⟩ := h
  cases w with
  | nil => exact absurd rfl hne
  | cons x tl =>
    have := ws_facts (hall x List.mem_cons_self)
    exact ⟨firstNot_cons this.1, firstNot_cons this.2⟩

theorem mw_if : multiWord.lookup (b!"if") =
    some [([b!"to", b!"say"], .ifToSay), ([b!"not", b!"so"], .ifNotSo)] := by decide
theorem mw_small : multiWord.lookup (b!"small") = some [([b!"pass"], .smallPass)] := by decide

theorem step_multi {first : Bytes} {alts : List (List Bytes × Tok)} {t : Tok} {X rest : Bytes} {pos pos' : Nat}
    (hw : isWord first = true) (hl : multiWord.lookup first = some alts) (hX : FirstNot isWordCh X)
    (ha : tryAlts alts ⟨pos + first.length, X⟩ = some (t, ⟨pos', rest⟩)) :
    step ⟨pos, first ++ X⟩ = .tok ⟨t, ⟨pos, pos'⟩⟩ ⟨pos', rest⟩ [] := by
  obtain ⟨htw, hsk⟩ := word_split hw hX
  rw [step_word hw]
  simp [scanWord, htw, hsk, hl, ha]

theorem step_ifToSay (w1 w2 : Bytes) (h1 : WsGap w1) (h2 : WsGap w2) (pos : Nat) (rest : Bytes)
    (hf : FirstNot isAlpha rest) : StepsTo pos (b!"if" ++ w1 ++ b!"to" ++ w2 ++ b!"say") rest .ifToSay := by
  obtain ⟨p1, ha⟩ := tryWord_hit (b!"to") w1 (w2 ++ (b!"say" ++ rest)) (pos + 2) h1.2 ⟨_, _, rfl, by decide⟩ h2.firstNot.1
  obtain ⟨p2, hb⟩ := tryWord_hit (b!"say") w2 rest p1 h2.2 ⟨_, _, rfl, by decide⟩ hf
  simp only [List.cons_append, List.nil_append] at ha hb
  refine ⟨pos, p2, p2, ?_⟩
  rw [show (b!"if" ++ w1 ++ b!"to" ++ w2 ++ b!"say") ++ rest =
    b!"if" ++ (w1 ++ (b!"to" ++ (w2 ++ (b!"say" ++ rest)))) by simp]
  exact step_multi (by decide) mw_if h1.firstNot.2 (by simp [tryAlts, tryWords, ha, hb])

theorem step_ifNotSo (w1 w2 : Bytes) (h1 : WsGap w1) (h2 : WsGap w2) (pos : Nat) (rest : Bytes)
    (hf : FirstNot isAlpha rest) : StepsTo pos (b!"if" ++ w1 ++ b!"not" ++ w2 ++ b!"so") rest .ifNotSo := by
  have hmiss := tryWord_miss (b!"to") w1 (b!"not" ++ (w2 ++ (b!"so" ++ rest))) (pos + 2) h1.2
    (firstNot_cons (by decide)) rfl
  obtain ⟨p1, ha⟩ := tryWord_hit (b!"not") w1 (w2 ++ (b!"so" ++ rest)) (pos + 2) h1.2 ⟨_, _, rfl, by decide⟩ h2.firstNot.1
  obtain ⟨p2, hb⟩ := tryWord_hit (b!"so") w2 rest p1 h2.2 ⟨_, _, rfl, by decide⟩ hf
  simp only [List.cons_append, List.nil_append] at ha hb hmiss
  refine ⟨pos, p2, p2, ?_⟩
  rw [show (b!"if" ++ w1 ++ b!"not" ++ w2 ++ b!"so") ++ rest =
    b!"if" ++ (w1 ++ (b!"not" ++ (w2 ++ (b!"so" ++ rest)))) by simp]
  exact step_multi (by decide) mw_if h1.firstNot.2 (by simp [tryAlts, tryWords, hmiss, ha, hb])

theorem step_smallPass (w1 : Bytes) (h1 : WsGap w1) (pos : Nat) (rest : Bytes)
    (hf : FirstNot isAlpha rest) : StepsTo pos (b!"small" ++ w1 ++ b!"pass") rest .smallPass := by
  obtain ⟨p1, ha⟩ := tryWord_hit (b!"pass") w1 rest (pos + 5) h1.2 ⟨_, _, rfl, by decide⟩ hf
  simp only [List.cons_append, List.nil_append] at ha
  refine ⟨pos, p1, p1, ?_⟩
  rw [show (b!"small" ++ w1 ++ b!"pass") ++ rest = b!"small" ++ (w1 ++ (b!"pass" ++ rest)) by simp]
  exact step_multi (by decide) mw_small h1.firstNot.2 (by simp [tryAlts, tryWords, ha])

theorem chunk_stop {q x : Nat} {chunk Y rest : Bytes} (hc : ∀ b ∈ chunk, notQuoteEsc q b = true ∧ notNl b = true)
    (hx : notQuoteEsc q x = false) (hr : rest = chunk ++ x :: Y) :
    rest.takeWhile (notQuoteEsc q) = chunk ∧ rest.dropWhile (notQuoteEsc q) = x :: Y ∧
      ¬ (rest.takeWhile notNl).length < (rest.takeWhile (notQuoteEsc q)).length := by
  subst hr
  have h1 := takeWhile_append_stop chunk (x :: Y) (fun b hb => (hc b hb).1) (firstNot_cons hx)
  exact ⟨h1.1, h1.2, by rw [h1.1, List.takeWhile_append_of_pos fun b hb => (hc b hb).2, List.length_append]; omega⟩

theorem scanStrLoop_body {q : Nat} (hq : q ∈ quoteChars) {body content : Bytes} {e : Bool}
    (hb : StrBody q body content e) : ∀ (rest : Bytes) (start f : Nat) (c : Cur) (buf : Bytes) (esc0 : Bool)
      (ds : List Diag), c.rest = body ++ q :: rest → body.length < f → (esc0 = false → buf = []) →
      scanStrLoop start q f c buf esc0 ds = ⟨buf ++ content, esc0 || e, ⟨c.pos + body.length + 1, rest⟩, ds⟩ := by
  have hq92 : ¬ (92 == q) = true := by have := (quote_facts hq).2.2.2; simp; omega
  induction hb with
  | plain chunk hc =>
    intro rest start f c buf esc0 ds hr hf hbuf
    cases f with
    | zero => omega
    | succ f =>
      obtain ⟨h1, h2, h3⟩ := chunk_stop hc (by simp [notQuoteEsc]) hr
      rw [scanStrLoop, if_neg h3, h2]; dsimp only
      rw [if_pos (beq_self_eq_true q), h1]
      cases esc0 with
      | false => rw [hbuf rfl]; rfl
      | true => rfl
  | esc chunk x y body' content' e' hc hx _ ih =>
    intro rest start f c buf esc0 ds hr hf hbuf
    cases f with
    | zero => omega
    | succ f =>
      obtain ⟨h1, h2, h3⟩ := chunk_stop (x := 92) (Y := x :: (body' ++ q :: rest)) (rest := c.rest) hc
        (by simp [notQuoteEsc]) (by rw [hr]; simp)
      rw [scanStrLoop, if_neg h3, h2]; dsimp only
      rw [if_neg hq92, hx, h1]; dsimp only
      rw [ih rest start f _ _ true ds rfl (by simp at hf; omega) nofun]
      simp; omega

theorem step_str {q : Nat} (hq : q ∈ quoteChars) {body content : Bytes} {e : Bool} (hb : StrBody q body content e)
    (pos : Nat) (rest : Bytes) : StepsTo pos (q :: body ++ [q]) rest (.str content e) := by
  obtain ⟨h1, h2, h3, _⟩ := quote_facts hq
  have hs := skipWs_stop pos (q :: (body ++ q :: rest)) (firstNot_cons h1)
  have hl := fun f hf => scanStrLoop_body hq hb rest pos f ⟨pos + 1, body ++ q :: rest⟩ [] false []
    rfl hf (fun _ => rfl)
  refine ⟨pos, pos + 1 + body.length + 1, pos + 1 + body.length + 1, ?_⟩
  have hassoc : (q :: body ++ [q]) ++ rest = q :: (body ++ q :: rest) := by simp
  rw [hassoc]
  rw [step, hs]; dsimp only
  rw [if_neg (by simp [h2]), if_pos h3]
  simp only [scanString]
  rw [hl _ (by simp; omega)]
  simp

/-- On every token of the keyword table `FollowOK` is its last, catch-all arm, which is the claim. -/
theorem kw_follow {rest : Bytes} : ∀ e ∈ kwTable, FollowOK e.2 rest → FirstNot isWordCh rest := by
  simp only [kwTable, List.forall_mem_cons]
  simp only [FollowOK, imp_self, and_self, List.not_mem_nil, false_imp_iff, implies_true]

theorem isWord_ne_nil {w : Bytes} (h : isWord w = true) : w ≠ [] := by
  intro he; subst he; simp [isWord] at h

theorem step_lexeme {t : Tok} {text : Bytes} (hl : Lexeme t text) (pos : Nat) (rest : Bytes) (hf : FollowOK t rest) :
    StepsTo pos text rest t ∧ text ≠ [] := by
  cases hl with
  | punct b t h => exact ⟨step_punct h pos rest, nofun⟩
  | kw w t h =>
    have hm := lookup_mem h
    exact ⟨step_kw h pos rest (kw_follow _ hm hf), isWord_ne_nil (kwTable_facts _ hm).1⟩
  | ident w hw hk => exact ⟨step_ident hw hk pos rest hf, isWord_ne_nil hw⟩
  | numInt d hne hd => exact ⟨step_numInt hne hd pos rest hf, hne⟩
  | numFrac d e hne hne' hd he => exact ⟨step_numFrac hne hne' hd he pos rest hf, by simp⟩
  | str q body content esc hq hb => exact ⟨step_str hq hb pos rest, nofun⟩
  | ifToSay w1 w2 h1 h2 => exact ⟨step_ifToSay w1 w2 h1 h2 pos rest hf, by simp⟩
  | ifNotSo w1 w2 h1 h2 => exact ⟨step_ifNotSo w1 w2 h1 h2 pos rest hf, nofun⟩
  | smallPass w1 h1 => exact ⟨step_smallPass w1 h1 pos rest hf, by simp⟩

theorem lexGo_layout {tr : Bytes} (htr : Trail tr) : ∀ (l : Layout), Valid tr l → ∀ (f pos : Nat),
    (render tr l).length < f →
    ∃ sp, lexGo f ⟨pos, render tr l⟩ = (sp, [], false) ∧ sp.map (·.tok) = l.toks := by
  intro l
  induction l with
  | nil =>
    intro _ f pos hf
    exact ⟨[], lexGo_trail htr f pos hf, rfl⟩
  | cons x r ih =>
    obtain ⟨⟨t, text⟩, sep⟩ := x
    intro hv f pos hf
    obtain ⟨hlx, hsep, hfol, hvr⟩ := hv
    obtain ⟨⟨lo, hi, pos', hstep⟩, hne⟩ := step_lexeme hlx pos (sep ++ render tr r) hfol
    have hlen : 0 < text.length := List.length_pos_iff.mpr hne
    cases f with
    | zero => omega
    | succ f =>
      have hr : render tr (((t, text), sep) :: r) = text ++ (sep ++ render tr r) := by simp [render]
      rw [hr] at hf ⊢
      obtain ⟨f', pos'', hf', hsk⟩ := lexGo_sep hsep (render tr r) f pos' (by simp at hf ⊢; omega)
      obtain ⟨sp, hsp, hmap⟩ := ih hvr f' pos'' hf'
      refine ⟨⟨t, ⟨lo, hi⟩⟩ :: sp, ?_, by simp [Layout.toks] at hmap ⊢; exact hmap⟩
      rw [lexGo_tok hstep, hsk, hsp]; rfl

/-- C10 round trip for the whole lexer: a valid layout of a token sequence — any leading separator,
any spelling and separator per token, an optional unfinished comment at the end — lexes to exactly
that sequence (then the parser's EOF), with no diagnostic. -/
theorem lex_layout {lead tr : Bytes} (hlead : Sep lead) (htr : Trail tr) (l : Layout) (hv : Valid tr l) :
    (lex (lead ++ render tr l)).1.map (·.tok) = l.toks ++ [.eof] ∧ (lex (lead ++ render tr l)).2 = [] := by
  obtain ⟨f', pos', hf', hsk⟩ := lexGo_sep hlead (render tr l) ((lead ++ render tr l).length + 1) 0 (Nat.lt_succ_self _)
  obtain ⟨sp, hsp, hmap⟩ := lexGo_layout htr l hv f' pos' hf'
  simp only [lex, lexIter, hsk, hsp, List.map_append, List.map_cons, List.map_nil, eofTok_tok, hmap]
  trivial

end NaijaVerif.Lex
