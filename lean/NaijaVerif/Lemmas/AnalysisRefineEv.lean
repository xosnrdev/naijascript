import NaijaVerif.Lemmas.AnalysisRefineConvAll
/-
BRIDGE: the direction fragment → `Eval` by itself, as a second formulation with the lemmas stated for it.  No module of the
refinement imports this one (`Lemmas/AnalysisRefineTactics.lean` does, for the tactic abbreviations written for `Ev`), and
the bridge theorems do not pass through it: all of it is read off `both` (`Bis.ev`, `bsim`).

`Ev a F`: the `Eval` computation `F`, as a function of its fuel, is eventually constant at a result related to `a`.
`SimAt n` says `Ev` of every function of the fragment at fuel `n` whose result is not `Err.fuel`: `Both` with the fragment's
side known to end.  `MemberCase` and `IndexCase` are its member-call and index-assignment cases as statements of their own,
in the shape of a case of a course-of-values induction on the fuel: each takes `SimAt` at all smaller fuel as a premise.
They hold for every oracle (from `bsim`, without a use for the premise), and for one with `Orc.members = false` already
because `okExpr` / `okStmt` admit no such node.
-/
namespace NaijaVerif.C03
open NaijaVerif NaijaVerif.Analysis

variable {N : Type} [NumOps N]

section
variable {α β γ δ : Type} {B : Brg}

theorem Res.err_bind (k : Eval.RtKind) (sp : Span) (s : Eval.State N) (f : α → Eval.State N → Eval.Res N β) :
    (Eval.Res.err k sp s : Eval.Res N α).bind f = .err k sp s := rfl
theorem Res.panic_bind (site : Eval.PanicSite) (s : Eval.State N) (f : α → Eval.State N → Eval.Res N β) :
    (Eval.Res.panic site s : Eval.Res N α).bind f = .panic site s := rfl

end

def Ev {α β : Type} (B : Brg) (vr : α → β → Prop) (a : AEval.R (VE N) α) (F : Nat → Eval.Res N β) : Prop :=
  ∃ r f0, RSim B vr a r ∧ ∀ f, f0 ≤ f → F f = r

section
variable {α β γ δ : Type} {B : Brg}

omit [NumOps N] in
theorem Ev.bind_err {vr1 : α → β → Prop} {vr : γ → δ → Prop} {er : AEval.Err} {t1 : AEval.St (VE N)}
    {F1 : Nat → Eval.Res N β} {k : Nat → β → Eval.State N → Eval.Res N δ}
    (h : Ev B vr1 ((.error er, t1) : AEval.R (VE N) α) F1) :
    Ev B vr ((.error er, t1) : AEval.R (VE N) γ) (fun f => (F1 f).bind (k f)) := by
  obtain ⟨r, f0, hr, hF⟩ := h
  have hb := ErrSim.bind (show ErrSim er t1 r from hr) (k f0)
  refine ⟨r.bind (k f0), f0, hb.1, fun f hf => ?_⟩
  show (F1 f).bind (k f) = _
  rw [hF f hf]
  exact hb.2 _

omit [NumOps N] in
theorem Ev.bind_ok {vr1 : α → β → Prop} {vr : γ → δ → Prop} {x : α} {t1 : AEval.St (VE N)} {a : AEval.R (VE N) γ}
    {F1 : Nat → Eval.Res N β} {k : Nat → β → Eval.State N → Eval.Res N δ}
    (h : Ev B vr1 ((.ok x, t1) : AEval.R (VE N) α) F1)
    (hk : ∀ y s1, vr1 x y → B.Sim s1 t1 → Ev B vr a (fun f => k f y s1)) :
    Ev B vr a (fun f => (F1 f).bind (k f)) := by
  obtain ⟨r, f0, hr, hF⟩ := h
  obtain ⟨y, s1, rfl, hxy, hs⟩ := (show ∃ y s', r = .ok y s' ∧ vr1 x y ∧ B.Sim s' t1 from hr)
  obtain ⟨r2, f2, hr2, hF2⟩ := hk y s1 hxy hs
  refine ⟨r2, max f0 f2, hr2, fun f hf => ?_⟩
  show (F1 f).bind (k f) = _
  rw [hF f (by omega)]
  exact hF2 f (by omega)

/-- Both branches at once, for a fragment computation written as a `match` on the first result. -/
theorem Ev.bind {vr1 : α → β → Prop} {vr : γ → δ → Prop} {a1 : AEval.R (VE N) α} {a : AEval.R (VE N) γ}
    {K : α → AEval.St (VE N) → AEval.R (VE N) γ}
    {F1 : Nat → Eval.Res N β} {k : Nat → β → Eval.State N → Eval.Res N δ}
    (h : Ev B vr1 a1 F1)
    (hae : ∀ er t1, a1 = (.error er, t1) → a = (.error er, t1))
    (hao : ∀ x t1, a1 = (.ok x, t1) → a = K x t1)
    (hk : ∀ x t1, a1 = (.ok x, t1) → ∀ y s1, vr1 x y → B.Sim s1 t1 → Ev B vr (K x t1) (fun f => k f y s1)) :
    Ev B vr a (fun f => (F1 f).bind (k f)) := by
  obtain ⟨res, t1⟩ := a1
  cases res with
  | error er => rw [hae er t1 rfl]; exact Ev.bind_err h
  | ok x => rw [hao x t1 rfl]; exact Ev.bind_ok h (hk x t1 rfl)

theorem RSim.not_fuel {vr : α → β → Prop} {a : AEval.R (VE N) α} (h : RSim B vr a (.fuel : Eval.Res N β)) : False := by
  obtain ⟨res, t1⟩ := a
  cases res with
  | ok x =>
    obtain ⟨y', s', he, _⟩ := (show ∃ y' s', (Eval.Res.fuel : Eval.Res N β) = .ok y' s' ∧ vr x y' ∧ B.Sim s' t1 from h)
    cases he
  | error er => exact (h : ErrSim er t1 (Eval.Res.fuel : Eval.Res N β))

end

structure SimAt (B : Brg) (n : Nat) : Prop where
  expr : ∀ (e : Expr) (s : Eval.State N) (t : AEval.St (VE N)), okExpr B.o e = true → B.Sim s t →
    NF (AEval.evalExpr B.P B.ac n e t) →
    Ev B Eq (AEval.evalExpr B.P B.ac n e t) (fun f => Eval.evalExpr B.rc f e s)
  list : ∀ (es : List Expr) (s : Eval.State N) (t : AEval.St (VE N)), okExprs B.o es = true → B.Sim s t →
    NF (AEval.evalList B.P B.ac n es t) →
    Ev B Eq (AEval.evalList B.P B.ac n es t) (fun f => Eval.evalSel B.rc f (es.map .ok) s)
  block : ∀ (b : Block) (s : Eval.State N) (t : AEval.St (VE N)), okBlock B.o b = true → B.Sim s t →
    NF (AEval.execBlock B.P B.ac n b.stmts t) →
    Ev B FlowSim (AEval.execBlock B.P B.ac n b.stmts t) (fun f => Eval.execBlock B.rc f b s)
  stmts : ∀ (ss : List Stmt) (s : Eval.State N) (t : AEval.St (VE N)), okStmts B.o ss = true → B.Sim s t →
    NF (AEval.execStmts B.P B.ac n ss t) →
    Ev B FlowSim (AEval.execStmts B.P B.ac n ss t) (fun f => Eval.execStmts B.rc f ss s)
  stmt : ∀ (st : Stmt) (s : Eval.State N) (t : AEval.St (VE N)), okStmt B.o st = true → B.Sim s t →
    NF (AEval.execStmt B.P B.ac n st t) →
    Ev B FlowSim (AEval.execStmt B.P B.ac n st t) (fun f => Eval.execStmt B.rc f st s)
  loop : ∀ (c : Expr) (b : Block) (sp : Span) (s : Eval.State N) (t : AEval.St (VE N)), okExpr B.o c = true →
    okBlock B.o b = true → B.Sim s t → NF (AEval.execLoop B.P B.ac n c b.stmts t) →
    Ev B FlowSim (AEval.execLoop B.P B.ac n c b.stmts t) (fun f => Eval.loopW B.rc f c b sp s)

variable {B : Brg}

def MemberCase (N : Type) [NumOps N] (B : Brg) : Prop :=
  ∀ (n : Nat), (∀ m, m ≤ n → SimAt (N := N) B m) →
    ∀ (obj : Expr) (field : Bytes) (fs sp : Span) (args : List Expr) (fn : Option Nat) (sp2 : Span)
      (s : Eval.State N) (t : AEval.St (VE N)),
      okExpr B.o (.call (.member obj field fs sp) args fn sp2) = true → B.Sim s t →
      NF (AEval.evalExpr B.P B.ac (n + 1) (.call (.member obj field fs sp) args fn sp2) t) →
      Ev B Eq (AEval.evalExpr B.P B.ac (n + 1) (.call (.member obj field fs sp) args fn sp2) t)
        (fun f => Eval.evalExpr B.rc f (.call (.member obj field fs sp) args fn sp2) s)

def IndexCase (N : Type) [NumOps N] (B : Brg) : Prop :=
  ∀ (n : Nat), (∀ m, m ≤ n → SimAt (N := N) B m) →
    ∀ (tg e : Expr) (sid : Option Nat) (sp : Span) (s : Eval.State N) (t : AEval.St (VE N)),
      okStmt B.o (.assignIndex tg e sid sp) = true → B.Sim s t →
      NF (AEval.execStmt B.P B.ac (n + 1) (.assignIndex tg e sid sp) t) →
      Ev B FlowSim (AEval.execStmt B.P B.ac (n + 1) (.assignIndex tg e sid sp) t)
        (fun f => Eval.execStmt B.rc f (.assignIndex tg e sid sp) s)

theorem memberCase_of_false (h : B.o.members = false) : MemberCase N B := by
  intro n _ obj field fs sp args fn sp2 s t hok
  simp [okExpr, h] at hok

theorem indexCase_of_false (h : B.o.members = false) : IndexCase N B := by
  intro n _ tg e sid sp s t hok
  simp [okStmt, h] at hok

omit [NumOps N] in
theorem Bis.ev {α β : Type} {vr : α → β → Prop} {m n : Nat} {G : Nat → AEval.R (VE N) α} {F : Nat → Eval.Res N β}
    (h : Bis B vr m G F) (hn : n ≤ m) (hnf : NF (G n)) : Ev B vr (G n) F := by
  obtain ⟨a, r, hr, hA, hE⟩ := h (Or.inl ⟨n, hn, hnf⟩)
  obtain ⟨f0, hF⟩ := hE.ev
  rw [hA.det n hnf]
  exact ⟨r, f0, hr, hF⟩

theorem bsim (hB : B.Ok N) : ∀ n, SimAt (N := N) B n := fun n =>
  { expr := fun e s t hok hs hnf => ((both hB n).expr e s t hok hs).ev (Nat.le_refl n) hnf
    list := fun es s t hok hs hnf => ((both hB n).list es s t hok hs).ev (Nat.le_refl n) hnf
    block := fun b s t hok hs hnf => ((both hB n).block b s t hok hs).ev (Nat.le_refl n) hnf
    stmts := fun ss s t hok hs hnf => ((both hB n).stmts ss s t hok hs).ev (Nat.le_refl n) hnf
    stmt := fun st s t hok hs hnf => ((both hB n).stmt st s t hok hs).ev (Nat.le_refl n) hnf
    loop := fun c b sp s t hokc hokb hs hnf => ((both hB n).loop c b sp s t hokc hokb hs).ev (Nat.le_refl n) hnf }

theorem memberCase (hB : B.Ok N) : MemberCase N B := fun n _ _ _ _ _ _ _ _ s t hok hs hnf =>
  (bsim hB (n + 1)).expr _ s t hok hs hnf

theorem indexCase (hB : B.Ok N) : IndexCase N B := fun n _ _ _ _ _ s t hok hs hnf =>
  (bsim hB (n + 1)).stmt _ s t hok hs hnf

end NaijaVerif.C03
