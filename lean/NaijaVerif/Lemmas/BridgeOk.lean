import NaijaVerif.Lemmas.BridgeWS
/-
Bridge resolver → evaluator: what the evaluator's residual panic sites rely on, as one decidable predicate
`okBlock C d` on the annotated program; `resolve_ok`: the checker's output has it when no diagnostic is reported.
* arity (`callArity`, `builtinArity`): a global builtin is called with one argument; a user call / definition
  carries a `FunctionId` whose parameter count in `C.arity` (`facts.functions.map paramCount`) is its argument /
  parameter count;
* flow (`flowEscape`): `comot` / `next` only inside a loop of the same function body (`d`);
* shape (`assignIndexEmpty`), literals (`numLit`): the target of an index assignment is an index expression, every
  number lexeme satisfies `C.numOk`.  These two are properties of the parser's output that the checker preserves:
  assumed of its input (`srcBlock`, proved in `Lemmas/BridgeSource.lean`), switchable off (`src_lax`);
* plan (`fnById`): a call in kept code is bound to a kept function.  `resolve_ok` is about `plan := none`; plans are
  added in `Lemmas/BridgeReach.lean` (`ok_reach_block` under `KeptReach`).
A call whose callee is neither a name nor a member (the last `call` arm of `okExpr`) needs no guarantee: the evaluator's
site there, `calleeShape`, is a fixed one (`PanicSite.fixed`), a runtime error under `cfg.panics = false`.
`C03.okBlock` (`Lemmas/AnalysisRefineOk.lean`) is another predicate under the same short name: what C03's evaluator-side
theorem needs, over an oracle; `Lemmas/ResolveStructBridge.lean` is where the two meet.
`check_ok` addresses the arms of the checker as `case1 … case20`, like `check_ws`: see the head of `Lemmas/BridgeWS.lean`.
-/
namespace NaijaVerif.Bridge
open NaijaVerif NaijaVerif.Resolve

structure SCfg where
  /-- parameter count by `FunctionId` -/
  arity : List Nat
  /-- the number lexemes that `NumOps.ofLit` accepts -/
  numOk : Bytes → Bool
  /-- whether the target of an index assignment is required to be an index expression -/
  strictIdx : Bool
  /-- the optimisation plan the program is run with -/
  plan : Option Eval.Plan := none

def SCfg.fnOk (C : SCfg) (fn : Option Nat) (n : Nat) : Bool :=
  match fn with
  | some i => C.arity[i]? == some n
  | none => false

def isIndexExpr : Expr → Bool
  | .index _ _ _ _ => true
  | _ => false

mutual
  def okExpr (C : SCfg) : Expr → Bool
    | .num lex _ => C.numOk lex
    | .bool _ _ | .null _ | .str _ _ | .var _ _ _ => true
    | .binary _ l r _ => okExpr C l && okExpr C r
    | .unary _ x _ => okExpr C x
    | .array es _ => okExprs C es
    | .index a i _ _ => okExpr C a && okExpr C i
    | .member o _ _ _ => okExpr C o
    | .call (.member obj _ _ _) args _ _ => okExpr C obj && okExprs C args
    | .call (.var name _ _) args fn _ =>
        okExprs C args &&
          (if (Eval.GlobalB.ofName name).isSome then args.length == 1
           else C.fnOk fn args.length && !Eval.Plan.prunesFn C.plan fn)
    | .call _ args _ _ => okExprs C args
  def okExprs (C : SCfg) : List Expr → Bool
    | [] => true
    | e :: es => okExpr C e && okExprs C es
end

/-- The evaluator's own skip test (`execStmts`: `if Plan.prunesStmt cfg.plan s.sid then` skip).  A definition
is never skipped: `hoist` registers it whatever `plan.stmts` says (only `plan.fns` decides), so its body can run. -/
def stmtSkipped (plan : Option Eval.Plan) : Stmt → Bool
  | .fnDef _ _ _ _ _ _ _ => false
  | s => Eval.Plan.prunesStmt plan s.sid

theorem stmtSkipped_none (s : Stmt) : stmtSkipped none s = false := by
  cases s <;> simp [stmtSkipped, Eval.Plan.prunesStmt]

theorem stmtSkipped_prunes {plan : Option Eval.Plan} {s : Stmt} (h : stmtSkipped plan s = true) :
    Eval.Plan.prunesStmt plan s.sid = true := by
  cases s <;> first | exact h | (simp [stmtSkipped] at h)

mutual
  /-- `d`: the statement is inside a loop of the function body it belongs to. -/
  def okStmt (C : SCfg) (d : Bool) : Stmt → Bool
    | .assign _ _ e _ _ _ => okExpr C e
    | .assignExisting _ _ e _ _ _ => okExpr C e
    | .assignIndex t e _ _ => okExpr C t && okExpr C e && (!C.strictIdx || isIndexExpr t)
    | .ifS c t e _ _ => okExpr C c && okBlock C d t && okOptBlock C d e
    | .loop c b _ _ => okExpr C c && okBlock C true b
    | .block b _ _ => okBlock C d b
    | .fnDef _ _ ps body fn _ _ => C.fnOk fn ps.length && (Eval.Plan.prunesFn C.plan fn || okBlock C false body)
    | .ret (some e) _ _ => okExpr C e
    | .ret none _ _ => true
    | .brk _ _ => d
    | .cont _ _ => d
    | .expr e _ _ => okExpr C e
  def okStmts (C : SCfg) (d : Bool) : List Stmt → Bool
    | [] => true
    | s :: rest => (stmtSkipped C.plan s || okStmt C d s) && okStmts C d rest
  def okBlock (C : SCfg) (d : Bool) : Block → Bool
    | .mk ss _ => okStmts C d ss
  def okOptBlock (C : SCfg) (d : Bool) : Option Block → Bool
    | none => true
    | some b => okBlock C d b
end

/-! `src…`: the scanner / parser half of `ok…`, as a check of the checker's INPUT.  It reads `C.numOk` and `C.strictIdx`
only (`src_congr`); it takes the whole `C` so that it is stated with the `C` of `okBlock`. -/

mutual
  def srcExpr (C : SCfg) : Expr → Bool
    | .num lex _ => C.numOk lex
    | .bool _ _ | .null _ | .str _ _ | .var _ _ _ => true
    | .binary _ l r _ => srcExpr C l && srcExpr C r
    | .unary _ x _ => srcExpr C x
    | .array es _ => srcExprs C es
    | .index a i _ _ => srcExpr C a && srcExpr C i
    | .member o _ _ _ => srcExpr C o
    | .call c args _ _ => srcExpr C c && srcExprs C args
  def srcExprs (C : SCfg) : List Expr → Bool
    | [] => true
    | e :: es => srcExpr C e && srcExprs C es
end

mutual
  def srcStmt (C : SCfg) : Stmt → Bool
    | .assign _ _ e _ _ _ => srcExpr C e
    | .assignExisting _ _ e _ _ _ => srcExpr C e
    | .assignIndex t e _ _ => srcExpr C t && srcExpr C e && (!C.strictIdx || isIndexExpr t)
    | .ifS c t e _ _ => srcExpr C c && srcBlock C t && srcOptBlock C e
    | .loop c b _ _ => srcExpr C c && srcBlock C b
    | .block b _ _ => srcBlock C b
    | .fnDef _ _ _ body _ _ _ => srcBlock C body
    | .ret (some e) _ _ => srcExpr C e
    | .ret none _ _ => true
    | .brk _ _ => true
    | .cont _ _ => true
    | .expr e _ _ => srcExpr C e
  def srcStmts (C : SCfg) : List Stmt → Bool
    | [] => true
    | s :: rest => srcStmt C s && srcStmts C rest
  def srcBlock (C : SCfg) : Block → Bool
    | .mk ss _ => srcStmts C ss
  def srcOptBlock (C : SCfg) : Option Block → Bool
    | none => true
    | some b => srcBlock C b
end

def SCfg.same (C C' : SCfg) : Prop := C.numOk = C'.numOk ∧ C.strictIdx = C'.strictIdx

theorem src_congr (C C' : SCfg) (h : C.same C') :
    ((∀ e, srcExpr C e = srcExpr C' e) ∧ ∀ es, srcExprs C es = srcExprs C' es) ∧
    (∀ s, srcStmt C s = srcStmt C' s) ∧ (∀ ss, srcStmts C ss = srcStmts C' ss) ∧
      (∀ b, srcBlock C b = srcBlock C' b) ∧ ∀ o, srcOptBlock C o = srcOptBlock C' o := by
  have hE : (∀ e, srcExpr C e = srcExpr C' e) ∧ ∀ es, srcExprs C es = srcExprs C' es := by
    apply Expr.walk <;> intros <;> simp only [srcExpr, srcExprs, h.1, *]
  refine ⟨hE, ?_⟩
  apply Stmt.walk
  case ret => intro e _ _; cases e <;> simp only [srcStmt, hE.1]
  all_goals intros; simp only [srcStmt, srcStmts, srcBlock, srcOptBlock, hE.1, h.2, *]

/-! The conjuncts of `src_congr` one by one (`srcBlock_congr` is the one `srcBlock_arity` takes). -/

theorem srcExprs_congr (C C' : SCfg) (h : C.same C') : ∀ es : List Expr, srcExprs C es = srcExprs C' es :=
  (src_congr C C' h).1.2

theorem srcStmt_congr (C C' : SCfg) (h : C.same C') : ∀ s : Stmt, srcStmt C s = srcStmt C' s :=
  (src_congr C C' h).2.1

theorem srcStmts_congr (C C' : SCfg) (h : C.same C') : ∀ ss : List Stmt, srcStmts C ss = srcStmts C' ss :=
  (src_congr C C' h).2.2.1

theorem srcBlock_congr (C C' : SCfg) (h : C.same C') : ∀ b : Block, srcBlock C b = srcBlock C' b :=
  (src_congr C C' h).2.2.2.1

theorem srcOptBlock_congr (C C' : SCfg) (h : C.same C') : ∀ b : Option Block, srcOptBlock C b = srcOptBlock C' b :=
  (src_congr C C' h).2.2.2.2

theorem srcBlock_arity (C : SCfg) (T : List Nat) (q : Block) :
    srcBlock ⟨[], C.numOk, C.strictIdx, none⟩ q = true ↔ srcBlock ⟨T, C.numOk, C.strictIdx, none⟩ q = true := by
  rw [srcBlock_congr ⟨[], C.numOk, C.strictIdx, none⟩ ⟨T, C.numOk, C.strictIdx, none⟩ ⟨rfl, rfl⟩]

theorem src_all (C : SCfg) (hn : ∀ lx, C.numOk lx = true) (hi : C.strictIdx = false) :
    ((∀ e, srcExpr C e = true) ∧ ∀ es, srcExprs C es = true) ∧
    (∀ s, srcStmt C s = true) ∧ (∀ ss, srcStmts C ss = true) ∧ (∀ b, srcBlock C b = true) ∧
      ∀ o, srcOptBlock C o = true := by
  have hE : (∀ e, srcExpr C e = true) ∧ ∀ es, srcExprs C es = true := by
    apply Expr.walk <;> intros <;> simp [srcExpr, srcExprs, *]
  refine ⟨hE, ?_⟩
  apply Stmt.walk
  case ret => intro e _ _; cases e <;> simp [srcStmt, hE.1]
  all_goals intros; simp [srcStmt, srcStmts, srcBlock, srcOptBlock, hE.1, *]

theorem src_lax (T : List Nat) :
    (∀ e, srcExpr ⟨T, fun _ => true, false, none⟩ e = true) ∧ (∀ b, srcBlock ⟨T, fun _ => true, false, none⟩ b = true) :=
  ⟨(src_all _ (fun _ => rfl) rfl).1.1, (src_all _ (fun _ => rfl) rfl).2.2.2.1⟩

/-- The parameter-count table of `f` is contained in `T`: `T` is the table of the facts the resolver ends with, `f` the
facts at some point of the walk (`FLe f f'` gives `TLe f' T → TLe f T`). -/
def TLe (f : Facts) (T : List Nat) : Prop := ∀ (i n : Nat), (fkey f).2[i]? = some n → T[i]? = some n

theorem TLe.mono {f f' : Facts} {T : List Nat} (h : FLe f f') (ht : TLe f' T) : TLe f T :=
  fun i n hi => ht i n (h.get hi)

/-- `SigOK` against the final table, of every signature in scope: a call bound by `lookupFn` reads its arity off `T`. -/
def SigsOK (T : List Nat) (fs : List (List FnSig)) : Prop := ∀ s ∈ fs, ∀ g ∈ s, T[g.id]? = some g.arity

theorem SigsOK.lookup {T : List Nat} {env : Env} (h : SigsOK T env.fns) {x : Bytes} {g : FnSig}
    (hl : lookupFn env x = some g) : T[g.id]? = some g.arity := by
  obtain ⟨s, hs, hg⟩ := lookupFns_mem hl
  exact h s hs g hg

theorem isIndexExpr_ann (env : Env) (cur : Scope) {t : Expr} (h : isIndexExpr t = true) :
    isIndexExpr (annExpr env cur t) = true := by
  cases t with
  | index => rw [annExpr]; rfl
  | _ => cases h

theorem annExpr_ok (C : SCfg) (hpl : C.plan = none) {env : Env} (cur : Scope) (hs : SigsOK C.arity env.fns) :
    (∀ e, exprDiags env cur e = [] → srcExpr C e = true → okExpr C (annExpr env cur e) = true) ∧
    (∀ es, exprsDiags env cur es = [] → srcExprs C es = true → okExprs C (annExprs env cur es) = true) := by
  -- `Q` carries the length of the annotated list: `okExpr` compares `args'.length` with the arity, the checker `args.length`
  have key := Expr.clean_walk (env := env) (cur := cur)
    (P := fun e e' => srcExpr C e = true → okExpr C e' = true)
    (Q := fun es es' => es'.length = es.length ∧ (srcExprs C es = true → okExprs C es' = true))
    (num := fun _ _ h => h) (bool := fun _ _ _ => rfl) (null := fun _ _ => rfl) (str := fun _ _ _ => rfl)
    (interp := fun _ _ _ _ => rfl) (array := fun _ _ _ h => h.2)
    (index := fun _ _ _ _ _ _ _ _ ha hi hsrc => by
      simp only [srcExpr, okExpr, Bool.and_eq_true] at hsrc ⊢
      exact ⟨ha hsrc.1, hi hsrc.2⟩)
    (var := fun _ _ _ _ _ _ => rfl)
    (binary := fun _ _ _ _ _ _ _ hl hr hsrc => by
      simp only [srcExpr, okExpr, Bool.and_eq_true] at hsrc ⊢
      exact ⟨hl hsrc.1, hr hsrc.2⟩)
    (unary := fun _ _ _ _ _ h => h)
    (callGlobal := fun fname _ _ args args' _ _ g hg hlen ha hsrc => by
      have hg' : (Eval.GlobalB.ofName fname).isSome = true := by rw [← global_tables_agree, hg]; rfl
      simp only [srcExpr, Bool.and_eq_true] at hsrc
      -- one argument: the annotated list is as long as the checked one (`ha.1`), which has the builtin's arity (`hlen`)
      simp only [okExpr, hg', if_true, Bool.and_eq_true, ha.1, hlen, GlobalB.arity, beq_self_eq_true, and_true]
      exact ha.2 hsrc.2)
    (callUser := fun fname _ _ args args' _ _ g hg hl hlen ha hsrc => by
      have hg' : (Eval.GlobalB.ofName fname).isSome = false := by rw [← global_tables_agree, hg]; rfl
      have hnp : Eval.Plan.prunesFn C.plan (some g.id) = false := by rw [hpl]; rfl
      simp only [srcExpr, Bool.and_eq_true] at hsrc
      -- `fnOk`: the table has `g.arity` at `g.id` (`hs.lookup hl`), which is the length of the checked list (`hlen`) and
      -- so of the annotated one (`ha.1`); no plan, nothing removed (`hnp`)
      simp only [okExpr, hg', Bool.false_eq_true, if_false, Bool.and_eq_true, SCfg.fnOk, ha.1, hlen, hs.lookup hl,
        beq_self_eq_true, and_true, hnp, Bool.not_false]
      exact ha.2 hsrc.2)
    (callMember := fun _ _ _ _ _ _ _ _ _ _ ho ha hsrc => by
      simp only [srcExpr, okExpr, Bool.and_eq_true] at hsrc ⊢
      exact ⟨ho hsrc.1, ha.2 hsrc.2⟩)
    (nil := ⟨rfl, fun _ => rfl⟩)
    (cons := fun _ _ _ _ he hes => ⟨congrArg (· + 1) hes.1, fun hsrc => by
      simp only [srcExprs, okExprs, Bool.and_eq_true] at hsrc ⊢
      exact ⟨he hsrc.1, hes.2 hsrc.2⟩⟩)
  exact ⟨key.1, fun es h => (key.2 es h).2⟩

theorem checkExpr_ok (C : SCfg) (hpl : C.plan = none) (env : Env) (cur : Scope) (sid : Nat) (hs : SigsOK C.arity env.fns) :
    ∀ (e : Expr) (f : Facts), srcExpr C e = true → (checkExpr env cur sid e f).ds = [] →
      okExpr C (checkExpr env cur sid e f).val = true := by
  intro e f hsrc h
  rw [checkExpr_ds] at h
  rw [checkExpr_val]
  exact (annExpr_ok C hpl cur hs).1 e h hsrc

theorem checkExprs_ok (C : SCfg) (hpl : C.plan = none) (env : Env) (cur : Scope) (sid : Nat) (hs : SigsOK C.arity env.fns) :
    ∀ (es : List Expr) (f : Facts), srcExprs C es = true → (checkExprs env cur sid es f).ds = [] →
      okExprs C (checkExprs env cur sid es f).val = true := by
  intro es f hsrc h
  rw [checkExprs_ds] at h
  rw [checkExprs_val]
  exact (annExpr_ok C hpl cur hs).2 es h hsrc

/-- The own signature of every definition of `ss` has the definition's parameter count (`defsArity_block`: at the entry of
a block, from `predeclare_clean`); with `SigsOK` this is `fnOk` of the annotated definition. -/
def DefsArity (env : Env) (ss : List Stmt) : Prop :=
  ∀ name n, (name, n) ∈ fnDefs ss → ∀ own rest g, env.fns = own :: rest → findFn own name = some g → g.arity = n

open ResolveStruct in
theorem defsArity_block {env : Env} {parent : Option Nat} {ss : List Stmt} {f : Facts}
    (hds : (blkPre env parent ss f).ds = []) : DefsArity (blkEnvBody env parent ss f) ss := by
  intro name n hmem own rest g he hg
  obtain ⟨hk, hnd⟩ := own_names hds
  have h1 : (g.name, g.arity) ∈ fnDefs ss := by
    rw [← hk, (List.cons.inj he).1]; exact List.mem_map_of_mem (f := sigKey) (findFn_mem hg)
  rw [findFn_name hg] at h1
  exact pairs_unique (by rw [fnDefs_names]; exact hnd) h1 hmem

open ResolveStruct in
/-- The signatures in scope inside a block: the own ones were pushed by predeclaring, before the facts `f'` that the table
bounds. -/
theorem SigsOK.body {T : List Nat} {env : Env} {parent : Option Nat} {ss : List Stmt} {f f' : Facts}
    (hs : SigsOK T env.fns) (hg : FLe (blkPre env parent ss f).facts f') (ht : TLe f' T) :
    SigsOK T (blkSigs env parent ss f :: env.fns) := by
  intro s hs' g hg'
  rcases List.mem_cons.1 hs' with rfl | hs'
  · exact ht _ _ (hg.get ((blkPre_spec env parent ss f).2.2 g hg').2.2)
  · exact hs s hs' g hg'

theorem inLoop_ok {n : Nat} {d : RDiag} (h : errIf (n == 0) d = []) : (n != 0) = true := by
  simp only [bne, errIf_nil h, Bool.not_false]

/-- The arity table bounds the facts AFTER the statement; the facts before it (the fifth argument: `OkS C` and `OkL C` are
motives of the principle as they stand) are not read. -/
def OkS (C : SCfg) (env : Env) (cur : Cur) (s : Stmt) (_ : Facts) (out : SOut) : Prop :=
  SigsOK C.arity env.fns → srcStmt C s = true → DefsOK env cur.seenFns [s] → DefsArity env [s] →
    TLe out.facts C.arity → out.ds = [] → okStmt C (env.inLoop != 0) out.val = true

def OkL (C : SCfg) (env : Env) (cur : Cur) (ss : List Stmt) (_ : Facts) (out : SsOut) : Prop :=
  SigsOK C.arity env.fns → srcStmts C ss = true → DefsOK env cur.seenFns ss → DefsArity env ss →
    TLe out.facts C.arity → out.ds = [] → okStmts C (env.inLoop != 0) out.val = true

/-- `src`, `ok`: `srcBlock C`, `okBlock C` or the `OptBlock` pair. -/
def OkB {α : Type} (src : α → Bool) (ok : Bool → α → Bool) (C : SCfg) (env : Env) (b : α) (out : Out α) : Prop :=
  SigsOK C.arity env.fns → src b = true → TLe out.facts C.arity → out.ds = [] → ok (env.inLoop != 0) out.val = true

theorem check_ok (C : SCfg) (hpl : C.plan = none) :
    (∀ env cur s f, OkS C env cur s f (checkStmt env cur s f)) ∧
    (∀ env parent b f, OkB (srcOptBlock C) (okOptBlock C) C env b (checkOptBlock env parent b f)) ∧
    (∀ env parent b f, OkB (srcBlock C) (okBlock C) C env b (checkBlock env parent b f)) ∧
    (∀ env cur ss f, OkL C env cur ss f (checkStmts env cur ss f)) := by
  apply checkStmt.mutual_induct_unfolding (motive_1 := OkS C)
    (motive_2 := fun env _ b _ => OkB (srcOptBlock C) (okOptBlock C) C env b)
    (motive_3 := fun env _ b _ => OkB (srcBlock C) (okBlock C) C env b) (motive_4 := OkL C)
  case case1 =>
    intro env cur x xs e _ _ sp f0 sid f1 d1 r f2 ty ent _ hs hsrc _ _ _ h
    exact checkExpr_ok C hpl env cur.vars sid hs e f1 hsrc (List.append_eq_nil_iff.1 h).2
  case case2 =>
    intro env cur x xs e _ _ sp f0 sid f1 d1 r f2 ty _ id f3 hs hsrc _ _ _ h
    exact checkExpr_ok C hpl env cur.vars sid hs e f1 hsrc (List.append_eq_nil_iff.1 h).2
  case case3 =>
    intro env cur x xs e _ _ sp f0 sid f1 ent _ f2 r hs hsrc _ _ _ h
    exact checkExpr_ok C hpl env cur.vars sid hs e f2 hsrc h
  case case4 => intro env cur x xs e _ _ sp f0 sid f1 _ r _ _ _ _ _ h; cases h
  case case5 =>
    intro env cur t e _ sp f0 sid f1 rt re f2 hs hsrc _ _ _ h
    simp only [srcStmt, Bool.and_eq_true] at hsrc
    simp only [List.append_eq_nil_iff] at h
    simp only [okStmt, Bool.and_eq_true]
    refine ⟨⟨checkExpr_ok C hpl env cur.vars _ hs t _ hsrc.1.1 h.1.1, checkExpr_ok C hpl env cur.vars _ hs e _ hsrc.1.2 h.1.2⟩, ?_⟩
    cases hstrict : C.strictIdx with
    | false => rfl
    | true =>
      have : isIndexExpr t = true := by simpa [hstrict] using hsrc.2
      simp [rt, checkExpr_val, isIndexExpr_ann _ _ this]
  case case6 =>
    intro env cur c t e _ sp f0 sid f1 rc d f2 envB rt re iht ihe hs hsrc _ _ ht h
    simp only [srcStmt, Bool.and_eq_true] at hsrc
    simp only [List.append_eq_nil_iff] at h
    simp only [okStmt, Bool.and_eq_true]
    exact ⟨⟨checkExpr_ok C hpl env cur.vars _ hs c _ hsrc.1.1 h.1.1.1,
      iht hs hsrc.1.2 (TLe.mono (steps_fle (ResolveStruct.checkOptBlock_steps _ _ _ _)) ht) h.1.2⟩, ihe hs hsrc.2 ht h.2⟩
  case case7 =>
    intro env cur c b _ sp f0 sid f1 rc d f2 envB rb ih hs hsrc _ _ ht h
    simp only [srcStmt, Bool.and_eq_true] at hsrc
    simp only [List.append_eq_nil_iff] at h
    simp only [okStmt, Bool.and_eq_true]
    refine ⟨checkExpr_ok C hpl env cur.vars _ hs c _ hsrc.1 h.1.1, ?_⟩
    have := ih hs hsrc.2 ht h.2
    simpa [envB] using this
  case case8 => exact fun env cur b _ sp f0 ih hs hsrc _ _ ht h => ih hs hsrc ht h
  case case9 => exact fun env cur name nsp ps body _ _ sp f0 hsig _ _ hd _ _ _ => absurd hsig (sigOf_ne_none hd)
  case case10 =>
    intro env cur name nsp ps body _ _ sp f0 sid f1 sig g hsig f2 pscope f3 pr envB rb ih hs hsrc hd hda ht h
    obtain ⟨own, rest, g', heq, hg', hu⟩ := hd.single
    cases Option.some.inj ((sigOf_of heq hg' hu).symm.trans hsig)
    have har : g.arity = ps.length := hda name ps.length (by simp [fnDefs]) own rest g heq hg'
    have hT : C.arity[g.id]? = some g.arity :=
      hs own (by rw [heq]; exact List.mem_cons_self) g (findFn_mem hg')
    -- `pr` is `fnParams env f0 g ps` by definition; `fnOk` of the definition: the table has `g.arity` at `g.id`, the
    -- parameter count of the definition (`har`), and declaring keeps the number of parameters (`hlen`)
    have hlen : pr.1.length = ps.length := (fnParams_spec env f0 g ps).2.2.2.1
    simp only [okStmt, Bool.and_eq_true, SCfg.fnOk, hlen, hT, har, beq_self_eq_true, true_and, Bool.or_eq_true]
    exact Or.inr (ih hs hsrc ht h)
  case case11 =>
    intro env cur _ sp f0 sid f1 d e r hs hsrc _ _ _ h
    exact checkExpr_ok C hpl env cur.vars _ hs e _ hsrc (List.append_eq_nil_iff.1 h).2
  case case13 | case14 => exact fun env cur _ sp f0 _ _ _ _ _ h => inLoop_ok h
  case case15 =>
    intro env cur e _ sp f0 sid f1 r hs hsrc _ _ _ h
    exact checkExpr_ok C hpl env cur.vars _ hs e _ hsrc h
  case case16 =>
    intro env parent ss sp f scope f1 f2 env1 pre sigs r ih hs hsrc ht h
    obtain ⟨h1, h2⟩ := List.append_eq_nil_iff.1 h
    exact ih (hs.body (parent := parent) (steps_fle (ResolveStruct.checkStmts_steps _ ss {} pre.facts)) ht) hsrc
      (defsOK_block h1) (defsArity_block h1) ht h2
  case case18 => exact fun env parent b f ih hs hsrc ht h => ih hs hsrc ht h
  case case20 =>
    intro env cur s ss f r rs ih1 ih2 hs hsrc hd hda ht h
    simp only [srcStmts, Bool.and_eq_true] at hsrc
    obtain ⟨h1, h2⟩ := List.append_eq_nil_iff.1 h
    simp only [okStmts, Bool.and_eq_true, Bool.or_eq_true]
    refine ⟨Or.inr ?_, ?_⟩
    · refine ih1 hs hsrc.1 hd.head ?_ (TLe.mono (steps_fle (ResolveStruct.checkStmts_steps _ _ _ _)) ht) h1
      intro name n hmem
      exact hda name n (by rw [fnDefs_cons]; exact List.mem_append_left _ hmem)
    · refine ih2 hs hsrc.2 (hd.tail f) ?_ ht h2
      intro name n hmem
      exact hda name n (by rw [fnDefs_cons]; exact List.mem_append_right _ hmem)
  case case12 | case19 => intros; exact fun _ _ _ _ _ _ => rfl
  case case17 => intros; exact fun _ _ _ _ => rfl

/-! The conjuncts of `check_ok` for statements, statement lists and optional blocks, each with its motive written out;
`resolve_ok` needs the one for blocks only.  `checkOptBlock_ok` is stated for any `d` that equals the loop flag. -/

theorem checkStmt_ok (C : SCfg) (hpl : C.plan = none) (env : Env) (cur : Cur) (hs : SigsOK C.arity env.fns) :
    ∀ (s : Stmt) (f : Facts), srcStmt C s = true → DefsOK env cur.seenFns [s] → DefsArity env [s] →
      TLe (checkStmt env cur s f).facts C.arity →
      (checkStmt env cur s f).ds = [] → okStmt C (env.inLoop != 0) (checkStmt env cur s f).val = true :=
  fun s f => (check_ok C hpl).1 env cur s f hs

theorem checkStmts_ok (C : SCfg) (hpl : C.plan = none) (env : Env) (hs : SigsOK C.arity env.fns) :
    ∀ (ss : List Stmt) (cur : Cur) (f : Facts), srcStmts C ss = true → DefsOK env cur.seenFns ss →
      DefsArity env ss → TLe (checkStmts env cur ss f).facts C.arity →
      (checkStmts env cur ss f).ds = [] → okStmts C (env.inLoop != 0) (checkStmts env cur ss f).val = true :=
  fun ss cur f => (check_ok C hpl).2.2.2 env cur ss f hs

theorem checkOptBlock_ok (C : SCfg) (hpl : C.plan = none) (env : Env) (parent : Option Nat) (hs : SigsOK C.arity env.fns)
    (d : Bool) (hd : d = (env.inLoop != 0)) :
    ∀ (b : Option Block) (f : Facts), srcOptBlock C b = true →
      TLe (checkOptBlock env parent b f).facts C.arity →
      (checkOptBlock env parent b f).ds = [] → okOptBlock C d (checkOptBlock env parent b f).val = true :=
  fun b f => hd ▸ (check_ok C hpl).2.1 env parent b f hs

def arityTable (r : Resolved) : List Nat := (fkey r.facts).2

theorem resolve_ok (spanLen : Bool) (numOk : Bytes → Bool) (strictIdx : Bool) (q : Block)
    (hsrc : srcBlock ⟨[], numOk, strictIdx, none⟩ q = true) (h : (resolveWith spanLen q).rdiags = []) :
    okBlock ⟨arityTable (resolveWith spanLen q), numOk, strictIdx, none⟩ false (resolveWith spanLen q).root = true := by
  refine (check_ok ⟨arityTable (resolveWith spanLen q), numOk, strictIdx, none⟩ rfl).2.2.1 (rootEnv spanLen) none q
    rootFacts ?_ ?_ ?_ h
  · intro s hs; cases hs
  · exact (srcBlock_arity ⟨[], numOk, strictIdx, none⟩ _ q).1 hsrc
  · intro i n hi; exact hi

end NaijaVerif.Bridge
