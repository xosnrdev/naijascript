import NaijaVerif.Lemmas.ResolveStructSteps
import NaijaVerif.Lemmas.AnalysisRefineOrc
/-
Vocabulary for the scopes of the resolver model: `SOInv` (the scope that declares a local belongs to the local's owner,
`C03.scOwnB`); `NewS`, `After` (which scopes declare the locals a piece of the walk allocates, and that no local allocated
after the piece is declared by a scope allocated inside it: scope ids are never re-used); `orcStmt … orcOptBlock`, the
ORACLE part of `C03.okBlock`.
-/
namespace NaijaVerif.ResolveStruct
open NaijaVerif NaijaVerif.Resolve NaijaVerif.ResolveFacts NaijaVerif.Analysis NaijaVerif.C03

@[simp] theorem locals_checkExpr (env : Env) (cur : Scope) (sid : Nat) (e : Expr) (f : Facts) :
    (checkExpr env cur sid e f).facts.locals = f.locals := (checkExpr_lenE env cur sid e f).locals
@[simp] theorem scopes_checkExpr (env : Env) (cur : Scope) (sid : Nat) (e : Expr) (f : Facts) :
    (checkExpr env cur sid e f).facts.scopes = f.scopes := (checkExpr_lenE env cur sid e f).scopes
@[simp] theorem locals_joinClass (f : Facts) (s : Nat) (c : ExprClass) : (joinClass f s c).locals = f.locals := rfl
@[simp] theorem scopes_joinClass (f : Facts) (s : Nat) (c : ExprClass) : (joinClass f s c).scopes = f.scopes := rfl
@[simp] theorem locals_pushStmt (f : Facts) (o s : Nat) : (pushStmt f o s).locals = f.locals := rfl
@[simp] theorem scopes_pushStmt (f : Facts) (o s : Nat) : (pushStmt f o s).scopes = f.scopes := rfl
@[simp] theorem locals_recStmtWrite (f : Facts) (a b c : Nat) : (recStmtWrite f a b c).locals = f.locals :=
  (primE_lenE (.recStmtWrite f a b c)).locals
@[simp] theorem scopes_recStmtWrite (f : Facts) (a b c : Nat) : (recStmtWrite f a b c).scopes = f.scopes :=
  (primE_lenE (.recStmtWrite f a b c)).scopes
@[simp] theorem locals_recCapWrite (f : Facts) (a b : Nat) : (recCapWrite f a b).locals = f.locals :=
  (primE_lenE (.recCapWrite f a b)).locals
@[simp] theorem scopes_recCapWrite (f : Facts) (a b : Nat) : (recCapWrite f a b).scopes = f.scopes :=
  (primE_lenE (.recCapWrite f a b)).scopes
@[simp] theorem locals_recReadWrite (f : Facts) (a b c : Nat) : (recReadWrite f a b c).locals = f.locals :=
  (recReadWrite_steps f a b c).lenE.locals
@[simp] theorem scopes_recReadWrite (f : Facts) (a b c : Nat) : (recReadWrite f a b c).scopes = f.scopes :=
  (recReadWrite_steps f a b c).lenE.scopes
@[simp] theorem locals_setDefStmt (f : Facts) (fn sid : Nat) : (setDefStmt f fn sid).locals = f.locals := rfl
@[simp] theorem scopes_setDefStmt (f : Facts) (fn sid : Nat) : (setDefStmt f fn sid).scopes = f.scopes := rfl
@[simp] theorem locals_setRootScope (f : Facts) (s : Nat) : (setRootScope f s).locals = f.locals := rfl
@[simp] theorem scopes_setRootScope (f : Facts) (s : Nat) : (setRootScope f s).scopes = f.scopes := rfl
@[simp] theorem locals_pushScope (f : Facts) (p : Option Nat) (o : Nat) : (pushScope f p o).locals = f.locals := rfl
@[simp] theorem scopes_pushScope (f : Facts) (p : Option Nat) (o : Nat) :
    (pushScope f p o).scopes = f.scopes ++ [⟨p, o⟩] := rfl
@[simp] theorem locals_pushLocal (f : Facts) (sl : Bool) (name : Bytes) (o s : Nat) (d : Option Nat) (k : LocalKind) :
    (pushLocal f sl name o s d k).locals = f.locals ++ [⟨name, o, s, d, k⟩] := rfl
@[simp] theorem scopes_pushLocal (f : Facts) (sl : Bool) (name : Bytes) (o s : Nat) (d : Option Nat) (k : LocalKind) :
    (pushLocal f sl name o s d k).scopes = f.scopes := rfl

theorem predeclare_ls (env : Env) (ss : List Stmt) (sigs : List FnSig) (f : Facts) :
    (predeclare env ss sigs f).facts.locals = f.locals ∧ (predeclare env ss sigs f).facts.scopes = f.scopes :=
  predeclare_pushes env (M := fun _ f _ f' => f'.locals = f.locals ∧ f'.scopes = f.scopes) (fun _ _ => ⟨rfl, rfl⟩)
    (fun _ _ _ _ _ _ _ ih => ih) ss sigs f

@[simp] theorem locals_predeclare (env : Env) (ss : List Stmt) (sigs : List FnSig) (f : Facts) :
    (predeclare env ss sigs f).facts.locals = f.locals := (predeclare_ls env ss sigs f).1
@[simp] theorem scopes_predeclare (env : Env) (ss : List Stmt) (sigs : List FnSig) (f : Facts) :
    (predeclare env ss sigs f).facts.scopes = f.scopes := (predeclare_ls env ss sigs f).2

def ScOwn (f : Facts) (sc o : Nat) : Prop := ∃ si, f.scopes[sc]? = some si ∧ si.owner = o

def DSLt (f : Facts) : Prop := ∀ l sc, declScopeOf f l = some sc → sc < f.scopes.length

def SOInv (f : Facts) : Prop := ∀ (l : Nat) (li : LocalInfo), f.locals[l]? = some li → ScOwn f li.declaringScope li.owner

theorem ScOwn.lt {f : Facts} {sc o : Nat} (h : ScOwn f sc o) : sc < f.scopes.length := by
  obtain ⟨si, hs, _⟩ := h
  exact (List.getElem?_eq_some_iff.1 hs).1

theorem ScOwn.mono {f g : Facts} {sc o : Nat} (h : ScOwn f sc o) (hp : Pre f g) : ScOwn g sc o := by
  obtain ⟨si, hs, ho⟩ := h
  exact ⟨si, hp.scope hs, ho⟩

theorem ScOwn.congr {f g : Facts} {sc o : Nat} (h : ScOwn f sc o) (hs : g.scopes = f.scopes) : ScOwn g sc o := by
  unfold ScOwn; rw [hs]; exact h

theorem declScopeOf_mono {f g : Facts} (hp : Pre f g) {l sc : Nat} (h : declScopeOf f l = some sc) :
    declScopeOf g l = some sc := by
  simp only [declScopeOf] at h ⊢
  cases hl : f.locals[l]? with
  | none => simp [hl] at h
  | some li => rw [hp.local hl]; rw [hl] at h; exact h

theorem declScopeOf_old {f g : Facts} (hp : Pre f g) {l : Nat} (hl : l < f.locals.length) :
    declScopeOf g l = declScopeOf f l := by
  cases h : declScopeOf f l with
  | some sc => exact declScopeOf_mono hp h
  | none =>
    simp only [declScopeOf] at h
    have : f.locals[l]? = some f.locals[l] := List.getElem?_eq_getElem hl
    rw [this] at h; cases h

theorem SOInv.congr {f g : Facts} (h : SOInv f) (hl : g.locals = f.locals) (hs : g.scopes = f.scopes) : SOInv g := by
  intro l li hli
  rw [hl] at hli
  exact (h l li hli).congr hs

/-- The scope that declares a local exists, since it has an owner; the `dslt` of `SCx` and `PRes` follows from their `so`. -/
theorem SOInv.dslt {f : Facts} (h : SOInv f) : DSLt f := by
  intro l sc hd
  simp only [declScopeOf] at hd
  cases hl : f.locals[l]? with
  | none => simp [hl] at hd
  | some li =>
    simp only [hl, Option.map_some, Option.some.injEq] at hd
    exact hd ▸ (h l li hl).lt

theorem soInv_root : SOInv rootFacts := by
  intro l li h
  simp [rootFacts] at h

theorem DSLt.pushScope {f : Facts} (h : DSLt f) (p : Option Nat) (o : Nat) : DSLt (pushScope f p o) := by
  intro l sc hd
  have := h l sc hd
  simp only [scopes_pushScope, List.length_append, List.length_singleton]
  omega

theorem SOInv.pushScope {f : Facts} (h : SOInv f) (p : Option Nat) (o : Nat) : SOInv (pushScope f p o) := by
  intro l li hli
  exact (h l li hli).mono (primS_pre (.pushScope f p o))

theorem ScOwn.pushScope (f : Facts) (p : Option Nat) (o : Nat) : ScOwn (pushScope f p o) f.scopes.length o := by
  refine ⟨⟨p, o⟩, ?_, rfl⟩
  simp

theorem declScopeOf_pushLocal_new (f : Facts) (sl : Bool) (name : Bytes) (o s : Nat) (d : Option Nat) (k : LocalKind) :
    declScopeOf (pushLocal f sl name o s d k) f.locals.length = some s := by
  simp [declScopeOf]

theorem SOInv.pushLocal {f : Facts} (h : SOInv f) {o s : Nat} (hs : ScOwn f s o) (sl : Bool) (name : Bytes)
    (d : Option Nat) (k : LocalKind) : SOInv (pushLocal f sl name o s d k) := by
  intro l li hli
  simp only [locals_pushLocal] at hli
  rcases Nat.lt_or_ge l f.locals.length with hlt | hge
  · rw [List.getElem?_append_left hlt] at hli
    exact (h l li hli).congr rfl
  · rw [List.getElem?_append_right hge] at hli
    cases hi : l - f.locals.length with
    | zero =>
      simp only [hi, List.getElem?_cons_zero, Option.some.injEq] at hli
      subst hli
      exact hs.congr rfl
    | succ n => simp [hi] at hli

/-- The locals `[lo, hi)` of `g`: declared by `e` and listed in `D`, or declared by a scope in `[slo, shi)`. -/
def NewS (g : Facts) (lo hi e : Nat) (D : List Nat) (slo shi : Nat) : Prop :=
  ∀ l, lo ≤ l → l < hi →
    (l ∈ D ∧ declScopeOf g l = some e) ∨ (∃ sc, declScopeOf g l = some sc ∧ slo ≤ sc ∧ sc < shi)

/-- No local from `hi` on is declared by a scope in `[slo, shi)`. -/
def After (F : Facts) (hi slo shi : Nat) : Prop :=
  ∀ l sc, hi ≤ l → declScopeOf F l = some sc → ¬ (slo ≤ sc ∧ sc < shi)

theorem NewS.empty (g : Facts) (lo e : Nat) (D : List Nat) (slo shi : Nat) : NewS g lo lo e D slo shi := by
  intro l h1 h2; omega

theorem NewS.append {g1 g : Facts} {lo mid hi e slo smid shi : Nat} {D1 D2 : List Nat}
    (h1 : NewS g1 lo mid e D1 slo smid) (h2 : NewS g mid hi e D2 smid shi) (hp : Pre g1 g) (hs1 : slo ≤ smid)
    (hs2 : smid ≤ shi) : NewS g lo hi e (D1 ++ D2) slo shi := by
  intro l hlo hhi
  rcases Nat.lt_or_ge l mid with hlt | hge
  · rcases h1 l hlo hlt with ⟨ha, hb⟩ | ⟨sc, ha, hb, hc⟩
    · exact Or.inl ⟨List.mem_append_left _ ha, declScopeOf_mono hp hb⟩
    · exact Or.inr ⟨sc, declScopeOf_mono hp ha, hb, Nat.lt_of_lt_of_le hc hs2⟩
  · rcases h2 l hge hhi with ⟨ha, hb⟩ | ⟨sc, ha, hb, hc⟩
    · exact Or.inl ⟨List.mem_append_right _ ha, hb⟩
    · exact Or.inr ⟨sc, ha, Nat.le_trans hs1 hb, hc⟩

theorem NewS.of_nil {g : Facts} {lo hi e slo shi : Nat} (h : NewS g lo hi e [] slo shi) (e' : Nat) (D : List Nat)
    {slo' : Nat} (hs : slo' ≤ slo) : NewS g lo hi e' D slo' shi := by
  intro l hlo hhi
  rcases h l hlo hhi with ⟨ha, _⟩ | ⟨sc, ha, hb, hc⟩
  · cases ha
  · exact Or.inr ⟨sc, ha, Nat.le_trans hs hb, hc⟩

/-- Seen from outside a piece that opened the scope `e` itself, the targets are locals of a scope of the piece like the
others. -/
theorem NewS.absorb {g : Facts} {lo hi e : Nat} {D : List Nat} (h : NewS g lo hi e D (e + 1) g.scopes.length)
    (hd : DSLt g) : NewS g lo hi 0 [] e g.scopes.length := by
  intro l hlo hhi
  rcases h l hlo hhi with ⟨_, hb⟩ | ⟨sc, ha, hb, hc⟩
  · exact Or.inr ⟨e, hb, Nat.le_refl _, hd l e hb⟩
  · exact Or.inr ⟨sc, ha, Nat.le_of_succ_le hb, hc⟩

theorem After.self (F : Facts) (slo shi : Nat) : After F F.locals.length slo shi := by
  intro l sc hl hd
  rw [declScopeOf_none _ _ hl] at hd; cases hd

theorem After.mono {F : Facts} {hi slo shi hi' slo' shi' : Nat} (h : After F hi slo shi) (h1 : hi ≤ hi')
    (h2 : slo ≤ slo') (h3 : shi' ≤ shi) : After F hi' slo' shi' := by
  intro l sc hl hd hr
  exact h l sc (by omega) hd ⟨by omega, by omega⟩

/-- The `After` of what precedes a piece (scopes `[slo, smid)`) from that of the whole and the `NewS` of the piece, which
ends at `g` and allocates the locals `[mid, hi)` and the scopes `[smid, shi)`. -/
theorem After.of_new {F g : Facts} {mid hi e : Nat} {D : List Nat} {slo smid shi : Nat} (hp : Pre g F)
    (hhi : hi = g.locals.length) (hn : NewS g mid hi e D smid shi) (he : e < slo) (ha : After F hi slo shi)
    (hms : smid ≤ shi) : After F mid slo smid := by
  intro l sc hl hd hr
  obtain ⟨hr1, hr2⟩ := hr
  rcases Nat.lt_or_ge l hi with hlt | hge
  · have hold := declScopeOf_old hp (hhi ▸ hlt)
    rw [hold] at hd
    rcases hn l hl hlt with ⟨_, h2⟩ | ⟨sc', h2, h3, h4⟩
    · rw [h2] at hd; cases hd; omega
    · rw [h2] at hd; cases hd; omega
  · exact ha l sc hge hd ⟨hr1, by omega⟩

mutual
  /-- The oracle half of `C03.okStmt … okOptBlock` (`Lemmas/AnalysisRefineOk.lean`): the scope walk establishes it
  (`Lemmas/ResolveStructScopeWalk.lean`), `okStmt_both` (`Lemmas/ResolveStructBridge.lean`) joins it to the annotation half. -/
  def orcStmt (o : Orc) : Stmt → Bool
    | .ifS _ t e _ _ => orcBlock o t && orcOptBlock o e
    | .loop _ b _ _ => orcBlock o b
    | .block b _ _ => orcBlock o b
    | .fnDef _ _ ps body _ _ _ => o.par ps && orcBlock o body
    | .assign .. | .assignExisting .. | .assignIndex .. | .ret .. | .brk .. | .cont .. | .expr .. => true
  def orcStmts (o : Orc) : List Stmt → Bool
    | [] => true
    | s :: rest => orcStmt o s && orcStmts o rest
  def orcBlock (o : Orc) : Block → Bool
    | .mk ss _ => o.blk ss && orcStmts o ss
  def orcOptBlock (o : Orc) : Option Block → Bool
    | none => true
    | some b => orcBlock o b
end

/-- The two conjuncts of `C03.tagOkB` (`Lemmas/AnalysisRefineOrc.lean`) as implications. -/
theorem tagOkB_of {nloc : Nat} {ds : Nat → Option Nat} {tag : Option Nat} {decls : List Nat}
    (h1 : ∀ l ∈ decls, ∃ tg, tag = some tg ∧ ds l = some tg)
    (h2 : ∀ l tg, l < nloc → tag = some tg → ds l = some tg → l ∈ decls) : tagOkB nloc ds tag decls = true := by
  simp only [tagOkB, Bool.and_eq_true, List.all_eq_true, List.mem_range, Bool.or_eq_true, Bool.not_eq_true',
    beq_iff_eq, List.contains_eq_mem, decide_eq_true_eq]
  refine ⟨fun l hl => ?_, fun l hl => ?_⟩
  · obtain ⟨tg, rfl, hd⟩ := h1 l hl
    exact ⟨rfl, hd⟩
  · cases tag with
    | none => left; simp
    | some tg =>
      by_cases hd : ds l = some tg
      · exact Or.inr (h2 l tg hl rfl hd)
      · left; simp [hd]

end NaijaVerif.ResolveStruct
