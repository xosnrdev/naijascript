import NaijaVerif.Lemmas.ResolveShape
/-
What the return-type rounds of `check_block` and the declaration of a function's parameters return.

* The return-type rounds (`retPass`, `retIter`) change nothing of a signature but `ret` (`retIter_core`); a projection of
  the signatures that does not look at `ret` is therefore kept (`map_of_core`).  What the rounds do to `ret` and to their
  change flag is the subject of `Lemmas/ResolveTypesTable.lean`.
* `declareParams sl owner scope ps sc f` numbers the parameters with consecutive local ids from `f.locals.length`
  (`numberParams`), conses an entry per parameter onto the scope (`paramEntries`, in declaration order, so reversed), and
  the facts are one `pushLocal` per parameter (`declareParams_eq`).  A fact that compares `declareParams` with another
  recursion over the parameters (the history of `Walk.declareParams`, the span maps, `declParams` of
  `Lemmas/ResolveLex.lean`) is an induction over the parameters either way and is proved on the definition.
-/
namespace NaijaVerif.Resolve
open NaijaVerif

def FnSig.core (g : FnSig) : FnSig := { g with ret := .dynamic }

theorem retPass_core (env : Env) (makes : List Bytes) :
    ∀ (bodies : List (List Param × Block)) (i : Nat) (sigs : List FnSig) (ch : Bool),
    (retPass env makes bodies i sigs ch).1.map FnSig.core = sigs.map FnSig.core
  | [], _, _, _ => rfl
  | (ps, body) :: bs, i, sigs, ch => by
      rw [retPass]
      split
      · split
        · exact retPass_core env makes bs _ _ _
        · rw [retPass_core env makes bs]
          apply modifyAt_map_key; intro a; rfl
      · exact retPass_core env makes bs _ _ _

theorem retIter_core (env : Env) (makes : List Bytes) (bodies : List (List Param × Block)) :
    ∀ (n : Nat) (sigs : List FnSig), (retIter env makes bodies n sigs).map FnSig.core = sigs.map FnSig.core
  | 0, _ => rfl
  | n + 1, sigs => by
      rw [retIter]
      split
      · rw [retIter_core env makes bodies n, retPass_core]
      · rw [retPass_core]

theorem map_of_core {α : Type} {k : FnSig → α} (hk : ∀ g, k g.core = k g) {l l' : List FnSig}
    (h : l'.map FnSig.core = l.map FnSig.core) : l'.map k = l.map k := by
  have := congrArg (List.map k) h
  simpa only [List.map_map, Function.comp_def, hk] using this

theorem core_mem {l l' : List FnSig} (h : l'.map FnSig.core = l.map FnSig.core) {g' : FnSig} (hg : g' ∈ l') :
    ∃ g ∈ l, g.core = g'.core := by
  have : g'.core ∈ l.map FnSig.core := by rw [← h]; exact List.mem_map_of_mem hg
  obtain ⟨g, hg1, hg2⟩ := List.mem_map.1 this
  exact ⟨g, hg1, hg2⟩

def numberParams : Nat → List Param → List Param
  | _, [] => []
  | n, p :: ps => { p with bind := some n } :: numberParams (n + 1) ps

def paramEntries : Nat → List Param → Scope
  | _, [] => []
  | n, p :: ps => ⟨p.name, .dynamic, n⟩ :: paramEntries (n + 1) ps

theorem declareParams_eq (sl : Bool) (owner scope : Nat) : ∀ (ps : List Param) (sc : Scope) (f : Facts),
    declareParams sl owner scope ps sc f =
      (numberParams f.locals.length ps, (paramEntries f.locals.length ps).reverse ++ sc,
       ps.foldl (fun f p => pushLocal f sl p.name owner scope none .parameter) f)
  | [], _, _ => rfl
  | p :: ps, sc, f => by
      have hl : (pushLocal f sl p.name owner scope none .parameter).locals.length = f.locals.length + 1 := by
        simp [pushLocal]
      rw [declareParams, declareParams_eq sl owner scope ps, hl, numberParams, paramEntries, List.reverse_cons,
        List.append_assoc]
      rfl

theorem paramEntries_map {α : Type} {k : VarEntry → α} {k' : Param → α} (h : ∀ n p, k ⟨p.name, .dynamic, n⟩ = k' p) :
    ∀ (n : Nat) (ps : List Param), (paramEntries n ps).map k = ps.map k'
  | _, [] => rfl
  | n, p :: ps => by rw [paramEntries, List.map_cons, List.map_cons, paramEntries_map h (n + 1) ps, h]

theorem numberParams_binds : ∀ (n : Nat) (ps : List Param),
    (numberParams n ps).map (·.bind) = (List.range' n ps.length).map some
  | _, [] => rfl
  | n, p :: ps => by
      rw [numberParams, List.map_cons, numberParams_binds (n + 1) ps, List.length_cons, List.range'_succ, List.map_cons]

theorem paramEntries_ids : ∀ (n : Nat) (ps : List Param), (paramEntries n ps).map (·.id) = List.range' n ps.length
  | _, [] => rfl
  | n, p :: ps => by rw [paramEntries, List.map_cons, paramEntries_ids (n + 1) ps, List.length_cons, List.range'_succ]

end NaijaVerif.Resolve
