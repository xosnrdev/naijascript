import NaijaVerif.Lemmas.ResolveStructSteps
import NaijaVerif.Lemmas.BridgeRange
import NaijaVerif.Lemmas.BridgeReachClosed
/-
The callees the resolver model records in the per-statement facts are function ids.  A callee is recorded
(`record_stmt_callee`) only for a signature found by `lookup_func`, and every signature in a function scope carries a
`FunctionId` allocated by `predeclare` (`pushFunction`) — below the number of functions the facts end with.  Stated against
that final number `N`: `CLt N` (every recorded callee is below `N`) is kept by a stretch of the history that ends with at
most `N` functions (`KeepsClt`), and the walk over the resolver (`Lemmas/ResolveSteps.lean`) is instantiated with that
relation; its context `SigsIn` says that a signature in scope is below `N` or already allocated.  Hence
`Bridge.calleesInRange` of the resolver model's facts, for EVERY input program, and with `Lemmas/BridgeReachClosed.lean`:
`bodyReachable` has converged.  (An expression list on its own, under the stronger `SigsLt`, needs no bound on the functions:
`checkExprs_clt` reads the expression walk in the relation "keeps `CLt N`"; the statements do not go through it.)
-/
namespace NaijaVerif.ResolveFacts
open NaijaVerif NaijaVerif.Resolve NaijaVerif.ResolveStruct

def CLt (N : Nat) (f : Facts) : Prop := ∀ p ∈ skey f, ∀ g ∈ p.2, g < N

theorem CLt.of_eq {N : Nat} {f f' : Facts} (h : skey f' = skey f) (hc : CLt N f) : CLt N f' := by
  unfold CLt; rw [h]; exact hc

theorem CLt.push {N : Nat} {f : Facts} (o s : Nat) (hc : CLt N f) : CLt N (pushStmt f o s) := by
  intro p hp g hg
  rw [skey_pushStmt, List.mem_append] at hp
  rcases hp with hp | hp
  · exact hc p hp g hg
  · simp only [List.mem_singleton] at hp
    subst hp
    cases hg

theorem CLt.addCallee {N : Nat} {f : Facts} (sid : Nat) {g : Nat} (hg : g < N) (hc : CLt N f) :
    CLt N (recStmtCallee f sid g) := by
  intro p hp x hx
  rw [skey_recStmtCallee] at hp
  rcases mem_modifyAt hp with hp | ⟨a, ha, rfl⟩
  · exact hc p hp x hx
  · rcases mem_addNew.1 hx with hx | rfl
    · exact hc a ha x hx
    · exact hg

theorem CLt.call {N : Nat} {f : Facts} (o sid : Nat) {g : Nat} (hg : g < N) (hc : CLt N f) : CLt N (recCall f o sid g) :=
  CLt.addCallee sid hg (CLt.of_eq (by simp) hc)

/-- Every signature in scope is below `N`: what a walk that starts ANYWHERE can assume (of the facts it starts from nothing
is known).  The context of the walk itself is the weaker `SigsIn`, which block entry can re-establish. -/
def SigsLt (N : Nat) (fns : List (List FnSig)) : Prop := ∀ s ∈ fns, ∀ g ∈ s, g.id < N

theorem SigsLt.lookup {N : Nat} {env : Env} (h : SigsLt N env.fns) {x : Bytes} {g : FnSig}
    (hl : lookupFn env x = some g) : g.id < N := by
  obtain ⟨s, hs, hg⟩ := lookupFns_mem hl
  exact h s hs g hg

section expr
variable {N : Nat} (env : Env) (cur : Scope) (sid : Nat) (hs : SigsLt N env.fns)
include hs

theorem checkExprs_clt : ∀ (es : List Expr) (f : Facts), CLt N f → CLt N (checkExprs env cur sid es f).facts := by
  intro es f
  -- the history of the expressions, read in the relation "keeps `CLt N`": every record keeps it — the callee of a user
  -- call is a signature in scope (`hs`) — and the relation is reflexive and transitive
  have hist : Steps (fun a b => CLt N a → CLt N b) f (checkExprs env cur sid es f).facts :=
    (checkExpr_walk (C := fun _ => True) env cur sid (fun _ _ => .one (CLt.of_eq (by simp)))
      (fun _ _ => .one (CLt.of_eq (by simp))) (fun _ _ _ _ hl => .one (CLt.call _ sid (hs.lookup hl)))
      (fun _ _ _ _ => trivial)).2 es f trivial
  exact Steps.rel (R := fun a b => CLt N a → CLt N b) (fun _ => id) (fun _ _ _ h1 h2 => h2 ∘ h1) (fun _ _ => id) hist

end expr

def KeepsClt (N : Nat) (f g : Facts) : Prop :=
  f.functions.length ≤ g.functions.length ∧ (g.functions.length ≤ N → CLt N f → CLt N g)

theorem KeepsClt.trans {N : Nat} {a b c : Facts} (h1 : KeepsClt N a b) (h2 : KeepsClt N b c) : KeepsClt N a c :=
  ⟨Nat.le_trans h1.1 h2.1, fun hN h => h2.2 hN (h1.2 (Nat.le_trans h2.1 hN) h)⟩

theorem _root_.NaijaVerif.ResolveStruct.Steps.keepsClt {N : Nat} {f g : Facts} (h : Steps (KeepsClt N) f g) :
    KeepsClt N f g :=
  Steps.rel (R := KeepsClt N) (fun _ => ⟨Nat.le_refl _, fun _ => id⟩) (fun _ _ _ => KeepsClt.trans) (fun _ _ => id) h

def SigsIn (N : Nat) (env : Env) (f : Facts) : Prop := ∀ s ∈ env.fns, ∀ g ∈ s, g.id < N ∨ g.id < f.functions.length

theorem primN_keepsClt {N : Nat} {f g : Facts} (h : PrimN f g) : KeepsClt N f g := by
  -- no primitive removes a function: `Pre.nfun` of the primitive as a `StepsS` history; only `pushStmt` touches `skey`
  refine ⟨(primSC_steps h.sc).pre.nfun, fun _ => ?_⟩
  cases h with
  | pushStmt o s => exact CLt.push o s
  | _ => exact CLt.of_eq (by simp)

theorem walkClt (N : Nat) : Walk (KeepsClt N) (SigsIn N) where
  prim := fun h => .one (primN_keepsClt h)
  call := fun {env f0 f x g} hT hs hl => .one ⟨Nat.le_refl _, fun hN => CLt.call _ _ <| by
    obtain ⟨s, hs', hg⟩ := lookupFns_mem hl
    exact (hT s hs' g hg).elim id fun h => Nat.lt_of_lt_of_le h (Nat.le_trans hs.keepsClt.1 hN)⟩
  mono := fun hT hs s hs' g hg => (hT s hs' g hg).imp id fun h => Nat.lt_of_lt_of_le h hs.keepsClt.1
  congr := fun hT h1 _ => by unfold SigsIn; rw [h1]; exact hT
  fnDef := fun _ _ hT _ => hT
  block := fun {env parent ss f} hT s hs g hg => by
    rcases List.mem_cons.1 hs with rfl | hs
    · exact Or.inr (blkSigs_id_lt env parent ss f hg)
    · exact hT s hs g hg

section stmt
variable {N : Nat}

theorem SigsLt.sigsIn {env : Env} (hs : SigsLt N env.fns) (f : Facts) : SigsIn N env f :=
  fun s hs' g hg => Or.inl (hs s hs' g hg)

theorem checkStmt_clt (env : Env) (cur : Cur) (hs : SigsLt N env.fns) : ∀ (s : Stmt) (f : Facts),
    (checkStmt env cur s f).facts.functions.length ≤ N → CLt N f → CLt N (checkStmt env cur s f).facts :=
  fun s f hN h => ((checkStmt_walk (walkClt N)).1 env cur s f (hs.sigsIn f)).keepsClt.2 hN (h.push _ _)
theorem checkStmts_clt (env : Env) (hs : SigsLt N env.fns) : ∀ (ss : List Stmt) (cur : Cur) (f : Facts),
    (checkStmts env cur ss f).facts.functions.length ≤ N → CLt N f → CLt N (checkStmts env cur ss f).facts :=
  fun ss cur f => ((checkStmt_walk (walkClt N)).2.2.2 env cur ss f (hs.sigsIn f)).keepsClt.2
theorem checkBlock_clt (env : Env) (parent : Option Nat) (hs : SigsLt N env.fns) : ∀ (b : Block) (f : Facts),
    (checkBlock env parent b f).facts.functions.length ≤ N → CLt N f → CLt N (checkBlock env parent b f).facts :=
  fun b f => ((checkStmt_walk (walkClt N)).2.2.1 env parent b f (hs.sigsIn f)).keepsClt.2
theorem checkOptBlock_clt (env : Env) (parent : Option Nat) (hs : SigsLt N env.fns) : ∀ (b : Option Block) (f : Facts),
    (checkOptBlock env parent b f).facts.functions.length ≤ N → CLt N f →
    CLt N (checkOptBlock env parent b f).facts :=
  fun b f => ((checkStmt_walk (walkClt N)).2.1 env parent b f (hs.sigsIn f)).keepsClt.2

end stmt

theorem resolveWith_calleesInRange (spanLen : Bool) (q : Block) :
    Bridge.calleesInRange (resolveWith spanLen q).facts = true := by
  have h : CLt (resolveWith spanLen q).facts.functions.length (resolveWith spanLen q).facts :=
    checkBlock_clt (rootEnv spanLen) none (fun s hs => by cases hs) q rootFacts (Nat.le_refl _)
      (fun p hp => by cases hp)
  simp only [Bridge.calleesInRange, List.all_eq_true, decide_eq_true_eq]
  intro e he g hg
  exact h (e.function, e.directCallees) (List.mem_map_of_mem (f := fun e : StmtEffect => (e.function, e.directCallees)) he) g hg

theorem resolveWith_brClosed (spanLen : Bool) (q : Block) :
    (Analysis.mkCtx (resolveWith spanLen q).root (resolveWith spanLen q).facts).brClosed = true :=
  Bridge.bodyReachable_closed_of_range _ _ (resolveWith_calleesInRange spanLen q)

end NaijaVerif.ResolveFacts
