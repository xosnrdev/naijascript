import NaijaVerif.Lemmas.AnalysisReach
import NaijaVerif.Lemmas.AnalysisCong
/-
The relational simulation behind T3, T4 and `c03_partial_ext`: a pruned run (`cfg.skip`, `cfg.dropFn`) is compared with
the plain run.  `Rel`: same output, same function scopes, and environments that agree except on two sets of locals
(predicates): `D2` — locals no statement ever reads (their values may differ) and `D1 ⊆ D2` — locals all of whose stores
are removed (their slots may be missing).  The ghost fields (`trace`, `looked`) are not compared.
-/
namespace NaijaVerif.C03
open NaijaVerif NaijaVerif.Analysis NaijaVerif.AEval

variable {V : Type}

def SlotsRel (D2 : Nat → Bool) : List (Slot V) → List (Slot V) → Prop
  | [], [] => True
  | a :: as, b :: bs => a.id = b.id ∧ (D2 a.id = true ∨ a.val = b.val) ∧ SlotsRel D2 as bs
  | _, _ => False

def keep (D1 : Nat → Bool) : List (Slot V) → List (Slot V)
  | [] => []
  | s :: ss => if D1 s.id then keep D1 ss else s :: keep D1 ss

def ScopeRel (D1 D2 : Nat → Bool) (a b : List (Slot V)) : Prop := SlotsRel D2 (keep D1 a) (keep D1 b)

def EnvRel (D1 D2 : Nat → Bool) : List (Scope V) → List (Scope V) → Prop
  | [], [] => True
  | a :: as, b :: bs => a.tag = b.tag ∧ ScopeRel D1 D2 a.slots b.slots ∧ EnvRel D1 D2 as bs
  | _, _ => False

theorem SlotsRel.refl (D2 : Nat → Bool) : ∀ l : List (Slot V), SlotsRel D2 l l
  | [] => trivial
  | _ :: as => ⟨rfl, Or.inr rfl, SlotsRel.refl D2 as⟩

theorem findSlot_keep {D1 : Nat → Bool} {id : Nat} (h : D1 id = false) : ∀ sc : List (Slot V),
    findSlot id (keep D1 sc) = findSlot id sc
  | [] => rfl
  | s :: ss => by
      have ih := findSlot_keep h ss
      by_cases hs : s.id = id
      · simp [keep, findSlot, hs, h]
      · have hne : (s.id == id) = false := by simpa using hs
        cases hc : D1 s.id <;> simp [keep, hc, findSlot, hne, ih]

theorem findSlot_rel {D2 : Nat → Bool} {id : Nat} (h : D2 id = false) : ∀ (a b : List (Slot V)), SlotsRel D2 a b →
    findSlot id a = findSlot id b
  | [], [], _ => rfl
  | x :: xs, y :: ys, hr => by
      obtain ⟨hid, hv, hrest⟩ := hr
      have ih := findSlot_rel h xs ys hrest
      simp only [findSlot, ← hid]
      by_cases hx : x.id = id
      · have : x.val = y.val := by
          rcases hv with hv | hv
          · rw [hx, h] at hv; cases hv
          · exact hv
        simp [hx, this]
      · have hne : (x.id == id) = false := by simpa using hx
        simp [hne, ih]

theorem findScope_rel {D1 D2 : Nat → Bool} (tg : Nat) :
    ∀ (a b : List (Scope V)), EnvRel D1 D2 a b →
      ORel (fun x y => ScopeRel D1 D2 x.slots y.slots) (findScope tg a) (findScope tg b)
  | [], [], _ => by simp [findScope, ORel]
  | x :: xs, y :: ys, hr => by
      obtain ⟨ht, hs, hrest⟩ := hr
      simp only [findScope, ← ht]
      split
      · exact hs
      · exact findScope_rel tg xs ys hrest

theorem d1_of_d2 {D1 D2 : Nat → Bool} (hd : ∀ l, D1 l = true → D2 l = true) {l : Nat} (h : D2 l = false) : D1 l = false := by
  cases hc : D1 l with
  | false => rfl
  | true => rw [hd l hc] at h; cases h

theorem lookup_rel {D1 D2 : Nat → Bool} (hd : ∀ l, D1 l = true → D2 l = true) {id : Nat} (h : D2 id = false)
    (ds : Nat → Option Nat) (a b : List (Scope V)) (hr : EnvRel D1 D2 a b) :
    lookupEnv ds id a = lookupEnv ds id b := by
  have h1 := d1_of_d2 hd h
  simp only [lookupEnv]
  cases ds id with
  | none => rfl
  | some tg =>
    dsimp only
    rcases (findScope_rel tg a b hr).cases with ⟨ea, eb⟩ | ⟨sa, sb, ea, eb, hf⟩
    · rw [ea, eb]
    · rw [ea, eb]
      dsimp only
      rw [← findSlot_keep h1 sa.slots, ← findSlot_keep h1 sb.slots]
      exact findSlot_rel h _ _ hf

theorem setSlot_rel {D2 : Nat → Bool} {id : Nat} {v1 v2 : V} (hv : D2 id = true ∨ v1 = v2) :
    ∀ (a b : List (Slot V)), SlotsRel D2 a b → ORel (SlotsRel D2) (setSlot id v1 a) (setSlot id v2 b)
  | [], [], _ => trivial
  | x :: xs, y :: ys, hr => by
      obtain ⟨hid, hvv, hrest⟩ := hr
      simp only [setSlot, ← hid]
      by_cases hx : (x.id == id) = true
      · rw [if_pos hx, if_pos hx]
        exact ⟨rfl, hv.imp_left fun h => by rw [← beq_iff_eq.mp hx] at h; exact h, hrest⟩
      · rw [if_neg hx, if_neg hx]
        exact (setSlot_rel hv xs ys hrest).map fun _ _ h => ⟨hid, hvv, h⟩

theorem setSlot_keep {D1 : Nat → Bool} {id : Nat} {v : V} (h : D1 id = false) : ∀ sc : List (Slot V),
    (setSlot id v sc).map (keep D1) = setSlot id v (keep D1 sc)
  | [] => rfl
  | s :: ss => by
      have ih := setSlot_keep (v := v) h ss
      by_cases hs : s.id = id
      · simp [setSlot, keep, hs, h]
      · have hne : (s.id == id) = false := by simpa using hs
        cases hc : D1 s.id
        · simp only [setSlot, hne, keep, hc, Bool.false_eq_true, ↓reduceIte]
          rw [← ih]
          cases setSlot id v ss <;> simp [keep, hc]
        · simp only [setSlot, hne, keep, hc, Bool.false_eq_true, ↓reduceIte]
          rw [← ih]
          cases setSlot id v ss <;> simp [keep, hc]

theorem setIn_rel {D1 D2 : Nat → Bool} {tg id : Nat} {v1 v2 : V} (h1 : D1 id = false) (hv : D2 id = true ∨ v1 = v2) :
    ∀ (a b : List (Scope V)), EnvRel D1 D2 a b →
    ORel (EnvRel D1 D2) (setIn tg id v1 a) (setIn tg id v2 b)
  | [], [], _ => trivial
  | x :: xs, y :: ys, hr => by
      obtain ⟨ht, hs, hrest⟩ := hr
      simp only [setIn, ← ht]
      by_cases hx : (x.tag == some tg) = true
      · rw [if_pos hx, if_pos hx]
        have hk := setSlot_rel hv _ _ hs
        rw [← setSlot_keep h1 x.slots, ← setSlot_keep h1 y.slots] at hk
        exact hk.of_map.map fun _ _ h => ⟨rfl, h, hrest⟩
      · rw [if_neg hx, if_neg hx]
        exact (setIn_rel h1 hv xs ys hrest).map fun _ _ h => ⟨ht, hs, h⟩

theorem assign_rel {D1 D2 : Nat → Bool} {id : Nat} {v1 v2 : V} (h1 : D1 id = false) (hv : D2 id = true ∨ v1 = v2)
    (ds : Nat → Option Nat) (a b : List (Scope V)) (hr : EnvRel D1 D2 a b) :
    ORel (EnvRel D1 D2) (assignEnv ds id v1 a) (assignEnv ds id v2 b) := by
  simp only [assignEnv]
  cases ds id with
  | none => simp [ORel]
  | some tg => exact setIn_rel h1 hv a b hr

theorem setSlot_some {id : Nat} {v : V} {s : Slot V} {ss b' : List (Slot V)} (h : setSlot id v (s :: ss) = some b') :
    (s.id = id ∧ b' = { s with val := v } :: ss) ∨ (s.id ≠ id ∧ ∃ t, setSlot id v ss = some t ∧ b' = s :: t) := by
  unfold setSlot at h
  by_cases hx : s.id = id
  · rw [if_pos (beq_iff_eq.mpr hx)] at h
    exact Or.inl ⟨hx, (Option.some.inj h).symm⟩
  · rw [if_neg (fun hb => hx (beq_iff_eq.mp hb))] at h
    cases e : setSlot id v ss with
    | none => rw [e] at h; cases h
    | some t => rw [e] at h; exact Or.inr ⟨hx, t, rfl, (Option.some.inj h).symm⟩

theorem setIn_some {tg id : Nat} {v : V} {sc : Scope V} {scs b' : List (Scope V)} (h : setIn tg id v (sc :: scs) = some b') :
    (sc.tag = some tg ∧ ∃ s', setSlot id v sc.slots = some s' ∧ b' = { sc with slots := s' } :: scs) ∨
    (sc.tag ≠ some tg ∧ ∃ t, setIn tg id v scs = some t ∧ b' = sc :: t) := by
  unfold setIn at h
  by_cases hx : sc.tag = some tg
  · rw [if_pos (beq_iff_eq.mpr hx)] at h
    cases e : setSlot id v sc.slots with
    | none => rw [e] at h; cases h
    | some s' => rw [e] at h; exact Or.inl ⟨hx, s', rfl, (Option.some.inj h).symm⟩
  · rw [if_neg (fun hb => hx (beq_iff_eq.mp hb))] at h
    cases e : setIn tg id v scs with
    | none => rw [e] at h; cases h
    | some t => rw [e] at h; exact Or.inr ⟨hx, t, rfl, (Option.some.inj h).symm⟩

theorem keep_setSlot_dead {D1 : Nat → Bool} {id : Nat} {v : V} (h1 : D1 id = true) :
    ∀ (b b' : List (Slot V)), setSlot id v b = some b' → keep D1 b' = keep D1 b
  | s :: ss, b', hs => by
      rcases setSlot_some hs with ⟨hx, rfl⟩ | ⟨_, t, ht, rfl⟩
      · simp only [keep, hx, h1, if_true]
      · simp only [keep, keep_setSlot_dead h1 ss t ht]

theorem slotsRel_setSlot_plain {D2 : Nat → Bool} {id : Nat} {v : V} (h2 : D2 id = true) :
    ∀ (x y y' : List (Slot V)), SlotsRel D2 x y → setSlot id v y = some y' → SlotsRel D2 x y'
  | [], _ :: _, _, hxy, _ => by cases hxy
  | p :: ps, q :: qs, y', hxy, hy => by
      obtain ⟨hid, hvv, hrest⟩ := hxy
      rcases setSlot_some hy with ⟨hq, rfl⟩ | ⟨_, t, ht, rfl⟩
      · exact ⟨hid, Or.inl (by rw [hid, hq]; exact h2), hrest⟩
      · exact ⟨hid, hvv, slotsRel_setSlot_plain h2 ps qs t hrest ht⟩

theorem setSlot_plain {D1 D2 : Nat → Bool} {id : Nat} {v : V} (h2 : D2 id = true) (a b b' : List (Slot V))
    (hr : ScopeRel D1 D2 a b) (hs : setSlot id v b = some b') : ScopeRel D1 D2 a b' := by
  cases h1 : D1 id with
  | true =>
    simp only [ScopeRel, keep_setSlot_dead h1 b b' hs]
    exact hr
  | false =>
    have hk := setSlot_keep (v := v) h1 b
    rw [hs] at hk
    simp only [Option.map_some] at hk
    exact slotsRel_setSlot_plain h2 _ _ _ hr hk.symm

theorem setIn_plain {D1 D2 : Nat → Bool} {tg id : Nat} {v : V} (h2 : D2 id = true) :
    ∀ (a b b' : List (Scope V)), EnvRel D1 D2 a b → setIn tg id v b = some b' → EnvRel D1 D2 a b'
  | [], _ :: _, _, hr, _ => by cases hr
  | x :: xs, y :: ys, b', hr, h => by
      obtain ⟨ht, hs, hrest⟩ := hr
      rcases setIn_some h with ⟨_, y', e, rfl⟩ | ⟨_, t, f, rfl⟩
      · exact ⟨ht, setSlot_plain h2 x.slots y.slots y' hs e, hrest⟩
      · exact ⟨ht, hs, setIn_plain h2 xs ys t hrest f⟩

theorem assign_plain {D1 D2 : Nat → Bool} {id : Nat} {v : V} (h2 : D2 id = true) (ds : Nat → Option Nat)
    (a b b' : List (Scope V)) (hr : EnvRel D1 D2 a b) (h : assignEnv ds id v b = some b') : EnvRel D1 D2 a b' := by
  simp only [assignEnv] at h
  cases hd : ds id with
  | none => simp [hd] at h
  | some tg =>
    simp only [hd] at h
    exact setIn_plain h2 a b b' hr h

theorem define_rel {D1 D2 : Nat → Bool} {id : Nat} {v : V} :
    ∀ (a b : List (Scope V)), EnvRel D1 D2 a b → EnvRel D1 D2 (defineEnv id v a) (defineEnv id v b)
  | [], [], _ => trivial
  | x :: xs, y :: ys, hr => by
      obtain ⟨ht, hs, hrest⟩ := hr
      refine ⟨ht, ?_, hrest⟩
      simp only [ScopeRel, keep]
      cases hc : D1 id
      · simp only [Bool.false_eq_true, ↓reduceIte]
        exact ⟨rfl, Or.inr rfl, hs⟩
      · simp only [↓reduceIte]
        exact hs

theorem define_plain {D1 D2 : Nat → Bool} {id : Nat} {v : V} (h1 : D1 id = true) :
    ∀ (a b : List (Scope V)), EnvRel D1 D2 a b → EnvRel D1 D2 a (defineEnv id v b)
  | [], [], _ => trivial
  | x :: xs, y :: ys, hr => by
      obtain ⟨ht, hs, hrest⟩ := hr
      refine ⟨ht, ?_, hrest⟩
      simp only [ScopeRel, keep, h1, ↓reduceIte]
      exact hs

theorem EnvRel.drop {D1 D2 : Nat → Bool} : ∀ {a b : List (Scope V)}, EnvRel D1 D2 a b →
    EnvRel D1 D2 (a.drop 1) (b.drop 1)
  | [], [], _ => trivial
  | _ :: _, _ :: _, hr => hr.2.2

theorem EnvRel.push {D1 D2 : Nat → Bool} {a b : List (Scope V)} (sc : Scope V)
    (h : EnvRel D1 D2 a b) : EnvRel D1 D2 (sc :: a) (sc :: b) :=
  ⟨rfl, SlotsRel.refl D2 _, h⟩

/-- The endings of the plain run for which nothing is claimed: fuel exhaustion (stack / time budget), use of a
variable before its declaration, and `panic`: a failed `expect` / `unreachable!` of the interpreter, which C06 excludes
for accepted programs. -/
def Bad {α : Type} (r : Except Err α) : Prop := r = .error .fuel ∨ r = .error .unbound ∨ r = .error .panic

/-- What a `PureNoTrap` expression can still end in: `Bad` without `panic`.  (The `2` is not that of `Inv2`, `FnsOk2`, `D2`.) -/
def Bad2 {α : Type} (r : Except Err α) : Prop := r = .error .fuel ∨ r = .error .unbound

theorem Bad2.bad {α : Type} {r : Except Err α} (h : Bad2 r) : Bad r := h.elim Or.inl (fun h => Or.inr (Or.inl h))

theorem bad_fuel {α : Type} : Bad (.error .fuel : Except Err α) := Or.inl rfl
theorem bad_unbound {α : Type} : Bad (.error .unbound : Except Err α) := Or.inr (Or.inl rfl)
theorem bad_panic {α : Type} : Bad (.error .panic : Except Err α) := Or.inr (Or.inr rfl)

theorem Bad.error {α β : Type} {x : Except Err α} (h : Bad x) : ∃ e, x = .error e ∧ Bad (.error e : Except Err β) := by
  rcases h with rfl | rfl | rfl
  · exact ⟨_, rfl, bad_fuel⟩
  · exact ⟨_, rfl, bad_unbound⟩
  · exact ⟨_, rfl, bad_panic⟩

theorem Bad.bind {α β : Type} {x : Except Err α} (h : Bad x) (k : α → Except Err β) : Bad (x.bind k) := by
  obtain ⟨e, rfl, hb⟩ := Bad.error (β := β) h
  exact hb

/-- An initialiser the plan may drop. -/
def Quiet (P : Prims V) (e : Expr) : Prop :=
  ∀ (cfg : Cfg) (n : Nat) (st : St V),
    (evalExpr P cfg n e st).2 = st ∧ ((∃ v, (evalExpr P cfg n e st).1 = .ok v) ∨ Bad2 (evalExpr P cfg n e st).1)

structure Setup where
  T : List (Nat × Bool)
  fnOf : Nat → Nat
  callees : Nat → List Nat
  BR : Nat → Bool
  D1 : Nat → Bool
  D2 : Nat → Bool
  cfg : Cfg

/-- `d12` is the `D1 ⊆ D2` of the head; `closed` is `BRClosed` and `func` is `tbl_functional`, read off the program by
`setup_ok` (`Props/C03.lean`). -/
structure SetupOk (S : Setup) : Prop where
  closed : ∀ i, (i, true) ∈ S.T → S.BR (S.fnOf i) = true → ∀ g ∈ S.callees i, S.BR g = true
  drop : ∀ g, S.BR g = true → S.cfg.dropFn g = false
  d12 : ∀ l, S.D1 l = true → S.D2 l = true
  func : ∀ i, (i, true) ∈ S.T → (i, false) ∉ S.T

/-- Statement `i` belongs to function `f`, and its expressions call only its OWN recorded callees and mention no never-read
local: checkable statement by statement.  `SetupOk.closed` lifts the callees to `BR` (`base_ok`). -/
def Setup.base (S : Setup) (f i : Nat) (es : List Expr) : Prop :=
  S.fnOf i = f ∧ eOkList (fun g => (S.callees i).contains g) S.D2 es = true

/-- A store may be skipped only if it is unreachable or a quiet store to a never-read local (a declaration: to a
local all of whose stores are removed); a store that is kept must not target a local whose slot may be missing. -/
def Setup.storeRule (S : Setup) (P : Prims V) (i : Nat) (isDecl : Bool) (b : Option Nat) (e : Expr) : Prop :=
  (S.cfg.skip i = true → (i, false) ∈ S.T ∨
    ∃ l, b = some l ∧ (if isDecl then S.D1 l = true else S.D2 l = true) ∧ Quiet P e) ∧
  (S.cfg.skip i = false → ∀ l, b = some l → S.D1 l = false)

def Setup.otherRule (S : Setup) (i : Nat) : Prop := S.cfg.skip i = true → (i, false) ∈ S.T

mutual
  /-- `s`, a statement of function `f`, and everything below it meet `base` and the rule of their form; the body of a
  nested definition is checked under its own function id. -/
  def SOk (P : Prims V) (S : Setup) (f : Nat) : Stmt → Prop
    | .assign _ _ e b (some i) _ => S.base f i [e] ∧ S.storeRule P i true b e
    | .assignExisting _ _ e b (some i) _ => S.base f i [e] ∧ S.storeRule P i false b e
    | .assignIndex t e (some i) _ => S.base f i [t, e] ∧ S.otherRule i
    | .ifS c (.mk t _) none (some i) _ => S.base f i [c] ∧ S.otherRule i ∧ SOkList P S f t
    | .ifS c (.mk t _) (some (.mk e _)) (some i) _ =>
        S.base f i [c] ∧ S.otherRule i ∧ SOkList P S f t ∧ SOkList P S f e
    | .loop c (.mk b _) (some i) _ => S.base f i [c] ∧ S.otherRule i ∧ SOkList P S f b
    | .block (.mk b _) (some i) _ => S.base f i [] ∧ S.otherRule i ∧ SOkList P S f b
    | .fnDef _ _ _ (.mk body _) (some g) (some i) _ => S.base f i [] ∧ S.otherRule i ∧ SOkList P S g body
    | .fnDef _ _ _ (.mk _ _) none (some i) _ => S.base f i [] ∧ S.otherRule i
    | .ret (some e) (some i) _ => S.base f i [e] ∧ S.otherRule i
    | .ret none (some i) _ => S.base f i [] ∧ S.otherRule i
    | .brk (some i) _ => S.base f i [] ∧ S.otherRule i
    | .cont (some i) _ => S.base f i [] ∧ S.otherRule i
    | .expr e (some i) _ => S.base f i [e] ∧ S.otherRule i
    | .fnDef _ _ _ (.mk body _) (some g) none _ => SOkList P S g body
    | .assign _ _ _ _ none _ | .assignExisting _ _ _ _ none _ | .assignIndex _ _ none _
    | .ifS _ (.mk _ _) none none _ | .ifS _ (.mk _ _) (some (.mk _ _)) none _ | .loop _ (.mk _ _) none _
    | .block (.mk _ _) none _ | .fnDef _ _ _ (.mk _ _) none none _ | .ret _ none _ | .brk none _ | .cont none _
    | .expr _ none _ => True
  def SOkList (P : Prims V) (S : Setup) (f : Nat) : List Stmt → Prop
    | [] => True
    | s :: ss => SOk P S f s ∧ SOkList P S f ss
end

def FnsOk2 (P : Prims V) (S : Setup) (fns : List (List FnDef)) : Prop :=
  FnsAll (fun fd => SOkList P S fd.id fd.body) fns

def Inv2 (P : Prims V) (S : Setup) (st : St V) : Prop :=
  Inv S.T st ∧ FnsOk2 P S st.fns ∧ (∀ g ∈ st.looked, S.BR g = true)

/-- `a`: pruned state, `b`: plain state. -/
def Rel (S : Setup) (a b : St V) : Prop :=
  a.out = b.out ∧ a.fns = b.fns ∧ EnvRel S.D1 S.D2 a.env b.env

/-- The parameters of the outcome notion and of the expression congruence (`Lemmas/AnalysisCong.lean`) for this
simulation.  `(simRel P S).Out a b`, pruned `a`, plain `b`, is `(Bad b.1 ∨ (a.1 = b.1 ∧ Rel S a.2 b.2)) ∧ Inv2 P S b.2`: only an
ending of the PLAIN run excuses a difference, and the plain run keeps `Inv2` whatever its ending. -/
def simRel (P : Prims V) (S : Setup) : ExprRel V :=
  { R := Rel S, I := Inv2 P S, B := Bad, X := S.BR, D := S.D2 }

structure Sim (P : Prims V) (S : Setup) (n : Nat) : Prop where
  expr : ∀ (e : Expr) (a b : St V), eOk S.BR S.D2 e = true → Rel S a b → Inv2 P S b →
    (simRel P S).Out (evalExpr P S.cfg n e a) (evalExpr P plain n e b)
  list : ∀ (es : List Expr) (a b : St V), eOkList S.BR S.D2 es = true → Rel S a b → Inv2 P S b →
    (simRel P S).Out (evalList P S.cfg n es a) (evalList P plain n es b)
  block : ∀ (ss : List Stmt) (a b : St V) (f : Nat), ConsStmts S.T true ss → SOkList P S f ss → S.BR f = true →
    Rel S a b → Inv2 P S b → (simRel P S).Out (execBlock P S.cfg n ss a) (execBlock P plain n ss b)
  stmts : ∀ (ss : List Stmt) (a b : St V) (f : Nat), ConsStmts S.T true ss → SOkList P S f ss → S.BR f = true →
    Rel S a b → Inv2 P S b → (simRel P S).Out (execStmts P S.cfg n ss a) (execStmts P plain n ss b)
  stmt : ∀ (s : Stmt) (a b : St V) (f i : Nat), s.sid = some i → S.cfg.skip i = false → ConsStmt S.T true s →
    SOk P S f s → S.BR f = true → Rel S a b → Inv2 P S b →
    (simRel P S).Out (execStmt P S.cfg n s a) (execStmt P plain n s b)
  loop : ∀ (c : Expr) (bd : List Stmt) (a b : St V) (f : Nat), eOk S.BR S.D2 c = true → ConsStmts S.T true bd →
    SOkList P S f bd → S.BR f = true → Rel S a b → Inv2 P S b →
    (simRel P S).Out (execLoop P S.cfg n c bd a) (execLoop P plain n c bd b)

theorem sim_zero (P : Prims V) (S : Setup) : Sim P S 0 where
  expr _ _ _ _ _ hi := .bad bad_fuel hi
  list _ _ _ _ _ hi := .bad bad_fuel hi
  block _ _ _ _ _ _ _ _ hi := .bad bad_fuel hi
  stmts _ _ _ _ _ _ _ _ hi := .bad bad_fuel hi
  stmt _ _ _ _ _ _ _ _ _ _ _ hi := .bad bad_fuel hi
  loop _ _ _ _ _ _ _ _ _ _ hi := .bad bad_fuel hi

end NaijaVerif.C03
