import NaijaVerif.Lemmas.AnalysisRefineEv
/- BRIDGE: tactic abbreviations for a step of a refinement proof in the one-directional formulation: the split on a
sub-result followed by the sequencing rule.  `ev_sub`, `ev_subr` are for a proof stated with `Ev`
(`Lemmas/AnalysisRefineEv.lean`: `Ev.bind_err` / `Ev.bind_ok`); `ev'_sub`, `ev'_subr` are for the converse direction stated
with a relation `Ev'`, which is not declared, nor are most of the lemmas they name, so they cannot expand.  No proof in the
tree calls any of the four. -/
namespace NaijaVerif.C03
open NaijaVerif NaijaVerif.Analysis

/-- `ev_sub X as v t1 s1 hs1 with h hnf` (`h : NF X → Ev B Eq X F`, `hnf`: the whole does not exhaust its fuel): closes the error case by `Ev.bind_err`, enters `Ev.bind_ok` with the value `v`, the fragment's state `t1` and the related state `s1` of `Eval`. -/
macro "ev_sub " X:term " as " v:ident t1:ident s1:ident hs1:ident " with " h:ident hnf:ident : tactic => `(tactic| (
  generalize $X = a__ at $hnf:ident $h:ident ⊢
  rcases a__ with ⟨er__ | $v:ident, $t1:ident⟩
  · exact Ev.bind_err ($h (nf_err $hnf))
  refine Ev.bind_ok ($h (nf_ok _ _)) (fun y__ $s1 hy__ $hs1 => ?_)
  subst hy__
  clear $h
  dsimp only at $hnf:ident ⊢))

/-- As `ev_sub` for a value relation other than equality: `y` is the related value of `Eval`. -/
macro "ev_subr " X:term " as " v:ident t1:ident y:ident s1:ident hy:ident hs1:ident " with " h:ident hnf:ident : tactic =>
  `(tactic| (
  generalize $X = a__ at $hnf:ident $h:ident ⊢
  rcases a__ with ⟨er__ | $v:ident, $t1:ident⟩
  · exact Ev.bind_err ($h (nf_err $hnf))
  refine Ev.bind_ok ($h (nf_ok _ _)) (fun $y $s1 $hy $hs1 => ?_)
  clear $h
  dsimp only at $hnf:ident ⊢))

/-- `ev'_sub X as y s1 t1 hs1 with ih hr hne`: the split of `ev_sub` on a result `X` of `Eval` (`hr : X.bind k = res`, `hne : res ≠ fuel`). -/
macro "ev'_sub " X:term " as " y:ident s1:ident t1:ident hs1:ident " with " ih:ident hr:ident hne:ident : tactic =>
  `(tactic| (
  generalize $X = r1__ at $hr:ident $ih:ident
  rcases r1__ with ⟨y__, $s1:ident⟩ | ⟨kd__, esp__, $s1:ident⟩ | ⟨site__, $s1:ident⟩ | _
  rotate_left
  · simp only [Res.err_bind] at $hr:ident
    subst $hr
    obtain ⟨a1__, n1__, hsim__, hG__⟩ := $ih (ne_fuel_err _ _ _)
    obtain ⟨er__, $t1:ident, ha__, herr__⟩ := RSim.inv_err hsim__
    subst ha__
    dsimp only at hG__
    refine Ev'.rw n1__ (fun n hn => by rw [hG__ n hn]) ?_
    exact Ev'.const (RSim.err herr__)
  · simp only [Res.panic_bind] at $hr:ident
    subst $hr
    obtain ⟨a1__, n1__, hsim__, hG__⟩ := $ih (ne_fuel_panic _ _)
    obtain ⟨er__, $t1:ident, ha__, herr__⟩ := RSim.inv_panic hsim__
    subst ha__
    dsimp only at hG__
    refine Ev'.rw n1__ (fun n hn => by rw [hG__ n hn]) ?_
    exact Ev'.const (RSim.err herr__)
  · simp only [Res.fuel_bind] at $hr:ident
    exact absurd (Eq.symm $hr) $hne
  obtain ⟨a1__, n1__, hsim__, hG__⟩ := $ih (ne_fuel_ok _ _)
  obtain ⟨$y:ident, $t1:ident, ha__, hxy__, $hs1:ident⟩ := RSim.inv_ok hsim__
  subst ha__
  subst hxy__
  dsimp only at hG__
  refine Ev'.rw n1__ (fun n hn => by rw [hG__ n hn]) ?_
  clear hG__ $ih
  simp only [Res.ok_bind] at $hr:ident
  try dsimp only))

/-- As `ev'_sub` for a value relation other than equality: `y` is the fragment's value, `y'` the one of `Eval`. -/
macro "ev'_subr " X:term " as " y:ident y':ident s1:ident t1:ident hy:ident hs1:ident " with " ih:ident hr:ident hne:ident : tactic =>
  `(tactic| (
  generalize $X = r1__ at $hr:ident $ih:ident
  rcases r1__ with ⟨$y':ident, $s1:ident⟩ | ⟨kd__, esp__, $s1:ident⟩ | ⟨site__, $s1:ident⟩ | _
  rotate_left
  · simp only [Res.err_bind] at $hr:ident
    subst $hr
    obtain ⟨a1__, n1__, hsim__, hG__⟩ := $ih (ne_fuel_err _ _ _)
    obtain ⟨er__, $t1:ident, ha__, herr__⟩ := RSim.inv_err hsim__
    subst ha__
    dsimp only at hG__
    refine Ev'.rw n1__ (fun n hn => by rw [hG__ n hn]) ?_
    exact Ev'.const (RSim.err herr__)
  · simp only [Res.panic_bind] at $hr:ident
    subst $hr
    obtain ⟨a1__, n1__, hsim__, hG__⟩ := $ih (ne_fuel_panic _ _)
    obtain ⟨er__, $t1:ident, ha__, herr__⟩ := RSim.inv_panic hsim__
    subst ha__
    dsimp only at hG__
    refine Ev'.rw n1__ (fun n hn => by rw [hG__ n hn]) ?_
    exact Ev'.const (RSim.err herr__)
  · simp only [Res.fuel_bind] at $hr:ident
    exact absurd (Eq.symm $hr) $hne
  obtain ⟨a1__, n1__, hsim__, hG__⟩ := $ih (ne_fuel_ok _ _)
  obtain ⟨$y:ident, $t1:ident, ha__, $hy:ident, $hs1:ident⟩ := RSim.inv_ok hsim__
  subst ha__
  dsimp only at hG__
  refine Ev'.rw n1__ (fun n hn => by rw [hG__ n hn]) ?_
  clear hG__ $ih
  simp only [Res.ok_bind] at $hr:ident
  try dsimp only))

end NaijaVerif.C03
