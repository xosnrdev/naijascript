import NaijaVerif.Lemmas.Mem
import NaijaVerif.Lemmas.MemErase
/-
The evaluator's case combinators and, by induction on the fuel, the whole evaluator of `Model/Mem.lean`, for both
judgments of C02 at once (`Both`): the run under `Cfg.fixed` keeps `Safe` (T1, T2 in the numbering of
`Props/C02.lean`) and it runs in lock step with the run under `Cfg.noReclaim` (T3). A combinator's lemma proves the
pair, the unary half by the rules of `Triple` and the relational half by those of `RTriple`: the two logics share
the shape of the evaluator and nothing else (`Safe` and `R` read disjoint parts of the state), so the halves have no
step in common, but there is one statement per combinator and one walk over `eval` / `exec`.
-/
namespace NaijaVerif.Mem
open NaijaVerif NaijaVerif.Pool

/-- Both judgments on a step `m₁` of the reclaiming run and the corresponding step `m₂` of the other run: from a
safe state with nothing in hand `m₁` ends in `Q₁`, and the two run in lock step and end in `Q₂`. -/
structure Both {α : Type} (Q₁ : α → St → Prop) (Q₂ : α → α → St → St → Prop) (m₁ m₂ : M α) : Prop where
  ok : Triple (Safe []) m₁ Q₁
  rel : RTriple R m₁ m₂ Q₂

/-- An expression-level step: it starts with nothing in hand and ends with its value, and only that, in hand; the
two values are related. -/
abbrev EvalBoth (m₁ m₂ : M MVal) : Prop := Both (fun v => Safe v.handles) RVal m₁ m₂

/-- A statement-level step: everything pending is on the temporaries stack; the two results are equal. -/
abbrev StepBoth {α : Type} (m₁ m₂ : M α) : Prop := Both (fun _ => Safe []) REq m₁ m₂

theorem Both.ite {Q₁ : α → St → Prop} {Q₂ : α → α → St → St → Prop} {c : Prop} [Decidable c]
    {t₁ t₂ e₁ e₂ : M α} (ht : Both Q₁ Q₂ t₁ t₂) (he : Both Q₁ Q₂ e₁ e₂) :
    Both Q₁ Q₂ (if c then t₁ else e₁) (if c then t₂ else e₂) :=
  ⟨Triple.ite ht.ok he.ok, RTriple.ite ht.rel he.rel⟩

/-- Here the logics differ: `Triple` admits a benign stop only, `RTriple` any pair of stops. -/
theorem Both.halt {Q₁ : α → St → Prop} {Q₂ : α → α → St → St → Prop} (o₁ o₂ : Stop) (h : o₁.benign) :
    Both Q₁ Q₂ (halt o₁) (halt o₂) :=
  ⟨Triple.halt_benign _ h, RTriple.halt _ _⟩

theorem Both.bindE {m₁ m₂ : M α} {k₁ k₂ : α → M β} {Q₁ : β → St → Prop} {Q₂ : β → β → St → St → Prop}
    (h₁ : StepBoth m₁ m₂) (h₂ : ∀ a, Both Q₁ Q₂ (k₁ a) (k₂ a)) : Both Q₁ Q₂ (m₁ >>= k₁) (m₂ >>= k₂) :=
  ⟨Triple.bind h₁.ok (fun a => (h₂ a).ok), RTriple.bindE h₁.rel (fun a => (h₂ a).rel)⟩

theorem Safe.drop {xs : List Handle} {s : St} (h : Safe xs s) : Safe [] s := h.mono (Sub.nil _)

theorem popClean_spec (xs : List Handle) :
    Triple (Safe xs) (popClean Cfg.fixed)
      (fun v s => Safe (v.handles ++ xs) s ∧ NoFrame v.handles) := by
  rw [popClean_fixed]
  refine Triple.intro fun s h => ?_
  have hp := (popT_spec xs).sat h
  unfold popT at hp
  unfold popCleanChecked
  split
  · rename_i v r ht
    rw [ht] at hp
    split
    · rename_i hall
      exact ⟨hp, fun a ha => by simpa using List.all_eq_true.mp hall a ha⟩
    · trivial
  · trivial

theorem Safe.static {xs : List Handle} {s : St} (h : Safe xs s) : Safe (staticStr :: xs) s :=
  h.cons rfl (.inr (.inl rfl)) rfl nofun

theorem Safe.appendNil {xs : List Handle} {s : St} : Safe (xs ++ []) s ↔ Safe xs s := by
  rw [List.append_nil]

theorem pushT_ok (v : MVal) : Triple (Safe v.handles) (pushT v) (fun _ => Safe []) :=
  (pushT_spec [] v).pre (fun _ h => Safe.appendNil.mpr h)

theorem promoteIf_ok (v : MVal) :
    Triple (Safe v.handles) (promoteIf Cfg.fixed v) (fun v' s => Safe v'.handles s ∧ NoFrame v'.handles) :=
  ((promoteIf_spec v []).pre (fun _ h => Safe.appendNil.mpr h)).post
    (fun _ _ h => ⟨Safe.appendNil.mp h.1, h.2⟩)

theorem scalar_ok {xs : List Handle} :
    Triple (Safe xs) (pure MVal.scalar) (fun v => Safe v.handles) :=
  Triple.pure _ (fun _ h => h.drop)

theorem static_rel : REval (pure (.leaf staticStr)) (pure (.leaf staticStr)) :=
  RTriple.pure _ _ (fun _ _ h => ⟨h, rfl, rfl⟩)

theorem scalar_both : EvalBoth (pure .scalar) (pure .scalar) := ⟨scalar_ok, scalar_rel⟩

theorem static_both : EvalBoth (pure (.leaf staticStr)) (pure (.leaf staticStr)) :=
  ⟨Triple.pure _ (fun _ h => h.static), static_rel⟩

theorem pure_both (a : α) : StepBoth (pure a : M α) (pure a) := ⟨Triple.ret a, pure_rel a⟩

theorem errAt_both (k : Nat) (sp : Span) : StepBoth (errAt k sp) (errAt k sp) :=
  ⟨errAt_spec [] k sp, errAt_rel k sp⟩

theorem getFn_both (fid : Nat) : StepBoth (getFn fid) (getFn fid) := ⟨getFn_spec [] fid, getFn_rel fid⟩

theorem interpE_both (segs : List Seg) : EvalBoth (interpE segs) (interpE segs) := by
  unfold interpE
  exact ⟨Triple.bind (readSegs_spec [] segs) (fun _ => newLeaf_spec [] true),
    RTriple.bind (readSegs_rel segs) (fun _ _ => newLeaf_rel true)⟩

theorem varE_both (id : Nat) : EvalBoth (varE Cfg.fixed id) (varE Cfg.noReclaim id) := by
  unfold varE
  refine ⟨Triple.bind (getVar_spec [] id) (fun v => ?_), RTriple.bindV (getVar_rel id)
    (fun v₁ v₂ hv => RTriple.heapBoth (copyRead_heapOnly _ v₁) (copyRead_heapOnly _ v₂) hv)⟩
  intro s hs
  have := copyRead_spec s.env v [] (fun a ha => hs.2.mem ha) s ⟨hs.1, rfl⟩
  exact ⟨fun v' s' hm => Safe.appendNil.mp (this.1 v' s' hm).1, this.2⟩

theorem discardE_both {e₁ e₂ : M MVal} (he : EvalBoth e₁ e₂) : EvalBoth (discardE e₁) (discardE e₂) := by
  unfold discardE
  exact ⟨Triple.bind he.ok (fun _ => scalar_ok), RTriple.bindV he.rel (fun _ _ _ => scalar_rel)⟩

theorem andOrE_both {l₁ l₂ r₁ r₂ : M MVal} (hl : EvalBoth l₁ l₂) (hr : EvalBoth r₁ r₂) :
    EvalBoth (andOrE l₁ r₁) (andOrE l₂ r₂) := by
  unfold andOrE
  refine ⟨?_, ?_⟩
  · refine Triple.bind hl.ok (fun _ => ?_)
    refine Triple.bind (Q := fun _ => Safe []) ((tokWith_spec _ _ _ _).pre (fun s h => h.drop)) (fun b => ?_)
    exact Triple.ite (Triple.bind hr.ok (fun _ => scalar_ok)) scalar_ok
  · refine RTriple.bindV hl.rel (fun _ _ _ => ?_)
    exact RTriple.bindE (tokWith_rel _ _ _ _)
      (fun b => RTriple.ite (RTriple.bindV hr.rel (fun _ _ _ => scalar_rel)) scalar_rel)

theorem binE_both (op : BinOp) (sp : Span) {l₁ l₂ r₁ r₂ : M MVal} (hl : EvalBoth l₁ l₂)
    (hr : EvalBoth r₁ r₂) : EvalBoth (binE op sp l₁ r₁) (binE op sp l₂ r₂) := by
  unfold binE
  refine ⟨?_, ?_⟩
  · refine Triple.bind hl.ok (fun lv => ?_)
    refine Triple.bind (pushT_ok lv) (fun _ => ?_)
    refine Triple.bind hr.ok (fun rv => ?_)
    refine Triple.bind (popT_spec rv.handles) (fun lv' => ?_)
    exact binop_spec op lv' rv sp
  · refine RTriple.bindV hl.rel (fun lv₁ lv₂ hlv => ?_)
    refine RTriple.bind (pushT_rel hlv) (fun _ _ => ?_)
    refine RTriple.bindV hr.rel (fun rv₁ rv₂ hrv => ?_)
    refine RTriple.bindV popT_rel (fun lv₁' lv₂' hlv' => ?_)
    exact binop_rel op sp hlv' hrv

theorem arrayE_both {e₁ e₂ : M Nat} (he : StepBoth e₁ e₂) : EvalBoth (arrayE e₁) (arrayE e₂) := by
  unfold arrayE
  refine ⟨?_, ?_⟩
  · refine Triple.bind (allocFrame_spec [] false _) (fun b => ?_)
    refine Triple.bind (pushT_ok (.arr b [])) (fun _ => ?_)
    refine Triple.bind he.ok (fun n => ?_)
    refine Triple.bind (popN_spec [] n []) (fun xs => ?_)
    refine Triple.bind (popT_spec _) (fun shell => ?_)
    split
    · exact Triple.pure _ (fun s h => h.mono (fun p => by
        simp only [MVal.handles, List.countP_append, List.countP_cons]; omega))
    · exact Triple.halt_benign _ trivial
  · refine RTriple.bind (alloc_rel (allocFrame_heapOnly false 0)) (fun b₁ b₂ => RTriple.assume (fun hb => ?_))
    refine RTriple.bind (pushT_rel (v₁ := .arr b₁ []) (v₂ := .arr b₂ []) ⟨hb.1, trivial⟩) (fun _ _ => ?_)
    refine RTriple.bindE he.rel (fun n => ?_)
    refine RTriple.bind (popN_rel n trivial) (fun xs₁ xs₂ => RTriple.assume (fun hx => ?_))
    refine RTriple.bindV popT_rel (fun sh₁ sh₂ hs => ?_)
    cases sh₁ <;> cases sh₂ <;> simp only [VRel] at hs
    · exact RTriple.halt _ _
    · exact RTriple.halt _ _
    · exact RTriple.pure _ _ (fun _ _ h => ⟨h, hs.1, hx⟩)

theorem indexE_both (isp : Span) {a₁ a₂ i₁ i₂ : M MVal} (ha : EvalBoth a₁ a₂) (hi : EvalBoth i₁ i₂) :
    EvalBoth (indexE isp a₁ i₁) (indexE isp a₂ i₂) := by
  unfold indexE
  refine ⟨?_, ?_⟩
  · refine Triple.bind ha.ok (fun av => ?_)
    refine Triple.bind (pushT_ok av) (fun _ => ?_)
    refine Triple.bind hi.ok (fun iv => ?_)
    refine Triple.bind (popT_spec iv.handles) (fun av' => ?_)
    split
    · rename_i b xs
      refine Triple.bind (errAt_spec _ _ _) (fun _ => ?_)
      refine Triple.bind (errAt_spec _ _ _) (fun _ => ?_)
      refine Triple.bind (tokWith_spec _ _ _ _) (fun k => ?_)
      refine Triple.bind (Q := fun _ => Safe ((MVal.arr b xs).handles ++ MVal.scalar.handles)) ?_ (fun _ => ?_)
      · exact (readH_spec _ 53 b).pre (fun s h => ⟨h, by simp [MVal.handles]⟩)
      · split
        · rename_i x hx
          exact Triple.pure _
            (fun s h => h.mono ((handlesL_getElem hx).trans ((Sub.right [b] _).trans (Sub.left _ _))))
        · exact Triple.halt_benign _ trivial
    · exact shapeError_spec
    · exact Triple.halt_benign _ trivial
  · refine RTriple.bindV ha.rel (fun av₁ av₂ hav => ?_)
    refine RTriple.bind (pushT_rel hav) (fun _ _ => ?_)
    refine RTriple.bindV hi.rel (fun iv₁ iv₂ hiv => ?_)
    refine RTriple.bindV popT_rel (fun x₁ x₂ hx => ?_)
    cases x₁ <;> cases x₂ <;> simp only [VRel] at hx
    · cases iv₁ <;> cases iv₂ <;> exact RTriple.halt _ _
    · cases iv₁ <;> cases iv₂ <;> exact RTriple.halt _ _
    · cases iv₁ <;> cases iv₂ <;> simp only [VRel] at hiv
      · refine RTriple.bindE (errAt_rel 6 isp) (fun _ => ?_)
        refine RTriple.bindE (errAt_rel 4 isp) (fun _ => ?_)
        refine RTriple.bindE (tokWith_rel _ _ _ _) (fun k => ?_)
        refine RTriple.bind (readH_rel 53 hx.1) (fun _ _ => ?_)
        obtain ⟨h₁, h₂⟩ | ⟨x₁, x₂, h₁, h₂, hk⟩ := (hx.2.getElem? k).cases <;> rw [h₁, h₂]
        · exact RTriple.halt _ _
        · exact RTriple.pure _ _ (fun _ _ h => ⟨h, hk⟩)
      · exact shapeError_rel
      · exact shapeError_rel

theorem pushFailE_both {a₁ a₂ : M MVal} (ha : EvalBoth a₁ a₂) :
    EvalBoth (pushFailE Cfg.fixed a₁) (pushFailE Cfg.noReclaim a₂) := by
  unfold pushFailE
  refine ⟨Triple.bind ha.ok (fun v => ?_), RTriple.bindV ha.rel (fun v₁ v₂ hv => ?_)⟩
  · exact Triple.bind (promoteIf_ok v) (fun _ => shapeError_spec)
  · exact RTriple.bindV (promoteIf_rel hv) (fun _ _ _ => shapeError_rel)

theorem argsFailE_both {a₁ a₂ : M Unit} (ha : StepBoth a₁ a₂) : EvalBoth (argsFailE a₁) (argsFailE a₂) := by
  unfold argsFailE
  exact ⟨Triple.bind ha.ok (fun _ => shapeError_spec), RTriple.bindE ha.rel (fun _ => shapeError_rel)⟩

theorem pushE_both (id : Nat) {a₁ a₂ : M MVal} {i₁ i₂ : M (List Nat)} (ha : EvalBoth a₁ a₂)
    (hi : StepBoth i₁ i₂) : EvalBoth (pushE Cfg.fixed id a₁ i₁) (pushE Cfg.noReclaim id a₂ i₂) := by
  unfold pushE
  refine ⟨?_, ?_⟩
  · refine Triple.bind ha.ok (fun v => ?_)
    refine Triple.bind (promoteIf_ok v) (fun v' => ?_)
    refine Triple.bind ((pushT_ok v').pre (fun _ h => h.1)) (fun _ => ?_)
    refine Triple.bind hi.ok (fun path => ?_)
    refine Triple.bind (popClean_spec []) (fun v'' => ?_)
    refine Triple.assume (fun hv => ?_)
    refine Triple.bind (modifyVar_spec [] v''.handles id path _ ?_ hv) (fun _ => scalar_ok)
    intro a a' r hg
    split at hg
    · cases hg
      intro p
      simp only [MVal.handles, handlesL_append, MVal.handlesL, List.countP_append, List.countP_cons,
        List.countP_nil]
      omega
    · cases hg
  · refine RTriple.bindV ha.rel (fun v₁ v₂ hv => ?_)
    refine RTriple.bindV (promoteIf_rel hv) (fun p₁ p₂ hp => ?_)
    refine RTriple.bind (pushT_rel hp) (fun _ _ => ?_)
    refine RTriple.bindE hi.rel (fun path => ?_)
    refine RTriple.bindV popClean_rel (fun q₁ q₂ hq => ?_)
    refine RTriple.bindV (modifyVar_rel id path ?_) (fun _ _ _ => scalar_rel)
    intro x₁ x₂
    fun_cases VRel x₁ x₂
    · exact fun _ => trivial
    · exact fun _ => trivial
    · exact fun hx => ⟨⟨hx.1, hx.2.append ⟨hq, trivial⟩⟩, trivial⟩
    · exact False.elim

theorem popRevE_both (isPop : Bool) (id : Nat) {i₁ i₂ : M (List Nat)} (hi : StepBoth i₁ i₂) :
    EvalBoth (popRevE isPop id i₁) (popRevE isPop id i₂) := by
  unfold popRevE
  refine ⟨Triple.bind hi.ok (fun path => Triple.ite ?_ ?_),
    RTriple.bindE hi.rel (fun path => RTriple.ite (modifyVar_rel id path ?_) (modifyVar_rel id path ?_))⟩
  · refine Triple.post (modifyVar_spec [] [] id path _ ?_ NoFrame.nil) (fun r s h => Safe.appendNil.mp h)
    intro a a' r hg
    split at hg
    · rename_i b xs
      cases hg
      intro p
      have := handlesL_dropLast xs p
      simp only [MVal.handles, List.countP_append, List.countP_cons, List.countP_nil]; omega
    · cases hg
  · refine Triple.post (modifyVar_spec [] [] id path _ ?_ NoFrame.nil) (fun r s h => Safe.appendNil.mp h)
    intro a a' r hg
    split at hg
    · rename_i b xs
      cases hg
      intro p
      have := handlesL_reverse xs p
      simp only [MVal.handles, List.countP_append, List.countP_cons, List.countP_nil]; omega
    · cases hg
  · intro x₁ x₂
    fun_cases VRel x₁ x₂
    · exact fun _ => trivial
    · exact fun _ => trivial
    · exact fun hx => ⟨⟨hx.1, hx.2.dropLast⟩, hx.2.getLast⟩
    · exact False.elim
  · intro x₁ x₂
    fun_cases VRel x₁ x₂
    · exact fun _ => trivial
    · exact fun _ => trivial
    · exact fun hx => ⟨⟨hx.1, hx.2.reverse⟩, trivial⟩
    · exact False.elim

theorem cmdMutE_both (id : Nat) {a₁ a₂ : M Unit} {i₁ i₂ : M (List Nat)} (ha : StepBoth a₁ a₂)
    (hi : StepBoth i₁ i₂) : EvalBoth (cmdMutE id a₁ i₁) (cmdMutE id a₂ i₂) := by
  unfold cmdMutE
  refine ⟨?_, ?_⟩
  · refine Triple.bind ha.ok (fun _ => ?_)
    refine Triple.bind hi.ok (fun path => ?_)
    refine Triple.bind (modifyVar_spec [] [] id path _ ?_ NoFrame.nil) (fun _ => scalar_ok)
    intro a a' r hg
    split at hg
    · split at hg
      · cases hg
      · cases hg; exact Sub.refl _
    · cases hg
  · refine RTriple.bindE ha.rel (fun _ => ?_)
    refine RTriple.bindE hi.rel (fun path => ?_)
    refine RTriple.bindV (modifyVar_rel id path ?_) (fun _ _ _ => scalar_rel)
    intro x₁ x₂
    fun_cases VRel x₁ x₂
    · exact fun _ => trivial
    · rename_i h₁ h₂
      intro hx
      dsimp only
      rw [hx.2]
      cases h₂.isStr with
      | true => trivial
      | false => exact ⟨hx, trivial⟩
    · exact fun _ => trivial
    · exact False.elim

theorem methodKind_rel {v₁ v₂ : MVal} (h : VRel v₁ v₂) (field : Bytes) :
    methodKind v₁ field = methodKind v₂ field := by
  cases v₁ <;> cases v₂ <;> simp only [VRel] at h <;> simp only [methodKind]
  rw [h.2]

theorem methodE_both (field : Bytes) (sp : Span) {r₁ r₂ : M MVal} {a₁ a₂ : M Nat} (hr : EvalBoth r₁ r₂)
    (ha : StepBoth a₁ a₂) : EvalBoth (methodE field sp r₁ a₁) (methodE field sp r₂ a₂) := by
  unfold methodE
  refine ⟨?_, ?_⟩
  · refine Triple.bind hr.ok (fun rv => ?_)
    split
    · exact shapeError_spec
    · refine Triple.bind (pushT_ok rv) (fun _ => ?_)
      refine Triple.bind ha.ok (fun n => ?_)
      refine Triple.bind (popN_spec [] n []) (fun as => ?_)
      refine Triple.bind (popT_spec _) (fun rv' => ?_)
      refine Triple.bind (readHs_extras _ 55 rv'.handles (fun _ => List.mem_append_left _)) (fun _ => ?_)
      refine Triple.bind (readHs_extras _ 56 _
        (fun _ ha => List.mem_append_right _ (List.mem_append_left _ ha))) (fun _ => ?_)
      split
      · exact Triple.bind (errAt_spec _ _ _) (fun _ => scalar_ok)
      · exact newLeaf_spec _ true
      · refine Triple.bind (tokWith_spec _ _ _ _) (fun n => ?_)
        refine Triple.bind (allocFrame_spec _ false _) (fun b => ?_)
        refine Triple.bind (allocStrs_spec _ n) (fun xs => ?_)
        exact Triple.pure _ (fun s h => h.mono ((Sub.comm [b] _).trans ((Sub.refl _).append (Sub.left [b] _))))
      · refine Triple.bind (errAt_spec _ _ _) (fun _ => ?_)
        refine Triple.bind (freshCt_spec _) (fun ct => ?_)
        refine Triple.bind (allocPersist_spec _ false ct) (fun h' => ?_)
        exact Triple.pure _ (fun s h => h.1.mono (Sub.left [h'] _))
      · exact shapeError_spec
  · refine RTriple.bindV hr.rel (fun rv₁ rv₂ hrv => ?_)
    rw [methodKind_rel hrv field]
    generalize methodKind rv₂ field = k
    split
    · exact shapeError_rel
    · refine RTriple.bind (pushT_rel hrv) (fun _ _ => ?_)
      refine RTriple.bindE ha.rel (fun n => ?_)
      refine RTriple.bind (popN_rel n trivial) (fun as₁ as₂ => RTriple.assume (fun has => ?_))
      refine RTriple.bindV popT_rel (fun q₁ q₂ hq => ?_)
      refine RTriple.bind (readHs_rel 55 hq.cts) (fun _ _ => ?_)
      refine RTriple.bind (readHs_rel 56 has.cts) (fun _ _ => ?_)
      cases k with
      | bad => exact shapeError_rel
      | num => exact RTriple.bindE (errAt_rel 5 sp) (fun _ => scalar_rel)
      | str => exact newLeaf_rel true
      | split =>
        refine RTriple.bindE (tokWith_rel _ _ _ _) (fun m => ?_)
        refine RTriple.bind (alloc_rel (allocFrame_heapOnly false 0))
          (fun b₁ b₂ => RTriple.assume (fun hb => ?_))
        refine RTriple.bind (allocStrs_rel m) (fun xs₁ xs₂ => ?_)
        exact RTriple.pure _ _ (fun _ _ h => ⟨h.1, hb.1, h.2⟩)
      | run =>
        refine RTriple.bindE (errAt_rel 7 sp) (fun _ => ?_)
        refine RTriple.bindE freshCt_rel (fun ct => ?_)
        refine RTriple.bind (alloc_rel (allocPersist_heapOnly false ct)) (fun h₁ h₂ => ?_)
        exact RTriple.pure _ _ (fun _ _ h => h)

theorem builtinE_both (name : Bytes) (sp : Span) {a₁ a₂ : M MVal} (ha : EvalBoth a₁ a₂) :
    EvalBoth (builtinE Cfg.fixed name sp a₁) (builtinE Cfg.noReclaim name sp a₂) := by
  unfold builtinE
  refine ⟨?_, ?_⟩
  · refine Triple.bind ha.ok (fun v => ?_)
    refine Triple.ite ?_ (Triple.ite (Triple.pure _ (fun s h => h.drop.static)) (Triple.ite ?_ ?_))
    · refine Triple.bind (readHs_extras _ 57 v.handles (fun a ha => ha)) (fun _ => ?_)
      refine Triple.bind (emit_spec _ _) (fun _ => ?_)
      refine Triple.bind (promoteIf_ok v) (fun v' => Triple.assume (fun hv => ?_))
      exact Triple.bind ((storeOut_spec [] v' hv).pre (fun _ h => Safe.appendNil.mpr h)) (fun _ => scalar_ok)
    · exact Triple.bind (readHs_extras _ 58 v.handles (fun a ha => ha)) (fun _ => newLeaf_spec _ false)
    · refine Triple.bind (readHs_extras _ 59 v.handles (fun a ha => ha)) (fun _ => ?_)
      refine Triple.bind (Q := fun _ => Safe v.handles) ?_ (fun _ => newLeaf_spec _ true)
      unfold ioCheck
      exact Triple.ite (errAt_spec _ _ _) (Triple.ret _)
  · refine RTriple.bindV ha.rel (fun v₁ v₂ hv => ?_)
    refine RTriple.ite ?_ (RTriple.ite static_rel (RTriple.ite ?_ ?_))
    · refine RTriple.bind (readHs_rel 57 hv.cts) (fun _ _ => ?_)
      refine RTriple.bind (emit_rel _ _) (fun _ _ => ?_)
      refine RTriple.bindV (promoteIf_rel hv) (fun p₁ p₂ hp => ?_)
      exact RTriple.bind (storeOut_rel hp) (fun _ _ => scalar_rel)
    · exact RTriple.bind (readHs_rel 58 hv.cts) (fun _ _ => newLeaf_rel false)
    · refine RTriple.bind (readHs_rel 59 hv.cts) (fun _ _ => ?_)
      exact RTriple.bind (errIf_rel _ 1 sp) (fun _ _ => newLeaf_rel true)

theorem callE_both (nargs : Nat) (params : List (Option Nat)) {a₁ a₂ : M Nat} {b₁ b₂ : M Flow}
    (ha : StepBoth a₁ a₂) (hb : StepBoth b₁ b₂) :
    EvalBoth (callE Cfg.fixed nargs params a₁ b₁) (callE Cfg.noReclaim nargs params a₂ b₂) := by
  unfold callE
  refine ⟨?_, ?_⟩
  · refine Triple.bind (tokWith_spec _ _ _ _) (fun _ => ?_)
    refine Triple.bind (pushMark_spec _ _) (fun _ => ?_)
    refine Triple.bind ha.ok (fun n => ?_)
    refine Triple.bind (emit_spec _ _) (fun _ => ?_)
    refine Triple.bind (popN_spec [] n []) (fun vs => ?_)
    refine Triple.bind (pushScope_spec _) (fun _ => ?_)
    refine Triple.bind (bindParams_spec [] params vs) (fun _ => ?_)
    refine Triple.bind hb.ok (fun fl => ?_)
    refine Triple.bind (popScope_spec _) (fun _ => ?_)
    refine Triple.bind (emit_spec _ _) (fun _ => ?_)
    refine Triple.bind (Q := fun rv => Safe rv.handles) ?_ (fun rv => ?_)
    · split
      · exact (popT_spec []).post (fun _ _ h => Safe.appendNil.mp h)
      · exact scalar_ok
      · exact Triple.halt_benign _ trivial
    · simp only [Cfg.fixed, if_true]
      exact relocate_spec rv
  · refine RTriple.bindE (tokWith_rel _ _ _ _) (fun _ => ?_)
    refine RTriple.bind (pushMark_rel 1) (fun _ _ => ?_)
    refine RTriple.bindE ha.rel (fun n => ?_)
    refine RTriple.bind (emit_rel _ _) (fun _ _ => ?_)
    refine RTriple.bind (popN_rel n trivial) (fun vs₁ vs₂ => RTriple.assume (fun hvs => ?_))
    refine RTriple.bind pushScope_rel (fun _ _ => ?_)
    refine RTriple.bind (bindParams_rel params hvs) (fun _ _ => ?_)
    refine RTriple.bindE hb.rel (fun fl => ?_)
    refine RTriple.bind popScope_rel (fun _ _ => ?_)
    refine RTriple.bind (emit_rel _ _) (fun _ _ => ?_)
    refine RTriple.bindV ?_ (fun rv₁ rv₂ hrv => ?_)
    · cases fl
      · exact scalar_rel
      · exact popT_rel
      · exact RTriple.halt _ _
      · exact RTriple.halt _ _
    · simp only [Cfg.fixed, Cfg.noReclaim, if_true, Bool.false_eq_true, if_false]
      exact relocate_rel hrv

theorem defineE_both (id : Nat) {e₁ e₂ : M MVal} (he : EvalBoth e₁ e₂) :
    StepBoth (defineE Cfg.fixed id e₁) (defineE Cfg.noReclaim id e₂) := by
  unfold defineE
  refine ⟨Triple.bind he.ok (fun v => ?_), RTriple.bindV he.rel (fun v₁ v₂ hv => ?_)⟩
  · exact Triple.bind ((define_spec [] id v).pre (fun _ h => Safe.appendNil.mpr h)) (fun _ => Triple.ret _)
  · exact RTriple.bind (define_rel id hv) (fun _ _ => pure_rel _)

theorem assignE_both (id : Nat) {e₁ e₂ : M MVal} (he : EvalBoth e₁ e₂) :
    StepBoth (assignE Cfg.fixed id e₁) (assignE Cfg.noReclaim id e₂) := by
  unfold assignE assign
  refine ⟨Triple.bind he.ok (fun v => ?_), RTriple.bindV he.rel (fun v₁ v₂ hv => ?_)⟩
  · exact Triple.bind ((overwrite_spec [] id v).pre (fun _ h => Safe.appendNil.mpr h)) (fun _ => Triple.ret _)
  · exact RTriple.bind (overwrite_rel id hv) (fun _ _ => pure_rel _)

theorem assignIndexE_both (id : Nat) {e₁ e₂ : M MVal} {i₁ i₂ : M (List Nat)} (he : EvalBoth e₁ e₂)
    (hi : StepBoth i₁ i₂) :
    StepBoth (assignIndexE Cfg.fixed id e₁ i₁) (assignIndexE Cfg.noReclaim id e₂ i₂) := by
  unfold assignIndexE
  refine ⟨?_, ?_⟩
  · refine Triple.bind he.ok (fun v => ?_)
    refine Triple.bind (pushT_ok v) (fun _ => ?_)
    refine Triple.bind hi.ok (fun path => ?_)
    refine Triple.bind (popT_spec []) (fun v1 => ?_)
    refine Triple.bind (promoteIf_spec v1 []) (fun v' => ?_)
    refine Triple.assume (fun hv => ?_)
    refine Triple.bind (Q := fun old => Safe (old.handles ++ [])) ?_ (fun old => ?_)
    · refine modifyVar_spec [] v'.handles id path _ ?_ hv
      intro a a' r hg
      cases hg
      exact Sub.comm _ _
    · refine Triple.bind (Q := fun _ => Safe []) ?_ (fun _ => Triple.ret _)
      rw [freeIf_fixed]
      exact freeTop_spec [] old
  · refine RTriple.bindV he.rel (fun v₁ v₂ hv => ?_)
    refine RTriple.bind (pushT_rel hv) (fun _ _ => ?_)
    refine RTriple.bindE hi.rel (fun path => ?_)
    refine RTriple.bindV popT_rel (fun q₁ q₂ hq => ?_)
    refine RTriple.bindV (promoteIf_rel hq) (fun p₁ p₂ hp => ?_)
    refine RTriple.bindV (modifyVar_rel id path (g₁ := fun o => some (p₁, o)) (g₂ := fun o => some (p₂, o))
      (fun x₁ x₂ hx => ⟨hp, hx⟩)) (fun old₁ old₂ _ => ?_)
    exact RTriple.bind (freeIf_rel old₁ old₂) (fun _ _ => pure_rel _)

theorem ifE_both {c₁ c₂ : M MVal} {t₁ t₂ e₁ e₂ : M Flow} (hc : EvalBoth c₁ c₂) (ht : StepBoth t₁ t₂)
    (he : StepBoth e₁ e₂) : StepBoth (ifE c₁ t₁ e₁) (ifE c₂ t₂ e₂) := by
  unfold ifE
  refine ⟨Triple.bind hc.ok (fun _ => ?_), RTriple.bindV hc.rel (fun _ _ _ => ?_)⟩
  · refine Triple.bind (Q := fun _ => Safe []) ((tokWith_spec _ _ _ _).pre (fun s h => h.drop)) (fun b => ?_)
    exact Triple.ite ht.ok he.ok
  · exact RTriple.bindE (tokWith_rel _ _ _ _) (fun b => RTriple.ite ht.rel he.rel)

theorem loopE_both {c₁ c₂ : M MVal} {b₁ b₂ a₁ a₂ : M Flow} (hc : EvalBoth c₁ c₂) (hb : StepBoth b₁ b₂)
    (ha : StepBoth a₁ a₂) : StepBoth (loopE Cfg.fixed c₁ b₁ a₁) (loopE Cfg.noReclaim c₂ b₂ a₂) := by
  unfold loopE
  refine ⟨Triple.bind hc.ok (fun _ => ?_), RTriple.bindV hc.rel (fun _ _ _ => ?_)⟩
  · refine Triple.bind (Q := fun _ => Safe []) ((tokWith_spec _ _ _ _).pre (fun s h => h.drop)) (fun go => ?_)
    split
    · refine Triple.bind (pushMark_spec _ _) (fun _ => ?_)
      refine Triple.bind hb.ok (fun fl => ?_)
      split
      · exact Triple.bind (dropMark_spec _) (fun _ => Triple.ret _)
      · exact Triple.bind (dropMarkUnderTop_spec _) (fun _ => Triple.ret _)
      · exact Triple.bind (resetToMark_spec [] 0 NoFrame.nil) (fun _ => ha.ok)
    · exact Triple.ret _
  · refine RTriple.bindE (tokWith_rel _ _ _ _) (fun go => RTriple.ite ?_ (pure_rel _))
    refine RTriple.bind (pushMark_rel 0) (fun _ _ => ?_)
    refine RTriple.bindE hb.rel (fun fl => ?_)
    cases fl with
    | brk => exact RTriple.bind dropMark_rel (fun _ _ => pure_rel _)
    | ret => exact RTriple.bind dropMarkUnderTop_rel (fun _ _ => pure_rel _)
    | normal => exact RTriple.bind (resetToMark_rel _ _ 0 0) (fun _ _ => ha.rel)
    | cont => exact RTriple.bind (resetToMark_rel _ _ 0 0) (fun _ _ => ha.rel)

theorem blockE_both (stmts : List Stmt) {b₁ b₂ : M Flow} (hb : StepBoth b₁ b₂) :
    StepBoth (blockE stmts b₁) (blockE stmts b₂) := by
  unfold blockE
  refine ⟨?_, ?_⟩
  · refine Triple.bind (pushScope_spec _) (fun _ => ?_)
    refine Triple.bind (addFns_spec _ _) (fun _ => ?_)
    refine Triple.bind hb.ok (fun fl => ?_)
    exact Triple.bind (popScope_spec _) (fun _ => Triple.ret _)
  · refine RTriple.bind pushScope_rel (fun _ _ => ?_)
    refine RTriple.bind (addFns_rel _) (fun _ _ => ?_)
    refine RTriple.bindE hb.rel (fun fl => ?_)
    exact RTriple.bind popScope_rel (fun _ _ => pure_rel _)

theorem seqE_both {s₁ s₂ r₁ r₂ : M Flow} (hs : StepBoth s₁ s₂) (hr : StepBoth r₁ r₂) :
    StepBoth (seqE s₁ r₁) (seqE s₂ r₂) := by
  unfold seqE
  refine Both.bindE hs (fun fl => ?_)
  cases fl with
  | normal => exact hr
  | ret => exact pure_both _
  | brk => exact pure_both _
  | cont => exact pure_both _

theorem retE_both {e₁ e₂ : M MVal} (he : EvalBoth e₁ e₂) : StepBoth (retE e₁) (retE e₂) := by
  unfold retE
  refine ⟨Triple.bind he.ok (fun v => ?_), RTriple.bindV he.rel (fun v₁ v₂ hv => ?_)⟩
  · exact Triple.bind (pushT_ok v) (fun _ => Triple.ret _)
  · exact RTriple.bind (pushT_rel hv) (fun _ _ => pure_rel _)

theorem exprStmtE_both {e₁ e₂ : M MVal} (he : EvalBoth e₁ e₂) : StepBoth (exprStmtE e₁) (exprStmtE e₂) := by
  unfold exprStmtE
  exact ⟨Triple.bind he.ok (fun _ => Triple.pure _ (fun _ h => h.drop)),
    RTriple.bindV he.rel (fun _ _ _ => pure_rel _)⟩

theorem idxE_both (isp : Span) {e₁ e₂ : M MVal} {r₁ r₂ : M (List Nat)} (he : EvalBoth e₁ e₂)
    (hr : StepBoth r₁ r₂) : StepBoth (idxE isp e₁ r₁) (idxE isp e₂ r₂) := by
  unfold idxE
  refine ⟨Triple.bind he.ok (fun v => ?_), RTriple.bindV he.rel (fun v₁ v₂ hv => ?_)⟩
  · split
    · refine Triple.bind (Q := fun _ => Safe []) ((errAt_spec _ _ _).pre (fun s h => h.drop)) (fun _ => ?_)
      refine Triple.bind (errAt_spec _ _ _) (fun _ => ?_)
      refine Triple.bind (tokWith_spec _ _ _ _) (fun k => ?_)
      exact Triple.bind hr.ok (fun ks => Triple.ret _)
    · exact shapeError_spec
  · cases v₁ <;> cases v₂ <;> simp only [VRel] at hv
    · refine RTriple.bindE (errAt_rel 6 isp) (fun _ => ?_)
      refine RTriple.bindE (errAt_rel 4 isp) (fun _ => ?_)
      refine RTriple.bindE (tokWith_rel _ _ _ _) (fun k => ?_)
      exact RTriple.bindE hr.rel (fun ks => pure_rel _)
    · exact shapeError_rel
    · exact shapeError_rel

theorem pushArgE_both {e₁ e₂ : M MVal} {r₁ r₂ : M Nat} (he : EvalBoth e₁ e₂) (hr : StepBoth r₁ r₂) :
    StepBoth (pushArgE e₁ r₁) (pushArgE e₂ r₂) := by
  unfold pushArgE
  refine ⟨Triple.bind he.ok (fun v => ?_), RTriple.bindV he.rel (fun v₁ v₂ hv => ?_)⟩
  · refine Triple.bind (pushT_ok v) (fun _ => ?_)
    exact Triple.bind hr.ok (fun n => Triple.ret _)
  · refine RTriple.bind (pushT_rel hv) (fun _ _ => ?_)
    exact RTriple.bindE hr.rel (fun n => pure_rel _)

theorem dropArgE_both (sp : Span) {e₁ e₂ : M MVal} {r₁ r₂ : M Unit} (he : EvalBoth e₁ e₂)
    (hr : StepBoth r₁ r₂) : StepBoth (dropArgE sp e₁ r₁) (dropArgE sp e₂ r₂) := by
  unfold dropArgE
  refine ⟨Triple.bind he.ok (fun v => ?_), RTriple.bindV he.rel (fun v₁ v₂ hv => ?_)⟩
  · refine Triple.bind (errAt_spec _ _ _) (fun _ => ?_)
    refine Triple.bind (errAt_spec _ _ _) (fun _ => ?_)
    refine Triple.bind (Q := fun _ => Safe []) ?_ (fun _ => hr.ok)
    exact (readHs_extras _ 61 v.handles (fun a ha => ha)).post (fun _ s h => h.drop)
  · refine RTriple.bindE (errAt_rel 5 sp) (fun _ => ?_)
    refine RTriple.bindE (errAt_rel 7 sp) (fun _ => ?_)
    exact RTriple.bind (readHs_rel 61 hv.cts) (fun _ _ => hr.rel)

structure AllBoth (f : Nat) : Prop where
  eval : ∀ e, EvalBoth (eval Cfg.fixed f e) (eval Cfg.noReclaim f e)
  evalPush : ∀ es, StepBoth (evalPush Cfg.fixed f es) (evalPush Cfg.noReclaim f es)
  evalDrop : ∀ sp es, StepBoth (evalDrop Cfg.fixed f sp es) (evalDrop Cfg.noReclaim f sp es)
  evalIdxs : ∀ es, StepBoth (evalIdxs Cfg.fixed f es) (evalIdxs Cfg.noReclaim f es)
  exec : ∀ st, StepBoth (exec Cfg.fixed f st) (exec Cfg.noReclaim f st)
  loopGo : ∀ c b, StepBoth (loopGo Cfg.fixed f c b) (loopGo Cfg.noReclaim f c b)
  execBlock : ∀ b, StepBoth (execBlock Cfg.fixed f b) (execBlock Cfg.noReclaim f b)
  execStmts : ∀ ss, StepBoth (execStmts Cfg.fixed f ss) (execStmts Cfg.noReclaim f ss)

theorem allBoth_zero : AllBoth 0 where
  eval := fun e => by unfold Mem.eval; exact Both.halt _ _ trivial
  evalPush := fun es => by unfold Mem.evalPush; exact Both.halt _ _ trivial
  evalDrop := fun sp es => by unfold Mem.evalDrop; exact Both.halt _ _ trivial
  evalIdxs := fun es => by unfold Mem.evalIdxs; exact Both.halt _ _ trivial
  exec := fun st => by unfold Mem.exec; exact Both.halt _ _ trivial
  loopGo := fun c b => by unfold Mem.loopGo; exact Both.halt _ _ trivial
  execBlock := fun b => by unfold Mem.execBlock; exact Both.halt _ _ trivial
  execStmts := fun ss => by unfold Mem.execStmts; exact Both.halt _ _ trivial

theorem eval_succ_both {f : Nat} (ih : AllBoth f) (e : Expr) :
    EvalBoth (Mem.eval Cfg.fixed (f + 1) e) (Mem.eval Cfg.noReclaim (f + 1) e) := by
  unfold Mem.eval
  refine Both.bindE (errAt_both 3 e.span) (fun _ => ?_)
  cases e with
  | num _ _ => exact scalar_both
  | bool _ _ => exact scalar_both
  | null _ => exact scalar_both
  | str parts _ =>
    cases parts with
    | static _ => exact static_both
    | interp segs => exact interpE_both segs
  | var _ bind _ =>
    cases bind with
    | none => exact Both.halt _ _ trivial
    | some id => exact varE_both id
  | binary op l r sp =>
    cases op with
    | and => exact andOrE_both (ih.eval l) (ih.eval r)
    | or => exact andOrE_both (ih.eval l) (ih.eval r)
    | _ => exact binE_both _ sp (ih.eval l) (ih.eval r)
  | unary _ e _ => exact discardE_both (ih.eval e)
  | array es _ => exact arrayE_both (ih.evalPush es)
  | index a i isp _ => exact indexE_both isp (ih.eval a) (ih.eval i)
  | member _ _ _ _ => exact Both.halt _ _ trivial
  | call callee args fn sp =>
    cases callee with
    | member obj field _ _ =>
      simp only
      refine Both.ite ?_ (Both.ite ?_ (methodE_both field sp (ih.eval obj) (ih.evalPush args)))
      · split
        · refine Both.ite ?_ ⟨shapeError_spec, shapeError_rel⟩
          split
          · exact pushFailE_both (ih.eval _)
          · exact Both.halt _ _ trivial
        · refine Both.ite ?_ (popRevE_both _ _ (ih.evalIdxs _))
          split
          · exact pushE_both _ (ih.eval _) (ih.evalIdxs _)
          · exact Both.halt _ _ trivial
      · split
        · exact argsFailE_both (ih.evalDrop _ _)
        · exact cmdMutE_both _ (ih.evalDrop _ _) (ih.evalIdxs _)
    | var name _ _ =>
      simp only
      refine Both.ite ?_ ?_
      · split
        · exact builtinE_both name sp (ih.eval _)
        · exact Both.halt _ _ trivial
      · split
        · exact Both.halt _ _ trivial
        · refine Both.bindE (getFn_both _) (fun fd => ?_)
          exact callE_both _ _ (ih.evalPush args) (ih.execBlock fd.body)
    | _ => exact Both.halt _ _ trivial

theorem exec_succ_both {f : Nat} (ih : AllBoth f) (st : Stmt) :
    StepBoth (Mem.exec Cfg.fixed (f + 1) st) (Mem.exec Cfg.noReclaim (f + 1) st) := by
  unfold Mem.exec
  cases st with
  | assign _ _ e bind _ _ =>
    cases bind with
    | none => exact Both.halt _ _ trivial
    | some id => exact defineE_both id (ih.eval e)
  | assignExisting _ _ e bind _ _ =>
    cases bind with
    | none => exact Both.halt _ _ trivial
    | some id => exact assignE_both id (ih.eval e)
  | assignIndex target e _ _ =>
    simp only
    split
    · exact Both.halt _ _ trivial
    · exact assignIndexE_both _ (ih.eval e) (ih.evalIdxs _)
  | ifS c t e _ _ =>
    refine ifE_both (ih.eval c) (ih.execBlock t) ?_
    cases e with
    | none => exact pure_both _
    | some eb => exact ih.execBlock eb
  | loop c b _ _ => exact ih.loopGo c b
  | block b _ _ => exact ih.execBlock b
  | fnDef _ _ _ _ _ _ _ => exact pure_both _
  | ret e _ _ =>
    cases e with
    | none => exact retE_both scalar_both
    | some e => exact retE_both (ih.eval e)
  | brk _ _ => exact pure_both _
  | cont _ _ => exact pure_both _
  | expr e _ _ => exact exprStmtE_both (ih.eval e)

theorem allBoth_succ {f : Nat} (ih : AllBoth f) : AllBoth (f + 1) where
  eval := eval_succ_both ih
  evalPush := fun es => by
    unfold Mem.evalPush
    cases es with
    | nil => exact pure_both _
    | cons e es => exact pushArgE_both (ih.eval e) (ih.evalPush es)
  evalDrop := fun sp es => by
    unfold Mem.evalDrop
    cases es with
    | nil => exact pure_both _
    | cons e es => exact dropArgE_both sp (ih.eval e) (ih.evalDrop sp es)
  evalIdxs := fun es => by
    unfold Mem.evalIdxs
    cases es with
    | nil => exact pure_both _
    | cons e es =>
      obtain ⟨e, isp⟩ := e
      exact idxE_both isp (ih.eval e) (ih.evalIdxs es)
  exec := exec_succ_both ih
  loopGo := fun c b => by
    unfold Mem.loopGo
    exact loopE_both (ih.eval c) (ih.execBlock b) (ih.loopGo c b)
  execBlock := fun b => by
    unfold Mem.execBlock
    cases b with
    | mk stmts _ => exact blockE_both stmts (ih.execStmts stmts)
  execStmts := fun ss => by
    unfold Mem.execStmts
    cases ss with
    | nil => exact pure_both _
    | cons s ss => exact seqE_both (ih.exec s) (ih.execStmts ss)

theorem allBoth : ∀ f, AllBoth f
  | 0 => allBoth_zero
  | f + 1 => allBoth_succ (allBoth f)

/-- A run as `run` of `Model/Mem.lean` composes it: the program's block, then the outermost scope is popped. -/
theorem run_both (fuel : Nat) (prog : Block) :
    StepBoth (do let fl ← execBlock Cfg.fixed fuel prog; popScope; pure fl : M Flow)
      (do let fl ← execBlock Cfg.noReclaim fuel prog; popScope; pure fl : M Flow) :=
  Both.bindE ((allBoth fuel).execBlock prog) (fun fl =>
    ⟨Triple.bind (popScope_spec _) (fun _ => Triple.ret fl), RTriple.bind popScope_rel (fun _ _ => pure_rel fl)⟩)

theorem pools0_getElem {c : Nat} {p : Pool} (h : pools0[c]? = some p) :
    p = Pool.new 0 (slotSizeOf c) (slotCountOf c) := by
  unfold pools0 at h
  rw [List.getElem?_map] at h
  rcases hr : (List.range classCount)[c]? with _ | c'
  · rw [hr] at h; cases h
  · rw [hr] at h
    simp only [Option.map_some, Option.some.injEq] at h
    have : c' = c := by
      rw [List.getElem?_eq_some_iff] at hr
      obtain ⟨_, hr⟩ := hr
      simpa using hr.symm
    subst this; exact h.symm

theorem safe_init (ctl : List CTok) (lay : List Nat) : Safe [] (St.init ctl lay) where
  ok := fun _ ha => nomatch ha
  uniq := fun _ => Nat.zero_le 1
  clean := fun _ ha => nomatch ha
  xsBelow := fun _ ha => nomatch ha
  temps := trivial
  slotsOk := fun _ _ _ h => nomatch h
  poolOk := by
    refine ⟨fun c p hp => ?_, List.nodup_nil⟩
    rw [pools0_getElem hp]
    exact ⟨Pool.inv_new _ _ _, fun i => by simp [Pool.new, St.init]⟩

theorem rel_init (ctl : List CTok) (lay₁ lay₂ : List Nat) : R (St.init ctl lay₁) (St.init ctl lay₂) :=
  ⟨rfl, ⟨trivial, trivial⟩, rfl, trivial, trivial, rfl, rfl⟩

theorem run_benign (fuel : Nat) (prog : Block) (ctl : List CTok) (lay : List Nat) :
    ∀ o, (run Cfg.fixed fuel prog ctl lay).stopped = some o → o.benign := by
  have hs := (run_both fuel prog).ok.sat (safe_init ctl lay)
  unfold run
  revert hs
  cases (do let fl ← execBlock Cfg.fixed fuel prog; popScope; pure fl : M Flow) (St.init ctl lay) with
  | ok _ _ => exact fun _ _ ho => nomatch ho
  | stop o' _ => exact fun hs o ho => Option.some.inj ho ▸ hs

end NaijaVerif.Mem
