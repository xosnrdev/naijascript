/-
Lemmas for C13.  The loops of `tw::find` are followed through `NoneBefore`, the fact a loop has about
the part of the haystack it has passed; `maxSufLoop_ok` is safety and termination of `maximal_suffix`.
-/
import NaijaVerif.Model.Strs
import NaijaVerif.Spec.Strs

namespace NaijaVerif.Strs
open NaijaVerif

theorem occ_len {h n : Bytes} {s : Nat} (ho : OccAt h n s) (hn : n ≠ []) :
    s + n.length ≤ h.length := by
  have h1 : n.length ≤ (h.drop s).length := ho.length_le
  have h2 : 0 < n.length := List.length_pos_iff.mpr hn
  simp at h1; omega

theorem occ_zero_nil (h : Bytes) : OccAt h [] 0 := by simp [OccAt]

theorem firstOcc_isFirst (h n : Bytes) : IsFirstOcc h n (firstOcc h n) := by
  induction h with
  | nil =>
    unfold firstOcc
    split
    · next he =>
      have : n = [] := by simpa using he
      subst this
      exact ⟨by simp [OccAt], fun _ hj => nomatch hj⟩
    · next he =>
      intro j ho
      have : n = [] := by simpa [OccAt] using ho
      simp [this] at he
  | cons a h ih =>
    unfold firstOcc
    split
    · next hp =>
      refine ⟨?_, fun _ hj => nomatch hj⟩
      simpa [OccAt] using hp
    · next hp =>
      have h0 : ¬ OccAt (a :: h) n 0 := by simpa [OccAt] using hp
      cases hf : firstOcc h n with
      | none =>
        rw [hf] at ih
        intro j
        cases j with
        | zero => exact h0
        | succ j => simpa [OccAt] using ih j
      | some i =>
        rw [hf] at ih
        refine ⟨by simpa [OccAt] using ih.1, ?_⟩
        intro j hj
        cases j with
        | zero => exact h0
        | succ j =>
          have := ih.2 j (by simp at hj; omega)
          simpa [OccAt] using this

theorem isFirstOcc_unique {h n : Bytes} {r r' : Option Nat}
    (h1 : IsFirstOcc h n r) (h2 : IsFirstOcc h n r') : r = r' := by
  cases r with
  | none =>
    cases r' with
    | none => rfl
    | some i => exact absurd h2.1 (h1 i)
  | some i =>
    cases r' with
    | none => exact absurd h1.1 (h2 i)
    | some j =>
      have a : ¬ j < i := fun hlt => h1.2 j hlt h2.1
      have b : ¬ i < j := fun hlt => h2.2 i hlt h1.1
      have : i = j := by omega
      rw [this]

theorem isFirstOcc_eq {h n : Bytes} {r : Option Nat} (h1 : IsFirstOcc h n r) : r = firstOcc h n :=
  isFirstOcc_unique h1 (firstOcc_isFirst h n)

theorem firstOcc_some {h n : Bytes} {i : Nat} (hf : firstOcc h n = some i) :
    OccAt h n i ∧ ∀ j, j < i → ¬ OccAt h n j := by
  have := firstOcc_isFirst h n
  rwa [hf] at this

theorem firstOcc_bound {h n : Bytes} {i : Nat} (hn : n ≠ []) (hf : firstOcc h n = some i) :
    i + n.length ≤ h.length := occ_len (firstOcc_some hf).1 hn

theorem memchrRef_cases (b : Nat) (h : Bytes) (o : Nat) :
    (∃ k, memchrRef b h o = o + k ∧ o + k < h.length ∧ h[o + k]? = some b ∧
        ∀ i, o ≤ i → i < o + k → h[i]? ≠ some b) ∨
      (memchrRef b h o = h.length ∧ ∀ i, o ≤ i → h[i]? ≠ some b) := by
  have shift : ∀ i, o ≤ i → h[i]? = (h.drop o)[i - o]? := fun i hi => by
    rw [List.getElem?_drop, Nat.add_sub_cancel' hi]
  unfold memchrRef
  cases hk : (h.drop o).findIdx? (· == b) with
  | some k =>
    obtain ⟨hlt, hb, hmin⟩ := List.findIdx?_eq_some_iff_getElem.mp hk
    have hlt' : k < h.length - o := List.length_drop ▸ hlt
    refine Or.inl ⟨k, rfl, by omega, ?_, ?_⟩
    · rw [← List.getElem?_drop, List.getElem?_eq_getElem hlt, eq_of_beq hb]
    · intro i hoi hik hi
      rw [shift i hoi] at hi
      obtain ⟨hlt', e⟩ := List.getElem?_eq_some_iff.mp hi
      exact hmin (i - o) (by omega) (by rw [e]; exact beq_self_eq_true b)
  | none =>
    refine Or.inr ⟨rfl, fun i hoi hi => ?_⟩
    rw [shift i hoi] at hi
    have := List.findIdx?_eq_none_iff.mp hk b (List.mem_of_getElem? hi)
    simp at this

theorem slice?_ok {h : Bytes} {i j : Nat} (hij : i ≤ j) (hj : j ≤ h.length) :
    slice? h i j = .ok ((h.drop i).take (j - i)) := by
  simp [slice?, hij, hj]

/-! All tiers of `find` work the same way: `memchr` looks for the byte `n[crit]` (`crit = 0` in the
short tiers), the candidate `index - crit` is compared, and the search goes on behind `index`. -/

theorem occ_anchor {h n : Bytes} {s crit anchor : Nat} (hanchor : n[crit]? = some anchor)
    (ho : OccAt h n s) : h[s + crit]? = some anchor := by
  obtain ⟨t, ht⟩ := ho
  rw [← List.getElem?_drop, ← ht, List.getElem?_append_left (List.getElem?_eq_some_iff.mp hanchor).1, hanchor]

theorem occ_singleton {h : Bytes} {a i : Nat} (hi : h[i]? = some a) : OccAt h [a] i := by
  obtain ⟨hlt, rfl⟩ := List.getElem?_eq_some_iff.mp hi
  exact ⟨h.drop (i + 1), (List.drop_eq_getElem_cons hlt).symm⟩

/-- What a search loop knows at frontier `off`: no occurrence of `n` has its byte number `crit` in
front of `off`. -/
def NoneBefore (h n : Bytes) (crit off : Nat) : Prop := ∀ s, s + crit < off → ¬ OccAt h n s

theorem NoneBefore.zero (h n : Bytes) (crit : Nat) : NoneBefore h n crit 0 := fun _ hs => nomatch hs

theorem NoneBefore.memchr {mc : Nat → Bytes → Nat → Nat} (hmc : MemchrSpec mc) {h n : Bytes}
    {crit anchor off : Nat} (hanchor : n[crit]? = some anchor) (inv : NoneBefore h n crit off) :
    NoneBefore h n crit (mc anchor h off) := by
  intro s hs ho
  by_cases hlt : s + crit < off
  · exact inv s hlt ho
  · exact hmc.least anchor h off (s + crit) (Nat.le_of_not_lt hlt) hs (occ_anchor hanchor ho)

theorem NoneBefore.succ {h n : Bytes} {crit idx : Nat} (inv : NoneBefore h n crit idx)
    (hno : crit ≤ idx → ¬ OccAt h n (idx - crit)) : NoneBefore h n crit (idx + 1) := by
  intro s hs ho
  by_cases hlt : s + crit < idx
  · exact inv s hlt ho
  · have : s = idx - crit := by omega
    exact hno (by omega) (this ▸ ho)

theorem NoneBefore.firstOcc_none {h n : Bytes} {crit off : Nat} (inv : NoneBefore h n crit off)
    (hc : crit < n.length) (hend : h.length < off + (n.length - crit)) : firstOcc h n = none := by
  refine (isFirstOcc_eq (r := none) fun s ho => inv s ?_ ho).symm
  have := occ_len ho (List.length_pos_iff.mp (Nat.zero_lt_of_lt hc))
  omega

theorem NoneBefore.firstOcc_some {h n : Bytes} {crit idx : Nat} (inv : NoneBefore h n crit idx)
    (hc : crit ≤ idx) (ho : OccAt h n (idx - crit)) : firstOcc h n = some (idx - crit) :=
  (isFirstOcc_eq (r := some _) ⟨ho, fun j hj => inv j (by omega)⟩).symm

/-- One round of a search loop, behind its guard and up to the next round `k`; the guarded comparison
`start + nlen <= hlen && &h[start..start + nlen] == n` is the occurrence test.  This is the body of `longLoop`; that
of `scanLoop` is its case `crit = 0`, where `index < crit` computes to `false` and `index - crit` to `index`. -/
theorem NoneBefore.round {mc : Nat → Bytes → Nat → Nat} (hmc : MemchrSpec mc) {h n : Bytes} {crit anchor off : Nat}
    (hanchor : n[crit]? = some anchor) (inv : NoneBefore h n crit off) (hoff : off ≤ h.length)
    {k : Nat → Except Fail (Option Nat)}
    (hk : ∀ off', off < off' → off' ≤ h.length → NoneBefore h n crit off' → k off' = .ok (firstOcc h n)) :
    (let index := mc anchor h off
     if index ≥ h.length then .ok none
     else if index < crit then k (index + 1)
     else
       let start := index - crit
       if start + n.length ≤ h.length then
         match slice? h start (start + n.length) with
         | .error e => .error e
         | .ok w => if w == n then .ok (some start) else k (index + 1)
       else k (index + 1)) = .ok (firstOcc h n) := by
  have hcrit : crit < n.length := (List.getElem?_eq_some_iff.mp hanchor).1
  have hge := hmc.ge_off anchor h off hoff
  have before := inv.memchr hmc hanchor
  generalize mc anchor h off = idx at hge before ⊢
  simp only
  by_cases hidx : idx ≥ h.length
  · rw [if_pos hidx, before.firstOcc_none hcrit (by omega)]
  · rw [if_neg hidx]
    have next (hno : crit ≤ idx → ¬ OccAt h n (idx - crit)) :=
      hk (idx + 1) (by omega) (by omega) (before.succ hno)
    by_cases hlow : idx < crit
    · rw [if_pos hlow]
      exact next fun hc => by omega
    · rw [if_neg hlow]
      by_cases hfit : idx - crit + n.length ≤ h.length
      · rw [if_pos hfit, slice?_ok (Nat.le_add_right _ _) hfit, Nat.add_sub_cancel_left]
        simp only
        have hwn : ((h.drop (idx - crit)).take n.length == n) = true ↔ OccAt h n (idx - crit) := by
          rw [OccAt, List.prefix_iff_eq_take, beq_iff_eq]; exact eq_comm
        by_cases ho : OccAt h n (idx - crit)
        · rw [if_pos (hwn.mpr ho), before.firstOcc_some (by omega) ho]
        · rw [if_neg (ho ∘ hwn.mp)]
          exact next fun _ => ho
      · rw [if_neg hfit]
        exact next fun _ ho => hfit (occ_len ho (List.length_pos_iff.mp (Nat.zero_lt_of_lt hcrit)))

/-- The first conjunct is the loop invariant of `maximal_suffix`; `2i + j + k` strictly increases and stays below
`3|x| + 2` (`j + k ≤ |x| + 1` and `i < j ≤ |x|`), so the fuel `3|x| + 3` is never used up. -/
theorem maxSufLoop_ok (x : Bytes) (rev : Bool) :
    ∀ (fuel i j k p : Nat),
      (i < j ∧ 1 ≤ k ∧ k ≤ p ∧ i + p ≤ j ∧ j + k ≤ x.length + 1) ∧ 3 * x.length + 3 ≤ fuel + (2 * i + j + k) →
      ∃ c q, maxSufLoop x rev fuel i j k p = .ok (c, q) ∧ c < x.length ∧ 1 ≤ q := by
  intro fuel i j k p
  fun_induction maxSufLoop x rev fuel i j k p <;> intro inv
  -- the three failures the invariant excludes: no fuel, `i + k - 1` / `j + k - 1` below zero, `j + k - i` below zero
  case case1 => omega
  case case2 => omega
  case case3 => omega
  -- the four ways round the loop: new period `j + k - i`; `k = p`, next block; `k < p`, next byte; restart at `j`
  case case4 ih => exact ih (by omega)
  case case5 hkp ih => have := beq_iff_eq.mp hkp; exact ih (by omega)
  case case6 hkp ih => have := mt beq_iff_eq.mpr hkp; exact ih (by omega)
  case case7 ih => exact ih (by omega)
  case case8 hx =>
    -- a read out of range: both are in range
    exact (hx _ _ (List.getElem?_eq_getElem (by omega)) (List.getElem?_eq_getElem (by omega))).elim
  -- the loop is left
  case case9 => exact ⟨_, _, rfl, by omega⟩

end NaijaVerif.Strs
