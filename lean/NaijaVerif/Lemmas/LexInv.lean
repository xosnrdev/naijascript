import NaijaVerif.Lemmas.LexUtf8
/-
Invariants of the lexer model (C07, lexer part): every function takes a cursor that stands on a
character boundary of a valid UTF-8 text to such a cursor further right; every diagnostic span and
token span is built from such positions; string contents stay valid UTF-8.
-/
namespace NaijaVerif.Lex
open NaijaVerif NaijaVerif.Utf8
open NaijaVerif.Bytes (isCont isBoundary)

/-- what follows `p` is valid UTF-8, so `p` is a character boundary -/
def Bnd (src : Bytes) (p : Nat) : Prop := p ≤ src.length ∧ validUtf8 (src.drop p) = true

def Cur.Ok (src : Bytes) (c : Cur) : Prop := c.rest = src.drop c.pos ∧ Bnd src c.pos

def SpanOk (src : Bytes) (s : Span) : Prop := s.lo ≤ s.hi ∧ Bnd src s.lo ∧ Bnd src s.hi

def DiagOk (src : Bytes) (d : Diag) : Prop := SpanOk src d.span ∧ ∀ l ∈ d.labels, SpanOk src l

def DiagsOk (src : Bytes) (ds : List Diag) : Prop := ∀ d ∈ ds, DiagOk src d

theorem Bnd.isBoundary {src : Bytes} {p : Nat} (h : Bnd src p) : isBoundary src p = true :=
  isBoundary_of_valid_drop h.1 h.2

theorem Cur.Ok.len {src : Bytes} {c : Cur} (h : c.Ok src) : c.pos + c.rest.length = src.length := by
  obtain ⟨h1, h2, _⟩ := h
  rw [h1, List.length_drop]; omega

theorem Cur.Ok.valid {src : Bytes} {c : Cur} (h : c.Ok src) : validUtf8 c.rest = true := by
  rw [h.1]; exact h.2.2

theorem Cur.Ok.bnd {src : Bytes} {c : Cur} (h : c.Ok src) : Bnd src c.pos := h.2

theorem ok_start {src : Bytes} (h : validUtf8 src = true) : (⟨0, src⟩ : Cur).Ok src :=
  ⟨by simp, by simp [Bnd, h]⟩

theorem DiagsOk.nil {src : Bytes} : DiagsOk src [] := by intro d hd; cases hd

theorem DiagsOk.append {src : Bytes} {a b : List Diag} (ha : DiagsOk src a) (hb : DiagsOk src b) :
    DiagsOk src (a ++ b) := by
  intro d hd
  rcases List.mem_append.mp hd with h | h
  · exact ha d h
  · exact hb d h

theorem mkDiag_ok {src : Bytes} (k : DiagKind) {lo hi : Nat} (h : lo ≤ hi) (hl : Bnd src lo) (hh : Bnd src hi) :
    DiagOk src (mkDiag k lo hi) := by
  refine ⟨⟨h, hl, hh⟩, ?_⟩
  intro l hl'
  simp [mkDiag] at hl'
  subst hl'
  exact ⟨h, hl, hh⟩

theorem DiagsOk.single {src : Bytes} (k : DiagKind) {lo hi : Nat} (h : lo ≤ hi) (hl : Bnd src lo) (hh : Bnd src hi) :
    DiagsOk src [mkDiag k lo hi] := by
  intro d hd; simp at hd; subst hd; exact mkDiag_ok k h hl hh

/-- `self.pos += k` over `k` bytes that end on a boundary -/
theorem Cur.Ok.adv {src : Bytes} {c : Cur} (h : c.Ok src) {k : Nat} (hk : k ≤ c.rest.length)
    (hv : validUtf8 (c.rest.drop k) = true) : (c.adv k).Ok src ∧ c.pos ≤ (c.adv k).pos := by
  have hl := h.len
  refine ⟨⟨?_, ?_, ?_⟩, by simp [Cur.adv]⟩
  · simp only [Cur.adv]; rw [h.1, List.drop_drop]
  · simp only [Cur.adv]; omega
  · simp only [Cur.adv]; rw [← List.drop_drop, ← h.1]; exact hv

theorem skipWhile_eq_adv (p : Nat → Bool) (c : Cur) : c.skipWhile p = c.adv (c.rest.takeWhile p).length := by
  simp [Cur.skipWhile, Cur.adv, dropWhile_eq_drop]

theorem Cur.Ok.advWhile {src : Bytes} {c : Cur} (h : c.Ok src) (p : Nat → Bool)
    (hv : validUtf8 (c.rest.dropWhile p) = true) :
    (c.adv (c.rest.takeWhile p).length).Ok src ∧ c.pos ≤ (c.adv (c.rest.takeWhile p).length).pos :=
  h.adv (List.takeWhile_prefix p).length_le (by rwa [← dropWhile_eq_drop])

theorem Cur.Ok.skipAscii {src : Bytes} {c : Cur} (h : c.Ok src) (p : Nat → Bool) (hp : ∀ b, p b = true → b < 128) :
    (c.skipWhile p).Ok src ∧ c.pos ≤ (c.skipWhile p).pos := by
  rw [skipWhile_eq_adv]
  exact h.advWhile p (valid_dropWhile_ascii p h.valid hp)

theorem Cur.Ok.skipTo {src : Bytes} {c : Cur} (h : c.Ok src) (p : Nat → Bool)
    (hp : ∀ b, p b = false → isCont b = false) :
    (c.skipWhile p).Ok src ∧ c.pos ≤ (c.skipWhile p).pos := by
  rw [skipWhile_eq_adv]
  exact h.advWhile p (valid_takeWhile_dropWhile p h.valid hp).2

theorem Cur.Ok.cons {src : Bytes} {p b : Nat} {r : Bytes} (h : (⟨p, b :: r⟩ : Cur).Ok src) (hb : b < 128) :
    (⟨p + 1, r⟩ : Cur).Ok src := by
  have := (h.adv (k := 1) (by simp) (by simpa using valid_tail_ascii h.valid hb)).1
  simpa [Cur.adv] using this

theorem Cur.Ok.char {src : Bytes} {p b : Nat} {r : Bytes} (h : (⟨p, b :: r⟩ : Cur).Ok src) :
    (⟨p + charLen b, (b :: r).drop (charLen b)⟩ : Cur).Ok src := by
  have hc := valid_char h.valid
  exact (h.adv (k := charLen b) hc.1 hc.2.2).1

theorem ascii_not_cont {b : Nat} (h : b < 128) : isCont b = false := by
  simp [isCont]; omega

theorem isWs_ascii {b : Nat} (h : isWs b = true) : b < 128 := by
  simp [isWs] at h; omega
theorem isDigit_ascii {b : Nat} (h : isDigit b = true) : b < 128 := by
  simp [isDigit] at h; omega
theorem isAlpha_ascii {b : Nat} (h : isAlpha b = true) : b < 128 := by
  simp [isAlpha] at h; omega
theorem isWordCh_ascii {b : Nat} (h : isWordCh b = true) : b < 128 := by
  simp only [isWordCh, Bool.or_eq_true] at h
  rcases h with h | h
  · exact isAlpha_ascii h
  · exact isDigit_ascii h
theorem notNl_ascii {b : Nat} (h : notNl b = false) : b < 128 := by
  simp [notNl] at h; omega
theorem notNl_stop {b : Nat} (h : notNl b = false) : isCont b = false :=
  ascii_not_cont (notNl_ascii h)
theorem notQuoteEsc_stop {q b : Nat} (hq : q < 128) (h : notQuoteEsc q b = false) : b < 128 := by
  simp [notQuoteEsc] at h; omega

theorem skipWs_ok {src : Bytes} {c : Cur} (h : c.Ok src) : (skipWs c).Ok src ∧ c.pos ≤ (skipWs c).pos :=
  h.skipAscii isWs (fun _ => isWs_ascii)

theorem skipComment_ok {src : Bytes} {c : Cur} (h : c.Ok src) :
    (skipComment c).Ok src ∧ c.pos ≤ (skipComment c).pos := by
  have h1 := h.skipTo notNl (fun _ => notNl_stop)
  rw [skipComment]
  split
  · exact h1
  next b r hr =>
    have hb : notNl b = false := dropWhile_head_not (l := c.rest) hr
    have hok : (⟨(c.skipWhile notNl).pos, b :: r⟩ : Cur).Ok src := by rw [← hr]; exact h1.1
    have := hok.cons (notNl_ascii hb)
    refine ⟨by simpa [Cur.adv, hr] using this, by simp [Cur.adv]; omega⟩

theorem escTable_ascii : ∀ e ∈ escTable, e.1 < 128 ∧ e.2.2 < 128 := by decide

theorem escapeOf_some {q e y : Nat} (h : escapeOf q e = some y) : e < 128 ∧ y < 128 := by
  simp only [escapeOf, Option.map_eq_some_iff] at h
  obtain ⟨x, hx, rfl⟩ := h
  have hp := List.find?_some hx
  simp only [Bool.and_eq_true, beq_iff_eq] at hp
  rw [← hp.1]
  exact escTable_ascii x (List.mem_of_find?_eq_some hx)

/-- the cursor on the byte `memchr2(quote, '\\')` finds, and behind it; the run before it is whole characters -/
theorem Cur.Ok.stop {src : Bytes} {c : Cur} {quote x : Nat} {after : Bytes} (hc : c.Ok src) (hq : quote < 128)
    (hdw : c.rest.dropWhile (notQuoteEsc quote) = x :: after) :
    (⟨c.pos + (c.rest.takeWhile (notQuoteEsc quote)).length, x :: after⟩ : Cur).Ok src ∧
    (⟨c.pos + (c.rest.takeWhile (notQuoteEsc quote)).length + 1, after⟩ : Cur).Ok src ∧
    validUtf8 (c.rest.takeWhile (notQuoteEsc quote)) = true := by
  have hqe := valid_takeWhile_dropWhile (notQuoteEsc quote) hc.valid
    (fun b h => ascii_not_cont (notQuoteEsc_stop hq h))
  have h0 := (hc.advWhile _ hqe.2).1
  rw [Cur.adv, ← dropWhile_eq_drop, hdw] at h0
  exact ⟨h0, h0.cons (notQuoteEsc_stop hq (dropWhile_head_not hdw)), hqe.1⟩

theorem scanStrLoop_ok {src : Bytes} {start quote : Nat} (hq : quote < 128) (hs : Bnd src start)
    (f : Nat) (c : Cur) (buf : Bytes) (esc : Bool) (ds : List Diag)
      (hc : c.Ok src) (hsc : start ≤ c.pos) (hb : validUtf8 buf = true) (hd : DiagsOk src ds) :
      (scanStrLoop start quote f c buf esc ds).cur.Ok src ∧
      c.pos ≤ (scanStrLoop start quote f c buf esc ds).cur.pos ∧
      validUtf8 (scanStrLoop start quote f c buf esc ds).content = true ∧
      DiagsOk src (scanStrLoop start quote f c buf esc ds).diags := by
  -- the branches of `scanStrLoop` (and of `bufLoop`, which has the same ones in the same order): case1 no fuel; case2 a
  -- line end comes first; case3 end of input, neither quote nor backslash left; case4 the closing quote; case5 a
  -- backslash as the last byte; case6 a valid escape; case7 an invalid escape.  The numbers are those `fun_induction` and
  -- `fun_cases` give the branches, in the order in which `Model/Lex.lean` and `Model/LexMem.lean` write them: a branch
  -- added to `scanStrLoop` or `bufLoop` renumbers every proof that refers to this legend (likewise that of `step_ok`).
  fun_induction scanStrLoop start quote f c buf esc ds
  case case1 => exact ⟨hc, Nat.le_refl _, hb, hd⟩
  case case2 f c buf esc ds qe nl _ e =>
    have hnl := valid_takeWhile_dropWhile notNl hc.valid (fun _ => notNl_stop)
    have ha := hc.advWhile notNl hnl.2
    refine ⟨ha.1, ha.2, ?_, hd.append (DiagsOk.single _ (Nat.le_trans hsc ha.2) hs ha.1.bnd)⟩
    cases esc
    · exact hnl.1
    · exact hb
  case case3 f c buf esc ds qe nl _ _ =>
    refine ⟨hc, Nat.le_refl _, ?_, hd.append (DiagsOk.single _ hsc hs hc.bnd)⟩
    cases esc
    · exact valid_nil
    · exact hb
  case case4 f c buf esc ds qe nl _ x after hdw p _ =>
    obtain ⟨_, hafter, hqe⟩ := hc.stop hq hdw
    refine ⟨hafter, Nat.le_succ_of_le (Nat.le_add_right _ _), ?_, hd⟩
    cases esc
    · exact hqe
    · exact valid_append _ hb _ hqe
  case case5 f c buf esc ds qe nl _ x _ buf' hdw =>
    exact ⟨hc, Nat.le_refl _, valid_append _ hb _ (hc.stop hq hdw).2.2, hd.append (DiagsOk.single _ hsc hs hc.bnd)⟩
  case case6 f c buf esc ds qe nl _ x p _ buf' e tl y hy hdw ih =>
    obtain ⟨_, hafter, hqe⟩ := hc.stop hq hdw
    have he := escapeOf_some hy
    have := ih (hafter.cons he.1) (by show start ≤ c.pos + qe.length + 2; omega)
      (by rw [valid_append_eq (valid_append _ hb _ hqe), valid_cons_ascii he.2]; exact valid_nil) hd
    exact ⟨this.1, Nat.le_trans (by show c.pos ≤ c.pos + qe.length + 2; omega) this.2.1, this.2.2⟩
  case case7 f c buf esc ds qe nl _ x p _ buf' e tl _ k hdw ih =>
    -- invalid escape: a whole character is taken
    obtain ⟨hcq, hafter, hqe⟩ := hc.stop hq hdw
    have hch := hafter.char
    have := ih hch (by show start ≤ c.pos + qe.length + 1 + k; omega)
      (valid_append _ (valid_append _ hb _ hqe) _ (valid_char hafter.valid).2.1)
      (hd.append (DiagsOk.single _ (by show c.pos + qe.length ≤ c.pos + qe.length + 1 + k; omega) hcq.bnd hch.bnd))
    exact ⟨this.1, Nat.le_trans (by show c.pos ≤ c.pos + qe.length + 1 + k; omega) this.2.1, this.2.2⟩

theorem scanString_ok {src : Bytes} {start quote : Nat} {c : Cur} (hq : quote < 128) (hs : Bnd src start)
    (hc : c.Ok src) (hsc : start ≤ c.pos) :
    (scanString start quote c).cur.Ok src ∧ c.pos ≤ (scanString start quote c).cur.pos ∧
    validUtf8 (scanString start quote c).content = true ∧ DiagsOk src (scanString start quote c).diags :=
  scanStrLoop_ok hq hs _ c [] false [] hc hsc valid_nil DiagsOk.nil

def NumRes.cur : NumRes → Cur
  | .ok _ c _ => c
  | .invalid c _ => c

def NumRes.diags : NumRes → List Diag
  | .ok _ _ ds => ds
  | .invalid _ ds => ds

theorem numFinish_ok {src : Bytes} {start : Nat} {lx : Bytes} {c : Cur} (hs : Bnd src start) (hc : c.Ok src)
    (hsc : start ≤ c.pos) :
    (numFinish start lx c).cur.Ok src ∧ c.pos ≤ (numFinish start lx c).cur.pos ∧
      DiagsOk src (numFinish start lx c).diags := by
  fun_cases numFinish start lx c
  · exact ⟨hc, Nat.le_refl _, DiagsOk.nil⟩
  · have h := hc.skipAscii isWordCh (fun _ => isWordCh_ascii)
    exact ⟨h.1, h.2, DiagsOk.single _ (Nat.le_trans hsc h.2) hs h.1.bnd⟩
  · exact ⟨hc, Nat.le_refl _, DiagsOk.nil⟩

theorem scanNumber_ok {src : Bytes} {start : Nat} {c : Cur} {b : Nat} {r : Bytes} (hs : Bnd src start)
    (hc : c.Ok src) (hsc : start ≤ c.pos) (hr : c.rest = b :: r) (hb : isDigit b = true) :
    (scanNumber start c).cur.Ok src ∧ c.pos < (scanNumber start c).cur.pos ∧
      DiagsOk src (scanNumber start c).diags := by
  have h1 := hc.skipAscii isDigit (fun _ => isDigit_ascii)
  have hlt : c.pos < (c.skipWhile isDigit).pos := by
    have := takeWhile_pos (p := isDigit) (r := r) hb
    simp only [Cur.skipWhile, hr]; omega
  simp only [scanNumber]
  split
  next r2 h46 =>
    have hc1 : (⟨(c.skipWhile isDigit).pos, 46 :: r2⟩ : Cur).Ok src := by rw [← h46]; exact h1.1
    have hc2 := hc1.cons (by decide : 46 < 128)
    split
    · exact ⟨hc2, by simp only [NumRes.cur]; omega, DiagsOk.single _ (by omega) hs hc2.bnd⟩
    next d tl =>
      split
      · have h3 := hc2.skipAscii isDigit (fun _ => isDigit_ascii)
        have h4 := numFinish_ok (lx := c.rest.takeWhile isDigit ++ 46 :: (d :: tl).takeWhile isDigit) hs h3.1
          (by have := h3.2; simp only [] at this; omega)
        refine ⟨h4.1, ?_, h4.2.2⟩
        have := h4.2.1; have := h3.2; simp only [] at this; omega
      · have h3 := hc2.char
        refine ⟨h3, ?_, DiagsOk.single _ (by omega) hs hc2.bnd⟩
        simp only [NumRes.cur, Cur.adv]; omega
  · have h4 := numFinish_ok (lx := c.rest.takeWhile isDigit) hs h1.1 (Nat.le_trans hsc h1.2)
    exact ⟨h4.1, Nat.lt_of_lt_of_le hlt h4.2.1, h4.2.2⟩

theorem tryWord_ok {src : Bytes} {w : Bytes} {c c' : Cur} (hw : ∀ b ∈ w, b < 128) (hc : c.Ok src)
    (h : tryWord w c = some c') : c'.Ok src ∧ c.pos ≤ c'.pos := by
  have h1 := skipWs_ok hc
  simp only [tryWord] at h
  split at h
  next hpre =>
    have hp : w <+: (skipWs c).rest := List.isPrefixOf_iff_prefix.mp hpre
    have he := List.prefix_iff_eq_append.mp hp
    have hv : validUtf8 ((skipWs c).rest.drop w.length) = true := by
      rw [← valid_append_eq (valid_ascii w hw), he]; exact h1.1.valid
    have h2 := h1.1.adv (k := w.length) hp.length_le hv
    split at h
    · simp at h; subst h; exact ⟨h2.1, Nat.le_trans h1.2 h2.2⟩
    · split at h
      · simp at h
      · simp at h; subst h; exact ⟨h2.1, Nat.le_trans h1.2 h2.2⟩
  · simp at h

theorem tryWords_ok {src : Bytes} : ∀ (ws : List Bytes) (c : Cur), (∀ w ∈ ws, ∀ b ∈ w, b < 128) → c.Ok src →
    (tryWords ws c).2.Ok src ∧ c.pos ≤ (tryWords ws c).2.pos := by
  intro ws
  induction ws with
  | nil => intro c _ hc; exact ⟨hc, Nat.le_refl _⟩
  | cons w ws ih =>
    intro c hw hc
    simp only [tryWords]
    split
    next c' h =>
      have h1 := tryWord_ok (hw w List.mem_cons_self) hc h
      have h2 := ih c' (fun w' hw' => hw w' (by simp [hw'])) h1.1
      exact ⟨h2.1, Nat.le_trans h1.2 h2.2⟩
    · exact ⟨hc, Nat.le_refl _⟩

theorem tryAlts_ok {src : Bytes} : ∀ (alts : List (List Bytes × Tok)) (c : Cur),
    (∀ a ∈ alts, ∀ w ∈ a.1, ∀ b ∈ w, b < 128) → c.Ok src →
    ∀ t c', tryAlts alts c = some (t, c') → c'.Ok src ∧ c.pos ≤ c'.pos := by
  intro alts
  induction alts with
  | nil => intro c _ _ t c' h; simp [tryAlts] at h
  | cons a alts ih =>
    intro c ha hc t c' h
    obtain ⟨ws, tk⟩ := a
    have h1 := tryWords_ok ws c (ha (ws, tk) List.mem_cons_self) hc
    rw [tryAlts] at h
    split at h
    next c1 he =>
      simp at h; obtain ⟨_, rfl⟩ := h
      rw [he] at h1; exact h1
    next c1 he =>
      rw [he] at h1
      have := ih c1 (fun a' ha' => ha a' (by simp [ha'])) h1.1 t c' h
      exact ⟨this.1, by have := h1.2; simp only [] at this; omega⟩

theorem multiWord_ascii : ∀ e ∈ multiWord, ∀ a ∈ e.2, ∀ w ∈ a.1, ∀ b ∈ w, b < 128 := by decide

def _root_.NaijaVerif.Tok.isStr : Tok → Bool
  | .str _ _ => true
  | _ => false

/-- what C07 asks of a token payload: string contents are valid UTF-8 -/
def TokOk : Tok → Prop
  | .str content _ => validUtf8 content = true
  | _ => True

theorem tokOk_of_not_str {t : Tok} (h : t.isStr = false) : TokOk t := by
  unfold TokOk
  split
  · cases h
  · trivial

/-- `scan_punctuation` yields a token of its table: not one of a kind `K` that the table does not hold -/
theorem punct_kind {K : Tok → Bool} (hp : ∀ e ∈ punctTable, K e.2 = false) {b : Nat} {t : Tok} (h : punct b = some t) :
    K t = false :=
  hp _ (lookup_mem h)

theorem punct_not_str {b : Nat} {t : Tok} (h : punct b = some t) : t.isStr = false :=
  punct_kind (by decide) h

theorem tryAlts_tok : ∀ (alts : List (List Bytes × Tok)) (c : Cur) (t : Tok) (c' : Cur),
    tryAlts alts c = some (t, c') → ∃ a ∈ alts, a.2 = t := by
  intro alts
  induction alts with
  | nil => intro c t c' h; simp [tryAlts] at h
  | cons a alts ih =>
    intro c t c' h
    obtain ⟨ws, tk⟩ := a
    rw [tryAlts] at h
    split at h
    · simp at h; exact ⟨(ws, tk), by simp, h.1⟩
    next c1 _ =>
      obtain ⟨a', ha', he⟩ := ih c1 t c' h
      exact ⟨a', by simp [ha'], he⟩

theorem scanWord_kind {K : Tok → Bool} (hi : ∀ w, K (.ident w) = false) (hk : ∀ e ∈ kwTable, K e.2 = false)
    (hm : ∀ e ∈ multiWord, ∀ a ∈ e.2, K a.2 = false) (c : Cur) : K (scanWord c).1 = false := by
  fun_cases scanWord c
  case case1 alts hl t c' ha =>
    obtain ⟨a, haa, rfl⟩ := tryAlts_tok _ _ _ _ ha
    exact hm _ (lookup_mem hl) a haa
  case case3 t ht => exact hk _ (lookup_mem ht)
  all_goals exact hi _

theorem scanWord_not_str (c : Cur) : (scanWord c).1.isStr = false :=
  scanWord_kind (fun _ => rfl) (by decide) (by decide) c

theorem scanWord_ok {src : Bytes} {c : Cur} {b : Nat} {r : Bytes} (hc : c.Ok src) (hr : c.rest = b :: r)
    (hb : isAlpha b = true) : (scanWord c).2.Ok src ∧ c.pos < (scanWord c).2.pos := by
  have h1 := hc.skipAscii isWordCh (fun _ => isWordCh_ascii)
  have hlt : c.pos < (c.skipWhile isWordCh).pos := by
    have := takeWhile_pos (p := isWordCh) (b := b) (r := r) (by simp [isWordCh, hb])
    simp only [Cur.skipWhile, hr]; omega
  fun_cases scanWord c
  case case1 alts hl t c' ha =>
    have := tryAlts_ok alts _ (multiWord_ascii _ (lookup_mem hl)) h1.1 t c' ha
    exact ⟨this.1, Nat.lt_of_lt_of_le hlt this.2⟩
  all_goals exact ⟨h1.1, hlt⟩

/-- What one turn of `next_token` from a good cursor `c0` guarantees.  Everything about a whole run is read off these
conjuncts: `c0.pos < c'.pos` is the progress `lexGo_fuel` counts; `c0.pos ≤ t.span.lo` and `t.span.hi = c'.pos` make the
spans of successive tokens a `Chain` (`lexGo_chain`); `SpanOk`, `DiagsOk`, `TokOk` are what `lexGo_ok` collects. -/
def StepOk (src : Bytes) (c0 : Cur) : Step → Prop
  | .eof p => Bnd src p
  | .skip c' ds => c'.Ok src ∧ c0.pos < c'.pos ∧ DiagsOk src ds
  | .tok t c' ds => c'.Ok src ∧ c0.pos < c'.pos ∧ DiagsOk src ds ∧ SpanOk src t.span ∧ c0.pos ≤ t.span.lo ∧
      t.span.hi = c'.pos ∧ TokOk t.tok

theorem step_ok {src : Bytes} {c0 : Cur} (hc0 : c0.Ok src) : StepOk src c0 (step c0) := by
  have hw := skipWs_ok hc0
  have hb0 := hw.1.bnd
  -- the arms of `step`: case1 end of input; case2 `#`; case3 a quote; case4 punctuation; case5 a number; case6 an invalid
  -- number (skipped); case7 a word; case8 a non-ASCII character; case9 any other ASCII byte
  fun_cases step c0
  case case1 => exact hb0
  case case2 c b r hr hcm =>
    have := skipComment_ok hw.1
    obtain rfl : b = 35 := by simpa [commentChar] using hcm
    refine ⟨this.1, ?_, DiagsOk.nil⟩
    -- the `#` itself is consumed
    have h2 : c.pos < (skipComment c).pos := by
      simp only [skipComment, Cur.skipWhile, hr]
      have : 0 < ((35 :: r).takeWhile notNl).length := takeWhile_pos (by decide)
      split <;> simp only [Cur.adv] <;> omega
    exact Nat.lt_of_le_of_lt hw.2 h2
  case case3 c start b r hr c1 _ hqc s =>
    have hc : (⟨start, b :: r⟩ : Cur).Ok src := hr ▸ hw.1
    have hq : b < 128 := by simp [quoteChars] at hqc; omega
    have := scanString_ok (start := start) hq hb0 (hc.cons hq) (Nat.le_succ _)
    have hlt : start < s.cur.pos := this.2.1
    exact ⟨this.1, Nat.lt_of_le_of_lt hw.2 hlt, this.2.2.2, ⟨Nat.le_of_lt hlt, hb0, this.1.bnd⟩, hw.2, rfl, this.2.2.1⟩
  case case4 c start b r hr c1 _ _ t hp =>
    have hc : (⟨start, b :: r⟩ : Cur).Ok src := hr ▸ hw.1
    have hm := lookup_mem hp
    have hq : b < 128 := by simp [punctTable] at hm; omega
    have hc1 := hc.cons hq
    exact ⟨hc1, Nat.lt_succ_of_le hw.2, DiagsOk.nil, ⟨Nat.le_succ _, hb0, hc1.bnd⟩, hw.2, rfl,
      tokOk_of_not_str (punct_not_str hp)⟩
  case case5 c start b r hr _ _ _ hd lx c' ds he =>
    have := scanNumber_ok (start := start) hb0 hw.1 (Nat.le_refl _) hr hd
    rw [he] at this
    have hlt : start < c'.pos := this.2.1
    exact ⟨this.1, Nat.lt_of_le_of_lt hw.2 hlt, this.2.2, ⟨Nat.le_of_lt hlt, hb0, this.1.bnd⟩, hw.2, rfl, trivial⟩
  case case6 c start b r hr _ _ _ hd c' ds he =>
    have := scanNumber_ok (start := start) hb0 hw.1 (Nat.le_refl _) hr hd
    rw [he] at this
    exact ⟨this.1, Nat.lt_of_le_of_lt hw.2 this.2.1, this.2.2⟩
  case case7 c start b r hr _ _ _ _ ha t c' he =>
    have := scanWord_ok hw.1 hr ha
    rw [he] at this
    have hlt : start < c'.pos := this.2
    exact ⟨this.1, Nat.lt_of_le_of_lt hw.2 hlt, DiagsOk.nil, ⟨Nat.le_of_lt hlt, hb0, this.1.bnd⟩, hw.2, rfl,
      tokOk_of_not_str ((congrArg (·.1.isStr) he).symm.trans (scanWord_not_str c))⟩
  case case8 c start b r hr _ _ _ _ _ _ k =>
    have hc : (⟨start, b :: r⟩ : Cur).Ok src := hr ▸ hw.1
    have h3 : (c.adv k).Ok src := by simpa only [Cur.adv, hr] using hc.char
    have hk : 1 ≤ k := charLen_pos b
    exact ⟨h3, Nat.lt_of_le_of_lt hw.2 (Nat.lt_add_of_pos_right hk),
      DiagsOk.single _ (Nat.le_add_right _ _) hb0 h3.bnd⟩
  case case9 c start b r hr c1 _ _ _ _ _ h128 =>
    have hc : (⟨start, b :: r⟩ : Cur).Ok src := hr ▸ hw.1
    exact ⟨hc.cons (Nat.lt_of_not_le h128), Nat.lt_succ_of_le hw.2, DiagsOk.single _ (Nat.le_refl _) hb0 hb0⟩

/-- The converse of `punct_not_str` and `scanWord_not_str`: a string token comes from the quote arm. -/
theorem step_str_inv {c c' : Cur} {t : SpTok} {ds : List Diag}
    (hs : step c = .tok t c' ds) (hstr : t.tok.isStr = true) :
    ∃ q body, (q = 34 ∨ q = 39) ∧ (skipWs c).rest = q :: body ∧
      t = ⟨.str (scanString (skipWs c).pos q ⟨(skipWs c).pos + 1, body⟩).content
            (scanString (skipWs c).pos q ⟨(skipWs c).pos + 1, body⟩).escaped,
          ⟨(skipWs c).pos, (scanString (skipWs c).pos q ⟨(skipWs c).pos + 1, body⟩).cur.pos⟩⟩ ∧
      c' = (scanString (skipWs c).pos q ⟨(skipWs c).pos + 1, body⟩).cur := by
  revert hs
  -- arms numbered as in `step_ok`: only case3, the quote, yields a string
  fun_cases step c <;> intro hs
  case case1 | case2 | case6 | case8 | case9 => cases hs
  case case3 b r hr _ hcm hq _ =>
    injection hs with ht hc
    exact ⟨b, r, by simpa [quoteChars] using hq, hr, ht.symm, hc.symm⟩
  case case4 tk hp =>
    injection hs with ht; subst ht
    cases (punct_not_str hp).symm.trans hstr
  case case5 =>
    injection hs with ht; subst ht
    cases hstr
  case case7 hw =>
    injection hs with ht; subst ht
    cases ((congrArg (·.1.isStr) hw).symm.trans (scanWord_not_str _)).symm.trans hstr

/-- token spans start at or after `p`, each after the end of its predecessor: the recursive form of
`List.Pairwise (fun a b => a.span.hi ≤ b.span.lo)`, which the property theorems state (`Props/C07Lex.lean`, `chain_pairwise`) -/
def Chain : Nat → List SpTok → Prop
  | _, [] => True
  | p, t :: r => p ≤ t.span.lo ∧ t.span.lo ≤ t.span.hi ∧ Chain t.span.hi r

theorem Chain.mono {p q : Nat} (h : p ≤ q) : ∀ {ts : List SpTok}, Chain q ts → Chain p ts
  | [], _ => trivial
  | _ :: _, hc => ⟨Nat.le_trans h hc.1, hc.2⟩

theorem lexGo_eof {f : Nat} {c : Cur} {p : Nat} (h : step c = .eof p) : lexGo (f + 1) c = ([], [], false) := by
  simp only [lexGo, h]
theorem lexGo_skip {f : Nat} {c c' : Cur} {ds : List Diag} (h : step c = .skip c' ds) :
    lexGo (f + 1) c = ((lexGo f c').1, ds ++ (lexGo f c').2.1, (lexGo f c').2.2) := by
  simp only [lexGo, h]
theorem lexGo_tok {f : Nat} {c c' : Cur} {t : SpTok} {ds : List Diag} (h : step c = .tok t c' ds) :
    lexGo (f + 1) c = (t :: (lexGo f c').1, ds ++ (lexGo f c').2.1, (lexGo f c').2.2) := by
  simp only [lexGo, h]

/-- `I` is kept by every turn of the loop of `next_token`.  (`Reach src` of `Props/C07Lex.lean`, the cursors the loop can
be in, is the least such `I` that holds of the start cursor.) -/
def Kept (I : Cur → Prop) : Prop :=
  ∀ c, I c → match step c with
    | .eof _ => True
    | .skip c' _ => I c'
    | .tok _ c' _ => I c'

theorem kept_ok (src : Bytes) : Kept (Cur.Ok src) := by
  intro c hc
  have := step_ok hc
  cases hs : step c <;> rw [hs] at this
  · trivial
  · exact this.1
  · exact this.1

/-- A run of the main loop is a sequence of turns: every token and every diagnostic it yields was emitted by `step` at a
cursor that an invariant of the turns holds of.  What is true of all tokens of a text is read off one `step`; what
relates successive turns (`lexGo_chain`, `lexGo_fuel`, the potential of `LexMemSum.lexGo_caps`) has an induction on the
fuel of its own. -/
theorem lexGo_of_turns {I : Cur → Prop} (hI : Kept I) : ∀ (f : Nat) (c : Cur), I c →
    (∀ t ∈ (lexGo f c).1, ∃ c₁ c₂ ds, I c₁ ∧ step c₁ = .tok t c₂ ds) ∧
    (∀ d ∈ (lexGo f c).2.1, ∃ c₁ c₂ ds, I c₁ ∧ d ∈ ds ∧
      (step c₁ = .skip c₂ ds ∨ ∃ t, step c₁ = .tok t c₂ ds)) := by
  intro f
  induction f with
  | zero => intro c _; exact ⟨fun _ h => (nomatch h), fun _ h => (nomatch h)⟩
  | succ f ih =>
    intro c hc
    have hk := hI c hc
    -- a token or diagnostic of the run is emitted by this turn, at `c`, or belongs to the rest of the run (`ih`)
    cases hs : step c with
    | eof p => rw [lexGo_eof hs]; exact ⟨fun _ h => (nomatch h), fun _ h => (nomatch h)⟩
    | skip c' ds =>
      rw [hs] at hk; rw [lexGo_skip hs]
      refine ⟨(ih c' hk).1, fun d hd => ?_⟩
      rcases List.mem_append.mp hd with h | h
      · exact ⟨c, c', ds, hc, h, .inl hs⟩
      · exact (ih c' hk).2 d h
    | tok t c' ds =>
      rw [hs] at hk; rw [lexGo_tok hs]
      refine ⟨fun t' ht' => ?_, fun d hd => ?_⟩
      · rcases List.mem_cons.mp ht' with rfl | h
        · exact ⟨c, c', ds, hc, hs⟩
        · exact (ih c' hk).1 t' h
      · rcases List.mem_append.mp hd with h | h
        · exact ⟨c, c', ds, hc, h, .inr ⟨t, hs⟩⟩
        · exact (ih c' hk).2 d h

theorem eofTok_tok (ts : List SpTok) : (eofTok ts).tok = .eof := by
  unfold eofTok; split <;> rfl

theorem lex_tok_of_turn {src : Bytes} (h : validUtf8 src = true) {t : SpTok} (ht : t ∈ (lex src).1) :
    t = eofTok (lexIter src).1 ∨ ∃ c c' ds, c.Ok src ∧ step c = .tok t c' ds := by
  simp only [lex, List.mem_append, List.mem_singleton] at ht
  exact ht.symm.imp_right ((lexGo_of_turns (kept_ok src) _ _ (ok_start h)).1 t)

theorem lexGo_ok {src : Bytes} (f : Nat) (c : Cur) (hc : c.Ok src) :
    (∀ t ∈ (lexGo f c).1, SpanOk src t.span ∧ TokOk t.tok) ∧ DiagsOk src (lexGo f c).2.1 := by
  have hr := lexGo_of_turns (kept_ok src) f c hc
  refine ⟨fun t ht => ?_, fun d hd => ?_⟩
  · obtain ⟨c₁, c₂, ds, h1, hs⟩ := hr.1 t ht
    have := step_ok h1; rw [hs] at this
    exact ⟨this.2.2.2.1, this.2.2.2.2.2.2⟩
  · obtain ⟨c₁, c₂, ds, h1, hd, hs⟩ := hr.2 d hd
    have := step_ok h1
    rcases hs with hs | ⟨t, hs⟩ <;> rw [hs] at this
    · exact this.2.2 d hd
    · exact this.2.2.1 d hd

theorem lexGo_chain {src : Bytes} : ∀ (f : Nat) (c : Cur), c.Ok src → Chain c.pos (lexGo f c).1 := by
  intro f
  induction f with
  | zero => intro c _; trivial
  | succ f ih =>
    intro c hc
    have hs := step_ok hc
    cases he : step c with
    | eof p => rw [lexGo_eof he]; trivial
    | skip c' ds =>
      rw [he] at hs; rw [lexGo_skip he]
      exact Chain.mono (Nat.le_of_lt hs.2.1) (ih c' hs.1)
    | tok t c' ds =>
      rw [he] at hs; rw [lexGo_tok he]
      exact ⟨hs.2.2.2.2.1, hs.2.2.2.1.1, hs.2.2.2.2.2.1 ▸ ih c' hs.1⟩

theorem scanStrLoop_fuel_stable (start quote : Nat) : ∀ (f : Nat) (c : Cur) (buf : Bytes) (esc : Bool) (ds : List Diag),
    c.rest.length < f → scanStrLoop start quote (f + 1) c buf esc ds = scanStrLoop start quote f c buf esc ds := by
  intro f c buf esc ds hf
  -- along each branch of the run with `f` (numbered as in `scanStrLoop_ok`), the run with `f + 1` takes the same branch
  fun_induction scanStrLoop start quote f c buf esc ds
  case case1 => omega
  case case2 hnl _ => rw [scanStrLoop]; exact if_pos hnl
  case case3 hnl hdw => rw [scanStrLoop, if_neg hnl, hdw]
  case case4 hnl _ _ hdw _ hx => rw [scanStrLoop, if_neg hnl, hdw]; exact if_pos hx
  case case5 hnl _ hx _ hdw => rw [scanStrLoop, if_neg hnl, hdw]; exact if_neg hx
  case case6 hnl _ _ hx _ e tl _ hy hdw ih | case7 hnl _ _ hx _ e tl hy _ hdw ih =>
    have := dropWhile_length hdw
    rw [scanStrLoop, if_neg hnl, hdw]; dsimp only; rw [if_neg hx, hy]
    exact ih (by simp only [List.length_drop, List.length_cons] at this ⊢; omega)

theorem lexGo_fuel {src : Bytes} : ∀ (f : Nat) (c : Cur), c.Ok src → src.length - c.pos < f →
    (lexGo f c).2.2 = false ∧ lexGo (f + 1) c = lexGo f c := by
  intro f
  induction f with
  | zero => intro c _ h; omega
  | succ f ih =>
    intro c hc hf
    have hs := step_ok hc
    cases he : step c with
    | eof p => rw [lexGo_eof he, lexGo_eof he]; exact ⟨rfl, rfl⟩
    | skip c' ds =>
      rw [he] at hs
      have := hs.1.len
      have := ih c' hs.1 (by have := hs.2.1; omega)
      rw [lexGo_skip (f := f + 1) he, lexGo_skip (f := f) he, this.2]
      exact ⟨this.1, rfl⟩
    | tok t c' ds =>
      rw [he] at hs
      have := hs.1.len
      have := ih c' hs.1 (by have := hs.2.1; omega)
      rw [lexGo_tok (f := f + 1) he, lexGo_tok (f := f) he, this.2]
      exact ⟨this.1, rfl⟩

theorem lexGo_fuel_any {src : Bytes} (c : Cur) (hc : c.Ok src) (f k : Nat) (hf : src.length - c.pos < f) :
    lexGo (f + k) c = lexGo f c := by
  induction k with
  | zero => rfl
  | succ k ih => rw [← Nat.add_assoc, (lexGo_fuel (f + k) c hc (by omega)).2, ih]

end NaijaVerif.Lex
