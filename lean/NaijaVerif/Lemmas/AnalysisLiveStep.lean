import NaijaVerif.Lemmas.AnalysisLiveSim
import NaijaVerif.Lemmas.AnalysisSets
/-
Statement level of the liveness simulation: the fields of `LSim P L (n+1)` from `LSim P L n`, and the induction on the
fuel that assembles them (`lsim_all`).  Each step lemma takes the evaluator's equation for its form (`AnalysisEvalEq`) and
goes through it call by call; at a loop the agreement set covers the loop head's fixpoint at every round (`lstep_loop`).
-/
namespace NaijaVerif.C03
open NaijaVerif NaijaVerif.Analysis NaijaVerif.AEval

variable {V : Type}

theorem mem_calleeReads {c : Ctx} {f i x : Nat} :
    x ∈ c.calleeReads f i ↔ ∃ g ∈ c.callees i, x ∈ c.transReads g ∧ c.owner x = some f := by
  simp only [Ctx.calleeReads]
  rw [mem_foldl_uni (fun g => (c.transReads g).filter (fun l => c.owner l == some f))]
  simp

theorem mem_transfer {c : Ctx} {f i x : Nat} {st : LS} :
    x ∈ (c.transfer f i st).live ↔ x ∈ c.reads i ∨ x ∈ c.calleeReads f i ∨ (x ∈ st.live ∧ x ∉ c.writes i) := by
  simp only [Ctx.transfer, mem_uni_iff, mem_dif_iff, or_assoc]

section helpers
variable {L : LSetup}

theorem need_after {f i : Nat} {st : LS} {A : Nat → Prop} (hw : L.writesOkB i = true)
    (h : Need L (L.c.transfer f i st).live A) : Need L st.live A := by
  intro x hx hd
  refine h x (mem_transfer.mpr ?_) hd
  by_cases hwx : x ∈ L.c.writes i
  · exact Or.inl (subset_iff.mp hw x hwx)
  · exact Or.inr (Or.inr ⟨hx, hwx⟩)

theorem need_store {f i l : Nat} {st : LS} {A : Nat → Prop} (hw : L.c.writes i = [l])
    (h : Need L (L.c.transfer f i st).live A) {x : Nat} (hx : x ∈ st.live) (hxl : x ≠ l) (hd : L.D2 x = false) : A x :=
  h x (mem_transfer.mpr (Or.inr (Or.inr ⟨hx, by rw [hw]; simpa using hxl⟩))) hd

theorem need_mono {l1 l2 : List Nat} {A : Nat → Prop} (hsub : ∀ x ∈ l1, x ∈ l2) (h : Need L l2 A) : Need L l1 A :=
  fun x hx hd => h x (hsub x hx) hd

theorem base_parts {f i : Nat} {σ : List (Option Nat)} {es : List Expr} (h : L.baseB f σ i es = true) :
    L.c.fnOf i = f ∧ L.efitList f σ i es = true := by
  simpa [LSetup.baseB] using h

theorem lstep_head (hs : LSetupOk L) {f i : Nat} {σ : SigM} {A : Nat → Prop} {s : Stmt} {es : List Expr} {st : LS}
    (hsid : s.sid = some i) (hc : ConsStmt L.T true s) (hbr : L.BR f = true) (hm : MOkStmt L σ s)
    (hb : L.baseB f (tagsOf σ) i es = true) (hn : Need L (L.c.transfer f i st).live A) :
    ExprCtx L f σ A i ∧
      ∀ e ∈ es, eOk (fun g => (L.c.callees i).contains g) (fun x => !L.varFit f (tagsOf σ) i x) e = true := by
  obtain ⟨hfn, hfit⟩ := base_parts hb
  have hT : (i, true) ∈ L.T := consStmt_inTbl hc i hsid
  have hu := hs.used i hT (by rw [hfn]; exact hbr)
  refine ⟨⟨fun x hx => hn x (mem_transfer.mpr (Or.inl hx)) (hu.1 x hx), fun g hg x hx hown => ?_, fun p hp l hl => ?_,
    hT, hfn, hbr⟩, eOk_mem es hfit⟩
  · exact hn x (mem_transfer.mpr (Or.inr (Or.inl (mem_calleeReads.mpr ⟨g, hg, hx, hown⟩)))) (hu.2 g hg x hx)
  · have := noRefB_sid (hm p hp l hl) hsid
    rw [hs.liveT i hT] at this
    simpa using this

theorem other_dead (hs : LSetupOk L) {i : Nat} (hT : (i, true) ∈ L.T) (h : L.otherB i = true) : L.cfg.skip i = false := by
  cases hsk : L.cfg.skip i with
  | false => rfl
  | true =>
    simp only [LSetup.otherB, hsk, Bool.not_true, Bool.false_or, LSetup.deadB, Bool.and_eq_true] at h
    exact absurd (by simpa using h.1.1) (hs.func i hT)

end helpers

/- `chainF t1, t2, ho, hq`: the case split of `chain` (AnalysisRelStep) for a goal whose outcome is `LOutF` (statement
level) while `ho` is the `LOut` of a sub-evaluation.  Like `chain` it is called by no step lemma (they go through
`LOutF.andThen`) and is there for a walk extended by a form that has to split the two results by hand. -/
set_option hygiene false in
macro "chainF " t1:term ", " t2:term ", " ho:ident ", " hq:ident : tactic => `(tactic|
  ( generalize $t2 = r2 at $ho:ident $hq:ident ⊢
    generalize $t1 = r1 at $ho:ident ⊢
    obtain ⟨x2, s2⟩ := r2
    obtain ⟨x1, s1⟩ := r1
    rcases $ho:ident with hbad | ⟨heq, hrel'⟩
    · rcases hbad with hb | hb | hb <;>
        (simp only at hb; subst hb; first | exact ⟨Or.inl bad_fuel, $hq⟩ | exact ⟨Or.inl bad_unbound, $hq⟩ | exact ⟨Or.inl bad_panic, $hq⟩)
    simp only at heq
    subst heq
    rcases x1 with er | v
    · exact ⟨Or.inr ⟨rfl, _, hrel', trivial⟩, $hq⟩
    try simp only [] ))

section sstep
variable {P : Prims V} {L : LSetup} {n : Nat} {f : Nat} {σ : SigM} {K : List (Scope V) → List (Scope V) → Prop} {lc : LoopCtx} {A : Nat → Prop}
  {post : LS} {rest : List Stmt}

theorem flowNeed_normal {live : List Nat} (h : Need L live A) :
    FlowNeed (V := V) L lc live (fun _ => False) A (.ok .normal) := by
  intro S hS x hx hdx
  cases hS
  exact hx.elim (fun hx => h x hx hdx) False.elim

theorem flowNeed_jump {r : Except Err (Flow V)} (tgt : Option (List Nat))
    (h : Need L (match tgt with | some b => dif b lc.kills | none => []) A)
    (ht : flowTarget lc post.live r = tgt.map (dif · lc.kills)) :
    FlowNeed L lc post.live (fun _ => False) A r := by
  intro S hS x hx hdx
  rw [ht] at hS
  cases tgt with
  | none => cases hS
  | some bs =>
    cases hS
    exact hx.elim (fun hx => h x hx hdx) False.elim

theorem tagsOf_head {σ : SigM} {t : Option Nat} (h : (tagsOf σ).head? = some t) : ∃ M σ', σ = (t, M) :: σ' := by
  cases σ with
  | nil => cases h
  | cons p σ' =>
    cases p
    cases h
    exact ⟨_, _, rfl⟩

theorem lstep_assign (hs : LSetupOk L) (ih : LSim P L n) {vr : Bytes} {vs : Span} {e : Expr} {bd : Option Nat} {j : Nat} {sp : Span}
    (h : StmtOk L f σ K lc A (.assign vr vs e bd (some j) sp) post rest) (a b : St V)
    (hr : LRel L A K σ a b) (hi : LInv L b) :
    LOutF L K σ lc post.live (fun _ => False) (execStmt P L.cfg (n + 1) (.assign vr vs e bd (some j) sp) a)
      (execStmt P plain (n + 1) (.assign vr vs e bd (some j) sp) b) := by
  obtain ⟨hc, hok, hf, ha, hm, hn⟩ := h
  simp only [lokB, Bool.and_eq_true] at hok
  simp only [lvStmt] at hn
  obtain ⟨hctx, hfit⟩ := lstep_head hs rfl hc hf hm hok.1 hn
  simp only [execStmt_assign]
  refine LOutF.andThen (ih.expr ha hctx e a b (hfit e List.mem_cons_self) hr hi) fun v s1 s2 hr1 hi1 => ?_
  cases bd with
  | none => exact .same _ ⟨A, hr1, flowNeed_none rfl⟩ hi1
  | some l =>
    have hst := hok.2
    simp only [Bool.and_eq_true, LSetup.ownStoreB, beq_iff_eq] at hst
    obtain ⟨_, ⟨⟨hw, hdecl⟩, _⟩, _⟩ := hst
    cases hl : L.ds l with
    | none => simp [hl] at hdecl
    | some tg =>
      simp only [hl, ↓reduceIte] at hdecl
      -- the innermost scope is the one that declares `l`
      obtain ⟨M0, σ', rfl⟩ := tagsOf_head (beq_iff_eq.mp hdecl)
      refine .same _ ⟨fun y => A y ∨ y = l, ⟨hr1.1, hr1.2.1, trel_define hl hr1.2.2 ha.nodup⟩, ?_⟩ hi1
      exact flowNeed_normal fun x hx hdx => (Decidable.em (x = l)).elim Or.inr fun hxl => Or.inl (need_store hw hn hx hxl hdx)

theorem lstep_assignExisting (hd : P.dscope = L.ds) (hs : LSetupOk L) (ih : LSim P L n) {vr : Bytes} {vs : Span} {e : Expr}
    {bd : Option Nat} {j : Nat} {sp : Span} (h : StmtOk L f σ K lc A (.assignExisting vr vs e bd (some j) sp) post rest)
    (a b : St V) (hr : LRel L A K σ a b) (hi : LInv L b) :
    LOutF L K σ lc post.live (fun _ => False) (execStmt P L.cfg (n + 1) (.assignExisting vr vs e bd (some j) sp) a)
      (execStmt P plain (n + 1) (.assignExisting vr vs e bd (some j) sp) b) := by
  obtain ⟨hc, hok, hf, ha, hm, hn⟩ := h
  simp only [lokB, Bool.and_eq_true] at hok
  simp only [lvStmt] at hn
  obtain ⟨hctx, hfit⟩ := lstep_head hs rfl hc hf hm hok.1 hn
  simp only [execStmt_assignExisting, hd]
  refine LOutF.andThen (ih.expr ha hctx e a b (hfit e List.mem_cons_self) hr hi) fun v s1 s2 hr1 hi1 => ?_
  cases bd with
  | none => exact .bad bad_unbound hi1
  | some l =>
    simp only [Option.bind_some]
    have hst := hok.2
    dsimp only at hst -- the `match` of `lokB` on `some l`
    -- in either case the store goes through on both sides or on neither
    suffices h : ∃ A', ORel (TRel L.ds A' K σ) (assignEnv L.ds l v s1.env) (assignEnv L.ds l v s2.env) ∧
        Need L post.live A' by
      obtain ⟨A', hasg, hn'⟩ := h
      rcases hasg.cases with ⟨h1, h2⟩ | ⟨e1, e2, h1, h2, he⟩
      · rw [h1, h2]; exact .bad bad_unbound hi1
      · rw [h1, h2]; exact .same _ ⟨A', ⟨hr1.1, hr1.2.1, he⟩, flowNeed_normal hn'⟩ hi1
    by_cases hown : (L.c.owner l == some f) = true
    · rw [if_pos hown] at hst
      simp only [Bool.and_eq_true, LSetup.ownStoreB, beq_iff_eq, Bool.false_eq_true, ↓reduceIte] at hst
      obtain ⟨⟨⟨hw, hin⟩, _⟩, _⟩ := hst
      obtain ⟨tg, hl, hin⟩ := inTags_iff.mp hin
      refine ⟨fun y => A y ∨ y = l, trel_assign_own v hl hr1.2.2 ha.nodup hin fun M hM hMl => ?_,
        fun x hx hdx => (Decidable.em (x = l)).elim Or.inr fun hxl => Or.inl (need_store hw hn hx hxl hdx)⟩
      have := (refFree_parts (hctx.mOk _ hM l hMl)).2.1
      rw [hw] at this
      simp at this
    · rw [if_neg hown] at hst
      simp only [Bool.and_eq_true, List.isEmpty_iff, List.contains_eq_mem, decide_eq_true_eq, Bool.not_eq_true'] at hst
      obtain ⟨⟨⟨hw, htw⟩, hout⟩, _⟩ := hst
      exact ⟨A, trel_assign_rest ha.susp v (Or.inr htw) hr1.2.2 (fun tg hl hin => by
          rw [inTags_iff.mpr ⟨tg, hl, hin⟩] at hout; cases hout),
        fun x hx hdx => hn x (mem_transfer.mpr (Or.inr (Or.inr ⟨hx, by rw [hw]; simp⟩))) hdx⟩

theorem flowNeed_block (hs : LSetupOk L) {lc' : LoopCtx} {bd : List Stmt} {post' postO : List Nat} {A' : Nat → Prop}
    {r : Except Err (Flow V)}
    (hb : lc'.brk = lc.brk) (hcn : lc'.cont = lc.cont) (hk : lc'.kills = uni (L.c.scopeLocalsOf bd) lc.kills)
    (hpost : ∀ x ∈ postO, x ∈ post' ∨ x ∈ L.c.scopeLocalsOf bd)
    (h : FlowNeed L lc' post' (blockLocals L bd) A' r) :
    FlowNeed L lc postO (fun _ => False) A' r := by
  -- the target outside is covered by the target inside and the block's locals
  have jump : ∀ (t : Option (List Nat)) S, t.map (dif · lc.kills) = some S →
      ∃ S', t.map (dif · lc'.kills) = some S' ∧ ∀ x ∈ S, x ∈ S' ∨ x ∈ L.c.scopeLocalsOf bd := by
    intro t S hS
    cases t with
    | none => cases hS
    | some bs =>
      cases hS
      refine ⟨_, rfl, fun x hx => ?_⟩
      by_cases hxs : x ∈ L.c.scopeLocalsOf bd
      · exact Or.inr hxs
      · rw [mem_dif_iff] at hx
        exact Or.inl (by rw [hk, mem_dif_iff, mem_uni_iff]; exact ⟨hx.1, fun h => h.elim hxs hx.2⟩)
  have key : ∀ S, flowTarget lc postO r = some S →
      ∃ S', flowTarget lc' post' r = some S' ∧ ∀ x ∈ S, x ∈ S' ∨ x ∈ L.c.scopeLocalsOf bd := by
    intro S hS
    match r, hS with
    | .ok .normal, hS => cases hS; exact ⟨_, rfl, hpost⟩
    | .ok .brk, hS => simp only [flowTarget, hb] at hS ⊢; exact jump _ S hS
    | .ok .cont, hS => simp only [flowTarget, hcn] at hS ⊢; exact jump _ S hS
    | .ok (.ret _), hS => cases hS
    | .error _, hS => cases hS
  intro S hS x hx hdx
  obtain ⟨S', hS', hsub⟩ := key S hS
  rcases hx with hx | hx
  · exact (hsub x hx).elim (fun h1 => h S' hS' x (Or.inl h1) hdx) fun h1 => h S' hS' x (Or.inr (hs.slOk bd x h1)) hdx
  · exact hx.elim

theorem lstep_nested (hs : LSetupOk L) (ih : LSim P L n) (bd : List Stmt) (post' : LS) {live : List Nat}
    (hpost : ∀ x ∈ live, x ∉ L.c.scopeLocalsOf bd → x ∈ post'.live) (hcs : ConsStmts L.T true bd)
    (hlok : lokListB L f (blockTag L.ss bd :: tagsOf σ) { lc with kills := uni (L.c.scopeLocalsOf bd) lc.kills } bd post' = true)
    (hblk : L.blockOkB f (tagsOf σ) bd = true) (hf : L.BR f = true) (ha : ActOk L f σ K) (hm : MOkList L σ bd)
    (hn : Need L (lvStmts L.c f L.nl { lc with kills := uni (L.c.scopeLocalsOf bd) lc.kills } bd post').1.live A)
    (a b : St V) (hr : LRel L A K σ a b) (hi : LInv L b) :
    LOutF L K σ lc live (fun _ => False) (execBlock P L.cfg n bd a) (execBlock P plain n bd b) := by
  obtain ⟨ho, hq⟩ := ih.block bd a b f σ K _ post' A hcs hlok hblk hf ha hm hn hr hi
  refine ⟨ho.imp id fun ⟨heq, A', hrel, hfn⟩ => ⟨heq, A', hrel, ?_⟩, hq⟩
  exact flowNeed_block (lc' := { lc with kills := uni (L.c.scopeLocalsOf bd) lc.kills }) hs rfl rfl rfl
    (fun x hx => (Decidable.em _).elim Or.inr fun hxs => Or.inl (hpost x hx hxs)) hfn

theorem lstep_stmt (hd : P.dscope = L.ds) (hs : LSetupOk L) (ih : LSim P L n) {s : Stmt} {i : Nat} (a b : St V)
    (hsid : s.sid = some i) (h : StmtOk L f σ K lc A s post rest)
    (hr : LRel L A K σ a b) (hi : LInv L b) :
    LOutF L K σ lc post.live (fun _ => False) (execStmt P L.cfg (n + 1) s a) (execStmt P plain (n + 1) s b) := by
  obtain ⟨hc, hok, hf, ha, hm, hn⟩ := h
  cases s with
  | assign vr vs e bd sid sp =>
    obtain rfl : sid = some i := hsid
    exact lstep_assign hs ih ⟨hc, hok, hf, ha, hm, hn⟩ a b hr hi
  | assignExisting vr vs e bd sid sp =>
    obtain rfl : sid = some i := hsid
    exact lstep_assignExisting hd hs ih ⟨hc, hok, hf, ha, hm, hn⟩ a b hr hi
  | assignIndex t e sid sp =>
    obtain rfl : sid = some i := hsid
    simp only [lokB, Bool.and_eq_true] at hok
    obtain ⟨⟨hbase, hw⟩, _⟩ := hok
    simp only [lvStmt] at hn
    obtain ⟨hctx, hfit⟩ := lstep_head hs rfl hc hf hm hbase hn
    simp only [execStmt_assignIndex]
    refine LOutF.andThen (ih.expr ha hctx e a b (hfit e (.tail _ List.mem_cons_self)) hr hi) fun v s1 s2 hr1 hi1 => ?_
    cases hlv : lvalue t with
    | none => exact .same _ ⟨A, hr1, flowNeed_none rfl⟩ hi1
    | some rp =>
      have hlo := eOk_lvalue t rp.1 rp.2 (hfit t List.mem_cons_self) hlv
      refine (ih.esim ha hctx).updateRoot (liveRel_ok hd ha hctx) rp.1 rp.2 _ s1 s2 hlo.1 hlo.2
        (fun _ _ _ h => ⟨A, h, flowNeed_none rfl⟩) (fun old pvs nr s t hg hrel => ?_) hr1 hi1
      cases hp : P.setPath old pvs v with
      | error er => rw [hp] at hg; cases hg
      | ok new =>
        rw [hp] at hg
        cases hg
        exact ⟨A, hrel, flowNeed_normal (need_after hw hn)⟩
  | ifS c thn els sid sp =>
    obtain rfl : sid = some i := hsid
    obtain ⟨t, ts⟩ := thn
    simp only [execStmt_ifS]
    rcases els with _ | ⟨el, es⟩
    · simp only [lokB, Bool.and_eq_true] at hok
      obtain ⟨⟨⟨⟨hbase, hw⟩, _⟩, hblk⟩, hlok⟩ := hok
      rw [lvStmt_if_none] at hn
      obtain ⟨hctx, hfit⟩ := lstep_head hs rfl hc hf hm hbase hn
      simp only [ConsStmt] at hc
      have hn2 := need_after hw hn
      refine LOutF.andThen (ih.expr ha hctx c a b (hfit c List.mem_cons_self) hr hi) fun v s1 s2 hr1 hi1 => ?_
      refine LOutF.andThen (.same (P.cond v) hr1 hi1) fun bv s1 s2 hr1 hi1 => ?_
      cases bv with
      | false => exact .same _ ⟨A, hr1, flowNeed_normal (need_mono (fun x hx => mem_uni_iff.mpr (Or.inr hx)) hn2)⟩ hi1
      | true =>
        refine lstep_nested hs ih t _ (fun x hx hxs => mem_dif_iff.mpr ⟨hx, hxs⟩) hc.2 hlok hblk hf ha (fun p hp l hl => ?_)
          (need_mono (fun x hx => mem_uni_iff.mpr (Or.inl hx)) hn2) s1 s2 hr1 hi1
        have := hm p hp l hl
        simp only [noRefB, Bool.and_eq_true] at this
        exact this.2
    · simp only [lokB, Bool.and_eq_true] at hok
      obtain ⟨⟨⟨⟨⟨⟨hbase, hw⟩, _⟩, hblk⟩, hblk2⟩, hlok⟩, hlok2⟩ := hok
      rw [lvStmt_if_some] at hn
      obtain ⟨hctx, hfit⟩ := lstep_head hs rfl hc hf hm hbase hn
      simp only [ConsStmt] at hc
      have hn2 := need_after hw hn
      have hmm : ∀ p ∈ σ, ∀ l, p.2 l → noRefListB L.c l t = true ∧ noRefListB L.c l el = true := by
        intro p hp l hl
        have := hm p hp l hl
        simp only [noRefB, Bool.and_eq_true] at this
        exact ⟨this.1.2, this.2⟩
      refine LOutF.andThen (ih.expr ha hctx c a b (hfit c List.mem_cons_self) hr hi) fun v s1 s2 hr1 hi1 => ?_
      refine LOutF.andThen (.same (P.cond v) hr1 hi1) fun bv s1 s2 hr1 hi1 => ?_
      cases bv with
      | false =>
        exact lstep_nested hs ih el _ (fun x hx hxs => mem_dif_iff.mpr ⟨hx, hxs⟩) hc.2.2 hlok2 hblk2 hf ha
          (fun p hp l hl => (hmm p hp l hl).2) (need_mono (fun x hx => mem_uni_iff.mpr (Or.inr hx)) hn2) s1 s2 hr1 hi1
      | true =>
        exact lstep_nested hs ih t _ (fun x hx hxs => mem_dif_iff.mpr ⟨hx, hxs⟩) hc.2.1 hlok hblk hf ha
          (fun p hp l hl => (hmm p hp l hl).1) (need_mono (fun x hx => mem_uni_iff.mpr (Or.inl hx)) hn2) s1 s2 hr1 hi1
  | loop c body sid sp =>
    obtain rfl : sid = some i := hsid
    obtain ⟨bd, bs⟩ := body
    simp only [execStmt_loop]
    exact ih.loop a b ⟨hc, hok, hf, ha, hm, hn⟩ hr hi
  | block body sid sp =>
    obtain rfl : sid = some i := hsid
    obtain ⟨bd, bs⟩ := body
    simp only [lokB, Bool.and_eq_true] at hok
    obtain ⟨⟨⟨⟨_, hw⟩, _⟩, hblk⟩, hlok⟩ := hok
    rw [lvStmt_block] at hn
    simp only [ConsStmt] at hc
    simp only [execStmt_block]
    refine lstep_nested hs ih bd _ (fun x hx hxs => mem_uni_iff.mpr (Or.inr (mem_dif_iff.mpr ⟨hx, hxs⟩))) hc.2 hlok hblk hf ha
      (fun p hp l hl => ?_) (need_after hw hn) a b hr hi
    have := hm p hp l hl
    simp only [noRefB, Bool.and_eq_true] at this
    exact this.2
  | fnDef nm ns ps body fn sid sp =>
    obtain rfl : sid = some i := hsid
    obtain ⟨body, bs⟩ := body
    have hw : L.writesOkB i = true := by
      cases fn <;> simp only [lokB, Bool.and_eq_true] at hok <;> simp only [hok]
    simp only [lvStmt] at hn
    simp only [execStmt_fnDef]
    exact .same _ ⟨A, hr, flowNeed_normal (need_after hw hn)⟩ hi
  | ret e sid sp =>
    obtain rfl : sid = some i := hsid
    cases e with
    | none =>
      simp only [execStmt_retNone]
      exact .same _ ⟨A, hr, flowNeed_none rfl⟩ hi
    | some e =>
      simp only [lokB, Bool.and_eq_true] at hok
      obtain ⟨⟨hbase, _⟩, _⟩ := hok
      simp only [lvStmt] at hn
      obtain ⟨hctx, hfit⟩ := lstep_head hs rfl hc hf hm hbase hn
      simp only [execStmt_ret]
      refine LOutF.andThen (ih.expr ha hctx e a b (hfit e List.mem_cons_self) hr hi) fun v s1 s2 hr1 hi1 => ?_
      exact .same _ ⟨A, hr1, flowNeed_none rfl⟩ hi1
  | brk sid sp =>
    obtain rfl : sid = some i := hsid
    simp only [lokB, Bool.and_eq_true] at hok
    obtain ⟨⟨_, hw⟩, _⟩ := hok
    simp only [lvStmt] at hn
    simp only [execStmt_brk]
    exact .same _ ⟨A, hr, flowNeed_jump lc.brk (need_after hw hn) rfl⟩ hi
  | cont sid sp =>
    obtain rfl : sid = some i := hsid
    simp only [lokB, Bool.and_eq_true] at hok
    obtain ⟨⟨_, hw⟩, _⟩ := hok
    simp only [lvStmt] at hn
    simp only [execStmt_cont]
    exact .same _ ⟨A, hr, flowNeed_jump lc.cont (need_after hw hn) rfl⟩ hi
  | expr e sid sp =>
    obtain rfl : sid = some i := hsid
    simp only [lokB, Bool.and_eq_true] at hok
    obtain ⟨⟨hbase, hw⟩, _⟩ := hok
    simp only [lvStmt] at hn
    obtain ⟨hctx, hfit⟩ := lstep_head hs rfl hc hf hm hbase hn
    simp only [execStmt_expr]
    refine LOutF.andThen (ih.expr ha hctx e a b (hfit e List.mem_cons_self) hr hi) fun v s1 s2 hr1 hi1 => ?_
    exact .same _ ⟨A, hr1, flowNeed_normal (need_after hw hn)⟩ hi1

theorem lokListB_mem {f : Nat} {σ : List (Option Nat)} {lc : LoopCtx} : ∀ {ss : List Stmt} {post : LS},
    lokListB L f σ lc ss post = true → ∀ s ∈ ss, ∃ st rest, lokB L f σ lc s st rest = true
  | s :: ss, post, h, s', hm => by
      obtain ⟨h1, h2⟩ := lokListB_cons h
      rcases List.mem_cons.mp hm with rfl | hm
      · exact ⟨_, _, h1⟩
      · exact lokListB_mem h2 s' hm

theorem hoist_okL {f : Nat} {σ : List (Option Nat)} {lc : LoopCtx} {ss : List Stmt} {post : LS}
    (h : lokListB L f σ lc ss post = true) : ∀ fd ∈ hoist ss, fnOkB L fd.id fd.params fd.body = true := by
  intro fd hfd
  obtain ⟨s, hm, nm, ns, bs, sid, sp, rfl⟩ := mem_hoist hfd
  obtain ⟨st, rest, hs⟩ := lokListB_mem h _ hm
  exact lokB_fnDef hs

theorem blockOk_parts {f : Nat} {σ : List (Option Nat)} {ss : List Stmt} (h : L.blockOkB f σ ss = true) :
    ∀ tg, blockTag L.ss ss = some tg → some tg ∉ σ ∧ L.scopeOwner tg = some f := by
  intro tg htg
  simp only [LSetup.blockOkB, htg, Bool.and_eq_true, Bool.not_eq_true', beq_iff_eq] at h
  exact ⟨by simpa using h.1, h.2⟩

theorem lstep_block (hss : P.sscope = L.ss) (ih : LSim P L n) (ss : List Stmt) (a b : St V) (f : Nat) (σ : SigM)
    (K : List (Scope V) → List (Scope V) → Prop) (lc : LoopCtx) (post : LS) (A : Nat → Prop)
    (hcs : ConsStmts L.T true ss) (hok : lokListB L f (blockTag L.ss ss :: tagsOf σ) lc ss post = true)
    (hblk : L.blockOkB f (tagsOf σ) ss = true) (hf : L.BR f = true) (ha : ActOk L f σ K) (hm : MOkList L σ ss)
    (hn : Need L (lvStmts L.c f L.nl lc ss post).1.live A)
    (hr : LRel L A K σ a b) (hi : LInv L b) :
    LOutF L K σ lc post.live (blockLocals L ss) (execBlock P L.cfg (n + 1) ss a) (execBlock P plain (n + 1) ss b) := by
  simp only [execBlock_succ, hss]
  have hbp := blockOk_parts hblk
  have hact : ActOk L f ((blockTag L.ss ss, fun _ => False) :: σ) K :=
    { own := by
        intro tg htg
        simp only [tagsOf, List.map_cons, List.mem_cons] at htg
        rcases htg with htg | htg
        · exact (hbp tg htg.symm).2
        · exact ha.own tg htg
      susp := ha.susp
      nodup := ⟨fun tg htg => (hbp tg htg).1, ha.nodup⟩ }
  have hmok : MOkList L ((blockTag L.ss ss, fun _ => False) :: σ) ss := by
    intro p hp l hl
    rcases List.mem_cons.mp hp with rfl | hp
    · exact absurd hl id
    · exact hm p hp l hl
  obtain ⟨ho, hq⟩ := ih.stmts ss _ _ f (blockTag L.ss ss) (fun _ => False) σ K lc post A hcs hok hf hact hmok hn
    (lrel_push hr _ (fun _ => False) [] (hoist ss)) (linv_push hi _ (hoist_ok true ss hcs) (hoist_okL hok))
  refine ⟨ho.imp id fun ⟨heq, M', A', hrel, hfn⟩ => ⟨heq, fun x => A' x ∨ blockLocals L ss x, ?_, ?_⟩, linv_pop hq⟩
  · -- the block's scope is gone, so its locals may join the agreement set
    have hp := lrel_pop hrel
    refine ⟨hp.1, hp.2.1, trel_weaken hp.2.2 ?_⟩
    intro y tg hy hin hA
    rcases hA with hA | ⟨tg', hb', hy'⟩
    · exact hA
    · rw [hy] at hy'; cases hy'
      exact absurd hin (hbp tg hb').1
  · exact fun S hS x hx hdx => hx.elim (fun hx => Or.inl (hfn S hS x (Or.inl hx) hdx)) Or.inr

theorem ownStore_skipped (hs : LSetupOk L) {f i : Nat} {σ : List (Option Nat)} {isDecl : Bool} {l : Nat} {e : Expr} {st : LS}
    {rest : List Stmt} (hT : (i, true) ∈ L.T) (hsk : L.cfg.skip i = true) (h : L.ownStoreB f σ i isDecl l e st rest = true) :
    L.c.writes i = [l] ∧ L.q f e = true ∧ (l ∉ st.live ∨ L.D2 l = true) ∧ (isDecl = true → noRefListB L.c l rest = true) ∧
      (isDecl = false → ∃ tg, L.ds l = some tg ∧ some tg ∈ σ) := by
  simp only [LSetup.ownStoreB, Bool.and_eq_true, beq_iff_eq, hsk, Bool.not_true, Bool.false_or, Bool.or_eq_true] at h
  obtain ⟨⟨⟨hw, htag⟩, _⟩, hrule⟩ := h
  rcases hrule with hdead | hrule
  · simp only [LSetup.deadB] at hdead
    exact absurd (by simpa using hdead) (hs.func i hT)
  · refine ⟨hw, hrule.1.1, ?_, ?_, ?_⟩
    · have := hrule.1.2
      simp only [Bool.not_eq_true', List.contains_eq_mem, decide_eq_false_iff_not] at this
      exact this
    · intro hd
      have := hrule.2
      simpa [hd] using this
    · intro hd
      simp only [hd, Bool.false_eq_true, ↓reduceIte] at htag
      exact inTags_iff.mp htag

theorem skipped_store (hs : LSetupOk L) {f i : Nat} {σ : List (Option Nat)} {lc : LoopCtx} {st : LS} {rest : List Stmt}
    {s : Stmt} (hsid : s.sid = some i) (hT : (i, true) ∈ L.T) (hsk : L.cfg.skip i = true)
    (hok : lokB L f σ lc s st rest = true) :
    (∃ vr vs e l sp, s = .assign vr vs e (some l) (some i) sp ∧ L.c.writes i = [l] ∧ L.q f e = true ∧
        (l ∉ st.live ∨ L.D2 l = true) ∧ noRefListB L.c l rest = true) ∨
    (∃ vr vs e l sp tg, s = .assignExisting vr vs e (some l) (some i) sp ∧ L.c.writes i = [l] ∧ L.ds l = some tg ∧ some tg ∈ σ ∧
        L.q f e = true ∧ (l ∉ st.live ∨ L.D2 l = true)) := by
  -- every form but a store to an own variable has `otherB i` among the conjuncts of its `lokB` (`simp only [hok]`
  -- below finds it, whatever its place), and a reachable skipped statement fails `otherB`
  have hno : L.otherB i = true → False := fun h => by rw [other_dead hs hT h] at hsk; cases hsk
  cases s with
  | assign vr vs e bd sid sp =>
    obtain rfl : sid = some i := hsid
    simp only [lokB, Bool.and_eq_true] at hok
    cases bd with
    | none => exact (hno hok.2).elim
    | some l =>
      simp only [Bool.and_eq_true] at hok
      obtain ⟨h1, h2, h3, h4, _⟩ := ownStore_skipped hs hT hsk hok.2.2
      exact Or.inl ⟨vr, vs, e, l, sp, rfl, h1, h2, h3, h4 rfl⟩
  | assignExisting vr vs e bd sid sp =>
    obtain rfl : sid = some i := hsid
    simp only [lokB, Bool.and_eq_true] at hok
    cases bd with
    | none => exact (hno hok.2).elim
    | some l =>
      have h2 := hok.2
      dsimp only at h2 -- the `match` of `lokB` on `some l`
      split at h2
      · obtain ⟨h1, h2, h3, _, h5⟩ := ownStore_skipped hs hT hsk h2
        obtain ⟨tg, ht1, ht2⟩ := h5 rfl
        exact Or.inr ⟨vr, vs, e, l, sp, tg, rfl, h1, ht1, ht2, h2, h3⟩
      · simp only [Bool.and_eq_true] at h2
        exact (hno h2.2).elim
  | assignIndex _ _ sid _ | brk sid _ | cont sid _ | expr _ sid _ =>
    obtain rfl : sid = some i := hsid
    simp only [lokB, Bool.and_eq_true] at hok
    exact (hno (by simp only [hok])).elim
  | ret e sid _ =>
    obtain rfl : sid = some i := hsid
    cases e <;> simp only [lokB, Bool.and_eq_true] at hok <;> exact (hno (by simp only [hok])).elim
  | ifS _ thn els sid _ =>
    obtain rfl : sid = some i := hsid
    obtain ⟨t, ts⟩ := thn
    rcases els with _ | ⟨el, es⟩ <;> simp only [lokB, Bool.and_eq_true] at hok <;> exact (hno (by simp only [hok])).elim
  | loop _ body sid _ | block body sid _ =>
    obtain rfl : sid = some i := hsid
    obtain ⟨bd, bs⟩ := body
    simp only [lokB, Bool.and_eq_true] at hok
    exact (hno (by simp only [hok])).elim
  | fnDef _ _ _ body fn sid _ =>
    obtain rfl : sid = some i := hsid
    obtain ⟨bd, bs⟩ := body
    cases fn <;> simp only [lokB, Bool.and_eq_true] at hok <;> exact (hno (by simp only [hok])).elim

theorem quietIn_run (hqt : QuietIn P L) {f : Nat} {e : Expr} (hqe : L.q f e = true) (m : Nat) (st : St V) (hi : LInv L st) :
    ∃ x s', evalExpr P plain m e st = (x, s') ∧ LInv L s' ∧ (Bad x ∨ ∃ v, x = .ok v) ∧
      s'.env = st.env ∧ s'.out = st.out ∧ s'.fns = st.fns := by
  obtain ⟨h1, h2, h3, h4⟩ := hqt f e m st hqe hi.2
  have hinv := ((main_all P (plain_harmless L.T) m).expr e st hi.1).2
  exact ⟨_, _, rfl, ⟨hinv, by rw [h4]; exact hi.2⟩, h1.symm, h2, h3, h4⟩

theorem lstep_stmts (hd : P.dscope = L.ds) (hs : LSetupOk L) (hqt : QuietIn P L) (ih : LSim P L n)
    (ss : List Stmt) (a b : St V) (f : Nat) (tg : Option Nat) (M : Nat → Prop) (σ : SigM) (K : List (Scope V) → List (Scope V) → Prop)
    (lc : LoopCtx) (post : LS) (A : Nat → Prop)
    (hcs : ConsStmts L.T true ss) (hok : lokListB L f (tagsOf ((tg, M) :: σ)) lc ss post = true)
    (hf : L.BR f = true) (ha : ActOk L f ((tg, M) :: σ) K) (hm : MOkList L ((tg, M) :: σ) ss)
    (hn : Need L (lvStmts L.c f L.nl lc ss post).1.live A)
    (hr : LRel L A K ((tg, M) :: σ) a b) (hi : LInv L b) :
    LOutG L (fun x s t => ∃ M' A', LRel L A' K ((tg, M') :: σ) s t ∧ FlowNeed L lc post.live (fun _ => False) A' x)
      (execStmts P L.cfg (n + 1) ss a) (execStmts P plain (n + 1) ss b) := by
  cases ss with
  | nil =>
      simp only [execStmts_nil]
      exact .same _ ⟨M, A, hr, flowNeed_normal hn⟩ hi
  | cons s ss =>
      obtain ⟨hc1, hc2⟩ := hcs
      obtain ⟨hok1, hok2⟩ := lokListB_cons hok
      rw [lvStmts_cons] at hn
      have hm2 : MOkList L ((tg, M) :: σ) ss := fun p hp l hl => (noRefList_cons (hm p hp l hl)).2
      simp only [execStmts_cons]
      cases hsid : s.sid with
      | none => exact .same _ ⟨M, A, hr, flowNeed_none rfl⟩ hi
      | some i =>
        have hiT : (i, true) ∈ L.T := consStmt_inTbl hc1 i hsid
        have hpl : plain.skip i = false := rfl
        have hi' : LInv L { b with trace := i :: b.trace } := ⟨⟨hi.1.1, List.forall_mem_cons.mpr ⟨hiT, hi.1.2⟩⟩, hi.2⟩
        cases hsk : L.cfg.skip i with
        | false =>
          simp only [hpl, hsk, Bool.false_eq_true, ↓reduceIte]
          have hr' : LRel L A K ((tg, M) :: σ) { a with trace := i :: a.trace } { b with trace := i :: b.trace } := hr
          refine LOutG.andThen (ih.stmt _ _ hsid
            ⟨hc1, hok1, hf, ha, fun p hp l hl => (noRefList_cons (hm p hp l hl)).1, hn⟩ hr' hi')
            (fun _ _ _ ⟨A', hr1, _⟩ => ⟨M, A', hr1, flowNeed_none rfl⟩) fun fl s1 s2 hb ⟨A', hr1, hfn⟩ hi1 => ?_
          cases fl with
          | normal =>
            rw [(normal_after P n).2.2 s _ (by rw [hb])] at hc2
            exact ih.stmts ss s1 s2 f tg M σ K lc post A' hc2 hok2 hf ha hm2
              (fun x hx hdx => hfn _ rfl x (Or.inl hx) hdx) hr1 hi1
          | ret v => exact .same _ ⟨M, A', hr1, flowNeed_none rfl⟩ hi1
          | brk => exact .same _ ⟨M, A', hr1, hfn⟩ hi1
          | cont => exact .same _ ⟨M, A', hr1, hfn⟩ hi1
        | true =>
          simp only [hpl, hsk, Bool.false_eq_true, ↓reduceIte]
          -- only the plain side runs the skipped store, at fuel `n`: its equations (`execStmt_assign` …) and `quietIn_run`
          -- speak of fuel `n + 1`, and at `0` the plain run is out of fuel
          cases n with
          | zero => rw [execStmt_zero]; exact .bad bad_fuel hi'
          | succ n =>
            rcases skipped_store hs hsid hiT hsk hok1 with ⟨vr, vs, e, l, sp, rfl, hw, hqe, hdeadl, hnoref⟩ |
              ⟨vr, vs, e, l, sp, tgl, rfl, hw, hdl, hinl, hqe, hdeadl⟩
            all_goals
              have hc2' : ConsStmts L.T true ss := hc2
              simp only [lvStmt] at hn
              -- the removed store's target is not live afterwards (or never read)
              have hxl : ∀ x ∈ (lvStmts L.c f L.nl lc ss post).1.live, L.D2 x = false → x ≠ l := by
                rintro x hx hdx rfl
                exact hdeadl.elim (fun h => h hx) fun h => by rw [h] at hdx; cases hdx
              obtain ⟨x, s', he, hi2, hx, he2, ho2, hf2⟩ := quietIn_run hqt hqe n _ hi'
            · rw [execStmt_assign, he]
              rcases hx with hb | ⟨val, rfl⟩
              · obtain ⟨er, rfl, hb'⟩ := Bad.error (β := Flow V) hb
                exact .bad hb' hi2
              · have hr2 : LRel L A K ((tg, fun y => M y ∨ y = l) :: σ) a
                    { s' with env := defineEnv l val s'.env } :=
                  ⟨hr.1.trans ho2.symm, hr.2.1.trans hf2.symm, by rw [he2]; exact trel_define_plain hr.2.2⟩
                have hm2' : MOkList L ((tg, fun y => M y ∨ y = l) :: σ) ss := by
                  intro p hp l' hl'
                  rcases List.mem_cons.mp hp with rfl | hp
                  · rcases hl' with hl' | rfl
                    · exact hm2 (tg, M) List.mem_cons_self l' hl'
                    · exact hnoref
                  · exact hm2 p (List.mem_cons_of_mem _ hp) l' hl'
                exact ih.stmts ss a _ f tg (fun y => M y ∨ y = l) σ K lc post A hc2' hok2 hf ⟨ha.own, ha.nodup, ha.susp⟩ hm2'
                  (fun x hx hdx => need_store hw hn hx (hxl x hx hdx) hdx) hr2 hi2
            · rw [execStmt_assignExisting, he, hd]
              rcases hx with hb | ⟨val, rfl⟩
              · obtain ⟨er, rfl, hb'⟩ := Bad.error (β := Flow V) hb
                exact .bad hb' hi2
              · simp only [andThen_ok, Option.bind_some]
                cases hae : assignEnv L.ds l val s'.env with
                | none => exact .bad bad_unbound hi2
                | some env' =>
                  rw [he2] at hae
                  have hr2 : LRel L (fun y => A y ∧ y ≠ l) K ((tg, M) :: σ) a { s' with env := env' } :=
                    ⟨hr.1.trans ho2.symm, hr.2.1.trans hf2.symm, trel_assign_plain hdl hr.2.2 hinl hae⟩
                  exact ih.stmts ss a _ f tg M σ K lc post _ hc2' hok2 hf ha hm2
                    (fun x hx hdx => ⟨need_store hw hn hx (hxl x hx hdx) hdx, hxl x hx hdx⟩) hr2 hi2

end sstep

section lstep
variable {P : Prims V} {L : LSetup} {n : Nat}

theorem lstep_loop (hs : LSetupOk L) (ih : LSim P L n) {f : Nat} {σ : SigM} {K : List (Scope V) → List (Scope V) → Prop} {lc : LoopCtx} {A : Nat → Prop}
    {c : Expr} {bd : List Stmt} {sp1 sp : Span} {i : Nat} {post : LS} {rest : List Stmt} (a b : St V)
    (h : StmtOk L f σ K lc A (.loop c (.mk bd sp1) (some i) sp) post rest)
    (hr : LRel L A K σ a b) (hi : LInv L b) :
    LOutF L K σ lc post.live (fun _ => False) (execLoop P L.cfg (n + 1) c bd a) (execLoop P plain (n + 1) c bd b) := by
  obtain ⟨hc, hok0, hf, ha, hm, hn⟩ := h
  have hok := hok0
  simp only [lokB, Bool.and_eq_true] at hok
  obtain ⟨⟨⟨⟨⟨hbase, hw⟩, _⟩, hblk⟩, hconv⟩, hlok⟩ := hok
  -- the fixpoint `x` of the loop head is what the agreement set covers at every round
  obtain ⟨x, hx⟩ : ∃ x, lfp (loopHead L.c f L.nl i bd post.live) (L.nl + 1) [] = x := ⟨_, rfl⟩
  have hconv' : ∀ y ∈ loopHead L.c f L.nl i bd post.live x, y ∈ x := by rw [← hx]; exact subset_iff.mp hconv
  have hlok' : lokListB L f (blockTag L.ss bd :: tagsOf σ) { brk := some post.live, cont := some x, kills := L.c.scopeLocalsOf bd } bd
      (boundary (dif x (L.c.scopeLocalsOf bd))) = true := by rw [← hx]; exact hlok
  rw [lvStmt_loop, hx] at hn
  have hnT : Need L (L.c.transfer f i (boundary (uni
      (lvStmts L.c f L.nl { brk := some post.live, cont := some x, kills := L.c.scopeLocalsOf bd } bd
        (boundary (dif x (L.c.scopeLocalsOf bd)))).1.live post.live))).live A :=
    need_mono hconv' hn
  obtain ⟨hctx, hfit⟩ := lstep_head hs rfl hc hf hm hbase hnT
  have hmm : MOkList L σ bd := by
    intro p hp l hl
    have := hm p hp l hl
    simp only [noRefB, Bool.and_eq_true] at this
    exact this.2
  have hn2 := need_after hw hnT
  simp only [ConsStmt] at hc
  simp only [execLoop_succ]
  refine LOutF.andThen (ih.expr ha hctx c a b (hfit c List.mem_cons_self) hr hi) fun v s1 s2 hr1 hi1 => ?_
  refine LOutF.andThen (.same (P.cond v) hr1 hi1) fun bv s1 s2 hr1 hi1 => ?_
  cases bv with
  | false => exact .same _ ⟨A, hr1, flowNeed_normal (need_mono (fun y hy => mem_uni_iff.mpr (Or.inr hy)) hn2)⟩ hi1
  | true =>
    simp only [↓reduceIte]
    refine LOutG.andThen (ih.block bd s1 s2 f σ K { brk := some post.live, cont := some x, kills := L.c.scopeLocalsOf bd }
      (boundary (dif x (L.c.scopeLocalsOf bd))) A hc.2 hlok' hblk hf ha hmm
      (need_mono (fun y hy => mem_uni_iff.mpr (Or.inl hy)) hn2) hr1 hi1)
      (fun _ _ _ ⟨A', hr2, _⟩ => ⟨A', hr2, flowNeed_none rfl⟩) fun fl t1 t2 _ ⟨A', hr2, hfn⟩ hi2 => ?_
    -- a live local is a local of the body's scope or in the flow's target inside the body
    have out : ∀ {S : List Nat} {fl' : Flow V}, flowTarget { brk := some post.live, cont := some x, kills := L.c.scopeLocalsOf bd }
          (dif x (L.c.scopeLocalsOf bd)) (.ok fl') = some (dif S (L.c.scopeLocalsOf bd)) →
        FlowNeed L { brk := some post.live, cont := some x, kills := L.c.scopeLocalsOf bd } (dif x (L.c.scopeLocalsOf bd))
          (blockLocals L bd) A' (.ok fl') → Need L S A' := by
      intro S fl' hS hfn y hy hdy
      by_cases hys : y ∈ L.c.scopeLocalsOf bd
      · exact hfn _ hS y (Or.inr (hs.slOk bd y hys)) hdy
      · exact hfn _ hS y (Or.inl (mem_dif_iff.mpr ⟨hy, hys⟩)) hdy
    have again : Need L x A' → LOutF L K σ lc post.live (fun _ => False) (execLoop P L.cfg n c bd t1) (execLoop P plain n c bd t2) :=
      fun h => ih.loop t1 t2 ⟨⟨hc.1, hc.2⟩, hok0, hf, ha, hm, by rw [lvStmt_loop, hx]; exact h⟩ hr2 hi2
    cases fl with
    | brk => exact .same _ ⟨A', hr2, flowNeed_normal (out rfl hfn)⟩ hi2
    | ret w => exact .same _ ⟨A', hr2, flowNeed_none rfl⟩ hi2
    | normal => exact again (out rfl hfn)
    | cont => exact again (out rfl hfn)

end lstep

theorem lsim_all (P : Prims V) {L : LSetup} (hd : P.dscope = L.ds) (hss : P.sscope = L.ss) (hs : LSetupOk L)
    (hqt : QuietIn P L) : ∀ n, LSim P L n
  | 0 => lsim_zero P L
  | n + 1 =>
      have ih := lsim_all P hd hss hs hqt n
      { esim := LSim.exprStep hd hs ih
        block := lstep_block hss ih
        stmts := lstep_stmts hd hs hqt ih
        stmt := lstep_stmt hd hs ih
        loop := lstep_loop hs ih }

end NaijaVerif.C03
