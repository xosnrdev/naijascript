import NaijaVerif.Lemmas.ResolveDecls
import NaijaVerif.Lemmas.ResolveSteps
/-
`skey f` is the projection of `Facts.stmtEffects` the call-graph reachability of the analyses reads:
for every `StmtId` the owning function and the direct callees.  Of all bookkeeping primitives of
`Model/Resolve.lean` only `pushStmt` (appends an entry `(owner, [])`) and `recStmtCallee` (adds a
callee to an entry) change it, so along the history of the facts (`Lemmas/ResolveSteps.lean`) it is only EXTENDED (`SLe`:
entries are appended, the owner of an entry never changes, its callee list only grows; `steps_sle`).  Every
statement starts by pushing its own entry (`checkStmt_sle`).  That `checkMethod`, `declareParams`, `predeclare` leave the key
as it is (`…_skey`) is stated for the walks that follow the key arm by arm: `check_own` (`Lemmas/ResolveFactsOwn.lean`) and
`Lemmas/ResolveStructSids.lean`.
-/
namespace NaijaVerif.ResolveFacts
open NaijaVerif NaijaVerif.Resolve

theorem getElem?_modifyAt {α : Type} (g : α → α) (l : List α) (i j : Nat) :
    (modifyAt l i g)[j]? = if j = i then l[j]?.map g else l[j]? := by
  rw [modifyAt_eq_modify, List.getElem?_modify]
  by_cases h : j = i
  · rw [if_pos h, h]; simp
  · rw [if_neg h]; simp [Ne.symm h]

theorem mem_modifyAt {α : Type} {g : α → α} {x : α} {l : List α} {i : Nat} (h : x ∈ modifyAt l i g) :
    x ∈ l ∨ ∃ a ∈ l, x = g a := by
  obtain ⟨j, hj⟩ := List.mem_iff_getElem?.1 h
  rw [getElem?_modifyAt] at hj
  split at hj
  · obtain ⟨a, ha, rfl⟩ := Option.map_eq_some_iff.1 hj
    exact .inr ⟨a, List.mem_of_getElem? ha, rfl⟩
  · exact .inl (List.mem_of_getElem? hj)

theorem mem_addNew {l : List Nat} {x y : Nat} : y ∈ addNew l x ↔ y ∈ l ∨ y = x := by
  simp only [addNew]
  split
  · next h =>
    have : x ∈ l := by simpa using h
    constructor
    · exact Or.inl
    · rintro (h | rfl) <;> assumption
  · simp

/-- The other projection of the statement entries in use: `ResolveStruct.sImm` (`Lemmas/ResolveSteps.lean`). -/
def skey (f : Facts) : List (Nat × List Nat) := f.stmtEffects.map (fun e => (e.function, e.directCallees))

theorem skey_length (f : Facts) : (skey f).length = f.stmtEffects.length := by simp [skey]

theorem skey_modify (f : Facts) (sid : Nat) (g : StmtEffect → StmtEffect)
    (hg : ∀ e, ((g e).function, (g e).directCallees) = (e.function, e.directCallees)) :
    (modifyAt f.stmtEffects sid g).map (fun e => (e.function, e.directCallees)) = skey f :=
  modifyAt_map_key _ g hg _ _

@[simp] theorem skey_joinClass (f : Facts) (sid : Nat) (c : ExprClass) : skey (joinClass f sid c) = skey f := by
  simp only [skey, joinClass]; exact skey_modify f sid _ (fun _ => rfl)
@[simp] theorem skey_pushScope (f : Facts) (p : Option Nat) (o : Nat) : skey (pushScope f p o) = skey f := rfl
@[simp] theorem skey_recDirectCallee (f : Facts) (a b : Nat) : skey (recDirectCallee f a b) = skey f := rfl
@[simp] theorem skey_recUserCall (f : Facts) (a b : Nat) : skey (recUserCall f a b) = skey f := rfl
@[simp] theorem skey_setDefStmt (f : Facts) (fn sid : Nat) : skey (setDefStmt f fn sid) = skey f := rfl
@[simp] theorem skey_setRootScope (f : Facts) (s : Nat) : skey (setRootScope f s) = skey f := rfl
@[simp] theorem skey_pushLocal (f : Facts) (sl : Bool) (name : Bytes) (o s : Nat) (d : Option Nat) (k : LocalKind) :
    skey (pushLocal f sl name o s d k) = skey f := rfl
@[simp] theorem skey_pushFunction (f : Facts) (name : Bytes) (np parent scope : Nat) :
    skey (pushFunction f name np parent scope) = skey f := rfl

@[simp] theorem skey_recStmtRead (f : Facts) (a b c : Nat) : skey (recStmtRead f a b c) = skey f := by
  unfold recStmtRead; split
  · simp only [skey]; exact skey_modify f b _ (fun _ => rfl)
  · rfl
@[simp] theorem skey_recStmtWrite (f : Facts) (a b c : Nat) : skey (recStmtWrite f a b c) = skey f := by
  unfold recStmtWrite; split
  · simp only [skey]; exact skey_modify f b _ (fun _ => rfl)
  · rfl
@[simp] theorem skey_recCapRead (f : Facts) (a b : Nat) : skey (recCapRead f a b) = skey f := by
  unfold recCapRead; split
  · rfl
  · split <;> rfl
@[simp] theorem skey_recCapWrite (f : Facts) (a b : Nat) : skey (recCapWrite f a b) = skey f := by
  unfold recCapWrite; split
  · rfl
  · split <;> rfl
@[simp] theorem skey_recUse (f : Facts) (a b c : Nat) : skey (recUse f a b c) = skey f := by simp [recUse]
@[simp] theorem skey_recReadWrite (f : Facts) (a b c : Nat) : skey (recReadWrite f a b c) = skey f := by
  simp [recReadWrite]

theorem skey_pushStmt (f : Facts) (o s : Nat) : skey (pushStmt f o s) = skey f ++ [(o, [])] := by
  simp [skey, pushStmt]

theorem skey_recStmtCallee (f : Facts) (sid g : Nat) :
    skey (recStmtCallee f sid g) = modifyAt (skey f) sid (fun p => (p.1, addNew p.2 g)) := by
  simp only [skey, recStmtCallee]
  exact modifyAt_map (fun e : StmtEffect => (e.function, e.directCallees)) _ (fun p => (p.1, addNew p.2 g)) (fun _ => rfl) _ _

@[simp] theorem len_pushStmt (f : Facts) (o s : Nat) : (pushStmt f o s).stmtEffects.length = f.stmtEffects.length + 1 := by
  simp [pushStmt]

def KLe (k k' : List (Nat × List Nat)) : Prop :=
  ∀ (i : Nat) (p : Nat × List Nat), k[i]? = some p → ∃ p' : Nat × List Nat, k'[i]? = some p' ∧ p'.1 = p.1 ∧ ∀ g ∈ p.2, g ∈ p'.2

def SLe (f f' : Facts) : Prop := KLe (skey f) (skey f')

theorem SLe.refl (f : Facts) : SLe f f := fun _ p h => ⟨p, h, rfl, fun _ hg => hg⟩

theorem SLe.of_eq {f f' : Facts} (h : skey f' = skey f) : SLe f f' := by
  unfold SLe; rw [h]; exact fun _ p h => ⟨p, h, rfl, fun _ hg => hg⟩

theorem SLe.trans {a b c : Facts} (h1 : SLe a b) (h2 : SLe b c) : SLe a c := by
  intro i p hp
  obtain ⟨p1, hp1, ho1, hc1⟩ := h1 i p hp
  obtain ⟨p2, hp2, ho2, hc2⟩ := h2 i p1 hp1
  exact ⟨p2, hp2, ho2.trans ho1, fun g hg => hc2 g (hc1 g hg)⟩

theorem SLe.len {f f' : Facts} (h : SLe f f') : f.stmtEffects.length ≤ f'.stmtEffects.length := by
  rw [← skey_length, ← skey_length]
  cases hn : (skey f).length with
  | zero => exact Nat.zero_le _
  | succ n =>
    have hlt : n < (skey f).length := by omega
    obtain ⟨p', hp', _⟩ := h n _ (List.getElem?_eq_getElem hlt)
    have := (List.getElem?_eq_some_iff.1 hp').1
    omega

theorem SLe.push (f : Facts) (o s : Nat) : SLe f (pushStmt f o s) := by
  intro i p hp
  refine ⟨p, ?_, rfl, fun _ hg => hg⟩
  rw [skey_pushStmt, List.getElem?_append_left (List.getElem?_eq_some_iff.1 hp).1]
  exact hp

theorem SLe.addCallee (f : Facts) (sid g : Nat) : SLe f (recStmtCallee f sid g) := by
  intro i p hp
  rw [skey_recStmtCallee, getElem?_modifyAt]
  split
  · exact ⟨(p.1, addNew p.2 g), by simp [hp], rfl, fun x hx => mem_addNew.2 (Or.inl hx)⟩
  · exact ⟨p, hp, rfl, fun _ hg => hg⟩

theorem SLe.head {f F : Facts} {o s : Nat} (h : SLe (pushStmt f o s) F) :
    ∃ p, (skey F)[f.stmtEffects.length]? = some p ∧ p.1 = o := by
  have : (skey (pushStmt f o s))[f.stmtEffects.length]? = some (o, []) := by
    rw [skey_pushStmt, List.getElem?_append_right (by rw [skey_length]; exact Nat.le_refl _)]
    simp [skey_length]
  obtain ⟨p', hp', ho, _⟩ := h _ _ this
  exact ⟨p', hp', ho⟩

theorem SLe.callee {f F : Facts} {sid g : Nat} {p : Nat × List Nat} (hs : sid < f.stmtEffects.length)
    (h : SLe (Resolve.recStmtCallee f sid g) F) (hp : (skey F)[sid]? = some p) : g ∈ p.2 := by
  have hlt : sid < (skey f).length := by rw [skey_length]; exact hs
  have : (skey (Resolve.recStmtCallee f sid g))[sid]? = some ((skey f)[sid].1, addNew (skey f)[sid].2 g) := by
    rw [skey_recStmtCallee, getElem?_modifyAt]
    simp [List.getElem?_eq_getElem hlt]
  obtain ⟨p', hp', _, hc⟩ := h _ _ this
  rw [hp] at hp'
  cases hp'
  exact hc g (mem_addNew.2 (Or.inr rfl))

theorem checkMethod_skey (env : Env) (cur : Scope) (sid : Nat) (rt : VType) (obj : Expr) (field : Bytes)
    (args : List Expr) (ms : Span) (f : Facts) :
    skey (checkMethod env cur sid rt obj field args ms f).2 = skey f := by
  unfold checkMethod
  split
  · simp only
    split
    · split <;> simp
    · rfl
  · rfl

theorem declareParams_skey (sl : Bool) (owner scope : Nat) (ps : List Param) (sc : Scope) (f : Facts) :
    skey (declareParams sl owner scope ps sc f).2.2 = skey f := by
  rw [declareParams_eq]
  induction ps generalizing f with
  | nil => rfl
  | cons p ps ih => exact ih _

theorem predeclare_skey (env : Env) : ∀ (ss : List Stmt) (sigs : List FnSig) (f : Facts),
    skey (predeclare env ss sigs f).facts = skey f := by
  intro ss
  induction ss using stmts_fnDef_induction with
  | nil => intros; rfl
  | other s rest hs ih => intro sigs f; rw [predeclare_cons_other env hs]; exact ih sigs f
  | fnDef name nsp ps body _ _ _ rest ih =>
    intro sigs f
    simp only [predeclare]
    split
    · exact ih sigs f
    · simp only; rw [ih]; simp

theorem primS_sle {f g : Facts} (h : ResolveStruct.PrimS f g) : SLe f g := by
  cases h with
  | pushStmt o s => exact SLe.push f o s
  | e he =>
    cases he with
    | recStmtCallee s g => exact SLe.addCallee f s g
    | _ => exact SLe.of_eq (by simp)
  | _ => exact SLe.of_eq (by simp)

theorem steps_sle {f g : Facts} (h : ResolveStruct.StepsS f g) : SLe f g :=
  ResolveStruct.Steps.rel SLe.refl (fun _ _ _ => SLe.trans) (fun _ _ => primS_sle) h

theorem checkExpr_sle (env : Env) (cur : Scope) (sid : Nat) :
    ∀ (e : Expr) (f : Facts), SLe f (checkExpr env cur sid e f).facts :=
  fun e f => steps_sle (ResolveStruct.checkExpr_steps env cur sid e f).toS
theorem checkExprs_sle (env : Env) (cur : Scope) (sid : Nat) :
    ∀ (es : List Expr) (f : Facts), SLe f (checkExprs env cur sid es f).facts :=
  fun es f => steps_sle (ResolveStruct.checkExprs_steps env cur sid es f).toS

/-- From the statement's own entry on, like `ResolveStruct.checkStmt_steps'`; here the PRIMED name is the one from `f`. -/
theorem checkStmt_sle (env : Env) (cur : Cur) :
    ∀ (s : Stmt) (f : Facts), SLe (pushStmt f env.owner env.scope) (checkStmt env cur s f).facts :=
  fun s f => steps_sle (ResolveStruct.checkStmt_steps' env cur s f)
theorem checkStmts_sle (env : Env) :
    ∀ (ss : List Stmt) (cur : Cur) (f : Facts), SLe f (checkStmts env cur ss f).facts :=
  fun ss cur f => steps_sle (ResolveStruct.checkStmts_steps env ss cur f)
theorem checkBlock_sle (env : Env) (parent : Option Nat) :
    ∀ (b : Block) (f : Facts), SLe f (checkBlock env parent b f).facts :=
  fun b f => steps_sle (ResolveStruct.checkBlock_steps env parent b f)
theorem checkOptBlock_sle (env : Env) (parent : Option Nat) :
    ∀ (b : Option Block) (f : Facts), SLe f (checkOptBlock env parent b f).facts :=
  fun b f => steps_sle (ResolveStruct.checkOptBlock_steps env parent b f)

theorem checkStmt_sle' (env : Env) (cur : Cur) (s : Stmt) (f : Facts) : SLe f (checkStmt env cur s f).facts :=
  (SLe.push f _ _).trans (checkStmt_sle env cur s f)

end NaijaVerif.ResolveFacts
