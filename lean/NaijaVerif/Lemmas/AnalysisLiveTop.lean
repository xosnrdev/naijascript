import NaijaVerif.Lemmas.AnalysisLiveStep
import NaijaVerif.Lemmas.AnalysisBase
import NaijaVerif.Lemmas.AnalysisFactScopes
/-
The liveness simulation at a program: `lsetupOf` fills `LSetup` with the model's own tables and verdicts, `globalOkB`
are the decidable conditions on the facts from which `LSetupOk` follows (`lsetupOk_of`), `rootOkB` the statement
conditions at the root block, and `live_run` is the simulation from the initial state: same observations.
-/
namespace NaijaVerif.C03
open NaijaVerif NaijaVerif.Analysis NaijaVerif.AEval

variable {V : Type}

/-- The primitives take the evaluator's two scope tables from the facts; `evalPrims cfg (declScopeOf facts) (stmtScopeOf facts)`,
at which `c03_concrete` and the driver instantiate, does by `rfl`. -/
def ScopesFrom (P : Prims V) (facts : Facts) : Prop := P.dscope = declScopeOf facts ∧ P.sscope = stmtScopeOf facts

def lsetupOf (root : Block) (facts : Facts) (plan : Option Plan) (q : Nat → Expr → Bool) : LSetup :=
  let c := mkCtx root facts
  { c := c, T := tbl root, cfg := Cfg.ofPlan plan, D2 := fun x => !c.usedLocals.contains x,
    ds := declScopeOf facts, ss := stmtScopeOf facts, q := q, ua := c.unusedAsg root, uv := c.unusedVars }

/-- Every reachable statement of a body-reachable function has its reads, and the transitive capture reads of its
callees, among the used locals (true by construction of `usedLocals`; checked). -/
def usedOkB (c : Ctx) : Bool :=
  let used := c.usedLocals
  let br := c.bodyReachable
  c.rows.all fun r =>
    !(r.live && br.contains (c.fnOf r.sid)) ||
      ((c.reads r.sid).all (fun x => used.contains x) &&
       (c.callees r.sid).all (fun g => (c.transReads g).all (fun x => used.contains x)))

/-- The summaries of a caller contain those of its callees (the closure ran to its fixpoint). -/
def sumOkB (c : Ctx) : Bool :=
  c.rows.all fun r =>
    !r.live ||
      (c.callees r.sid).all (fun g =>
        subset (c.transReads g) (c.transReads (c.fnOf r.sid)) && subset (c.transWrites g) (c.transWrites (c.fnOf r.sid)))

/-- `scope_locals[sc]` only lists locals declared by `sc`. -/
def slOkB (facts : Facts) : Bool :=
  (List.range facts.scopeLocals.length).all fun sc =>
    match facts.scopeLocals[sc]? with
    | some ls => ls.all (fun x => declScopeOf facts x == some sc)
    | none => true

/-- The scope that declares a local belongs to the local's owner. -/
def scOwnB (facts : Facts) : Bool :=
  facts.locals.all fun li => (facts.scopes[li.declaringScope]?).map (·.owner) == some li.owner

def globalOkB (root : Block) (facts : Facts) : Bool :=
  let c := mkCtx root facts
  c.brClosed && usedOkB c && sumOkB c && slOkB facts && scOwnB facts

theorem live_of_tbl {root : Block} (facts : Facts) (hd : SidsDistinct root) {i : Nat} (h : (i, true) ∈ tbl root) :
    (mkCtx root facts).live i = true := by
  obtain ⟨r, hr, hsid, hlive⟩ := mem_tbl.mp h
  simp only [Ctx.live, Ctx.row?]
  have hrows : (mkCtx root facts).rows = rows root := rfl
  rw [hrows]
  cases hf : (rows root).find? (fun r => r.sid == i) with
  | none =>
    have := List.find?_eq_none.mp hf r hr
    simp [hsid] at this
  | some r' =>
    have h1 := List.find?_some hf
    have h2 := List.mem_of_find?_eq_some hf
    have : r' = r := eq_of_nodup_map hd r' h2 r hr (by simp at h1; rw [h1, hsid])
    subst this
    simpa using hlive

theorem rows_all_tbl {root : Block} {facts : Facts} {F : Row → Bool} (h : (mkCtx root facts).rows.all F = true) {i : Nat}
    (hi : (i, true) ∈ tbl root) : ∃ r, r.sid = i ∧ r.live = true ∧ F r = true := by
  obtain ⟨r, hr, hsid, hlive⟩ := mem_tbl.mp hi
  exact ⟨r, hsid, hlive, List.all_eq_true.mp h r hr⟩

theorem lsetupOk_of (root : Block) (facts : Facts) (plan : Plan) (q : Nat → Expr → Bool)
    (hd : SidsDistinct root) (hg : globalOkB root facts = true)
    (hfns : ∀ g ∈ plan.fns, g ∈ (mkCtx root facts).unusedFns.map (·.2)) :
    LSetupOk (lsetupOf root facts (some plan) q) := by
  simp only [globalOkB, Bool.and_eq_true] at hg
  obtain ⟨⟨⟨⟨hcl, hused⟩, hsum⟩, hsl⟩, hown⟩ := hg
  refine
    { closed := brClosed_of_check root facts hcl
      drop := ?_
      func := fun _ h => tbl_functional hd h
      liveT := fun i h => live_of_tbl facts hd h
      used := ?_
      sumR := ?_
      sumW := ?_
      slOk := ?_
      scOwn := ?_ }
  · exact fun g hg => ofPlan_keeps _ hfns hg
  · intro i hi hbr
    obtain ⟨r, rfl, hl, hF⟩ := rows_all_tbl hused hi
    have hbr' : (mkCtx root facts).bodyReachable.contains ((mkCtx root facts).fnOf r.sid) = true := hbr
    simp only [hl, hbr', Bool.and_self, Bool.not_true, Bool.false_or, Bool.and_eq_true, List.all_eq_true] at hF
    exact ⟨fun x hx => congrArg (!·) (hF.1 x hx), fun g hg x hx => congrArg (!·) (hF.2 g hg x hx)⟩
  · intro i hi g hg x hx
    obtain ⟨r, rfl, hl, hF⟩ := rows_all_tbl hsum hi
    simp only [hl, Bool.not_true, Bool.false_or, List.all_eq_true, Bool.and_eq_true] at hF
    exact subset_iff.mp (hF g hg).1 x hx
  · intro i hi g hg x hx
    obtain ⟨r, rfl, hl, hF⟩ := rows_all_tbl hsum hi
    simp only [hl, Bool.not_true, Bool.false_or, List.all_eq_true, Bool.and_eq_true] at hF
    exact subset_iff.mp (hF g hg).2 x hx
  · -- `slOk`, along `Ctx.scopeLocalsOf`: the list is `scopeLocals[e.scope]` for the facts `e` of the first statement, and
    -- `blockTag` reads the same `e.scope`; every other branch gives `[]`
    intro b x
    show x ∈ (mkCtx root facts).scopeLocalsOf b → ∃ tg, blockTag (stmtScopeOf facts) b = some tg ∧ declScopeOf facts x = some tg
    fun_cases Ctx.scopeLocalsOf (mkCtx root facts) b <;> intro hx
    case case2 s ss e he ls hls =>
      have hls' : facts.scopeLocals[e.scope]? = some ls := hls
      refine ⟨e.scope, ?_, ?_⟩
      · have : blockTag (stmtScopeOf facts) (s :: ss) = (s.sid.bind (mkCtx root facts).eff?).map (·.scope) := by
          simp only [blockTag]; cases s.sid <;> rfl
        rw [this, he]; rfl
      · simp only [slOkB, List.all_eq_true, List.mem_range] at hsl
        have := hsl e.scope (List.getElem?_eq_some_iff.mp hls').1
        simp only [hls', List.all_eq_true, beq_iff_eq] at this
        exact this x hx
    all_goals cases hx
  · intro x tg hx
    have hx' : (facts.locals[x]?).map (·.declaringScope) = some tg := hx
    show (facts.scopes[tg]?).map (·.owner) = (facts.locals[x]?).map (·.owner)
    cases hl : facts.locals[x]? with
    | none => rw [hl] at hx'; cases hx'
    | some li =>
      rw [hl] at hx'
      cases hx'
      simp only [scOwnB, List.all_eq_true, beq_iff_eq] at hown
      exact hown li (List.mem_of_getElem? hl)

/-- The root block as the body of function 0.  The `none` below it in the lexical chain is the outer scope of `St.init`
(`run_inner`), which no local is declared in. -/
def rootOkB (L : LSetup) (root : Block) : Bool :=
  L.blockOkB 0 [none] root.stmts &&
  lokListB L 0 [blockTag L.ss root.stmts, none] { brk := none, cont := none, kills := [] } root.stmts (boundary [])

theorem _root_.NaijaVerif.AEval.observable_congr {a b : R V (Flow V)} (h1 : a.1 = b.1) (h2 : a.2.out = b.2.out) :
    observable a = observable b := by
  rw [observable, observable, h1, h2]

theorem live_run (P : Prims V) (root : Block) (facts : Facts) (plan : Plan) (q : Nat → Expr → Bool) (fuel : Nat)
    (hP : ScopesFrom P facts) (hqt : QuietIn P (lsetupOf root facts (some plan) q))
    (hs : LSetupOk (lsetupOf root facts (some plan) q))
    (hok : rootOkB (lsetupOf root facts (some plan) q) root = true)
    (hbad : ¬ Bad (run P none fuel root).1) :
    observable (run P (some plan) fuel root) = observable (run P none fuel root) := by
  let L := lsetupOf root facts (some plan) q
  have hsim := lsim_all P (L := L) hP.1 hP.2 hs hqt fuel
  simp only [rootOkB, Bool.and_eq_true] at hok
  -- nothing lies below the root activation: equality, which everything keeps
  have hact : ActOk (V := V) L 0 [(none, fun _ => False)] Eq :=
    { own := by intro tg h; simp [tagsOf] at h
      nodup := by simp [tagsOf, TagsNodup]
      susp := susp_eq _ _ _ }
  have hrel : LRel L (fun _ => True) Eq [(none, fun _ => False)] (St.init V) (St.init V) :=
    ⟨rfl, rfl, trel_push (.base rfl) none _ []⟩
  have hm := hsim.block root.stmts (St.init V) (St.init V) 0 [(none, fun _ => False)] Eq { brk := none, cont := none, kills := [] }
    (boundary []) (fun _ => True) (cons_root root) (by simpa [tagsOf] using hok.2) (by simpa [tagsOf] using hok.1)
    (root_bodyReachable _) hact (by intro p hp l hl; simp only [List.mem_singleton] at hp; subst hp; cases hl)
    (fun _ _ _ => trivial) hrel ⟨inv_init _ V, FnsAll.init _ V⟩
  rcases hm.1 with hb | ⟨heq, A', hrel', _⟩
  · exact absurd hb hbad
  · exact observable_congr heq hrel'.1

end NaijaVerif.C03
