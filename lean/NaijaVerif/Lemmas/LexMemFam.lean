import NaijaVerif.Lemmas.LexMemSum
/-
A concrete family for D-19: the source `"\n"` repeated `n` times (4·n bytes, `n` owned string tokens).
The lexer model is evaluated on it symbolically, for every `n`: the reservation `hintPinned`
(`reserve_exact(bytes.len())`) sums to `n·(2n+1)`, `hintFixed` to `2n`.
-/
namespace NaijaVerif.Lex
open NaijaVerif NaijaVerif.Utf8

def escFamily : Nat → Bytes
  | 0 => []
  | n + 1 => 34 :: 92 :: 110 :: 34 :: escFamily n

theorem escFamily_length (n : Nat) : (escFamily n).length = 4 * n := by
  induction n with
  | zero => rfl
  | succ n ih => simp only [escFamily, List.length_cons, ih]; omega

theorem escFamily_valid (n : Nat) : validUtf8 (escFamily n) = true := by
  induction n with
  | zero => exact valid_nil
  | succ n ih =>
    simp only [escFamily]
    rw [valid_cons_ascii (by decide), valid_cons_ascii (by decide), valid_cons_ascii (by decide),
      valid_cons_ascii (by decide)]
    exact ih

/-! The next three are evaluations although the tail `r` is a variable: on this text every test of `step` and of `bufLoop`
looks at the four literal bytes only. -/

theorem step_fam (p : Nat) (r : Bytes) :
    step ⟨p, 34 :: 92 :: 110 :: 34 :: r⟩ = .tok ⟨.str [10] true, ⟨p, p + 4⟩⟩ ⟨p + 4, r⟩ [] :=
  rfl

/-- `hintPinned` reserves everything that follows the opening quote -/
theorem buf_fam_pinned (r : Bytes) (f : Nat) :
    bufLoop hintPinned 34 (f + 2) (92 :: 110 :: 34 :: r) 0 false ⟨0, 0⟩ = ⟨r.length + 3, 1, true, r, false⟩ := by
  simp [bufLoop, notQuoteEsc, notNl, escapeOf, escTable, hintPinned, Buf.reserveExact, Buf.push, Buf.reserve]

/-- `hintFixed` reserves up to the closing quote -/
theorem buf_fam_fixed (r : Bytes) (f : Nat) :
    bufLoop hintFixed 34 (f + 2) (92 :: 110 :: 34 :: r) 0 false ⟨0, 0⟩ = ⟨2, 1, true, r, false⟩ := by
  simp [bufLoop, notQuoteEsc, notNl, escapeOf, escTable, hintFixed, memchr2From, Buf.reserveExact, Buf.push, Buf.reserve]

def famToks (p : Nat) : Nat → List SpTok
  | 0 => []
  | n + 1 => ⟨.str [10] true, ⟨p, p + 4⟩⟩ :: famToks (p + 4) n

theorem lexGo_fam : ∀ (n f p : Nat), n < f → (lexGo f ⟨p, escFamily n⟩).1 = famToks p n := by
  intro n
  induction n with
  | zero =>
    intro f p h
    cases f with
    | zero => omega
    | succ f => rfl
  | succ n ih =>
    intro f p h
    cases f with
    | zero => omega
    | succ f =>
      rw [escFamily, lexGo_tok (step_fam p _)]; dsimp only; rw [ih f (p + 4) (Nat.lt_of_succ_lt_succ h)]
      rfl

theorem drop_fam : ∀ (k n : Nat), (escFamily (k + n)).drop (4 * k) = escFamily n := by
  intro k
  induction k with
  | zero => intro n; simp
  | succ k ih =>
    intro n
    rw [show k + 1 + n = (k + n) + 1 by omega, show 4 * (k + 1) = 4 + 4 * k by omega, escFamily,
      ← List.drop_drop]
    exact ih n

/-- capacities of a run of `n` tokens, `g i` = capacity of a token followed by `i` more -/
def famCaps (g : Nat → Nat) : Nat → List Nat
  | 0 => []
  | n + 1 => g n :: famCaps g n

theorem capsOf_fam (cap : Bytes → Nat → Nat) (g : Nat → Nat) (N : Nat)
    (hcap : ∀ k n, k + (n + 1) = N → cap (escFamily N) (4 * k) = g n) :
    ∀ (n k : Nat), k + n = N → capsOf cap (escFamily N) (famToks (4 * k) n) = famCaps g n := by
  intro n
  induction n with
  | zero => intro k _; rfl
  | succ n ih =>
    intro k hk
    rw [famToks, capsOf_cons]
    have : isOwnedStr ⟨.str [10] true, ⟨4 * k, 4 * k + 4⟩⟩ = true := rfl
    rw [if_pos this, show 4 * k + 4 = 4 * (k + 1) by omega, ih (k + 1) (by omega)]
    simp only [famCaps]
    rw [hcap k n hk]

theorem strBuf_fam (hint : Nat → Bytes → Nat → Nat → Nat) (N k n : Nat) (h : k + (n + 1) = N) :
    strBuf hint (escFamily N) (4 * k) =
      bufLoop hint 34 ((escFamily n).length + 2 + 2) (92 :: 110 :: 34 :: escFamily n) 0 false ⟨0, 0⟩ := by
  subst h
  have hd := drop_fam k (n + 1)
  simp only [strBuf]
  rw [hd]
  rfl

theorem strCapPinned_fam (N k n : Nat) (h : k + (n + 1) = N) : strCapPinned (escFamily N) (4 * k) = 4 * n + 3 := by
  rw [strCapPinned, strBuf_fam _ N k n h, buf_fam_pinned, escFamily_length]

theorem strCap_fam (N k n : Nat) (h : k + (n + 1) = N) : strCap (escFamily N) (4 * k) = 2 := by
  rw [strCap, strBuf_fam _ N k n h, buf_fam_fixed]

theorem famCaps_pinned_sum (n : Nat) : (famCaps (fun i => 4 * i + 3) n).sum = n * (2 * n + 1) := by
  induction n with
  | zero => rfl
  | succ n ih =>
    simp only [famCaps, List.sum_cons, ih, Nat.add_mul, Nat.mul_add, Nat.mul_one, Nat.one_mul]
    have : n * (2 * n) = 2 * (n * n) := by rw [Nat.mul_left_comm]
    have : 2 * n * n = 2 * (n * n) := Nat.mul_assoc _ _ _
    omega

theorem famCaps_fixed_sum (n : Nat) : (famCaps (fun _ => 2) n).sum = 2 * n := by
  induction n with
  | zero => rfl
  | succ n ih => simp only [famCaps, List.sum_cons, ih]; omega

theorem capsOf_lex_fam (cap : Bytes → Nat → Nat) (g : Nat → Nat) (n : Nat)
    (hcap : ∀ k m, k + (m + 1) = n → cap (escFamily n) (4 * k) = g m) :
    capsOf cap (escFamily n) (lex (escFamily n)).1 = famCaps g n := by
  rw [capsOf_lex, lexGo_fam n _ 0 (by rw [escFamily_length]; omega)]
  exact capsOf_fam cap g n hcap n 0 (Nat.zero_add n)

theorem lexCapsPinned_fam (n : Nat) : (lexCapsPinned (escFamily n)).sum = n * (2 * n + 1) := by
  rw [lexCapsPinned, capsOf_lex_fam _ _ n (strCapPinned_fam n), famCaps_pinned_sum]

theorem lexCaps_fam (n : Nat) : (lexCaps (escFamily n)).sum = 2 * n := by
  rw [lexCaps, capsOf_lex_fam _ _ n (strCap_fam n), famCaps_fixed_sum]

end NaijaVerif.Lex
