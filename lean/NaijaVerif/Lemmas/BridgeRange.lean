import NaijaVerif.Lemmas.BridgeFacts
import NaijaVerif.Lemmas.ResolveScope
/-
Bridge resolver → evaluator: where the ids written into the AST come from.

* `FLe f f'`: the facts only grow (`locals.length` increases, the parameter-count table is extended
  at the end).
* `predeclare`: the signatures it adds carry the `FunctionId`s allocated on the way and the pushed
  parameter counts (`predeclare_alloc`; `blkPre_spec` for the predeclaration of a block); when it reports nothing,
  the block's definitions have pairwise different names, none known before, and the signatures are exactly those
  definitions, in order (`predeclare_clean`).
* `declareParams`: every parameter is annotated, with the `LocalId`s allocated on the way (`declareParams_alloc`;
  `fnParams_spec` for the parameters of a definition).
-/
namespace NaijaVerif.Resolve
open NaijaVerif

def FLe (f f' : Facts) : Prop := (fkey f).1 ≤ (fkey f').1 ∧ (fkey f).2 <+: (fkey f').2

theorem FLe.refl (f : Facts) : FLe f f := ⟨Nat.le_refl _, List.prefix_refl _⟩
theorem FLe.of_eq {f f' : Facts} (h : fkey f' = fkey f) : FLe f f' := by
  unfold FLe; rw [h]; exact ⟨Nat.le_refl _, List.prefix_refl _⟩
theorem FLe.trans {a b c : Facts} (h1 : FLe a b) (h2 : FLe b c) : FLe a c :=
  ⟨Nat.le_trans h1.1 h2.1, List.IsPrefix.trans h1.2 h2.2⟩
theorem FLe.nl {f f' : Facts} (h : FLe f f') : f.locals.length ≤ f'.locals.length := h.1
theorem FLe.nf {f f' : Facts} (h : FLe f f') : f.functions.length ≤ f'.functions.length := by
  have := h.2.length_le
  rwa [fkey_nf, fkey_nf] at this
theorem FLe.get {f f' : Facts} (h : FLe f f') {i n : Nat} (hi : (fkey f).2[i]? = some n) :
    (fkey f').2[i]? = some n := prefix_getElem? h.2 hi

theorem FLe.pushLocal (f : Facts) (sl : Bool) (name : Bytes) (o s : Nat) (d : Option Nat) (k : LocalKind) :
    FLe f (pushLocal f sl name o s d k) := by
  unfold FLe; rw [fkey_pushLocal]; exact ⟨Nat.le_succ _, List.prefix_refl _⟩

theorem FLe.pushFunction (f : Facts) (name : Bytes) (np parent scope : Nat) :
    FLe f (pushFunction f name np parent scope) := by
  unfold FLe; rw [fkey_pushFunction]; exact ⟨Nat.le_refl _, List.prefix_append _ _⟩

/-- The facts hold `g`'s parameter count at `g`'s `FunctionId`: what predeclaring establishes of a signature
(`predeclare_alloc`) and what `check_ok` needs of every signature in scope to read arities off the table. -/
def SigOK (f : Facts) (g : FnSig) : Prop := (fkey f).2[g.id]? = some g.arity

theorem SigOK.mono {f f' : Facts} (h : FLe f f') {g : FnSig} (hg : SigOK f g) : SigOK f' g := h.get hg

/-- Name and parameter count of the definitions of a block, in order: `sigKey` of the signatures a clean `predeclare`
adds (`predeclare_clean`). -/
def fnDefs : List Stmt → List (Bytes × Nat)
  | [] => []
  | .fnDef name _ ps _ _ _ _ :: rest => (name, ps.length) :: fnDefs rest
  | _ :: rest => fnDefs rest

theorem fnDefs_names : ∀ ss : List Stmt, (fnDefs ss).map (·.1) = fnNames ss
  | [] => rfl
  | s :: ss => by cases s <;> simp [fnDefs, fnNames, fnDefs_names ss]

theorem fnDefs_cons (s : Stmt) (ss : List Stmt) : fnDefs (s :: ss) = fnDefs [s] ++ fnDefs ss := by
  cases s <;> simp [fnDefs]

theorem fnDefs_cons_other {s : Stmt} (hs : Spec.definedName s = []) (rest : List Stmt) :
    fnDefs (s :: rest) = fnDefs rest := by
  cases s <;> first | rfl | cases hs

theorem predeclare_alloc (env : Env) (ss : List Stmt) (sigs : List FnSig) (f : Facts) :
    FLe f (predeclare env ss sigs f).facts ∧ (predeclare env ss sigs f).facts.locals.length = f.locals.length ∧
    ∃ new, (predeclare env ss sigs f).sigs = sigs ++ new ∧
      new.map (·.id) = List.range' f.functions.length new.length ∧
      (predeclare env ss sigs f).facts.functions.length = f.functions.length + new.length ∧
      ∀ g ∈ new, SigOK (predeclare env ss sigs f).facts g := by
  -- `predeclare_pushes`: induction over `predeclare` as one `pushFunction` per definition; after the motive come its
  -- start (nothing predeclared) and its step (the definition `name` pushed first, `M` of the rest given)
  refine ResolveStruct.predeclare_pushes env (M := fun sigs f sigs' f' => FLe f f' ∧ f'.locals.length = f.locals.length ∧
      ∃ new, sigs' = sigs ++ new ∧ new.map (·.id) = List.range' f.functions.length new.length ∧
        f'.functions.length = f.functions.length + new.length ∧ ∀ g ∈ new, SigOK f' g)
    (fun sigs f => ⟨FLe.refl f, rfl, [], (List.append_nil _).symm, rfl, rfl, fun _ h => nomatch h⟩) ?_ ss sigs f
  intro name nsp np sigs f sigs' f' ⟨h1, h2, new, e1, e2, e3, e4⟩
  have hnf : (pushFunction f name np env.owner env.scope).functions.length = f.functions.length + 1 := by
    simp [pushFunction]
  rw [hnf] at e2 e3
  refine ⟨(FLe.pushFunction f name np env.owner env.scope).trans h1, h2, _ :: new,
    e1.trans (List.append_assoc _ _ _), ?_, ?_, ?_⟩
  · rw [List.length_cons, List.range'_succ, ← e2]; rfl
  · rw [e3, List.length_cons]; omega
  · intro g hg
    rcases List.mem_cons.1 hg with rfl | hg
    · apply SigOK.mono h1
      simp only [SigOK]
      rw [fkey_pushFunction, List.getElem?_append_right (by rw [fkey_nf]; exact Nat.le_refl _)]
      simp [fkey_nf]
    · exact e4 g hg

open ResolveStruct in
theorem blkSigs_core (env : Env) (parent : Option Nat) (ss : List Stmt) (f : Facts) :
    (blkSigs env parent ss f).map FnSig.core = (blkPre env parent ss f).sigs.map FnSig.core := retIter_core _ _ _ _ _

open ResolveStruct in
theorem fkey_blkF2 (env : Env) (parent : Option Nat) (f : Facts) : fkey (blkF2 env parent f) = fkey f := by
  unfold blkF2; split <;> simp

open ResolveStruct in
theorem blkPre_spec (env : Env) (parent : Option Nat) (ss : List Stmt) (f : Facts) :
    FLe f (blkPre env parent ss f).facts ∧ (blkPre env parent ss f).facts.locals.length = f.locals.length ∧
    ∀ g ∈ blkSigs env parent ss f, f.functions.length ≤ g.id ∧
      g.id < (blkPre env parent ss f).facts.functions.length ∧ SigOK (blkPre env parent ss f).facts g := by
  obtain ⟨h1, h2, new, e1, e2, e3, e4⟩ := predeclare_alloc (blkEnvScope env f) ss [] (blkF2 env parent f)
  have hk := fkey_blkF2 env parent f
  refine ⟨(FLe.of_eq hk).trans h1, h2.trans (nl_eq hk), fun g hg => ?_⟩
  obtain ⟨g0, hg0, hkey⟩ := core_mem (blkSigs_core env parent ss f) hg
  have hid : g0.id = g.id := (congrArg FnSig.id hkey :)
  have har : g0.arity = g.arity := (congrArg FnSig.arity hkey :)
  have hn : g0 ∈ new := by rw [← List.nil_append new, ← e1]; exact hg0
  have hr := List.mem_range'_1.1 (e2 ▸ List.mem_map_of_mem (f := FnSig.id) hn)
  have c := e4 g0 hn
  unfold SigOK at c ⊢
  rw [← hid, ← har, ← nf_eq hk]
  exact ⟨hr.1, e3 ▸ hr.2, c⟩

theorem predeclare_clean (env : Env) : ∀ (ss : List Stmt) (sigs : List FnSig) (f : Facts),
    (predeclare env ss sigs f).ds = [] →
    (predeclare env ss sigs f).sigs.map sigKey = sigs.map sigKey ++ fnDefs ss ∧
    (∀ name ∈ fnNames ss, findFn sigs name = none) ∧ (fnNames ss).Nodup := by
  intro ss
  induction ss using stmts_fnDef_induction with
  | nil => intro sigs f _; simp [predeclare, fnDefs, fnNames]
  | other s rest hs ih =>
      intro sigs f h
      rw [predeclare_cons_other env hs] at h ⊢
      rw [fnDefs_cons_other hs, fnNames_cons_other hs]
      exact ih sigs f h
  | fnDef name nsp ps body _ _ _ rest ih =>
      intro sigs f h
      simp only [predeclare] at h ⊢
      split at h
      · simp at h
      · next hnone =>
        simp only [List.append_eq_nil_iff] at h
        obtain ⟨h1, h2, h3⟩ := ih _ _ h.2
        refine ⟨?_, ?_, ?_⟩
        · rw [h1]; simp [fnDefs, sigKey]
        · intro n hn
          simp only [fnNames, List.mem_cons] at hn
          rcases hn with rfl | hn
          · exact hnone
          · exact (findFn_none_of_append (h2 n hn)).1
        · simp only [fnNames, List.nodup_cons]
          refine ⟨?_, h3⟩
          intro hn
          exact (findFn_none_of_append (h2 name hn)).2 rfl

/-- The `LocalId`s a parameter list is annotated with (`Eval.Binder.ofParams` declares these). -/
def paramBinds (ps : List Param) : List Nat := ps.filterMap (·.bind)

theorem declareParams_alloc (sl : Bool) (owner scope : Nat) (ps : List Param) (sc : Scope) (f : Facts) :
    fkey (declareParams sl owner scope ps sc f).2.2 = ((fkey f).1 + ps.length, (fkey f).2) ∧
    paramBinds (declareParams sl owner scope ps sc f).1 = List.range' f.locals.length ps.length ∧
    (declareParams sl owner scope ps sc f).1.all (fun p => p.bind.isSome) = true ∧
    (declareParams sl owner scope ps sc f).1.length = ps.length ∧
    (∀ e ∈ (declareParams sl owner scope ps sc f).2.1,
        e ∈ sc ∨ e.id ∈ paramBinds (declareParams sl owner scope ps sc f).1) := by
  rw [declareParams_eq]
  have hb := numberParams_binds f.locals.length ps
  have hpb : paramBinds (numberParams f.locals.length ps) = List.range' f.locals.length ps.length := by
    have := congrArg (List.filterMap id) hb
    rwa [List.filterMap_map, List.filterMap_map, Function.id_comp, Function.id_comp, List.filterMap_some] at this
  refine ⟨?_, hpb, ?_, by simpa using congrArg List.length hb, fun e he => ?_⟩
  · clear hb hpb
    induction ps generalizing f with
    | nil => rfl
    | cons p ps ih => rw [List.foldl_cons, ih, fkey_pushLocal, List.length_cons, Nat.add_assoc, Nat.add_comm 1]
  · rw [List.all_eq_true]
    intro p hp
    have : p.bind ∈ (List.range' f.locals.length ps.length).map some := hb ▸ List.mem_map_of_mem hp
    obtain ⟨_, _, h⟩ := List.mem_map.mp this
    rw [← h]; rfl
  · rcases List.mem_append.mp he with he | he
    · exact Or.inr (by rw [hpb, ← paramEntries_ids]; exact List.mem_map_of_mem (List.mem_reverse.mp he))
    · exact Or.inl he

open ResolveStruct in
theorem fkey_fnScopeF (env : Env) (f : Facts) (g : FnSig) : fkey (fnScopeF env f g) = fkey f := by
  simp [fnScopeF, fnEntryF]

theorem fnParams_spec (env : Env) (f : Facts) (g : FnSig) (ps : List Param) :
    (ResolveStruct.fnParams env f g ps).2.2.locals.length = f.locals.length + ps.length ∧
    (ResolveStruct.fnParams env f g ps).2.2.functions.length = f.functions.length ∧
    (ResolveStruct.fnParams env f g ps).1.all (fun p => p.bind.isSome) = true ∧
    (ResolveStruct.fnParams env f g ps).1.length = ps.length ∧
    (∀ l ∈ paramBinds (ResolveStruct.fnParams env f g ps).1, f.locals.length ≤ l ∧ l < f.locals.length + ps.length) ∧
    (∀ e ∈ (ResolveStruct.fnParams env f g ps).2.1, e.id ∈ paramBinds (ResolveStruct.fnParams env f g ps).1) := by
  obtain ⟨h1, hb, h2, h3, h5⟩ := declareParams_alloc env.spanLen g.id (ResolveStruct.fnPscope f) ps []
    (ResolveStruct.fnScopeF env f g)
  have hk := fkey_fnScopeF env f g
  rw [nl_eq hk] at hb
  refine ⟨?_, ?_, h2, h3, fun l hl => List.mem_range'_1.1 (hb ▸ hl),
    fun e he => (h5 e he).resolve_left (fun hm => nomatch hm)⟩
  · exact (congrArg Prod.fst h1).trans (congrArg (· + ps.length) (nl_eq hk))
  · have := congrArg (fun k => k.2.length) h1
    simp only [fkey_nf] at this
    exact this.trans (nf_eq hk)

end NaijaVerif.Resolve

namespace NaijaVerif.ResolveFacts
open NaijaVerif NaijaVerif.Resolve

/-- The middle conjunct of `Resolve.blkPre_spec` (`Lemmas/ResolveFactsRange.lean` and `Lemmas/ResolveStructSumWalk.lean`
need no more). -/
theorem blkSigs_id_lt (env : Env) (parent : Option Nat) (ss : List Stmt) (f : Facts) {g : FnSig}
    (hg : g ∈ ResolveStruct.blkSigs env parent ss f) :
    g.id < (ResolveStruct.blkPre env parent ss f).facts.functions.length :=
  ((blkPre_spec env parent ss f).2.2 g hg).2.1

end NaijaVerif.ResolveFacts
