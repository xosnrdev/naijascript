import NaijaVerif.Lemmas.ParseRoundTrip
import NaijaVerif.Lemmas.AstInduction
/-
Statement-level print / parse round trip: `parseProgram (programToks p b) = (b, [])` for every
canonical program `b` (`CanonBlock`), built on the expression round trip `printAt_round_trip`.
-/
namespace NaijaVerif.Parse
open NaijaVerif

def stmtFollow (t : Tok) : Bool := isStmtStart t || isBlockStop t

theorem binTable_follow : ∀ row ∈ Gen.Pratt.binTable, stmtFollow row.1 = false := by
  decide +kernel

theorem follow_stops {t : Tok} (h : stmtFollow t = true) (k : Nat) : StopsAt k t := by
  refine ⟨fun _ => ?_, fun op l r hb => ?_⟩
  · simp only [isPostfixStart, ne_of_class stmtFollow h (rfl : stmtFollow .dot = false),
      ne_of_class stmtFollow h (rfl : stmtFollow .lparen = false),
      ne_of_class stmtFollow h (rfl : stmtFollow .lbracket = false), Bool.or_self]
  · rw [binTable_follow _ (binInfo_mem hb)] at h; cases h

theorem isBlockStop_eq (t : Tok) : isBlockStop t = (t == .end || t == .eof) := by
  cases t <;> rfl

theorem stmtStart_not_blockStop {t : Tok} (h : isStmtStart t = true) : isBlockStop t = false := by
  rw [isBlockStop_eq, ne_of_class isStmtStart h (rfl : isStmtStart .end = false),
    ne_of_class isStmtStart h (rfl : isStmtStart .eof = false)]
  rfl

def CanonParam (q : Param) : Prop := q.span = zspan ∧ q.bind = none

/-! `paramStep` at the two tokens that a printed parameter list shows it, on any state.  `parseParams_print` takes the first
in the form `paramStep_print`, on `pushToks`, and gets the second by unfolding. -/

theorem paramStep_rparen (L : List SpTok) (errs : List Diag) :
    paramStep ⟨mkTok .rparen, L, errs⟩ = none := rfl

theorem paramStep_ident (nm : Bytes) (rest : List SpTok) (errs : List Diag) :
    paramStep ⟨mkTok (.ident nm), rest, errs⟩ =
      some ({ name := nm, span := zspan }, ⟨mkTok (.ident nm), rest, errs⟩) := rfl

theorem canonParam_eq {q : Param} (h : CanonParam q) : ({ name := q.name, span := zspan } : Param) = q := by
  obtain ⟨n, sp, b⟩ := q
  simp only [CanonParam] at h
  obtain ⟨rfl, rfl⟩ := h
  rfl

theorem paramStep_print {q : Param} (hq : CanonParam q) (ts : List Tok) (st : PState) :
    paramStep (pushToks (.ident q.name :: ts) st) = some (q, pushToks (.ident q.name :: ts) st) := by
  rw [← canonParam_eq hq]; rfl

theorem parseParams_print : ∀ (ps : List Param), (∀ q ∈ ps, CanonParam q) →
    ∀ (rest : List Tok) (st : PState),
    parseParams (pushToks (paramToks ps ++ .rparen :: rest) st) = (ps, pushToks (.rparen :: rest) st)
  | [], _, rest, st => by rw [parseParams_eq]; rfl
  | [q], hc, rest, st => by
    rw [parseParams_eq]
    simp only [paramToks, List.cons_append, List.nil_append, paramStep_print (hc q (by simp)), pushToks_bump]
    rfl
  | q :: r :: ps, hc, rest, st => by
    have ih := parseParams_print (r :: ps) (fun x hx => hc x (List.mem_cons_of_mem _ hx)) rest st
    rw [parseParams_eq]
    simp only [paramToks, List.cons_append, paramStep_print (hc q (by simp)), pushToks_bump, pushToks_cur,
      mkTok_tok, beq_self_eq_true, if_true, ih]

/-- `printAt_round_trip` at level 0, the level at which the statement parser calls `parseExpr`. -/
theorem expr_rt (p : Expr → Nat) (e : Expr) (hwf : WF e) (st : PState)
    (hstop : StopsAt 0 st.cur.tok) (hsp : st.cur.span = zspan) :
    Eventually (parseExpr · 0 (pushToks (printAt p 0 e) st) = some (e, st)) :=
  printAt_round_trip p e hwf 0 st (Nat.zero_le _) hstop hsp

/-- The identifier-led form: the statement parser has consumed the identifier and resumes the loop. -/
theorem cont_rt (p : Expr → Nat) (e : Expr) (hwf : WF e) (v : Bytes) (r : List Tok)
    (hpr : printAt p 0 e = .ident v :: r) (st : PState)
    (hstop : StopsAt 0 st.cur.tok) (hsp : st.cur.span = zspan) :
    Eventually (parseCont · 0 (.var v none zspan) (pushToks r st) = some (e, st)) := by
  obtain ⟨f0, h⟩ := expr_rt p e hwf st hstop hsp
  refine ⟨f0, fun f hf => ?_⟩
  have h1 := h (f + 1) (Nat.le_succ_of_le hf)
  rw [hpr, parseExpr] at h1
  have ha : atomOf (mkTok (Tok.ident v)) = some (.var v none zspan) := rfl
  simp only [pushToks_cur, pushToks_bump, ha] at h1
  exact h1

theorem stops_get (k : Nat) : StopsAt k .get := stops_none k (fun _ => rfl) (by decide)

def startsWithIdent (ts : List Tok) : Prop := ∃ v r, ts = .ident v :: r

def isIndex : Expr → Bool
  | .index .. => true
  | _ => false

def isBareRet : Stmt → Bool
  | .ret none _ _ => true
  | _ => false

mutual
  /-- Spans erased, no annotations, well-formed expressions; expression statements and index targets
      start with their identifier, which is what `parse_statement` requires.  This is a condition on `p` too: a `p`
      that puts a pair around the leftmost identifier of such a statement or around the statement itself (`fun _ => 1`,
      the `p` of `printFull`) leaves no expression statement and no index assignment canonical. -/
  def CanonStmt (p : Expr → Nat) : Stmt → Prop
    | .fnDef _ ns ps b fn sid s =>
      ns = zspan ∧ s = zspan ∧ fn = none ∧ sid = none ∧ (∀ q ∈ ps, CanonParam q) ∧ CanonBlock p b
    | .assign _ vs e bind sid s => vs = zspan ∧ s = zspan ∧ bind = none ∧ sid = none ∧ WF e
    | .assignExisting _ vs e bind sid s => vs = zspan ∧ s = zspan ∧ bind = none ∧ sid = none ∧ WF e
    | .assignIndex t e sid s =>
      s = zspan ∧ sid = none ∧ WF t ∧ WF e ∧ isIndex t = true ∧ startsWithIdent (printAt p 0 t)
    | .ifS c t none sid s => s = zspan ∧ sid = none ∧ WF c ∧ CanonBlock p t
    | .ifS c t (some e) sid s => s = zspan ∧ sid = none ∧ WF c ∧ CanonBlock p t ∧ CanonBlock p e
    | .loop c b sid s => s = zspan ∧ sid = none ∧ WF c ∧ CanonBlock p b
    | .block b sid s => s = zspan ∧ sid = none ∧ CanonBlock p b
    | .ret none sid s => s = zspan ∧ sid = none
    | .ret (some e) sid s => s = zspan ∧ sid = none ∧ WF e
    | .brk sid s => s = zspan ∧ sid = none
    | .cont sid s => s = zspan ∧ sid = none
    | .expr e sid s => s = zspan ∧ sid = none ∧ WF e ∧ startsWithIdent (printAt p 0 e)
  /-- A bare `return` only as the last statement of its block. -/
  def CanonStmts (p : Expr → Nat) : List Stmt → Prop
    | [] => True
    | [s] => CanonStmt p s
    | s :: s' :: ss => CanonStmt p s ∧ isBareRet s = false ∧ CanonStmts p (s' :: ss)
  def CanonBlock (p : Expr → Nat) : Block → Prop
    | .mk ss s => s = zspan ∧ CanonStmts p ss
end

theorem stmt_head (p : Expr → Nat) (s : Stmt) (hc : CanonStmt p s) : HeadIs isStmtStart (printStmt p s) := by
  cases s with
  | assignIndex t e sid sp =>
    obtain ⟨v, r, hr⟩ := hc.2.2.2.2.2
    exact ⟨.ident v, r ++ .get :: printAt p 0 e, by rw [printStmt, hr]; rfl, rfl⟩
  | expr e sid sp =>
    obtain ⟨v, r, hr⟩ := hc.2.2.2
    exact ⟨.ident v, r, by rw [printStmt, hr], rfl⟩
  | ifS c t eb sid sp => cases eb <;> exact ⟨_, _, rfl, rfl⟩
  | ret e sid sp => cases e <;> exact ⟨_, _, rfl, rfl⟩
  | _ => exact ⟨_, _, rfl, rfl⟩

theorem parseFnHeader_print (n : Bytes) (ps : List Param) (hps : ∀ q ∈ ps, CanonParam q)
    (rest : List Tok) (st : PState) :
    parseFnHeader 0 (pushToks (.do :: .ident n :: .lparen :: (paramToks ps ++ .rparen :: .start :: rest)) st)
      = ({ name := n, doSpan := zspan, rparenSpan := zspan, startSpan := zspan, params := ps },
         pushToks rest st) := by
  unfold parseFnHeader
  simp only [pushToks_cur, pushToks_bump, mkTok_span, mkTok_tok, nameOrPlaceholder, pushToks_expect,
    parseParams_print ps hps]

/-- `KeyS`, `KeySs` are `Key` for statements and statement lists.  A bare `return` needs the end of its block behind it:
in front of anything else the parser reads an operand. -/
def KeyS (p : Expr → Nat) (s : Stmt) : Prop :=
  ∀ (st : PState), stmtFollow st.cur.tok = true → (isBareRet s = true → isBlockStop st.cur.tok = true) →
    st.cur.span = zspan →
    Eventually (parseStmt · (pushToks (printStmt p s) st) = some (s, st))

def KeySs (p : Expr → Nat) (ss : List Stmt) : Prop :=
  ∀ (st : PState), isBlockStop st.cur.tok = true → st.cur.span = zspan →
    Eventually (parseStmts · (pushToks (printStmts p ss) st) = some (ss, st))

theorem block_end {p : Expr → Nat} {ss : List Stmt} (h : KeySs p ss) (rest : List Tok) (st : PState) :
    Eventually (parseBlock · (pushToks (printStmts p ss ++ .end :: rest) st)
      = some (.mk ss zspan, pushToks (.end :: rest) st)) := by
  refine ((h (pushToks (.end :: rest) st) rfl rfl).mono fun g h0 => ?_).succ
  rw [pushToks_append, parseBlock, h0]
  simp only [pushToks_span _ _ (rfl : (pushToks (.end :: rest) st).cur.span = zspan), pushToks_cur, mkTok_span,
    zspan_lo, zspan_hi]
  rfl

/-! One lemma per form of statement, each stated as its case of the walk `stmt_all`: from what the walk knows of the
statement lists inside, a canonical statement of the form has `KeyS`. -/

theorem keyS_fnDef (p : Expr → Nat) (n : Bytes) (ns : Span) (ps : List Param) (ss : List Stmt) (bs : Span) (fn sid)
    (sp : Span) (ih : CanonStmts p ss → KeySs p ss) (hc : CanonStmt p (.fnDef n ns ps (.mk ss bs) fn sid sp)) :
    KeyS p (.fnDef n ns ps (.mk ss bs) fn sid sp) := by
  obtain ⟨rfl, rfl, rfl, rfl, hps, rfl, hss⟩ := hc
  intro st _ _ hsp
  refine ((block_end (ih hss) [] st).mono fun g h => ?_).succ
  rw [printStmt, parseStmt]
  -- here and in the arms below: `simp only` runs the arm of `parse_statement` over the printed tokens, the sub-parses
  -- by their round trips; the closing `rfl` sees the spans `⟨0, 0⟩` the parser has built as `zspan`
  simp only [printBlock, pushToks_cur, mkTok_tok, mkTok_span, zspan_lo, parseFnHeader_print n ps hps, h,
    pushToks_expect, pushToks_nil, hsp, zspan_hi]
  rfl

theorem keyS_assign (p : Expr → Nat) (v : Bytes) (vs : Span) (e : Expr) (bd sid) (sp : Span)
    (hc : CanonStmt p (.assign v vs e bd sid sp)) : KeyS p (.assign v vs e bd sid sp) := by
  obtain ⟨rfl, rfl, rfl, rfl, hwf⟩ := hc
  intro st hfo _ hsp
  refine ((expr_rt p e hwf st (follow_stops hfo 0) hsp).mono fun g h => ?_).succ
  rw [printStmt, parseStmt]
  simp only [pushToks_cur, mkTok_tok, mkTok_span, zspan_lo, parseMakeHeader, pushToks_bump,
    beq_self_eq_true, if_true, h, hsp, zspan_hi]
  rfl

theorem keyS_assignExisting (p : Expr → Nat) (v : Bytes) (vs : Span) (e : Expr) (bd sid) (sp : Span)
    (hc : CanonStmt p (.assignExisting v vs e bd sid sp)) : KeyS p (.assignExisting v vs e bd sid sp) := by
  obtain ⟨rfl, rfl, rfl, rfl, hwf⟩ := hc
  intro st hfo _ hsp
  -- the loop with `lhs = v` stops at `get`
  have hc := cont_stop (k := 0) (st := pushToks (.get :: printAt p 0 e) st) (.var v none zspan) rfl (stops_get 0).2
  refine (((expr_rt p e hwf st (follow_stops hfo 0) hsp).and hc).mono fun g h => ?_).succ
  rw [printStmt, parseStmt]
  simp only [pushToks_cur, mkTok_tok, mkTok_span, zspan_lo, pushToks_bump, h.2,
    beq_self_eq_true, if_true, h.1, finishAssign, hsp, zspan_hi]
  rfl

theorem keyS_assignIndex (p : Expr → Nat) (t e : Expr) (sid) (sp : Span) (hc : CanonStmt p (.assignIndex t e sid sp)) :
    KeyS p (.assignIndex t e sid sp) := by
  obtain ⟨rfl, rfl, hwt, hwe, hix, v, r, hr⟩ := hc
  intro st hfo _ hsp
  refine (((expr_rt p e hwe st (follow_stops hfo 0) hsp).and
    (cont_rt p t hwt v r hr (pushToks (.get :: printAt p 0 e) st) (stops_get 0) rfl)).mono fun g h => ?_).succ
  rw [printStmt, hr, parseStmt]
  simp only [List.cons_append, pushToks_cur, mkTok_tok, mkTok_span, zspan_lo, pushToks_bump]
  rw [pushToks_append, h.2]
  simp only [pushToks_cur, mkTok_tok, beq_self_eq_true, if_true, pushToks_bump, h.1]
  cases t <;> cases hix
  simp only [finishAssign, hsp, zspan_hi]
  rfl

theorem keyS_expr (p : Expr → Nat) (e : Expr) (sid) (sp : Span) (hc : CanonStmt p (.expr e sid sp)) :
    KeyS p (.expr e sid sp) := by
  obtain ⟨rfl, rfl, hwe, v, r, hr⟩ := hc
  intro st hfo _ hsp
  refine ((cont_rt p e hwe v r hr st (follow_stops hfo 0) hsp).mono fun g h => ?_).succ
  rw [printStmt, hr, parseStmt]
  simp only [pushToks_cur, mkTok_tok, mkTok_span, zspan_lo, pushToks_bump, h,
    ne_of_class stmtFollow hfo (rfl : stmtFollow .get = false), Bool.false_eq_true, if_false, hsp, zspan_hi]
  rfl

theorem keyS_ret (p : Expr → Nat) (e : Option Expr) (sid) (sp : Span) (hc : CanonStmt p (.ret e sid sp)) :
    KeyS p (.ret e sid sp) := by
  cases e with
  | none =>
    obtain ⟨rfl, rfl⟩ := hc
    intro st _ hbare hsp
    have hstop := hbare rfl
    rw [isBlockStop_eq] at hstop
    refine .of_succ fun g => ?_
    rw [printStmt, parseStmt]
    simp only [pushToks_cur, mkTok_tok, mkTok_span, zspan_lo, pushToks_bump, pushToks_nil, hstop, if_true,
      hsp, zspan_hi]
    rfl
  | some e =>
    obtain ⟨rfl, rfl, hwe⟩ := hc
    intro st hfo _ hsp
    refine ((expr_rt p e hwe st (follow_stops hfo 0) hsp).mono fun g h => ?_).succ
    rw [printStmt, parseStmt]
    have hh := printAt_cur p e 0 st
    simp only [pushToks_cur, mkTok_tok, mkTok_span, zspan_lo, pushToks_bump,
      ne_of_class exprStart hh (rfl : exprStart .end = false),
      ne_of_class exprStart hh (rfl : exprStart .eof = false), Bool.or_self, Bool.false_eq_true,
      if_false, h, hsp, zspan_hi]
    rfl

theorem keyS_jump (p : Expr → Nat) {s : Stmt} {sid} {sp : Span} (h : s = .brk sid sp ∨ s = .cont sid sp)
    (hc : sp = zspan ∧ sid = none) : KeyS p s := by
  obtain ⟨rfl, rfl⟩ := hc
  intro st _ _ hsp
  refine .of_succ fun g => ?_
  rcases h with rfl | rfl
  all_goals
    rw [printStmt, parseStmt]
    simp only [pushToks_cur, mkTok_tok, mkTok_span, zspan_lo, pushToks_bump, pushToks_nil, hsp, zspan_hi]
    rfl

theorem cond_print (p : Expr → Nat) (c : Expr) (hwc : WF c) (kw : Span) (rest : List Tok) (st : PState) :
    Eventually fun f =>
      parseExpr f 0 (openCond kw (pushToks (.lparen :: (printAt p 0 c ++ .rparen :: .start :: rest)) st))
        = some (c, pushToks (.rparen :: .start :: rest) st) ∧
      closeCond 0 c (pushToks (.rparen :: .start :: rest) st) = (zspan, pushToks rest st) := by
  refine (expr_rt p c hwc (pushToks (.rparen :: .start :: rest) st) (stops_rparen 0) rfl).mono fun f h => ⟨?_, ?_⟩
  · simp only [openCond, pushToks_expect]
    rw [pushToks_append]
    exact h
  · simp only [closeCond, pushToks_expect, pushToks_cur, mkTok_span]

theorem keyS_loop (p : Expr → Nat) (c : Expr) (ss : List Stmt) (bs : Span) (sid) (sp : Span)
    (ih : CanonStmts p ss → KeySs p ss) (hc : CanonStmt p (.loop c (.mk ss bs) sid sp)) :
    KeyS p (.loop c (.mk ss bs) sid sp) := by
  obtain ⟨rfl, rfl, hwc, rfl, hss⟩ := hc
  intro st _ _ hsp
  refine (((block_end (ih hss) [] st).and (cond_print p c hwc zspan (printStmts p ss ++ [.end]) st)).mono
    fun g h => ?_).succ
  rw [printStmt, parseStmt]
  simp only [printBlock, pushToks_cur, mkTok_tok, mkTok_span, zspan_lo, pushToks_bump, h.2.1,
    h.2.2, h.1, pushToks_expect, pushToks_nil, hsp, zspan_hi]
  rfl

theorem keyS_block (p : Expr → Nat) (ss : List Stmt) (bs : Span) (sid) (sp : Span)
    (ih : CanonStmts p ss → KeySs p ss) (hc : CanonStmt p (.block (.mk ss bs) sid sp)) :
    KeyS p (.block (.mk ss bs) sid sp) := by
  obtain ⟨rfl, rfl, rfl, hss⟩ := hc
  intro st _ _ hsp
  refine ((block_end (ih hss) [] st).mono fun g h => ?_).succ
  rw [printStmt, parseStmt]
  simp only [printBlock, pushToks_cur, mkTok_tok, mkTok_span, zspan_lo, pushToks_bump, h, pushToks_expect,
    pushToks_nil, hsp, zspan_hi]
  rfl

theorem keyS_if_none (p : Expr → Nat) (c : Expr) (t : List Stmt) (ts : Span) (sid) (sp : Span)
    (iht : CanonStmts p t → KeySs p t) (hc : CanonStmt p (.ifS c (.mk t ts) none sid sp)) :
    KeyS p (.ifS c (.mk t ts) none sid sp) := by
  obtain ⟨rfl, rfl, hwc, rfl, ht⟩ := hc
  intro st hfo _ hsp
  refine (((block_end (iht ht) [] st).and (cond_print p c hwc zspan (printStmts p t ++ [.end]) st)).mono
    fun g h => ?_).succ
  rw [printStmt, parseStmt]
  simp only [printBlock, pushToks_cur, mkTok_tok, mkTok_span, zspan_lo, pushToks_bump, h.2.1,
    h.2.2, h.1, pushToks_expect, pushToks_nil,
    ne_of_class stmtFollow hfo (rfl : stmtFollow .ifNotSo = false), Bool.false_eq_true, if_false,
    hsp, zspan_hi]
  rfl

theorem keyS_if_some (p : Expr → Nat) (c : Expr) (t : List Stmt) (ts : Span) (e : List Stmt) (es : Span) (sid)
    (sp : Span) (iht : CanonStmts p t → KeySs p t) (ihe : CanonStmts p e → KeySs p e)
    (hc : CanonStmt p (.ifS c (.mk t ts) (some (.mk e es)) sid sp)) :
    KeyS p (.ifS c (.mk t ts) (some (.mk e es)) sid sp) := by
  obtain ⟨rfl, rfl, hwc, ⟨rfl, ht⟩, rfl, he⟩ := hc
  intro st _ _ hsp
  refine (((block_end (ihe he) [] st).and
    ((block_end (iht ht) (.ifNotSo :: .start :: (printStmts p e ++ [.end])) st).and
      (cond_print p c hwc zspan
        (printStmts p t ++ .end :: .ifNotSo :: .start :: (printStmts p e ++ [.end])) st))).mono fun g h => ?_).succ
  rw [printStmt, parseStmt]
  simp only [printBlock, pushToks_cur, mkTok_tok, mkTok_span, zspan_lo, pushToks_bump, h.2.2.1,
    h.2.2.2, h.2.1, pushToks_expect, beq_self_eq_true, if_true,
    h.1, pushToks_nil, hsp, zspan_hi]
  rfl

theorem keySs_nil (p : Expr → Nat) (_ : CanonStmts p []) : KeySs p [] := by
  intro st hstop _
  refine .of_succ fun g => ?_
  rw [printStmts, parseStmts, pushToks_nil, if_pos hstop]

theorem canonStmts_head {p : Expr → Nat} {s : Stmt} {rest : List Stmt} (h : CanonStmts p (s :: rest)) :
    CanonStmt p s ∧ (isBareRet s = true → rest = []) ∧ CanonStmts p rest := by
  cases rest with
  | nil => exact ⟨h, fun _ => rfl, trivial⟩
  | cons s' ss => exact ⟨h.1, fun hb => (by rw [h.2.1] at hb; cases hb), h.2.2⟩

theorem stmt_then (p : Expr → Nat) (s : Stmt) (rest : List Stmt) (hc : CanonStmts p (s :: rest))
    (hs : KeyS p s) (st : PState) (hstop : isBlockStop st.cur.tok = true) (hsp : st.cur.span = zspan) :
    Eventually (parseStmt · (pushToks (printStmt p s ++ printStmts p rest) st)
      = some (s, pushToks (printStmts p rest) st)) := by
  obtain ⟨_, hlast, hcr⟩ := canonStmts_head hc
  rw [pushToks_append]
  refine hs _ ?_ (fun hb => ?_) (pushToks_span _ _ hsp)
  · cases rest with
    | nil => exact Bool.or_eq_true_iff.2 (Or.inr hstop)
    | cons s' ss =>
      obtain ⟨t, r, hr, ht⟩ := stmt_head p s' (canonStmts_head hcr).1
      rw [printStmts, hr]
      exact Bool.or_eq_true_iff.2 (Or.inl ht)
  · rw [hlast hb]; exact hstop

theorem keySs_cons (p : Expr → Nat) (s : Stmt) (rest : List Stmt) (ihs : CanonStmt p s → KeyS p s)
    (ihr : CanonStmts p rest → KeySs p rest) (hc : CanonStmts p (s :: rest)) : KeySs p (s :: rest) := by
  obtain ⟨hcs, _, hcr⟩ := canonStmts_head hc
  intro st hstop hsp
  refine (((stmt_then p s rest hc (ihs hcs) st hstop hsp).and (ihr hcr st hstop hsp)).mono fun g h => ?_).succ
  obtain ⟨t, r, hpr, ht⟩ := stmt_head p s hcs
  have hcur : isBlockStop (pushToks (printStmt p s ++ printStmts p rest) st).cur.tok = false := by
    rw [hpr]; exact stmtStart_not_blockStop ht
  rw [printStmts, parseStmts, hcur]
  simp only [Bool.false_eq_true, if_false, h.1, h.2]

theorem stmt_all (p : Expr → Nat) : (∀ s, CanonStmt p s → KeyS p s) ∧ (∀ ss, CanonStmts p ss → KeySs p ss) :=
  Stmt.walkLists (keyS_fnDef p) (keyS_assign p) (keyS_assignExisting p) (keyS_assignIndex p) (keyS_if_none p)
    (keyS_if_some p) (keyS_loop p) (keyS_block p) (keyS_ret p) (fun _ _ => keyS_jump p (.inl rfl))
    (fun _ _ => keyS_jump p (.inr rfl)) (keyS_expr p) (keySs_nil p) (keySs_cons p)

theorem top_print (p : Expr → Nat) : ∀ (ss : List Stmt), CanonStmts p ss → ∀ (st : PState),
    st.cur.tok = .eof → st.cur.span = zspan →
    Eventually (parseTopStmts · (pushToks (printStmts p ss) st) = some (ss, st)) := by
  intro ss
  induction ss with
  | nil =>
    intro _ st heof _
    refine .of_succ fun g => ?_
    rw [printStmts, parseTopStmts, pushToks_nil, heof]
    rfl
  | cons s rest ih =>
    intro hc st heof hsp
    have hcs := (canonStmts_head hc).1
    refine (((stmt_then p s rest hc ((stmt_all p).1 s hcs) st (by rw [heof]; rfl) hsp).and
      (ih (canonStmts_head hc).2.2 st heof hsp)).mono fun g h => ?_).succ
    obtain ⟨t, r, hpr, ht⟩ := stmt_head p s hcs
    have hcur : isStmtStart (pushToks (printStmt p s ++ printStmts p rest) st).cur.tok = true := by
      rw [hpr]; exact ht
    rw [printStmts, parseTopStmts, hcur]
    simp only [if_true, h.1, h.2]

def endState : PState := ⟨mkTok .eof, [], []⟩

theorem init_programToks (ts : List Tok) :
    PState.init (ts.map mkTok ++ [mkTok .eof]) = pushToks ts endState := by
  cases ts <;> rfl

theorem program_round_trip_fuel (p : Expr → Nat) (b : Block) (hc : CanonBlock p b) :
    ∃ f0, ∀ f, f0 ≤ f → parseProgramFuel f (programToks p b) = some (b, []) := by
  cases b with
  | mk ss sp =>
    obtain ⟨rfl, hcs⟩ := hc
    refine (top_print p ss hcs endState rfl rfl).mono fun f h0 => ?_
    unfold parseProgramFuel programToks
    simp only [printBlock, init_programToks, h0]
    have h1 : (pushToks (printStmts p ss) endState).cur.span = zspan := pushToks_span _ _ rfl
    simp only [h1, zspan_lo]
    rfl

theorem program_round_trip (p : Expr → Nat) (b : Block) (hc : CanonBlock p b) :
    parseProgram (programToks p b) = (b, []) := by
  obtain ⟨f0, h0⟩ := program_round_trip_fuel p b hc
  have h1 := parseProgramFuel_stable (programToks p b) (max f0 (fuelFor (programToks p b)))
    (Nat.le_max_right _ _)
  rw [h0 _ (Nat.le_max_left _ _)] at h1
  exact (Option.some.inj h1).symm

end NaijaVerif.Parse
