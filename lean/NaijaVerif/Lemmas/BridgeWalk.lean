import NaijaVerif.Lemmas.BridgeRange
import NaijaVerif.Lemmas.EvalBasic
/-
Bridge resolver → evaluator: the statement walk only extends the facts (`FLe`, read off the history of primitives), and
the binding annotations it writes come from where they should: a `make` carries an id of the block's own scope or the id
the statement allocates (`checkStmt_decl`); under `DefsOK` — the names of the block's definitions are distinct, not yet
passed, and have a signature in the own function scope (the head of `env.fns`) — the definitions carry, in order, the ids
of those signatures (`checkStmts_fnIdsOf`); the statements of a block whose predeclaration reports nothing are in this case
(`defsOK_block`), and carry the ids of the block's signatures (`block_fnIds`).
-/
namespace NaijaVerif.Resolve
open NaijaVerif

/-- Of the primitives only `pushLocal` and `pushFunction` touch the key, and they extend it. -/
theorem primS_fle {f g : Facts} (h : ResolveStruct.PrimS f g) : FLe f g := by
  cases h with
  | e he => exact FLe.of_eq (primE_fkey he)
  | pushLocal sl name o s d k => exact FLe.pushLocal f sl name o s d k
  | pushFunction name np parent scope => exact FLe.pushFunction f name np parent scope
  | _ => exact FLe.of_eq (by simp)

theorem steps_fle {f g : Facts} (h : ResolveStruct.StepsS f g) : FLe f g :=
  ResolveStruct.Steps.rel FLe.refl (fun _ _ _ => FLe.trans) (fun _ _ => primS_fle) h

theorem checkStmt_other (env : Env) (cur : Cur) {s : Stmt} (hm : Spec.madeName s = []) (hd : Spec.definedName s = [])
    (f : Facts) : (checkStmt env cur s f).cur = cur ∧ Eval.declIds [(checkStmt env cur s f).val] = [] ∧
      Eval.fnIdsOf [(checkStmt env cur s f).val] = [] := by
  obtain ⟨hc, hm', hd'⟩ := Resolve.checkStmt_cur_other env cur hm hd f
  refine ⟨hc, ?_, ?_⟩
  · generalize (checkStmt env cur s f).val = v at hm'
    cases v <;> first | rfl | cases hm'
  · generalize (checkStmt env cur s f).val = v at hd'
    cases v <;> first | rfl | cases hd'

theorem checkStmt_decl (env : Env) (cur : Cur) (s : Stmt) (f : Facts) :
    (∀ l ∈ Eval.declIds [(checkStmt env cur s f).val], (∃ e ∈ cur.vars, e.id = l) ∨
        (f.locals.length ≤ l ∧ l < (checkStmt env cur s f).facts.locals.length)) ∧
    (∀ e ∈ (checkStmt env cur s f).cur.vars, (∃ e' ∈ cur.vars, e'.id = e.id) ∨
        (e.id ∈ Eval.declIds [(checkStmt env cur s f).val] ∧ f.locals.length ≤ e.id ∧
          e.id < (checkStmt env cur s f).facts.locals.length)) := by
  cases s using Stmt.make_fnDef_cases with
  | assign x xs e b sid sp =>
    simp only [checkStmt]
    cases hf : findVar cur.vars x with
    | some ent =>
      simp only [Eval.declIds, List.mem_singleton]
      refine ⟨?_, ?_⟩
      · rintro l rfl; exact Or.inl ⟨ent, findVar_mem hf, rfl⟩
      · intro e he
        obtain ⟨e', h1, h2⟩ := updateTy_mem_id he
        exact Or.inl ⟨e', h1, h2⟩
    | none =>
      have hk : fkey (joinClass (checkExpr env cur.vars f.stmtEffects.length e (pushStmt f env.owner env.scope)).facts
          f.stmtEffects.length (classifyExpr env cur.vars
            (checkExpr env cur.vars f.stmtEffects.length e (pushStmt f env.owner env.scope)).facts e)) = fkey f := by
        simp [checkExpr_fkey]
      have hn := nl_eq hk
      simp only [Eval.declIds, List.mem_singleton]
      have hlen : ∀ F : Facts, (recStmtWrite (pushLocal F env.spanLen x env.owner env.scope (some f.stmtEffects.length)
          .variable) env.owner f.stmtEffects.length F.locals.length).locals.length = F.locals.length + 1 := by
        intro F
        have := nl_eq (fkey_recStmtWrite (pushLocal F env.spanLen x env.owner env.scope (some f.stmtEffects.length)
          .variable) env.owner f.stmtEffects.length F.locals.length)
        rw [this]; simp [pushLocal]
      refine ⟨?_, ?_⟩
      · rintro l rfl
        right
        rw [hlen, hn]; omega
      · intro e he
        rcases List.mem_cons.1 he with rfl | he
        · right
          refine ⟨rfl, ?_⟩
          simp only
          rw [hlen, hn]; omega
        · exact Or.inl ⟨e, he, rfl⟩
  | fnDef name nsp ps body fn sid sp =>
    simp only [checkStmt]
    split <;> exact ⟨fun _ h => (nomatch h), fun e he => Or.inl ⟨e, he, rfl⟩⟩
  | other s hm hd =>
    obtain ⟨hc, hdecl, _⟩ := checkStmt_other env cur hm hd f
    rw [hc, hdecl]
    exact ⟨fun _ h => (nomatch h), fun e he => Or.inl ⟨e, he, rfl⟩⟩

theorem checkStmts_decl (env : Env) : ∀ (ss : List Stmt) (cur : Cur) (f : Facts),
    ∀ l ∈ Eval.declIds (checkStmts env cur ss f).val, (∃ e ∈ cur.vars, e.id = l) ∨
      (f.locals.length ≤ l ∧ l < (checkStmts env cur ss f).facts.locals.length)
  | [], cur, f => by simp [checkStmts, Eval.declIds]
  | s :: ss, cur, f => by
      intro l hl
      simp only [checkStmts] at hl ⊢
      rw [Eval.declIds_cons] at hl
      have hd := checkStmt_decl env cur s f
      have hg1 := (steps_fle (ResolveStruct.checkStmt_steps env cur s f)).nl
      have hg2 :=
        (steps_fle (ResolveStruct.checkStmts_steps env ss (checkStmt env cur s f).cur (checkStmt env cur s f).facts)).nl
      rcases List.mem_append.1 hl with hl | hl
      · rcases hd.1 l hl with h | h
        · exact Or.inl h
        · right; omega
      · rcases checkStmts_decl env ss _ _ l hl with ⟨e, he, rfl⟩ | h
        · rcases hd.2 e he with h | h
          · exact Or.inl h
          · right; omega
        · right; omega

theorem checkStmt_seen (env : Env) (cur : Cur) (s : Stmt) (f : Facts) :
    ∀ x ∈ (checkStmt env cur s f).cur.seenFns, x ∈ cur.seenFns ∨ x ∈ fnNames [s] := by
  cases s using Stmt.make_fnDef_cases with
  | fnDef name nsp ps body fn sid sp =>
    rw [ResolveStruct.checkStmt_fnDef]
    cases ResolveStruct.sigOf env cur name with
    | none => exact fun x hx => Or.inl hx
    | some g =>
      intro x hx
      rcases List.mem_cons.1 hx with rfl | hx
      · right; simp [fnNames]
      · exact Or.inl hx
  | assign x xs e b sid sp => simp only [checkStmt]; split <;> exact fun x hx => Or.inl hx
  | other s hm hd => rw [(checkStmt_other env cur hm hd f).1]; exact fun x hx => Or.inl hx

/-- `seen` are the definitions already passed (`Cur.seenFns`; a name met again is a duplicate and gets no id); `own`
(`ownHas`, `Lemmas/ResolveScope.lean`): the innermost function scope `env.fns.head` has a signature of each name. -/
structure DefsOK (env : Env) (seen : List Bytes) (ss : List Stmt) : Prop where
  unseen : ∀ name ∈ fnNames ss, name ∉ seen
  nodup : (fnNames ss).Nodup
  own : ∀ name ∈ fnNames ss, ownHas env name = true

theorem DefsOK.head {env : Env} {seen : List Bytes} {s : Stmt} {ss : List Stmt} (h : DefsOK env seen (s :: ss)) :
    DefsOK env seen [s] := by
  have hsub : ∀ n ∈ fnNames [s], n ∈ fnNames (s :: ss) := fun n hn => fnNames_cons_sub s ss n hn
  refine ⟨fun n hn => h.unseen n (hsub n hn), ?_, fun n hn => h.own n (hsub n hn)⟩
  have := h.nodup
  rw [fnNames_cons_eq] at this
  exact (List.nodup_append.1 this).1

theorem DefsOK.tail {env : Env} {cur : Cur} {s : Stmt} {ss : List Stmt} (f : Facts)
    (h : DefsOK env cur.seenFns (s :: ss)) : DefsOK env (checkStmt env cur s f).cur.seenFns ss := by
  have hsub : ∀ n ∈ fnNames ss, n ∈ fnNames (s :: ss) := fun n hn => fnNames_tail_sub s ss n hn
  have hnd := h.nodup
  rw [fnNames_cons_eq] at hnd
  obtain ⟨_, h2, h3⟩ := List.nodup_append.1 hnd
  refine ⟨?_, h2, fun n hn => h.own n (hsub n hn)⟩
  intro n hn hmem
  rcases checkStmt_seen env cur s f n hmem with hm | hm
  · exact h.unseen n (hsub n hn) hm
  · exact h3 n hm n hn rfl

theorem DefsOK.single {env : Env} {seen : List Bytes} {name : Bytes} {nsp : Span} {ps : List Param} {body : Block}
    {a b : Option Nat} {sp : Span} (h : DefsOK env seen [.fnDef name nsp ps body a b sp]) :
    ∃ own rest g, env.fns = own :: rest ∧ findFn own name = some g ∧ name ∉ seen := by
  obtain ⟨own, rest, g, heq, hg⟩ := ownHas_some (h.own name (by simp [fnNames]))
  exact ⟨own, rest, g, heq, hg, h.unseen name (by simp [fnNames])⟩

theorem sigOf_of {env : Env} {cur : Cur} {name : Bytes} {own : List FnSig} {rest : List (List FnSig)} {g : FnSig}
    (heq : env.fns = own :: rest) (hg : findFn own name = some g) (hu : name ∉ cur.seenFns) :
    ResolveStruct.sigOf env cur name = some g := by
  simp [ResolveStruct.sigOf, heq, hg, hu]

theorem sigOf_ne_none {env : Env} {cur : Cur} {name : Bytes} {nsp : Span} {ps : List Param} {body : Block}
    {a b : Option Nat} {sp : Span} (h : DefsOK env cur.seenFns [.fnDef name nsp ps body a b sp]) :
    ResolveStruct.sigOf env cur name ≠ none := by
  obtain ⟨own, rest, g, heq, hg, hu⟩ := h.single
  rw [sigOf_of heq hg hu]; nofun

theorem checkStmts_fnIdsOf {env : Env} {own : List FnSig} {rest : List (List FnSig)} (henv : env.fns = own :: rest) :
    ∀ (ss : List Stmt) (cur : Cur) (f : Facts), DefsOK env cur.seenFns ss →
      (Eval.fnIdsOf (checkStmts env cur ss f).val).map some = (fnNames ss).map fun n => (findFn own n).map (·.id)
  | [], _, _, _ => rfl
  | s :: ss, cur, f, h => by
      simp only [checkStmts]
      rw [Eval.fnIdsOf_cons, fnNames_cons_eq, List.map_append, List.map_append, checkStmts_fnIdsOf henv ss _ _ (h.tail f)]
      congr 1
      cases s using Stmt.make_fnDef_cases with
      | fnDef name nsp ps body fn sid sp =>
        obtain ⟨own', rest', g, heq, hg, hu⟩ := h.head.single
        cases henv.symm.trans heq
        rw [ResolveStruct.checkStmt_fnDef, sigOf_of henv hg hu]
        simp [fnNames, hg, Eval.fnIdsOf]
      | assign x xs e b sid sp => simp only [checkStmt]; split <;> rfl
      | other s hm hd => rw [(checkStmt_other env cur hm hd f).2.2, fnNames_cons_other hd]; rfl

open ResolveStruct in
theorem own_names {env : Env} {parent : Option Nat} {ss : List Stmt} {f : Facts} (hds : (blkPre env parent ss f).ds = []) :
    (blkSigs env parent ss f).map sigKey = fnDefs ss ∧ (fnNames ss).Nodup := by
  obtain ⟨h1, _, h3⟩ := predeclare_clean _ ss [] _ hds
  exact ⟨(map_of_core (k := sigKey) (fun _ => rfl) (blkSigs_core env parent ss f)).trans h1, h3⟩

theorem defsOK_block {env : Env} {parent : Option Nat} {ss : List Stmt} {f : Facts}
    (hds : (ResolveStruct.blkPre env parent ss f).ds = []) : DefsOK (ResolveStruct.blkEnvBody env parent ss f) [] ss :=
  ⟨fun _ _ h => (nomatch h), (own_names hds).2, ownHas_block env parent ss f⟩

open ResolveStruct in
theorem block_fnIds {env : Env} {parent : Option Nat} {ss : List Stmt} {f : Facts} (hds : (blkPre env parent ss f).ds = [])
    (f' : Facts) :
    Eval.fnIdsOf (checkStmts (blkEnvBody env parent ss f) {} ss f').val = (blkSigs env parent ss f).map (·.id) := by
  obtain ⟨hk, hnd⟩ := own_names hds
  have hn : fnNames ss = (blkSigs env parent ss f).map (·.name) := by rw [← fnDefs_names, ← hk, List.map_map]; rfl
  apply (List.map_inj_right (f := some) fun _ _ => Option.some.inj).1
  rw [checkStmts_fnIdsOf (own := blkSigs env parent ss f) rfl ss {} f' (defsOK_block hds), hn, List.map_map, List.map_map]
  exact List.map_congr_left fun g hg => by simp [findFn_of_mem_nodup (hn ▸ hnd) hg]

end NaijaVerif.Resolve
