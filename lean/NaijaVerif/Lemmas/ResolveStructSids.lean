import NaijaVerif.Lemmas.ResolveFacts
import NaijaVerif.Lemmas.BridgeReachNum
import NaijaVerif.Lemmas.AnalysisReach
/-
The statement ids of the resolver model's output are the positions `0, 1, 2, …` in PRE-ORDER: every
statement takes `stmtEffects.length` as its id and pushes its entry before anything below it is
checked.  Hence the first conjunct of `C03.structOkB` — distinct statement ids — for every accepted
program.
-/
namespace NaijaVerif.ResolveStruct
open NaijaVerif NaijaVerif.Resolve NaijaVerif.ResolveFacts NaijaVerif.Analysis NaijaVerif.Bridge

mutual
  def sidsS : Stmt → List Nat
    | .assign _ _ _ _ sid _ | .assignExisting _ _ _ _ sid _ | .assignIndex _ _ sid _ | .ret _ sid _
    | .brk sid _ | .cont sid _ | .expr _ sid _ => sid.toList
    | .ifS _ t e sid _ => sid.toList ++ sidsB t ++ sidsO e
    | .loop _ b sid _ => sid.toList ++ sidsB b
    | .block b sid _ => sid.toList ++ sidsB b
    | .fnDef _ _ _ body _ sid _ => sid.toList ++ sidsB body
  def sidsL : List Stmt → List Nat
    | [] => []
    | s :: ss => sidsS s ++ sidsL ss
  def sidsB : Block → List Nat
    | .mk ss _ => sidsL ss
  def sidsO : Option Block → List Nat
    | none => []
    | some b => sidsB b
end

theorem mkRow_sids (pl live : Bool) (s : Stmt) : (mkRow pl live s).map (·.sid) = s.sid.toList := by
  unfold mkRow
  cases s.sid <;> rfl

theorem rows_sids_walk :
    (∀ (s : Stmt) (pl live : Bool), (rowsStmt pl live s).map (·.sid) = sidsS s) ∧
    (∀ (ss : List Stmt) (pl live : Bool), (rowsStmts pl live ss).map (·.sid) = sidsL ss) := by
  apply Stmt.walkLists
  case fnDef =>
    intro n ns ps body bs f sid sp ih pl live
    simp only [rowsStmt, List.map_append, mkRow_sids, ih, sidsS, sidsB, Stmt.sid]
  case ifS =>
    intro c t ts sid sp ih pl live
    simp only [rowsStmt, List.map_append, mkRow_sids, ih, sidsS, sidsB, sidsO, Stmt.sid, List.append_nil]
  case ifElse =>
    intro c t ts e es sid sp iht ihe pl live
    simp only [rowsStmt, List.map_append, mkRow_sids, iht, ihe, sidsS, sidsB, sidsO, Stmt.sid]
  case loop =>
    intro c b bs sid sp ih pl live
    simp only [rowsStmt, List.map_append, mkRow_sids, ih, sidsS, sidsB, Stmt.sid]
  case block =>
    intro b bs sid sp ih pl live
    simp only [rowsStmt, List.map_append, mkRow_sids, ih, sidsS, sidsB, Stmt.sid]
  case nil => intros; rfl
  case cons => intro s ss hs hss pl live; simp only [rowsStmts, List.map_append, hs, hss, sidsL]
  all_goals intros; simp only [rowsStmt, mkRow_sids, sidsS, Stmt.sid]

/-! The conjunct of `rows_sids_walk` for one statement; `rows_sids` needs the one for lists only. -/

theorem rowsStmt_sids : ∀ (s : Stmt) (pl live : Bool), (rowsStmt pl live s).map (·.sid) = sidsS s :=
  rows_sids_walk.1

theorem rows_sids (root : Block) : (rows root).map (·.sid) = sidsB root := by
  cases root with
  | mk ss sp => exact rows_sids_walk.2 ss true true

theorem nS_of_skey {f g : Facts} (h : skey g = skey f) : g.stmtEffects.length = f.stmtEffects.length := by
  rw [← skey_length, ← skey_length, h]

@[simp] theorem nS_checkExpr (env : Env) (cur : Scope) (sid : Nat) (e : Expr) (f : Facts) :
    (checkExpr env cur sid e f).facts.stmtEffects.length = f.stmtEffects.length := (checkExpr_lenE env cur sid e f).stmts
@[simp] theorem nS_joinClass (f : Facts) (s : Nat) (c : ExprClass) :
    (joinClass f s c).stmtEffects.length = f.stmtEffects.length := (primE_lenE (.joinClass f s c)).stmts
@[simp] theorem nS_recStmtWrite (f : Facts) (a b c : Nat) :
    (recStmtWrite f a b c).stmtEffects.length = f.stmtEffects.length := (primE_lenE (.recStmtWrite f a b c)).stmts
@[simp] theorem nS_recCapWrite (f : Facts) (a b : Nat) :
    (recCapWrite f a b).stmtEffects.length = f.stmtEffects.length := (primE_lenE (.recCapWrite f a b)).stmts
@[simp] theorem nS_recReadWrite (f : Facts) (a b c : Nat) :
    (recReadWrite f a b c).stmtEffects.length = f.stmtEffects.length := (recReadWrite_steps f a b c).lenE.stmts
@[simp] theorem nS_pushLocal (f : Facts) (sl : Bool) (name : Bytes) (o s : Nat) (d : Option Nat) (k : LocalKind) :
    (pushLocal f sl name o s d k).stmtEffects.length = f.stmtEffects.length := rfl
@[simp] theorem nS_pushScope (f : Facts) (p : Option Nat) (o : Nat) :
    (pushScope f p o).stmtEffects.length = f.stmtEffects.length := rfl
@[simp] theorem nS_setRootScope (f : Facts) (s : Nat) :
    (setRootScope f s).stmtEffects.length = f.stmtEffects.length := rfl
@[simp] theorem nS_setDefStmt (f : Facts) (fn sid : Nat) :
    (setDefStmt f fn sid).stmtEffects.length = f.stmtEffects.length := rfl
@[simp] theorem nS_declareParams (sl : Bool) (owner scope : Nat) (ps : List Param) (sc : Scope) (f : Facts) :
    (declareParams sl owner scope ps sc f).2.2.stmtEffects.length = f.stmtEffects.length :=
  nS_of_skey (declareParams_skey sl owner scope ps sc f)
@[simp] theorem nS_predeclare (env : Env) (ss : List Stmt) (sigs : List FnSig) (f : Facts) :
    (predeclare env ss sigs f).facts.stmtEffects.length = f.stmtEffects.length :=
  nS_of_skey (predeclare_skey env ss sigs f)

@[simp] theorem nS_condF (env : Env) (cur : Cur) (f : Facts) (c : Expr) :
    (condF env cur f c).stmtEffects.length = f.stmtEffects.length + 1 := by
  rw [(condF_steps env cur f c).lenE.stmts]; simp [pushStmt]

/-- The ids below a piece of the output are `lo, …, hi-1`, `lo` / `hi` the number of statement entries before / after the
piece was checked: an interval of `StmtId`s (no relation to the source spans `Span`). -/
def Span' (ids : List Nat) (f g : Facts) : Prop :=
  ∃ k, g.stmtEffects.length = f.stmtEffects.length + k ∧ ids = List.range' f.stmtEffects.length k

theorem Span'.one {f g : Facts} (h : g.stmtEffects.length = f.stmtEffects.length + 1) :
    Span' [f.stmtEffects.length] f g := ⟨1, h, rfl⟩

theorem Span'.nil (f : Facts) : Span' [] f f := ⟨0, rfl, rfl⟩

theorem Span'.append {a b : List Nat} {f g h : Facts} (h1 : Span' a f g) (h2 : Span' b g h) : Span' (a ++ b) f h := by
  obtain ⟨k, hk, rfl⟩ := h1
  obtain ⟨m, hm, rfl⟩ := h2
  refine ⟨k + m, by omega, ?_⟩
  rw [hk, List.range'_append_1]

theorem Span'.congr_left {a : List Nat} {f f' g : Facts} (h : Span' a f' g)
    (he : f'.stmtEffects.length = f.stmtEffects.length) : Span' a f g := by
  obtain ⟨k, hk, rfl⟩ := h
  exact ⟨k, by omega, by rw [he]⟩

theorem Span'.congr_right {a : List Nat} {f g g' : Facts} (h : Span' a f g)
    (he : g'.stmtEffects.length = g.stmtEffects.length) : Span' a f g' := by
  obtain ⟨k, hk, rfl⟩ := h
  exact ⟨k, by omega, rfl⟩

theorem Span'.head {b : List Nat} {f g h : Facts} (hg : g.stmtEffects.length = f.stmtEffects.length + 1)
    (h2 : Span' b g h) : Span' (f.stmtEffects.length :: b) f h :=
  Span'.append (a := [f.stmtEffects.length]) (Span'.one hg) h2

theorem check_sids :
    (∀ (env : Env) (cur : Cur) (s : Stmt) (f : Facts), numStmt (checkStmt env cur s f).val = true →
      Span' (sidsS (checkStmt env cur s f).val) f (checkStmt env cur s f).facts) ∧
    (∀ (env : Env) (parent : Option Nat) (b : Option Block) (f : Facts),
      numOptBlock (checkOptBlock env parent b f).val = true →
      Span' (sidsO (checkOptBlock env parent b f).val) f (checkOptBlock env parent b f).facts) ∧
    (∀ (env : Env) (parent : Option Nat) (b : Block) (f : Facts), numBlock (checkBlock env parent b f).val = true →
      Span' (sidsB (checkBlock env parent b f).val) f (checkBlock env parent b f).facts) ∧
    (∀ (env : Env) (cur : Cur) (ss : List Stmt) (f : Facts), numStmts (checkStmts env cur ss f).val = true →
      Span' (sidsL (checkStmts env cur ss f).val) f (checkStmts env cur ss f).facts) := by
  apply checkStmt.mutual_induct_unfolding
    (motive_1 := fun _ _ _ f out => numStmt out.val = true → Span' (sidsS out.val) f out.facts)
    (motive_2 := fun _ _ _ f out => numOptBlock out.val = true → Span' (sidsO out.val) f out.facts)
    (motive_3 := fun _ _ _ f out => numBlock out.val = true → Span' (sidsB out.val) f out.facts)
    (motive_4 := fun _ _ _ f out => numStmts out.val = true → Span' (sidsL out.val) f out.facts)
  -- which arm a case number is: head of `Lemmas/ResolveShape.lean`; the arms not named here push one entry
  case case5 =>
    intro env cur t e _ sp f0 sid f1 rt re f2 _
    refine Span'.one ?_
    simp only [f2]
    split <;> simp +zetaDelta [pushStmt]
  case case6 =>
    intro env cur c t e _ sp f0 sid f1 rc d f2 envB rt re iht ihe hn
    simp only [numStmt, Bool.and_eq_true] at hn
    exact Span'.head (g := f2) (nS_condF env cur f0 c) ((iht hn.1.2).append (ihe hn.2))
  case case7 =>
    intro env cur c b _ sp f0 sid f1 rc d f2 envB rb ihb hn
    simp only [numStmt, Bool.and_eq_true] at hn
    exact Span'.head (g := f2) (nS_condF env cur f0 c) (ihb hn.2)
  case case8 =>
    intro env cur b _ sp f0 sid f1 rb ihb hn
    simp only [numStmt, Bool.and_eq_true] at hn
    exact Span'.head (g := f1) (by simp [f1, pushStmt]) (ihb hn.2)
  -- a definition without a signature of its own is returned without a `FunctionId`, which `numStmt` asks for
  case case9 => intro env cur name nsp ps body _ _ sp f0 sid f1 sig _ hn; cases hn
  case case10 =>
    intro env cur name nsp ps body _ _ sp f0 sid f1 sig g hsig f2 pscope f3 pr envB rb ihb hn
    simp only [numStmt, Bool.and_eq_true] at hn
    refine Span'.head (g := f1) (by simp [f1, sid, pushStmt]) ((ihb hn.2).congr_left ?_)
    simp [pr, f3, f2]
  case case16 =>
    intro env parent ss sp f scope f1 f2 env1 pre sigs r ih hn
    refine (ih hn).congr_left ?_
    simp only [pre, f2, f1, nS_predeclare]
    split <;> rfl
  case case17 => exact fun _ _ f _ => Span'.nil f
  case case18 => exact fun env parent b f ih hn => ih hn
  case case19 => exact fun _ _ f _ => Span'.nil f
  case case20 =>
    intro env cur s ss f r rs ihs ihss hn
    simp only [numStmts, Bool.and_eq_true] at hn
    exact (ihs hn.1).append (ihss hn.2)
  all_goals intros; refine Span'.one ?_; simp +zetaDelta [pushStmt]

/-! The other conjuncts of `check_sids`; `resolveWith_sids` needs the one for blocks only. -/

theorem checkStmt_sids (env : Env) (cur : Cur) : ∀ (s : Stmt) (f : Facts),
      numStmt (checkStmt env cur s f).val = true →
      Span' (sidsS (checkStmt env cur s f).val) f (checkStmt env cur s f).facts :=
  fun s f => check_sids.1 env cur s f

theorem checkStmts_sids (env : Env) : ∀ (ss : List Stmt) (cur : Cur) (f : Facts),
      numStmts (checkStmts env cur ss f).val = true →
      Span' (sidsL (checkStmts env cur ss f).val) f (checkStmts env cur ss f).facts :=
  fun ss cur f => check_sids.2.2.2 env cur ss f

theorem checkOptBlock_sids (env : Env) (parent : Option Nat) : ∀ (b : Option Block) (f : Facts),
      numOptBlock (checkOptBlock env parent b f).val = true →
      Span' (sidsO (checkOptBlock env parent b f).val) f (checkOptBlock env parent b f).facts :=
  fun b f => check_sids.2.1 env parent b f

theorem resolveWith_sids (spanLen : Bool) (q : Block) (h : (resolveWith spanLen q).rdiags = []) :
    (rows (resolveWith spanLen q).root).map (·.sid) = List.range (resolveWith spanLen q).facts.stmtEffects.length := by
  rw [rows_sids]
  -- `resolveWith spanLen q` is `checkBlock (rootEnv spanLen) none q rootFacts` with its fields renamed
  obtain ⟨k, hk, hs⟩ : Span' (sidsB (resolveWith spanLen q).root) rootFacts (resolveWith spanLen q).facts :=
    check_sids.2.2.1 (rootEnv spanLen) none q rootFacts (resolve_num spanLen q h)
  have h0 : rootFacts.stmtEffects.length = 0 := rfl
  rw [h0] at hk hs
  rw [hs, hk, List.range_eq_range']
  simp

theorem resolveWith_sidsDistinct (spanLen : Bool) (q : Block) (h : (resolveWith spanLen q).rdiags = []) :
    C03.SidsDistinct (resolveWith spanLen q).root := by
  unfold C03.SidsDistinct
  rw [resolveWith_sids spanLen q h]
  exact List.nodup_range

end NaijaVerif.ResolveStruct
