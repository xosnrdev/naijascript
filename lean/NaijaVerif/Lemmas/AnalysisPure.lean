import NaijaVerif.Lemmas.AnalysisEvalEq
import NaijaVerif.Lemmas.AstInduction
/- T2, state half: an expression without user calls, `shout` and mutating methods (`effectFree`) leaves the state as it
found it, whatever its value or error (`pure_all`); and the classification of the analysis finds such expressions: one
without user calls that is not classified `Impure` is `effectFree`, given that the primitives dispatch builtins as the
effect tables assume (`TablesAgree`, `effectFree_of_class`). -/
namespace NaijaVerif.C03
open NaijaVerif NaijaVerif.Analysis NaijaVerif.AEval

variable {V : Type}

mutual
  def effectFree (P : Prims V) : Expr → Bool
    | .call (.var name _ _) args _ _ => P.isGlobal name && !P.isShout name && effectFreeList P args
    | .call (.member o field _ _) args _ _ => !P.isMut field && effectFree P o && effectFreeList P args
    | .call _ args _ _ => effectFreeList P args
    | .binary _ l r _ => effectFree P l && effectFree P r
    | .index a i _ _ => effectFree P a && effectFree P i
    | .array es _ => effectFreeList P es
    | .unary _ e _ => effectFree P e
    | .member o _ _ _ => effectFree P o
    | .str _ _ | .num _ _ | .var _ _ _ | .bool _ _ | .null _ => true
  def effectFreeList (P : Prims V) : List Expr → Bool
    | [] => true
    | e :: es => effectFree P e && effectFreeList P es
end

structure Pure (P : Prims V) (cfg : Cfg) (n : Nat) : Prop where
  expr : ∀ (e : Expr) (st : St V), effectFree P e = true → (evalExpr P cfg n e st).2 = st
  list : ∀ (es : List Expr) (st : St V), effectFreeList P es = true → (evalList P cfg n es st).2 = st

theorem snd_andThen {α β : Type} {r : R V α} {k : α → St V → R V β} {st : St V} (h : r.2 = st)
    (hk : ∀ v, (k v st).2 = st) : (andThen r k).2 = st := by
  obtain ⟨x, st1⟩ := r
  obtain rfl : st1 = st := h
  cases x with
  | error e => rfl
  | ok v => exact hk v

section
variable {P : Prims V} {cfg : Cfg} {n : Nat}

theorem pure_list (ih : Pure P cfg n) : ∀ (es : List Expr) (st : St V), effectFreeList P es = true →
    (evalList P cfg (n + 1) es st).2 = st
  | [], st, _ => rfl
  | e :: es, st, h => by
      have h' := Bool.and_eq_true_iff.mp h
      rw [evalList_cons]
      exact snd_andThen (ih.expr e st h'.1) fun v => snd_andThen (ih.list es st h'.2) fun vs => rfl

theorem pure_logic (ih : Pure P cfg n) (l r : Expr) (st : St V) (hl : effectFree P l = true)
    (hr : effectFree P r = true) (stop : V → Bool) (short : V) : (logicSeq P cfg n stop short l r st).2 = st := by
  refine snd_andThen (ih.expr l st hl) fun lv => ?_
  cases stop lv with
  | true => rfl
  | false => exact snd_andThen (ih.expr r st hr) fun rv => rfl

theorem effectFree_mem : ∀ (es : List Expr), effectFreeList P es = true → ∀ e ∈ es, effectFree P e = true
  | x :: xs, h, e, he => by
      have h' := Bool.and_eq_true_iff.mp h
      rcases List.mem_cons.mp he with rfl | he
      · exact h'.1
      · exact effectFree_mem xs h'.2 e he

theorem pure_checked (ih : Pure P cfg n) (miss : Err) : ∀ (items : List (Option Expr × (V → Except Err V))) (st : St V),
    (∀ e chk, (some e, chk) ∈ items → effectFree P e = true) →
    (evalChecked (evalExpr P cfg n) miss items st).2 = st
  | [], st, _ => rfl
  | (none, _) :: _, st, _ => rfl
  | (some e, chk) :: rest, st, h => by
      rw [evalChecked_cons]
      refine snd_andThen (ih.expr e st (h e chk List.mem_cons_self)) fun v => ?_
      refine snd_andThen rfl fun v' => ?_
      exact snd_andThen (pure_checked ih miss rest st fun e' c' hm => h e' c' (List.mem_cons_of_mem _ hm)) fun vs => rfl

theorem effectFree_children (e : Expr) (h : effectFree P e = true) : effectFreeList P (children e) = true := by
  cases e with
  | index | binary =>
    have h' := Bool.and_eq_true_iff.mp h
    exact Bool.and_eq_true_iff.mpr ⟨h'.1, Bool.and_eq_true_iff.mpr ⟨h'.2, rfl⟩⟩
  | unary => exact Bool.and_eq_true_iff.mpr ⟨h, rfl⟩
  | array => exact h
  | _ => rfl

theorem pure_expr (ih : Pure P cfg n) (e : Expr) (st : St V) (h : effectFree P e = true) :
    (evalExpr P cfg (n + 1) e st).2 = st := by
  by_cases hsp : Special e
  · cases hsp with
    | var nm b sp => rw [evalExpr_var]
    | and l r sp =>
      have h' := Bool.and_eq_true_iff.mp h
      rw [evalExpr_and]
      exact pure_logic ih l r st h'.1 h'.2 _ _
    | or l r sp =>
      have h' := Bool.and_eq_true_iff.mp h
      rw [evalExpr_or]
      exact pure_logic ih l r st h'.1 h'.2 _ _
    | callName nm b s1 args fn sp =>
      have h' : (P.isGlobal nm = true ∧ P.isShout nm = false) ∧ effectFreeList P args = true := by
        simpa only [effectFree, Bool.and_eq_true, Bool.not_eq_true'] using h
      rw [evalExpr_callName, if_pos h'.1.1]
      refine snd_andThen (ih.list args st h'.2) fun vs => ?_
      rw [if_neg (by rw [h'.1.2]; exact Bool.false_ne_true)]
    | callMember o field fs s1 args fn sp =>
      have h' : (P.isMut field = false ∧ effectFree P o = true) ∧ effectFreeList P args = true := by
        simpa only [effectFree, Bool.and_eq_true, Bool.not_eq_true'] using h
      rw [evalExpr_callMember, if_neg (by rw [h'.1.1]; exact Bool.false_ne_true)]
      refine snd_andThen (ih.expr o st h'.1.2) fun recv => ?_
      refine snd_andThen rfl fun idx => ?_
      exact snd_andThen (pure_checked ih P.argMissing (selArgs args idx) st
        fun e chk hm => effectFree_mem args h'.2 e (selArgs_mem hm)) fun vs => rfl
  · rw [evalExpr_node hsp, finishNode_eq]
    exact snd_andThen (ih.list _ st (effectFree_children e h)) fun vs => rfl

end

theorem pure_all (P : Prims V) (cfg : Cfg) : ∀ n, Pure P cfg n
  | 0 => ⟨fun _ _ _ => rfl, fun _ _ _ => rfl⟩
  | n + 1 => ⟨pure_expr (pure_all P cfg n), pure_list (pure_all P cfg n)⟩

mutual
  /-- No call of a user function (the class of those is joined per statement from the summaries). -/
  def noUserCall : Expr → Bool
    | .call (.var _ _ _) args fn _ => fn.isNone && noUserCallList args
    | .call (.member o _ _ _) args _ _ => noUserCall o && noUserCallList args
    | .call _ args _ _ => noUserCallList args
    | .binary _ l r _ => noUserCall l && noUserCall r
    | .index a i _ _ => noUserCall a && noUserCall i
    | .array es _ => noUserCallList es
    | .unary _ e _ => noUserCall e
    | .member o _ _ _ => noUserCall o
    | .str _ _ | .num _ _ | .var _ _ _ | .bool _ _ | .null _ => true
  def noUserCallList : List Expr → Bool
    | [] => true
    | e :: es => noUserCall e && noUserCallList es
end

/-- The primitive semantics dispatches builtins as the effect tables of the analysis assume: global builtins are
exactly the named ones, `shout` and the mutating methods are `Impure`. -/
structure TablesAgree (P : Prims V) : Prop where
  global_iff : ∀ name, P.isGlobal name = (globalClass name).isSome
  shout_impure : ∀ name, P.isShout name = true → globalClass name = some .impure
  mut_impure : ∀ f, P.isMut f = true → memberClass f = some .impure

theorem join_ne_impure {a b : ExprClass} (h : a.join b ≠ .impure) : a ≠ .impure ∧ b ≠ .impure := by
  cases a <;> cases b <;> simp_all [ExprClass.join]

theorem ite_join_ne {c : Prop} [Decidable c] {a : ExprClass}
    (h : (if c then a.join .pureMayTrap else a) ≠ .impure) : a ≠ .impure := by
  split at h
  · exact (join_ne_impure h).1
  · exact h

theorem join_imp {a b : ExprClass} {n1 n2 e1 e2 : Bool} (h1 : a ≠ .impure → n1 = true → e1 = true)
    (h2 : b ≠ .impure → n2 = true → e2 = true) (hc : a.join b ≠ .impure) (hn : (n1 && n2) = true) :
    (e1 && e2) = true :=
  Bool.and_eq_true_iff.mpr ⟨h1 (join_ne_impure hc).1 (Bool.and_eq_true_iff.mp hn).1,
    h2 (join_ne_impure hc).2 (Bool.and_eq_true_iff.mp hn).2⟩

/- The class of a node is the join of its children's classes, possibly with `PureMayTrap`; only `shout`, a mutating
method, an unknown callee and a user call make it `Impure` themselves. -/
theorem effectFree_walk {P : Prims V} (ha : TablesAgree P) (capt : Nat → Bool) :
    (∀ e : Expr, classify capt e ≠ .impure → noUserCall e = true → effectFree P e = true) ∧
    (∀ es : List Expr, classifyList capt es ≠ .impure → noUserCallList es = true → effectFreeList P es = true) := by
  apply Expr.walk
  case index => exact fun _ _ _ _ iha ihi hc => join_imp iha ihi (join_ne_impure hc).1
  case str => exact fun _ _ _ _ => rfl
  case num => exact fun _ _ _ _ => rfl
  case var => exact fun _ _ _ _ _ => rfl
  case binary => exact fun _ _ _ _ ihl ihr hc => join_imp ihl ihr (ite_join_ne hc)
  case callMember =>
    intro o field _ _ args _ _ iho iha hc hn
    simp only [classify] at hc
    cases hm : memberClass field with
    | none =>
      rw [hm] at hc
      exact absurd rfl (join_ne_impure hc).2
    | some mc =>
      rw [hm] at hc
      have h1 := join_ne_impure hc
      have hmu : P.isMut field = false := by
        cases hs : P.isMut field with
        | false => rfl
        | true =>
          have := ha.mut_impure field hs
          rw [hm] at this
          cases this
          exact absurd rfl h1.2
      have h2 := join_ne_impure (join_ne_impure h1.1).1
      have hn' := Bool.and_eq_true_iff.mp hn
      simp [effectFree, hmu, iho h2.2 hn'.1, iha h2.1 hn'.2]
  case call =>
    intro c args fn _ hcm _ iha hc hn
    cases c with
    | var name _ _ =>
      simp only [classify] at hc
      have hn' := Bool.and_eq_true_iff.mp hn
      cases hg : globalClass name with
      | none =>
        rw [hg] at hc
        cases fn with
        | none => exact absurd rfl (join_ne_impure hc).2
        | some f => cases hn'.1
      | some gc =>
        rw [hg] at hc
        have h1 := join_ne_impure (ite_join_ne hc)
        have hgl : P.isGlobal name = true := by rw [ha.global_iff, hg]; rfl
        have hsh : P.isShout name = false := by
          cases hs : P.isShout name with
          | false => rfl
          | true =>
            have := ha.shout_impure name hs
            rw [hg] at this
            cases this
            exact absurd rfl h1.2
        simp [effectFree, hgl, hsh, iha h1.1 hn'.2]
    | member o fld fs ms => exact absurd rfl (hcm o fld fs ms)
    | _ => exact absurd rfl (join_ne_impure hc).2
  case array => exact fun _ _ ih => ih
  case unary => exact fun _ _ _ ih hc => ih (ite_join_ne hc)
  case bool => exact fun _ _ _ _ => rfl
  case member => exact fun _ _ _ _ ih hc => ih (join_ne_impure hc).1
  case null => exact fun _ _ _ => rfl
  case nil => exact fun _ _ => rfl
  case cons => exact fun _ _ ihe ihes => join_imp ihe ihes

theorem effectFree_of_class {P : Prims V} (ha : TablesAgree P) (capt : Nat → Bool) : ∀ e : Expr,
    classify capt e ≠ .impure → noUserCall e = true → effectFree P e = true := (effectFree_walk ha capt).1

theorem effectFreeList_of_class {P : Prims V} (ha : TablesAgree P) (capt : Nat → Bool) : ∀ es : List Expr,
    classifyList capt es ≠ .impure → noUserCallList es = true → effectFreeList P es = true := (effectFree_walk ha capt).2

end NaijaVerif.C03
