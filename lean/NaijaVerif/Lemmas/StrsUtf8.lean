/-
Lemmas for C13: a well-formed string decomposes uniquely into encoded characters (`chars_of_valid`),
and UTF-8 is self-synchronising (`occ_boundary`), so a byte search answers on character boundaries.
-/
import NaijaVerif.Lemmas.StrsFind
import NaijaVerif.Lemmas.LexUtf8

namespace NaijaVerif.Strs
open NaijaVerif NaijaVerif.Bytes

theorem chars_cons (b : Nat) (s : Bytes) :
    chars (b :: s) = (b :: s.takeWhile isCont) :: chars (s.dropWhile isCont) := by
  induction s generalizing b with
  | nil => rfl
  | cons c s ih =>
    rw [chars, ih c]
    cases hc : isCont c
    · simp only [List.takeWhile_cons, List.dropWhile_cons, hc, Bool.false_eq_true, if_false, ih c]
    · simp only [List.takeWhile_cons, List.dropWhile_cons, hc, if_true]

theorem chars_rec {motive : Bytes → Prop} (nil : motive [])
    (cons : ∀ b s, motive (s.dropWhile isCont) → motive (b :: s)) (s : Bytes) : motive s := by
  induction hn : s.length using Nat.strongRecOn generalizing s with
  | ind n ih =>
    cases s with
    | nil => exact nil
    | cons b s =>
      exact cons b s (ih _ (by subst hn; exact Nat.lt_succ_of_le (List.dropWhile_sublist _).length_le) _ rfl)

theorem chars_flatten (s : Bytes) : (chars s).flatten = s := by
  induction s using chars_rec with
  | nil => rfl
  | cons b s ih => rw [chars_cons, List.flatten_cons, ih, List.cons_append, List.takeWhile_append_dropWhile]

theorem chars_ne_nil (s : Bytes) : ∀ g ∈ chars s, g ≠ [] := by
  induction s using chars_rec with
  | nil => intro g hg; cases hg
  | cons b s ih =>
    rw [chars_cons]
    intro g hg
    rcases List.mem_cons.mp hg with rfl | hg
    · exact List.cons_ne_nil _ _
    · exact ih g hg

theorem chars_eq_nil_iff (s : Bytes) : chars s = [] ↔ s = [] := by
  cases s with
  | nil => exact ⟨fun _ => rfl, fun _ => rfl⟩
  | cons b s => rw [chars_cons]; exact ⟨fun h => (nomatch h), fun h => (nomatch h)⟩

/-- `Utf8.isCont_iff`, one direction, in numbers. The proofs of this unit use `isCont_iff` itself. -/
theorem isCont_lt {b : Nat} (h : isCont b = true) : 128 ≤ b ∧ b < 192 :=
  Utf8.isCont_iff.mp h

/-! A concatenation of well-formed characters is what `Utf8.validUtf8` accepts (`valid_iff`):
concatenation, cutting and cancellation are those of `Lemmas/LexUtf8`. -/

theorem valid_of_groups {cs : List Bytes} (h : ∀ c ∈ cs, validChar c = true) : ValidUtf8 cs.flatten :=
  ⟨cs, h, rfl⟩

theorem valid_iff {s : Bytes} : ValidUtf8 s ↔ Utf8.validUtf8 s = true := by
  constructor
  · rintro ⟨cs, hcs, rfl⟩
    induction cs with
    | nil => exact Utf8.valid_nil
    | cons c cs ih =>
      rw [List.flatten_cons, Utf8.validChar_append (hcs c (by simp))]
      exact ih fun c' hc' => hcs c' (by simp [hc'])
  · intro h
    induction hn : s.length using Nat.strongRecOn generalizing s with
    | ind n ih =>
      cases s with
      | nil => exact ⟨[], by simp, rfl⟩
      | cons b r =>
        obtain ⟨tl, r', rfl, hc, hr⟩ := Utf8.valid_first h
        obtain ⟨cs, hcs, rfl⟩ := ih r'.length (by rw [← hn]; simp only [List.length_cons, List.length_append]; omega) hr rfl
        exact ⟨(b :: tl) :: cs, by simpa using ⟨hc, hcs⟩, by simp⟩

theorem valid_nil : ValidUtf8 [] := valid_of_groups (cs := []) (by simp)

theorem valid_char {c : Bytes} (h : validChar c = true) : ValidUtf8 c :=
  ⟨[c], by simpa using h, by simp⟩

theorem valid_append {a b : Bytes} (ha : ValidUtf8 a) (hb : ValidUtf8 b) : ValidUtf8 (a ++ b) :=
  valid_iff.mpr (Utf8.valid_append a (valid_iff.mp ha) b (valid_iff.mp hb))

theorem valid_flatten {xs : List Bytes} (h : ∀ x ∈ xs, ValidUtf8 x) : ValidUtf8 xs.flatten :=
  valid_iff.mpr (Utf8.valid_flatten xs fun x hx => valid_iff.mp (h x hx))

theorem valid_head {a : Nat} {s : Bytes} (h : ValidUtf8 (a :: s)) : isCont a = false :=
  Utf8.valid_head_not_cont (valid_iff.mp h)

theorem chars_of_valid {cs : List Bytes} (h : ∀ c ∈ cs, validChar c = true) :
    chars cs.flatten = cs := by
  induction cs with
  | nil => rfl
  | cons c cs ih =>
    have hcs : ∀ c' ∈ cs, validChar c' = true := fun c' hc' => h c' (by simp [hc'])
    -- behind the character comes the end of the text or a lead byte
    have hr : cs.flatten.takeWhile isCont = [] ∧ cs.flatten.dropWhile isCont = cs.flatten := by
      cases hfl : cs.flatten with
      | nil => exact ⟨rfl, rfl⟩
      | cons y r' =>
        have hy : ¬ isCont y = true := by
          rw [Bool.not_eq_true]; exact valid_head (hfl ▸ valid_of_groups hcs)
        exact ⟨List.takeWhile_cons_of_neg hy, List.dropWhile_cons_of_neg hy⟩
    match c, h c (by simp) with
    | a :: tl, hc =>
      have htl := List.all_eq_true.mp (Utf8.validChar_shape hc).2.1
      rw [List.flatten_cons, List.cons_append, chars_cons, List.takeWhile_append_of_pos htl,
        List.dropWhile_append_of_pos htl, hr.1, hr.2, List.append_nil, ih hcs]

theorem valid_chars {s : Bytes} (h : ValidUtf8 s) : ∀ c ∈ chars s, validChar c = true := by
  obtain ⟨cs, hcs, rfl⟩ := h
  rw [chars_of_valid hcs]; exact hcs

theorem valid_cut {h : Bytes} (hv : ValidUtf8 h) (i : Nat)
    (hi : i = h.length ∨ ∃ b, h[i]? = some b ∧ isCont b = false) :
    ValidUtf8 (h.take i) ∧ ValidUtf8 (h.drop i) := by
  rw [valid_iff, valid_iff]
  exact Utf8.valid_cut (valid_iff.mp hv) (Utf8.isBoundary_iff.mpr (.inr hi))

theorem valid_cancel {a b : Bytes} (hab : ValidUtf8 (a ++ b)) (ha : ValidUtf8 a) : ValidUtf8 b := by
  rw [valid_iff] at *
  rwa [Utf8.valid_append_eq ha] at hab

theorem occ_boundary {h n : Bytes} {i : Nat} (hv : ValidUtf8 h) (nv : ValidUtf8 n) (hn : n ≠ [])
    (ho : OccAt h n i) : Boundary h i ∧ Boundary h (i + n.length) := by
  have hlen := occ_len ho hn
  obtain ⟨a, r, rfl⟩ := List.exists_cons_of_ne_nil hn
  have ha : isCont a = false := valid_head nv
  have hia : h[i]? = some a := occ_anchor (crit := 0) rfl ho
  obtain ⟨v1, v2⟩ := valid_cut hv i (Or.inr ⟨a, hia, ha⟩)
  obtain ⟨t, ht⟩ := ho
  have vt : ValidUtf8 t := valid_cancel (ht ▸ v2) nv
  have hdrop : h.drop (i + (a :: r).length) = t := by
    rw [← List.drop_drop, ← ht]; simp
  have htake : h.take (i + (a :: r).length) = h.take i ++ (a :: r) := by
    rw [List.take_add, ← ht]; simp
  refine ⟨⟨by omega, v1, v2⟩, ⟨hlen, ?_, ?_⟩⟩
  · rw [htake]; exact valid_append v1 nv
  · rw [hdrop]; exact vt

end NaijaVerif.Strs
