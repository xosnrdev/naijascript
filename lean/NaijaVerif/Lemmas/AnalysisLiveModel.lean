import NaijaVerif.Lemmas.AnalysisLiveMono
import NaijaVerif.Lemmas.AnalysisPureCall
/-
The liveness conditions for the model's OWN plan follow from the conditions for the empty plan (`structOkB`): whatever
`build_optimization_plan` puts into the plan — unreachable statements, unused assignments and unused declarations whose
effective class is `PureNoTrap` and, for declarations, that pass `declaration_is_runtime_removable` — satisfies the rule
of its occurrence.
-/
namespace NaijaVerif.C03
open NaijaVerif NaijaVerif.Analysis NaijaVerif.AEval

theorem foldl_join_noTrap {α : Type} (F : α → ExprClass) : ∀ (l : List α) (init : ExprClass),
    l.foldl (fun acc g => acc.join (F g)) init = .pureNoTrap → init = .pureNoTrap ∧ ∀ g ∈ l, F g = .pureNoTrap
  | [], init, h => ⟨h, by simp⟩
  | g :: l, init, h => by
      simp only [List.foldl_cons] at h
      obtain ⟨h1, h2⟩ := foldl_join_noTrap F l _ h
      have hj := join_eq_noTrap h1
      refine ⟨hj.1, ?_⟩
      intro g' hg'
      rcases List.mem_cons.mp hg' with rfl | hg'
      · exact hj.2
      · exact h2 g' hg'

/-- `stmt_effective_class = PureNoTrap`: the statement's own class is, and every direct callee has a `PureNoTrap`
summary. -/
theorem effClass_parts {c : Ctx} {i : Nat} (h : c.effClass i = .pureNoTrap) :
    c.clsOf i = .pureNoTrap ∧ ∀ g ∈ c.callees i, c.pureB g = true := by
  obtain ⟨h1, h2⟩ := foldl_join_noTrap c.transClass (c.callees i) (c.clsOf i) h
  refine ⟨h1, fun g hg => ?_⟩
  simp [Ctx.pureB, h2 g hg]

theorem safe2_of_eff {L : LSetup} {f i : Nat} {σ : List (Option Nat)} {e : Expr}
    (hbase : L.baseB f σ i [e] = true) (hcls : L.c.clsOf i = classify (fun x => L.c.owner x != some f) e)
    (har : arityOk2 e = true) (heff : L.c.effClass i = .pureNoTrap) : safe2B L.c f e = true := by
  obtain ⟨h1, h2⟩ := effClass_parts heff
  have hfit := eOk_mem [e] (base_parts hbase).2 e List.mem_cons_self
  refine safe2_iff.mpr ⟨by rw [← hcls]; exact h1, har, eOk_mono2 ?_ (fun _ h => by cases h) e hfit⟩
  intro g hg
  exact h2 g (by simpa using hg)

section model
variable (root : Block) (facts : Facts)

theorem mem_planModel {i : Nat} (h : i ∈ (planModel root facts).stmts) :
    i ∈ unreachable root ∨ i ∈ (mkCtx root facts).removableAsg ((mkCtx root facts).unusedAsg root) ∨
      i ∈ (mkCtx root facts).removableDecls (mkCtx root facts).unusedVars := by
  simp only [planModel, analyse] at h
  rw [mem_uni_iff, mem_uni_iff] at h
  exact h

theorem mem_removableAsg {c : Ctx} {ua : List Nat} {i : Nat} (h : i ∈ c.removableAsg ua) :
    i ∈ ua ∧ c.effClass i = .pureNoTrap ∧
      ∀ r, c.row? i = some r → r.kind = .assign → ∀ l, (c.writes i).head? = some l → c.declRemovable l i = true := by
  simp only [Ctx.removableAsg, List.mem_filter, Bool.and_eq_true, beq_iff_eq] at h
  refine ⟨h.1, h.2.1, ?_⟩
  intro r hr hk l hl
  have h3 := h.2.2
  rw [hr] at h3
  simp only [hk, ↓reduceIte, hl] at h3
  exact h3

theorem mem_removableDecls {c : Ctx} {uv : List (Nat × Nat)} {i : Nat} (h : i ∈ c.removableDecls uv) :
    ∃ l, (i, l) ∈ uv ∧ c.effClass i = .pureNoTrap ∧ c.declRemovable l i = true := by
  simp only [Ctx.removableDecls, List.mem_map, List.mem_filter, Bool.and_eq_true, beq_iff_eq] at h
  obtain ⟨⟨s, l⟩, ⟨hmem, heff, hrem⟩, rfl⟩ := h
  exact ⟨l, hmem, heff, hrem⟩

theorem unusedVar_D2 {c : Ctx} {i l : Nat} (h : (i, l) ∈ c.unusedVars) : c.usedLocals.contains l = false := by
  simp only [Ctx.unusedVars, List.mem_filterMap, List.mem_range] at h
  obtain ⟨l', _, hl'⟩ := h
  cases hloc : c.facts.locals[l']? with
  | none => simp [hloc] at hl'
  | some li =>
    simp only [hloc] at hl'
    split at hl'
    · next hcond =>
      cases hd : li.declStmt with
      | none => simp [hd] at hl'
      | some s =>
        simp only [hd] at hl'
        split at hl'
        · simp only [Option.some.injEq, Prod.mk.injEq] at hl'
          obtain ⟨_, rfl⟩ := hl'
          simp only [Bool.and_eq_true, Bool.not_eq_true'] at hcond
          exact hcond.1.2
        · cases hl'
    · cases hl'

theorem model_other {q : Nat → Expr → Bool} {i : Nat} (h : (lsetupOf root facts none q).otherB i = true) :
    ((lsetupOf root facts none q).withCfg (Cfg.ofPlan (some (planModel root facts)))).otherB i = true := by
  refine otherB_withCfg h fun hsk => ?_
  have hmem : i ∈ (planModel root facts).stmts := by simpa [Cfg.ofPlan] using hsk
  simp only [LSetup.otherB, Bool.and_eq_true] at h
  rcases mem_planModel root facts hmem with hu | ha | hd
  · simp only [LSetup.deadB, lsetupOf]
    simpa using mem_unreachable.mp hu
  · -- an unused-assignment verdict points at `i`
    have h2 := h.1.2
    simp only [lsetupOf, Bool.not_eq_true', List.contains_eq_mem, decide_eq_false_iff_not] at h2
    exact absurd (mem_removableAsg ha).1 h2
  · -- an unused-variable verdict points at `i`
    obtain ⟨l, hl, _, _⟩ := mem_removableDecls hd
    have h3 := h.2
    simp only [lsetupOf, List.all_eq_true, bne_iff_ne, ne_eq] at h3
    exact absurd rfl (h3 (i, l) hl)

theorem model_store {f : Nat} {σ : List (Option Nat)} {i : Nat} {isDecl : Bool} {l : Nat} {e : Expr} {st : LS} {rest : List Stmt}
    (hbase : (lsetupOf root facts none (safe2B (mkCtx root facts))).baseB f σ i [e] = true)
    (h : (lsetupOf root facts none (safe2B (mkCtx root facts))).ownStoreB f σ i isDecl l e st rest = true) :
    ((lsetupOf root facts none (safe2B (mkCtx root facts))).withCfg (Cfg.ofPlan (some (planModel root facts)))).ownStoreB
      f σ i isDecl l e st rest = true := by
  refine ownStoreB_withCfg h fun hsk => ?_
  have hmem : i ∈ (planModel root facts).stmts := by simpa [Cfg.ofPlan] using hsk
  simp only [LSetup.ownStoreB, Bool.and_eq_true] at h
  obtain ⟨⟨⟨hw, _⟩, htab⟩, _⟩ := h
  simp only [LSetup.storeTabB, Bool.and_eq_true] at htab
  obtain ⟨⟨⟨⟨⟨hkind, hcls⟩, har⟩, hua⟩, huv⟩, hdecl⟩ := htab
  have hw' : (mkCtx root facts).writes i = [l] := by simpa [lsetupOf] using hw
  rw [Bool.or_eq_true]
  simp only [Bool.and_eq_true]
  -- the quiet test, from the effective class
  have hq : (mkCtx root facts).effClass i = .pureNoTrap → (lsetupOf root facts none (safe2B (mkCtx root facts))).q f e = true :=
    fun heff => safe2_of_eff (L := lsetupOf root facts none (safe2B (mkCtx root facts))) hbase (by simpa using hcls) har heff
  -- a removable declaration has no later reference
  have hnoref : (mkCtx root facts).declRemovable l i = true → (!isDecl || noRefListB (mkCtx root facts) l rest) = true := by
    intro hrem
    cases isDecl with
    | false => rfl
    | true =>
      simp only [Bool.not_true, Bool.false_or, Bool.or_eq_true, Bool.not_eq_true'] at hdecl ⊢
      exact hdecl.resolve_left fun h1 => by simp only [lsetupOf] at h1; rw [hrem] at h1; cases h1
  rcases mem_planModel root facts hmem with hu | ha | hd
  · left
    simp only [LSetup.deadB, lsetupOf]
    simpa using mem_unreachable.mp hu
  · right
    obtain ⟨hin, heff, hrow⟩ := mem_removableAsg ha
    refine ⟨⟨hq heff, ?_⟩, ?_⟩
    · simp only [Bool.or_eq_true, Bool.not_eq_true', lsetupOf] at hua
      rw [hua.resolve_left fun h1 => by simp only [List.contains_eq_mem, decide_eq_false_iff_not] at h1; exact h1 hin]
      rfl
    · cases isDecl with
      | false => rfl
      | true =>
        -- the row of `i` is an `assign` row
        cases hr : (mkCtx root facts).row? i with
        | none => simp [lsetupOf, hr] at hkind
        | some r => exact hnoref (hrow r hr (by simpa [lsetupOf, hr] using hkind) l (by rw [hw']; rfl))
  · right
    obtain ⟨l', hl', heff, hrem⟩ := mem_removableDecls hd
    obtain rfl : l' = l := by
      simp only [lsetupOf, List.all_eq_true, Bool.or_eq_true, bne_iff_ne, ne_eq, beq_iff_eq] at huv
      exact (huv (i, l') hl').resolve_left fun h1 => h1 rfl
    exact ⟨⟨hq heff, by simp only [lsetupOf, unusedVar_D2 hl', Bool.not_false, Bool.or_true]⟩, hnoref hrem⟩

theorem rootOkB_model (h : rootOkB (lsetupOf root facts none (safe2B (mkCtx root facts))) root = true) :
    rootOkB (lsetupOf root facts (some (planModel root facts)) (safe2B (mkCtx root facts))) root = true := by
  rw [lsetupOf_withCfg root facts none]
  simp only [rootOkB, Bool.and_eq_true, withCfg_blockOkB, withCfg_ss] at h ⊢
  exact ⟨h.1, lokListB_trans (fun _ => model_other root facts) (fun _ _ _ _ _ _ _ _ => model_store root facts) _ _ _ _ _ h.2⟩

end model

/-- The decidable conditions on a program and its facts under which C03 is proved: distinct statement ids, the global
consistency conditions of the facts, and the statement-by-statement conditions for the EMPTY plan — consistency of the
facts (reads, writes, callees, scopes, ownership) and of the model's own tables and verdicts (row kinds, classes,
unused-assignment / unused-variable verdicts, `declRemovable`) with the annotated program, loop fixpoints converged,
pure summaries backed by pure bodies. -/
def structOkB (root : Block) (facts : Facts) : Bool :=
  decide (((rows root).map (·.sid)).Nodup) && globalOkB root facts &&
  rootOkB (lsetupOf root facts none (safe2B (mkCtx root facts))) root

/-- Everything `c03_live_checked` asks of a program and its facts, for the model's own plan; decidable. -/
def modelOkB (root : Block) (facts : Facts) : Bool :=
  decide (((rows root).map (·.sid)).Nodup) && globalOkB root facts &&
  rootOkB (lsetupOf root facts (some (planModel root facts)) (safe2B (mkCtx root facts))) root

theorem modelOk_of_struct (root : Block) (facts : Facts) (h : structOkB root facts = true) : modelOkB root facts = true := by
  simp only [structOkB, Bool.and_eq_true] at h
  simp only [modelOkB, Bool.and_eq_true]
  exact ⟨h.1, rootOkB_model root facts h.2⟩

end NaijaVerif.C03
