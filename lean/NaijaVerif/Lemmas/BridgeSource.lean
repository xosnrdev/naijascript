import NaijaVerif.Lemmas.BridgeOk
import NaijaVerif.Lemmas.LexInv
import NaijaVerif.Lemmas.ParseLoops
/-
The two guarantees of scanner and parser that the evaluator's residual sites `numLit` and `assignIndexEmpty`
rely on (`srcBlock` of `Lemmas/BridgeOk.lean`, which the resolver preserves), proved from the lexer and parser models.
Every `Token::Number` lexeme is `digits` or `digits.digits` (`lex_numbers`); every number node of
the parsed program carries such a lexeme or the recovery placeholder `0`, and an index assignment
is only built for an index target (`parse_source_ok`).
-/
namespace NaijaVerif.Bridge
open NaijaVerif

/-- `digits` or `digits.digits`, both parts non-empty: what `scan_number` validates. -/
def isNumLexeme (lx : Bytes) : Bool :=
  !(lx.takeWhile Lex.isDigit).isEmpty &&
    (match lx.dropWhile Lex.isDigit with
     | [] => true
     | 46 :: fp => !fp.isEmpty && fp.all Lex.isDigit
     | _ => false)

/-- The parser walk below carries it for every token still to be read (`StOk`) and concludes `srcExpr` / `srcStmt` with
`numOk := P` of what is built. -/
def TokOk (P : Bytes → Bool) : Tok → Prop
  | .num lx => P lx = true
  | _ => True

def isNumTok : Tok → Bool
  | .num _ => true
  | _ => false

theorem tokOk_of_not_num {P : Bytes → Bool} {t : Tok} (h : isNumTok t = false) : TokOk P t := by
  unfold TokOk
  split
  · cases h
  · trivial

theorem isNumLexeme_int {d : Bytes} (hne : d ≠ []) (hd : ∀ x ∈ d, Lex.isDigit x = true) : isNumLexeme d = true := by
  have h := And.intro (List.takeWhile_append_of_pos (l₂ := []) hd) (List.dropWhile_append_of_pos (l₂ := []) hd)
  simp only [List.append_nil, List.takeWhile_nil, List.dropWhile_nil] at h
  simp only [isNumLexeme, h.1, h.2]
  cases d with
  | nil => exact absurd rfl hne
  | cons _ _ => rfl

theorem isNumLexeme_frac {d e : Bytes} (hne : d ≠ []) (hd : ∀ x ∈ d, Lex.isDigit x = true)
    (hne' : e ≠ []) (he : ∀ x ∈ e, Lex.isDigit x = true) : isNumLexeme (d ++ 46 :: e) = true := by
  have h := And.intro (List.takeWhile_append_of_pos (l₂ := 46 :: e) hd) (List.dropWhile_append_of_pos (l₂ := 46 :: e) hd)
  have h46 : Lex.isDigit 46 = false := by decide
  simp only [List.takeWhile_cons, List.dropWhile_cons, h46, Bool.false_eq_true, if_false, List.append_nil] at h
  simp only [isNumLexeme, h.1, h.2]
  cases d with
  | nil => exact absurd rfl hne
  | cons _ _ =>
    cases e with
    | nil => exact absurd rfl hne'
    | cons a e' =>
      simp only [List.isEmpty_cons, Bool.not_false, Bool.true_and]
      exact List.all_eq_true.2 he

theorem numFinish_lexeme (start : Nat) (lx : Bytes) (c : Lex.Cur) :
    ∃ c' ds, Lex.numFinish start lx c = .ok lx c' ds := by
  unfold Lex.numFinish
  split
  · exact ⟨_, _, rfl⟩
  · split <;> exact ⟨_, _, rfl⟩

theorem scanNumber_lexeme (start : Nat) (c : Lex.Cur) {b : Nat} {r : Bytes} (hc : c.rest = b :: r)
    (hb : Lex.isDigit b = true) {lx : Bytes} {c' : Lex.Cur} {ds : List Diag}
    (h : Lex.scanNumber start c = .ok lx c' ds) : isNumLexeme lx = true := by
  have hip : c.rest.takeWhile Lex.isDigit ≠ [] := by
    rw [hc]; simp [hb]
  have hipd := List.all_eq_true.mp (List.all_takeWhile (p := Lex.isDigit) (l := c.rest))
  unfold Lex.scanNumber at h
  simp only at h
  split at h
  · next r2 _ =>
    split at h
    · cases h
    · next d tl _ =>
      split at h
      · next hd =>
        obtain ⟨c2, ds2, e⟩ := numFinish_lexeme start
          (c.rest.takeWhile Lex.isDigit ++ 46 :: (d :: tl).takeWhile Lex.isDigit)
          (Lex.Cur.skipWhile Lex.isDigit ⟨(c.skipWhile Lex.isDigit).pos + 1, d :: tl⟩)
        rw [e] at h
        cases h
        exact isNumLexeme_frac hip hipd (by simp [hd]) (List.all_eq_true.mp List.all_takeWhile)
      · cases h
  · obtain ⟨c2, ds2, e⟩ := numFinish_lexeme start (c.rest.takeWhile Lex.isDigit) (c.skipWhile Lex.isDigit)
    rw [e] at h
    cases h
    exact isNumLexeme_int hip hipd

theorem scanWord_not_num {c : Lex.Cur} {r : Tok × Lex.Cur} (e : Lex.scanWord c = r) : isNumTok r.1 = false :=
  e ▸ Lex.scanWord_kind (fun _ => rfl) (by decide) (by decide) c

def TurnOk : Lex.Step → Prop
  | .tok t _ _ => TokOk isNumLexeme t.tok
  | _ => True

theorem step_tok (c0 : Lex.Cur) : TurnOk (Lex.step c0) := by
  fun_cases Lex.step c0
  -- the arms of `Lex.step` that yield a token: string (trivial), punctuation, number, word
  case case4 => exact tokOk_of_not_num (Lex.punct_kind (by decide) ‹_›)
  case case5 => exact scanNumber_lexeme _ _ ‹_› ‹_› ‹_›
  case case7 => exact tokOk_of_not_num (scanWord_not_num ‹_›)
  all_goals trivial

theorem lex_numbers (src : Bytes) : ∀ t ∈ (Lex.lex src).1, TokOk isNumLexeme t.tok := by
  intro t ht
  simp only [Lex.lex, Lex.lexIter, List.mem_append, List.mem_singleton] at ht
  rcases ht with ht | rfl
  · obtain ⟨c, c', ds, -, hs⟩ :=
      (Lex.lexGo_of_turns (I := fun _ => True) (fun c _ => by cases Lex.step c <;> trivial) _ _ trivial).1 t ht
    exact (hs ▸ step_tok c : TurnOk (.tok t c' ds))
  · unfold Lex.eofTok; split <;> trivial

open Parse

def StOk (P : Bytes → Bool) (st : PState) : Prop := TokOk P st.cur.tok ∧ ∀ t ∈ st.rest, TokOk P t.tok

section
variable {P : Bytes → Bool}

theorem StOk.init {toks : List SpTok} (h : ∀ t ∈ toks, TokOk P t.tok) : StOk P (PState.init toks) := by
  cases toks with
  | nil => exact ⟨trivial, fun t ht => by cases ht⟩
  | cons t ts => exact ⟨h t List.mem_cons_self, fun u hu => h u (List.mem_cons_of_mem _ hu)⟩

theorem StOk.bump {st : PState} (h : StOk P st) : StOk P st.bump := by
  unfold PState.bump
  split
  · next hr => exact ⟨trivial, by simp only; rw [hr]; intro t ht; cases ht⟩
  · next t ts hr =>
    have := h.2
    rw [hr] at this
    exact ⟨this t List.mem_cons_self, fun u hu => this u (List.mem_cons_of_mem _ hu)⟩

theorem StOk.err {st : PState} (h : StOk P st) (k : DiagKind) (sp : Span) (ls : List Span) :
    StOk P (st.err k sp ls) := h

theorem StOk.err1 {st : PState} (h : StOk P st) (k : DiagKind) (sp : Span) : StOk P (st.err1 k sp) := h

theorem StOk.take {st : PState} (h : StOk P st) : StOk P st.take := ⟨trivial, h.2⟩

theorem StOk.expect {st : PState} (h : StOk P st) (t : Tok) (k : DiagKind) (sp : Span) :
    StOk P (st.expect t k sp) := by
  unfold PState.expect; split
  · exact h.bump
  · exact h.err1 _ _

theorem StOk.sync {st : PState} : StOk P st → StOk P st.sync :=
  sync_induct (M := fun a b => StOk P a → StOk P b) (fun _ _ h => h) (fun _ _ ih h => ih h.bump) st

theorem parseField_ok {st : PState} (h : StOk P st) {r : Bytes × Span × PState} (e : parseField st = r) :
    StOk P r.2.2 := by
  subst e
  unfold parseField
  split
  · exact h.bump
  · split
    · exact (h.err1 _ _).bump
    · exact (h.err1 _ _).bump

theorem closeBracket_ok {st : PState} (h : StOk P st) {r : Nat × PState} (e : closeBracket st = r) : StOk P r.2 := by
  subst e
  unfold closeBracket; split
  · exact h.bump
  · exact h.err1 _ _

theorem nameOrPlaceholder_ok {st : PState} (h : StOk P st) (sp : Span) : StOk P (nameOrPlaceholder st sp).2 := by
  unfold nameOrPlaceholder
  split
  · exact h
  · split <;> exact h.err1 _ _

theorem paramStep_ok {st : PState} (h : StOk P st) {p : Param} {st' : PState} (hs : paramStep st = some (p, st')) :
    StOk P st' := by
  unfold paramStep at hs
  split at hs
  · cases hs; exact h
  · split at hs
    · cases hs; exact h.err1 _ _
    · cases hs

theorem parseParams_ok : ∀ {st : PState}, StOk P st → StOk P (parseParams st).2 := by
  intro st
  exact parseParams_induct (M := fun st r => StOk P st → StOk P r.2) (fun _ _ h => h)
    (fun _ _ _ hs _ h => (paramStep_ok h hs).bump) (fun _ _ _ _ hs _ ih h => ih (paramStep_ok h hs).bump.bump) st

theorem parseFnHeader_ok {start : Nat} {st : PState} (h : StOk P st) {r : FnHeader × PState}
    (e : parseFnHeader start st = r) : StOk P r.2 := by
  subst e
  unfold parseFnHeader
  simp only
  exact ((parseParams_ok (((nameOrPlaceholder_ok h.bump _).bump).expect _ _ _)).expect _ _ _).expect _ _ _

theorem parseMakeHeader_ok {st : PState} (h : StOk P st) {r : Bytes × Span × PState} (e : parseMakeHeader st = r) :
    StOk P r.2.2 := by
  subst e
  unfold parseMakeHeader
  simp only
  split
  · exact h.bump.bump
  · split
    · exact (h.bump.err1 _ _).bump
    · exact (h.bump.err1 _ _).bump

theorem openCond_ok (sp : Span) {st : PState} (h : StOk P st) : StOk P (openCond sp st) := h.expect _ _ _

theorem closeCond_ok {start : Nat} {c : Expr} {st : PState} (h : StOk P st) {r : Span × PState}
    (e : closeCond start c st = r) : StOk P r.2 := by
  subst e
  unfold closeCond
  exact (h.expect _ _ _).expect _ _ _

end

theorem atomOf_src (C : SCfg) {t : SpTok} {e : Expr} (h : atomOf t = some e) (ht : TokOk C.numOk t.tok) :
    srcExpr C e = true := by
  unfold atomOf at h
  split at h
  · next n hn => cases h; rw [hn] at ht; simp only [srcExpr]; exact ht
  · cases h; rfl
  · cases h; rfl
  · cases h; rfl
  · cases h; rfl
  · cases h; rfl
  · cases h

/-- A parse that fails (fuel) proves nothing. -/
def ParsesOk {α : Type} (C : SCfg) (p : α → Bool) : Option (α × PState) → Prop
  | none => True
  | some (a, st) => p a = true ∧ StOk C.numOk st

theorem ParsesOk.none {α : Type} {C : SCfg} {p : α → Bool} : ParsesOk C p none := trivial

theorem ParsesOk.of_eq {α : Type} {C : SCfg} {p : α → Bool} {x : Option (α × PState)} {a : α} {st : PState}
    (h : ParsesOk C p x) (e : x = some (a, st)) : p a = true ∧ StOk C.numOk st := by
  subst e; exact h

structure PExprAll (C : SCfg) (f : Nat) : Prop where
  expr : ∀ (minBp : Nat) (st : PState), StOk C.numOk st → ParsesOk C (srcExpr C) (parseExpr f minBp st)
  cont : ∀ (minBp : Nat) (lhs : Expr) (st : PState), srcExpr C lhs = true → StOk C.numOk st →
    ParsesOk C (srcExpr C) (parseCont f minBp lhs st)
  elems : ∀ (close : Tok) (st : PState), StOk C.numOk st → ParsesOk C (srcExprs C) (parseElems f close st)

theorem PExprAll.args {C : SCfg} {f : Nat} (ih : PExprAll C f) (close : Tok) {st : PState} (hst : StOk C.numOk st) :
    ParsesOk C (srcExprs C) (if st.cur.tok == close then some ([], st) else parseElems f close st) := by
  split
  · exact ⟨rfl, hst⟩
  · exact ih.elems _ _ hst

/-- One unfolding of the three expression functions, each followed along its branches: a branch that
fails proves nothing (`.none`), in the others `‹_›` is the equation the branch has for the result of
a call inside.  `ih` speaks of the fuel left for those calls.  `h0`: the placeholder `0` that the error recovery
puts in place of a missing operand is a good lexeme. -/
theorem pexpr_step {C : SCfg} (h0 : C.numOk [48] = true) (f : Nat) (ih : ∀ g, f = g + 1 → PExprAll C g) :
    PExprAll C f := by
  refine ⟨fun minBp st hst => ?_, fun minBp lhs st hl hst => ?_, fun close st hst => ?_⟩
  · fun_cases parseExpr f minBp st <;> try exact .none
    -- atom; unary operator; parenthesis; array literal; recovery with the placeholder
    · exact (ih _ rfl).cont _ _ _ (atomOf_src C ‹_› hst.1) hst.bump
    · obtain ⟨a, b⟩ := ((ih _ rfl).expr _ _ hst.bump).of_eq ‹_›
      exact (ih _ rfl).cont _ _ _ a b
    · obtain ⟨a, b⟩ := ((ih _ rfl).expr _ _ hst.bump).of_eq ‹_›
      exact (ih _ rfl).cont _ _ _ a (b.expect _ _ _)
    · obtain ⟨a, b⟩ := ((ih _ rfl).args _ hst.bump).of_eq ‹_›
      exact (ih _ rfl).cont _ _ _ a (closeBracket_ok b ‹_›)
    · exact (ih _ rfl).cont _ _ _ h0 (hst.take.err1 _ _).sync
  · fun_cases parseCont f minBp lhs st <;> try exact .none
    -- member; call; index; no operator; operator binding too weakly; binary operator
    · exact (ih _ rfl).cont _ _ _ hl (parseField_ok hst.bump ‹_›)
    · obtain ⟨a, b⟩ := ((ih _ rfl).args _ hst.bump).of_eq ‹_›
      exact (ih _ rfl).cont _ _ _ (by simp [srcExpr, hl, a]) (b.expect _ _ _)
    · obtain ⟨a, b⟩ := ((ih _ rfl).expr _ _ hst.bump).of_eq ‹_›
      exact (ih _ rfl).cont _ _ _ (by simp [srcExpr, hl, a]) (closeBracket_ok b ‹_›)
    · exact ⟨hl, hst⟩
    · exact ⟨hl, hst⟩
    · obtain ⟨a, b⟩ := ((ih _ rfl).expr _ _ hst.bump).of_eq ‹_›
      exact (ih _ rfl).cont _ _ _ (by simp [srcExpr, hl, a]) b
  · fun_cases parseElems f close st <;> try exact .none
    -- comma before the closer; comma and more elements; last element
    · obtain ⟨a, b⟩ := ((ih _ rfl).expr _ _ hst).of_eq ‹_›
      exact ⟨by simp [srcExprs, a], b.bump⟩
    · obtain ⟨a, b⟩ := ((ih _ rfl).expr _ _ hst).of_eq ‹_›
      obtain ⟨a', b'⟩ := ((ih _ rfl).elems _ _ b.bump).of_eq ‹_›
      exact ⟨by simp [srcExprs, a, a'], b'⟩
    · obtain ⟨a, b⟩ := ((ih _ rfl).expr _ _ hst).of_eq ‹_›
      exact ⟨by simp [srcExprs, a], b⟩

theorem pexpr_all {C : SCfg} (h0 : C.numOk [48] = true) : ∀ f, PExprAll C f
  | 0 => pexpr_step h0 0 nofun
  | f + 1 => pexpr_step h0 _ fun _ h => Nat.succ.inj h ▸ pexpr_all h0 f

theorem finishAssign_src (C : SCfg) (start : Nat) (target value : Expr) {st : PState}
    (ht : srcExpr C target = true) (hv : srcExpr C value = true) (hst : StOk C.numOk st) :
    ParsesOk C (srcStmt C) (some (finishAssign start target value st)) := by
  unfold finishAssign
  split
  · exact ⟨hv, hst⟩
  · exact ⟨by simp [srcStmt, ht, hv, isIndexExpr], hst⟩
  · exact ⟨rfl, hst.err1 _ _⟩

structure PStmtAll (C : SCfg) (f : Nat) : Prop where
  stmt : ∀ (st : PState), StOk C.numOk st → ParsesOk C (srcStmt C) (parseStmt f st)
  stmts : ∀ (st : PState), StOk C.numOk st → ParsesOk C (srcStmts C) (parseStmts f st)
  block : ∀ (st : PState), StOk C.numOk st → ParsesOk C (srcBlock C) (parseBlock f st)

theorem pstmt_step {C : SCfg} (h0 : C.numOk [48] = true) (f : Nat) (ih : ∀ g, f = g + 1 → PStmtAll C g) :
    PStmtAll C f := by
  refine ⟨fun st hst => ?_, fun st hst => ?_, fun st hst => ?_⟩
  · fun_cases parseStmt f st <;> try exact .none
    -- `do`; `return` bare, with a value; `make` with a value, without; `if to say` with `if not so`, without; `jasi`;
    -- `comot`; `next`; `start`; identifier-led: assignment, expression statement; recovery
    · obtain ⟨a, b⟩ := ((ih _ rfl).block _ (parseFnHeader_ok hst ‹_›)).of_eq ‹_›
      exact ⟨a, b.expect _ _ _⟩
    · exact ⟨rfl, hst.bump⟩
    · exact ((pexpr_all h0 _).expr _ _ hst.bump).of_eq ‹_›
    · exact ((pexpr_all h0 _).expr _ _ (parseMakeHeader_ok hst ‹_›).bump).of_eq ‹_›
    · exact ⟨rfl, parseMakeHeader_ok hst ‹_›⟩
    · obtain ⟨a, b⟩ := ((pexpr_all h0 _).expr _ _ (openCond_ok _ hst.bump)).of_eq ‹_›
      obtain ⟨a2, b2⟩ := ((ih _ rfl).block _ (closeCond_ok b ‹_›)).of_eq ‹_›
      obtain ⟨a3, b3⟩ := ((ih _ rfl).block _ (((b2.expect _ _ _).bump).expect _ _ _)).of_eq ‹_›
      exact ⟨by simp [srcStmt, srcOptBlock, a, a2, a3], b3.expect _ _ _⟩
    · obtain ⟨a, b⟩ := ((pexpr_all h0 _).expr _ _ (openCond_ok _ hst.bump)).of_eq ‹_›
      obtain ⟨a2, b2⟩ := ((ih _ rfl).block _ (closeCond_ok b ‹_›)).of_eq ‹_›
      exact ⟨by simp [srcStmt, srcOptBlock, a, a2], b2.expect _ _ _⟩
    · obtain ⟨a, b⟩ := ((pexpr_all h0 _).expr _ _ (openCond_ok _ hst.bump)).of_eq ‹_›
      obtain ⟨a2, b2⟩ := ((ih _ rfl).block _ (closeCond_ok b ‹_›)).of_eq ‹_›
      exact ⟨by simp [srcStmt, a, a2], b2.expect _ _ _⟩
    · exact ⟨rfl, hst.bump⟩
    · exact ⟨rfl, hst.bump⟩
    · obtain ⟨a, b⟩ := ((ih _ rfl).block _ hst.bump).of_eq ‹_›
      exact ⟨a, b.expect _ _ _⟩
    · obtain ⟨a, b⟩ := ((pexpr_all h0 _).cont _ _ _ rfl hst.bump).of_eq ‹_›
      obtain ⟨a2, b2⟩ := ((pexpr_all h0 _).expr _ _ b.bump).of_eq ‹_›
      exact finishAssign_src C _ _ _ a a2 b2
    · exact ((pexpr_all h0 _).cont _ _ _ rfl hst.bump).of_eq ‹_›
    · exact ⟨rfl, ((hst.err1 _ _).bump).sync⟩
  · fun_cases parseStmts f st <;> try exact .none
    · exact ⟨rfl, hst⟩
    · obtain ⟨a, b⟩ := ((ih _ rfl).stmt _ hst).of_eq ‹_›
      obtain ⟨a2, b2⟩ := ((ih _ rfl).stmts _ b).of_eq ‹_›
      exact ⟨by simp [srcStmts, a, a2], b2⟩
  · fun_cases parseBlock f st <;> try exact .none
    exact ((ih _ rfl).stmts _ hst).of_eq ‹_›

theorem pstmt_all {C : SCfg} (h0 : C.numOk [48] = true) : ∀ f, PStmtAll C f
  | 0 => pstmt_step h0 0 nofun
  | f + 1 => pstmt_step h0 _ fun _ h => Nat.succ.inj h ▸ pstmt_all h0 f

theorem parseTopStmts_src {C : SCfg} (h0 : C.numOk [48] = true) (f : Nat) (st : PState) (hst : StOk C.numOk st) :
    ParsesOk C (srcStmts C) (parseTopStmts f st) := by
  fun_induction parseTopStmts f st <;> try exact .none
  · next ih =>
    obtain ⟨a, b⟩ := ((pstmt_all h0 _).stmt _ hst).of_eq ‹_›
    obtain ⟨a2, b2⟩ := (ih b).of_eq ‹_›
    exact ⟨by simp [srcStmts, a, a2], b2⟩
  · exact ⟨rfl, hst⟩

/-- `h0`: see `pexpr_step`. -/
theorem parse_source_ok (C : SCfg) (h0 : C.numOk [48] = true) (toks : List SpTok)
    (ht : ∀ t ∈ toks, TokOk C.numOk t.tok) : srcBlock C (parseProgram toks).1 = true := by
  have h := parseTopStmts_src h0 (fuelFor toks) _ (StOk.init ht)
  rw [parseProgram, parseProgramFuel]
  revert h
  cases parseTopStmts (fuelFor toks) (PState.init toks) with
  | none => exact fun _ => rfl
  | some r => exact fun h => h.1

theorem isNumLexeme_zero : isNumLexeme [48] = true := by decide

theorem frontEnd_source_ok (src : Bytes) (T : List Nat) (plan : Option Eval.Plan) :
    srcBlock ⟨T, isNumLexeme, true, plan⟩ (parseProgram (Lex.lex src).1).1 = true :=
  parse_source_ok ⟨T, isNumLexeme, true, plan⟩ isNumLexeme_zero _ (lex_numbers src)

end NaijaVerif.Bridge
