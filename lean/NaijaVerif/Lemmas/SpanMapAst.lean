import NaijaVerif.Lemmas.ParseDefs
import NaijaVerif.Lemmas.AstInduction
/-
`mapExpr φ` … `mapBlock φ` replace every span of a tree by its image under `φ : Span → Span`.  The stages
behind the lexer are natural in `φ` (`Lemmas/ParseMap.lean` for a `φ` that relabels positions,
`Lemmas/SpanMapEval.lean`); two kinds of `φ` are used.  The constant map is span erasure
(`eraseExpr_eq_mapExpr` …).  A map that is the identity on the spans of a tree fixes the tree
(`mapExpr_fix` …), so whatever span a natural stage reports for that tree is a fixed point of every
such map.

Namespaces: `SpanMap` holds the tree maps and the statements for a general `φ` (`…_map`) about the evaluator (`SpanMapEval`),
the analyses and the parser's guarantees (first parts of `SpanEraseAnalysis`, `SpanEraseSource`); `SpanErase` holds the erasure
vocabulary and the instances at the constant map (`…_erase`) — and the resolver's `…_map` statements as well
(`SpanEraseResolve`), which `Lemmas/ResolveSpans.lean` uses under those names.  A lemma is named after the model function it is
about, so `findFn_map` and `condClass_map` exist in both (`Resolve.findFn` / `Eval.findFn`, `Resolve.condClass` /
`Analysis.condClass`).
-/
namespace NaijaVerif.SpanMap
open NaijaVerif NaijaVerif.Parse

mutual
  def mapExpr (φ : Span → Span) : Expr → Expr
    | .index a i isp sp => .index (mapExpr φ a) (mapExpr φ i) (φ isp) (φ sp)
    | .str p sp => .str p (φ sp)
    | .num l sp => .num l (φ sp)
    | .var n b sp => .var n b (φ sp)
    | .binary op l r sp => .binary op (mapExpr φ l) (mapExpr φ r) (φ sp)
    | .call c args f sp => .call (mapExpr φ c) (mapExprs φ args) f (φ sp)
    | .array es sp => .array (mapExprs φ es) (φ sp)
    | .unary op e sp => .unary op (mapExpr φ e) (φ sp)
    | .bool b sp => .bool b (φ sp)
    | .member o f fsp sp => .member (mapExpr φ o) f (φ fsp) (φ sp)
    | .null sp => .null (φ sp)
  def mapExprs (φ : Span → Span) : List Expr → List Expr
    | [] => []
    | e :: es => mapExpr φ e :: mapExprs φ es
end

def mapParam (φ : Span → Span) (p : Param) : Param := { p with span := φ p.span }

-- `mapStmt` matches on the optional else-block and return value itself, so that the recursion is structural;
-- `mapStmt_ifS` and `mapStmt_ret` give each pair of equations as one.
mutual
  def mapStmt (φ : Span → Span) : Stmt → Stmt
    | .fnDef n nsp ps b f sid sp => .fnDef n (φ nsp) (ps.map (mapParam φ)) (mapBlock φ b) f sid (φ sp)
    | .assign v vsp e b sid sp => .assign v (φ vsp) (mapExpr φ e) b sid (φ sp)
    | .assignExisting v vsp e b sid sp => .assignExisting v (φ vsp) (mapExpr φ e) b sid (φ sp)
    | .assignIndex t e sid sp => .assignIndex (mapExpr φ t) (mapExpr φ e) sid (φ sp)
    | .ifS c t none sid sp => .ifS (mapExpr φ c) (mapBlock φ t) none sid (φ sp)
    | .ifS c t (some e) sid sp => .ifS (mapExpr φ c) (mapBlock φ t) (some (mapBlock φ e)) sid (φ sp)
    | .loop c b sid sp => .loop (mapExpr φ c) (mapBlock φ b) sid (φ sp)
    | .block b sid sp => .block (mapBlock φ b) sid (φ sp)
    | .ret none sid sp => .ret none sid (φ sp)
    | .ret (some e) sid sp => .ret (some (mapExpr φ e)) sid (φ sp)
    | .brk sid sp => .brk sid (φ sp)
    | .cont sid sp => .cont sid (φ sp)
    | .expr e sid sp => .expr (mapExpr φ e) sid (φ sp)
  def mapStmts (φ : Span → Span) : List Stmt → List Stmt
    | [] => []
    | s :: ss => mapStmt φ s :: mapStmts φ ss
  def mapBlock (φ : Span → Span) : Block → Block
    | .mk ss sp => .mk (mapStmts φ ss) (φ sp)
end

section
variable (φ : Span → Span)

theorem mapExprs_eq_map (es : List Expr) : mapExprs φ es = es.map (mapExpr φ) := by
  induction es with
  | nil => rfl
  | cons e es ih => rw [mapExprs, ih, List.map_cons]

theorem mapExprs_length (es : List Expr) : (mapExprs φ es).length = es.length := by
  rw [mapExprs_eq_map, List.length_map]

theorem mapExpr_span (e : Expr) : (mapExpr φ e).span = φ e.span := by
  cases e <;> rfl

theorem mapStmt_ifS (c : Expr) (t : Block) (e : Option Block) (sid : Option Nat) (sp : Span) :
    mapStmt φ (.ifS c t e sid sp) = .ifS (mapExpr φ c) (mapBlock φ t) (e.map (mapBlock φ)) sid (φ sp) := by
  cases e <;> rfl

theorem mapStmt_ret (e : Option Expr) (sid : Option Nat) (sp : Span) :
    mapStmt φ (.ret e sid sp) = .ret (e.map (mapExpr φ)) sid (φ sp) := by
  cases e <;> rfl

theorem mapStmt_sid (s : Stmt) : (mapStmt φ s).sid = s.sid := by
  cases s with
  | ifS c t e sid sp => cases e <;> rfl
  | ret e sid sp => cases e <;> rfl
  | _ => rfl

theorem mapBlock_stmts : ∀ b : Block, (mapBlock φ b).stmts = mapStmts φ b.stmts
  | .mk _ _ => rfl

end

theorem eraseExpr_eq_mapExpr : ∀ e : Expr, eraseExpr e = mapExpr (fun _ => zspan) e
  | .index a i _ _ | .binary _ a i _ => by rw [eraseExpr, mapExpr, eraseExpr_eq_mapExpr a, eraseExpr_eq_mapExpr i]
  | .str _ _ | .num _ _ | .var _ _ _ | .bool _ _ | .null _ => rfl
  | .call c args _ _ => by rw [eraseExpr, mapExpr, eraseExpr_eq_mapExpr c, eraseExprs_eq_mapExprs args]
  | .array es _ => by rw [eraseExpr, mapExpr, eraseExprs_eq_mapExprs es]
  | .unary _ e _ | .member e _ _ _ => by rw [eraseExpr, mapExpr, eraseExpr_eq_mapExpr e]
where
  eraseExprs_eq_mapExprs : ∀ es : List Expr, eraseExprs es = mapExprs (fun _ => zspan) es
    | [] => rfl
    | e :: es => by rw [eraseExprs, mapExprs, eraseExpr_eq_mapExpr e, eraseExprs_eq_mapExprs es]

theorem eraseParam_eq_mapParam : eraseParam = mapParam (fun _ => zspan) := rfl

theorem erase_eq_map :
    (∀ s, eraseStmt s = mapStmt (fun _ => zspan) s) ∧ (∀ ss, eraseStmts ss = mapStmts (fun _ => zspan) ss) ∧
    (∀ b, eraseBlock b = mapBlock (fun _ => zspan) b) ∧
    (∀ o : Option Block, o.map eraseBlock = o.map (mapBlock fun _ => zspan)) := by
  apply Stmt.walk
  case fnDef => intro _ _ _ b _ _ _ hb; rw [eraseStmt, mapStmt, hb, eraseParam_eq_mapParam]
  case assign => intro _ _ e _ _ _; rw [eraseStmt, mapStmt, eraseExpr_eq_mapExpr e]
  case assignExisting => intro _ _ e _ _ _; rw [eraseStmt, mapStmt, eraseExpr_eq_mapExpr e]
  case assignIndex => intro t e _ _; rw [eraseStmt, mapStmt, eraseExpr_eq_mapExpr t, eraseExpr_eq_mapExpr e]
  case ifS =>
    intro c t e _ _ ht he
    cases e with
    | none => rw [eraseStmt, mapStmt, eraseExpr_eq_mapExpr c, ht]
    | some e => rw [eraseStmt, mapStmt, eraseExpr_eq_mapExpr c, ht, Option.some.inj he]
  case loop => intro c b _ _ hb; rw [eraseStmt, mapStmt, eraseExpr_eq_mapExpr c, hb]
  case block => intro b _ _ hb; rw [eraseStmt, mapStmt, hb]
  case ret =>
    intro e _ _
    cases e with
    | none => rfl
    | some e => rw [eraseStmt, mapStmt, eraseExpr_eq_mapExpr e]
  case brk => intro _ _; rfl
  case cont => intro _ _; rfl
  case expr => intro e _ _; rw [eraseStmt, mapStmt, eraseExpr_eq_mapExpr e]
  case mk => intro ss _ h; rw [eraseBlock, mapBlock, h]
  case none => rfl
  case some => intro b hb; exact congrArg some hb
  case nil => rfl
  case cons => intro s ss hs hss; rw [eraseStmts, mapStmts, hs, hss]

theorem eraseStmt_eq_mapStmt (s : Stmt) : eraseStmt s = mapStmt (fun _ => zspan) s := erase_eq_map.1 s
theorem eraseStmts_eq_mapStmts (ss : List Stmt) : eraseStmts ss = mapStmts (fun _ => zspan) ss :=
  erase_eq_map.2.1 ss
theorem eraseBlock_eq_mapBlock (b : Block) : eraseBlock b = mapBlock (fun _ => zspan) b := erase_eq_map.2.2.1 b

theorem mapExpr_fix {φ : Span → Span} : ∀ e : Expr, (∀ s ∈ exprSpans e, φ s = s) → mapExpr φ e = e
  | .index a i isp sp, h => by
    simp only [exprSpans, List.forall_mem_cons, List.forall_mem_append] at h
    rw [mapExpr, mapExpr_fix a h.2.2.1, mapExpr_fix i h.2.2.2, h.1, h.2.1]
  | .str _ sp, h | .num _ sp, h | .var _ _ sp, h | .bool _ sp, h | .null sp, h => by
    rw [mapExpr, h sp (List.mem_singleton.mpr rfl)]
  | .binary _ l r sp, h => by
    simp only [exprSpans, List.forall_mem_cons, List.forall_mem_append] at h
    rw [mapExpr, mapExpr_fix l h.2.1, mapExpr_fix r h.2.2, h.1]
  | .call c args _ sp, h => by
    simp only [exprSpans, List.forall_mem_cons, List.forall_mem_append] at h
    rw [mapExpr, mapExpr_fix c h.2.1, mapExprs_fix args h.2.2, h.1]
  | .array es sp, h => by
    simp only [exprSpans, List.forall_mem_cons] at h
    rw [mapExpr, mapExprs_fix es h.2, h.1]
  | .unary _ e sp, h => by
    simp only [exprSpans, List.forall_mem_cons] at h
    rw [mapExpr, mapExpr_fix e h.2, h.1]
  | .member o _ fsp sp, h => by
    simp only [exprSpans, List.forall_mem_cons] at h
    rw [mapExpr, mapExpr_fix o h.2.2, h.1, h.2.1]
where
  mapExprs_fix {φ : Span → Span} : ∀ es : List Expr, (∀ s ∈ exprsSpans es, φ s = s) → mapExprs φ es = es
    | [], _ => rfl
    | e :: es, h => by
      simp only [exprsSpans, List.forall_mem_append] at h
      rw [mapExprs, mapExpr_fix e h.1, mapExprs_fix es h.2]

theorem mapParams_fix {φ : Span → Span} (ps : List Param) (h : ∀ s ∈ ps.map (·.span), φ s = s) :
    ps.map (mapParam φ) = ps := by
  induction ps with
  | nil => rfl
  | cons p ps ih =>
    simp only [List.map_cons, List.forall_mem_cons] at h
    rw [List.map_cons, ih h.2, mapParam, h.1]

theorem map_fix {φ : Span → Span} :
    (∀ s, (∀ x ∈ stmtSpans s, φ x = x) → mapStmt φ s = s) ∧
    (∀ ss, (∀ x ∈ stmtsSpans ss, φ x = x) → mapStmts φ ss = ss) ∧
    (∀ b, (∀ x ∈ blockSpans b, φ x = x) → mapBlock φ b = b) ∧
    (∀ o : Option Block, ∀ b, o = some b → (∀ x ∈ blockSpans b, φ x = x) → mapBlock φ b = b) := by
  apply Stmt.walk
  case fnDef =>
    intro _ nsp ps b _ _ sp hb h
    simp only [stmtSpans, List.forall_mem_cons, List.forall_mem_append] at h
    rw [mapStmt, mapParams_fix ps h.2.2.1, hb h.2.2.2, h.1, h.2.1]
  case assign =>
    intro _ vsp e _ _ sp h
    simp only [stmtSpans, List.forall_mem_cons] at h
    rw [mapStmt, mapExpr_fix e h.2.2, h.1, h.2.1]
  case assignExisting =>
    intro _ vsp e _ _ sp h
    simp only [stmtSpans, List.forall_mem_cons] at h
    rw [mapStmt, mapExpr_fix e h.2.2, h.1, h.2.1]
  case assignIndex =>
    intro t e _ sp h
    simp only [stmtSpans, List.forall_mem_cons, List.forall_mem_append] at h
    rw [mapStmt, mapExpr_fix t h.2.1, mapExpr_fix e h.2.2, h.1]
  case ifS =>
    intro c t e _ sp ht he h
    cases e with
    | none =>
      simp only [stmtSpans, List.forall_mem_cons, List.forall_mem_append] at h
      rw [mapStmt, mapExpr_fix c h.2.1, ht h.2.2, h.1]
    | some e =>
      simp only [stmtSpans, List.forall_mem_cons, List.forall_mem_append] at h
      rw [mapStmt, mapExpr_fix c h.2.1.1, ht h.2.1.2, he e rfl h.2.2, h.1]
  case loop =>
    intro c b _ sp hb h
    simp only [stmtSpans, List.forall_mem_cons, List.forall_mem_append] at h
    rw [mapStmt, mapExpr_fix c h.2.1, hb h.2.2, h.1]
  case block =>
    intro b _ sp hb h
    simp only [stmtSpans, List.forall_mem_cons] at h
    rw [mapStmt, hb h.2, h.1]
  case ret =>
    intro e _ sp h
    cases e with
    | none => rw [mapStmt, h sp (List.mem_singleton.mpr rfl)]
    | some e =>
      simp only [stmtSpans, List.forall_mem_cons] at h
      rw [mapStmt, mapExpr_fix e h.2, h.1]
  case brk => intro _ sp h; rw [mapStmt, h sp (List.mem_singleton.mpr rfl)]
  case cont => intro _ sp h; rw [mapStmt, h sp (List.mem_singleton.mpr rfl)]
  case expr =>
    intro e _ sp h
    simp only [stmtSpans, List.forall_mem_cons] at h
    rw [mapStmt, mapExpr_fix e h.2, h.1]
  case mk =>
    intro ss sp hss h
    simp only [blockSpans, List.forall_mem_cons] at h
    rw [mapBlock, hss h.2, h.1]
  case none => intro _ h; cases h
  case some => intro b hb _ h; cases h; exact hb
  case nil => intro _; rfl
  case cons =>
    intro s ss hs hss h
    simp only [stmtsSpans, List.forall_mem_append] at h
    rw [mapStmts, hs h.1, hss h.2]

theorem mapBlock_fix {φ : Span → Span} (b : Block) (h : ∀ x ∈ blockSpans b, φ x = x) : mapBlock φ b = b :=
  map_fix.2.2.1 b h

/-- A span that every map fixing the spans of `S` fixes is one of `S`: a map may send everything outside `S`
to a span that is not `s`.  A stage that is natural in spans therefore reports only spans of its input
(`mapBlock_fix`: such a map leaves the input as it is, hence the output). -/
theorem mem_of_all_fix {S : Span → Prop} [DecidablePred S] {s : Span}
    (h : ∀ φ : Span → Span, (∀ t, S t → φ t = t) → φ s = s) : S s := by
  by_cases hn : S s
  · exact hn
  · have hs := h (fun t => if S t then t else ⟨s.lo + 1, s.hi⟩) fun t ht => if_pos ht
    rw [if_neg hn] at hs
    exact absurd (congrArg Span.lo hs) (Nat.succ_ne_self _)

end NaijaVerif.SpanMap
