import NaijaVerif.Lemmas.ResolveTypes
/-
The typing half of C09 on the result types of the functions of a block.
`retIter` (the return-type loop of `predeclare_block_functions`, with the shadow lists that fix D-09b) computes the table
`Spec.fnTable` of the specification, for EVERY block whose entry environments are related (`BRelT`).
* One round: `infer_expr_type` and the documented `typeOf` agree on every `return` expression (`typeOf_eq_infer`), also in
  the rounds in which a `return` expression is ill typed under the result types of the moment (the result types of a block
  need not settle; `Props/C09.lean: witnessRecoveryType`); so `retPass` is `tableRound` on the `(name, ret)` projection
  (`retPass_round`).  That needs `Env.recovery = false` (D-09f fixed): with recovery types `infer_expr_type` answers a type
  for operator applications the table rejects, where the specification has none.
* The rounds: the specification always makes `defs.length` of them, the code stops after the first round that changes
  nothing.  A round that raises no change flag returned the signatures it was given (`retPass_false`), so it is a fixed
  point of `tableRound`, and the rounds the specification still makes are idle (`tableIter_fix`): `retIter_table`.
-/
namespace NaijaVerif.Resolve
open NaijaVerif NaijaVerif.Spec

/-- A signature as an entry of the specification's `FnTable`. -/
def key2 (g : FnSig) : Bytes × VType := (g.name, g.ret)

/-- The invariant at BLOCK ENTRY: the enclosing variable scopes and function scopes of the checker yield the types the
specification's environment holds, and the code is the fixed one (D-09b, D-09f).  `SRel` (`Lemmas/ResolveTypesStmt.lean`)
adds the scope of the block being checked. -/
structure BRelT (env : Env) (te : TEnv) : Prop where
  vars : ∀ x, tLookup te.vars x = (lookupScopes env.vars x).map (·.ty)
  fns : ∀ x, tLookup te.fns x = (lookupFns env.fns x).map (·.ret)
  sh : env.shadowRet = true
  fixed : env.recovery = false

theorem tFind_map_key2 (sigs : List FnSig) (x : Bytes) :
    tFind (sigs.map key2) x = (findFn sigs x).map (·.ret) := by
  rw [tFind, List.find?_map, Option.map_map]; rfl

theorem tFind_dyn (names : List Bytes) (x : Bytes) :
    tFind (names.map fun n => (n, VType.dynamic)) x = if names.contains x then some .dynamic else none := by
  induction names with
  | nil => simp [tFind]
  | cons n ns ih =>
    simp only [tFind, List.map_cons, List.find?_cons, List.contains_cons] at ih ⊢
    by_cases h : n = x
    · subst h; simp
    · have h1 : (n == x) = false := by simpa using h
      have h2 : (x == n) = false := by simpa using fun h' => h h'.symm
      simp only [h1, h2, Bool.false_or]
      exact ih

/-- `collect_body_bindings` gathers what `make` (`fns = false`) or a definition (`fns = true`) binds. -/
theorem bodyNames_gather (fns : Bool) :
    (∀ s : Stmt, bodyNames fns s = gather (if fns then definedName else madeName) s) ∧
    (∀ ss : List Stmt, bodyNamesL fns ss = gatherL (if fns then definedName else madeName) ss) ∧
    (∀ b : Block, bodyNamesB fns b = gatherB (if fns then definedName else madeName) b) ∧
    (∀ b : Option Block, bodyNamesO fns b = gatherO (if fns then definedName else madeName) b) := by
  apply Stmt.walk
  case ifS => intro _ t e _ _ iht ihe; simp only [bodyNames, gather, iht, ihe]
  case loop => intro _ b _ _ ih; simp only [bodyNames, gather, ih]
  case block => intro b _ _ ih; simp only [bodyNames, gather, ih]
  case mk => intro ss _ ih; simp only [bodyNamesB, gatherB, ih]
  case some => intro b ih; simp only [bodyNamesO, gatherO, ih]
  case cons => intro s ss ih ihs; simp only [bodyNamesL, gatherL, ih, ihs]
  -- `make` and a definition answer their name on one side of `fns` each; the statements without a nested block, the
  -- empty list and the absent `else` answer nothing on both
  all_goals intros; cases fns <;> rfl

theorem bodyNames_made : ∀ s : Stmt, bodyNames false s = gather madeName s := (bodyNames_gather false).1
theorem bodyNamesL_made : ∀ ss : List Stmt, bodyNamesL false ss = gatherL madeName ss := (bodyNames_gather false).2.1
theorem bodyNamesB_made : ∀ b : Block, bodyNamesB false b = gatherB madeName b := (bodyNames_gather false).2.2.1
theorem bodyNamesO_made : ∀ b : Option Block, bodyNamesO false b = gatherO madeName b := (bodyNames_gather false).2.2.2
theorem bodyNames_defined : ∀ s : Stmt, bodyNames true s = gather definedName s := (bodyNames_gather true).1
theorem bodyNamesL_defined : ∀ ss : List Stmt, bodyNamesL true ss = gatherL definedName ss := (bodyNames_gather true).2.1
theorem bodyNamesB_defined : ∀ b : Block, bodyNamesB true b = gatherB definedName b := (bodyNames_gather true).2.2.1
theorem bodyNamesO_defined : ∀ b : Option Block, bodyNamesO true b = gatherO definedName b := (bodyNames_gather true).2.2.2

theorem ownMakes_eq : ∀ ss : List Stmt, ownMakes ss = blockMakes ss
  | [] => rfl
  | s :: rest => by cases s <;> simp only [ownMakes, blockMakes, ownMakes_eq rest]

theorem collectRets_retTypes (sh : Shadow) (env : Env) (cur : Scope) (te : TEnv) (h : RelSh sh env cur te) :
    (∀ s : Stmt, collectRets sh env cur s = retTypes te s) ∧
    (∀ ss : List Stmt, collectRetsL sh env cur ss = retTypesL te ss) ∧
    (∀ b : Block, collectRetsB sh env cur b = retTypesB te b) ∧
    (∀ b : Option Block, collectRetsO sh env cur b = retTypesO te b) := by
  apply Stmt.walk
  case ret =>
    intro e _ _
    cases e with
    | some e => simp only [collectRets, retTypes, typeOf_eq_infer sh env cur te h e]
    | none => rfl
  case ifS => intro _ t e _ _ iht ihe; simp only [collectRets, retTypes, iht, ihe]
  case loop => intro _ b _ _ ih; simp only [collectRets, retTypes, ih]
  case block => intro b _ _ ih; simp only [collectRets, retTypes, ih]
  case mk => intro ss _ ih; simp only [collectRetsB, retTypesB, ih]
  case some => intro b ih; simp only [collectRetsO, retTypesO, ih]
  case cons => intro s ss ih ihs; simp only [collectRetsL, retTypesL, ih, ihs]
  -- a statement that is neither a `return` nor has a nested block (a definition included: its body is not entered), the
  -- empty list and the absent `else` hold no `return`
  all_goals intros; rfl

theorem collectRets_eq (sh : Shadow) (env : Env) (cur : Scope) (te : TEnv) (h : RelSh sh env cur te) :
    ∀ s : Stmt, collectRets sh env cur s = retTypes te s := (collectRets_retTypes sh env cur te h).1
theorem collectRetsL_eq (sh : Shadow) (env : Env) (cur : Scope) (te : TEnv) (h : RelSh sh env cur te) :
    ∀ ss : List Stmt, collectRetsL sh env cur ss = retTypesL te ss := (collectRets_retTypes sh env cur te h).2.1
theorem collectRetsB_eq (sh : Shadow) (env : Env) (cur : Scope) (te : TEnv) (h : RelSh sh env cur te) :
    ∀ b : Block, collectRetsB sh env cur b = retTypesB te b := (collectRets_retTypes sh env cur te h).2.2.1
theorem collectRetsO_eq (sh : Shadow) (env : Env) (cur : Scope) (te : TEnv) (h : RelSh sh env cur te) :
    ∀ b : Option Block, collectRetsO sh env cur b = retTypesO te b := (collectRets_retTypes sh env cur te h).2.2.2

theorem inferRet_eq (env : Env) (sh : Shadow) (body : Block) :
    inferRet env sh body = commonType (collectRetsB sh env [] body) := by
  unfold inferRet commonType
  cases collectRetsB sh env [] body <;> rfl

/-- The environment of return-type inference: the enclosing scopes at block entry (`hB`), the
block's signatures as they stand, the D-09b shadow lists. -/
theorem relSh_retEnv (env : Env) (te : TEnv) (hB : BRelT env te)
    (sigs : List FnSig) (makes : List Bytes) (ps : List Param) (body : Block) :
    RelSh (shadowOf env makes ps body) { env with fns := sigs :: env.fns } []
      (retEnv te (sigs.map key2) makes (ps.map (·.name)) body) := by
  have hs : shadowOf env makes ps body =
      { vars := ps.map (·.name) ++ makes ++ gatherB madeName body, fns := gatherB definedName body } := by
    simp [shadowOf, hB.sh, bodyNamesB_made, bodyNamesB_defined]
  rw [hs]
  constructor
  · intro x
    simp only [retEnv, tLookup, tFind_dyn, varTy, lookupVar, lookupScopes, findVar, List.find?_nil]
    cases hc : (ps.map (·.name) ++ makes ++ gatherB madeName body).contains x
    · simp only [Bool.false_eq_true, if_false]; exact hB.vars x
    · simp only [if_true]
  · intro x
    simp only [retEnv, tLookup, tFind_dyn, fnTy, lookupFn, lookupFns, tFind_map_key2]
    cases hc : (gatherB definedName body).contains x
    · simp only [Bool.false_eq_true, if_false]
      cases findFn sigs x with
      | some g => rfl
      | none => exact hB.fns x
    · simp only [if_true]
  · exact hB.fixed

theorem retPass_false (env : Env) (makes : List Bytes) :
    ∀ (bodies : List (List Param × Block)) (i : Nat) (sigs : List FnSig) (ch : Bool),
      (retPass env makes bodies i sigs ch).2 = false → ch = false ∧ (retPass env makes bodies i sigs ch).1 = sigs
  | [] => fun _ _ ch h => by simpa [retPass] using h
  | (ps, body) :: bs => fun i sigs ch h => by
      simp only [retPass] at h ⊢
      cases hg : sigs[i]? with
      | none =>
        simp only [hg] at h ⊢
        exact retPass_false env makes bs _ _ _ h
      | some g =>
        simp only [hg] at h ⊢
        cases heq : (g.ret == inferRet { env with fns := sigs :: env.fns } (shadowOf env makes ps body) body)
        · rw [heq] at h
          simp only [Bool.false_eq_true, if_false] at h
          -- the flag is passed on raised: the rest cannot return it lowered
          exact absurd (retPass_false env makes bs _ _ true h).1 (by simp)
        · rw [heq] at h
          simp only [if_true] at h ⊢
          exact retPass_false env makes bs _ _ _ h

theorem modifyAt_cons_succ {α : Type} (a : α) (as : List α) (n : Nat) (f : α → α) :
    modifyAt (a :: as) (n + 1) f = a :: modifyAt as n f := rfl

theorem modifyAt_names (sigs : List FnSig) (i : Nat) (rt : VType) :
    (modifyAt sigs i (fun g => { g with ret := rt })).map (·.name) = sigs.map (·.name) :=
  modifyAt_map_key (·.name) (fun g => { g with ret := rt }) (fun _ => rfl) sigs i

theorem modifyAt_key2 (rt : VType) (name : Bytes) : ∀ (sigs : List FnSig) (i : Nat),
    (sigs.map (·.name))[i]? = some name →
    (modifyAt sigs i (fun g => { g with ret := rt })).map key2 = setAt (sigs.map key2) i (name, rt)
  | [], i, h => by simp at h
  | g :: gs, 0, h => by
      simp only [List.map_cons, List.getElem?_cons_zero, Option.some.injEq] at h
      simp [modifyAt, key2, setAt, h]
  | g :: gs, i + 1, h => by
      simp only [List.map_cons, List.getElem?_cons_succ] at h
      simp only [modifyAt_cons_succ, List.map_cons, setAt, modifyAt_key2 rt name gs i h]

/-- Where the result type is the one found already the rewrite changes nothing: `retPass` tests for it to raise its
change flag, not to spare the signatures. -/
theorem modifyAt_ret_self : ∀ {sigs : List FnSig} {i : Nat} {g : FnSig}, sigs[i]? = some g →
    modifyAt sigs i (fun g' => { g' with ret := g.ret }) = sigs
  | a :: as, 0, g, h => by cases h; rfl
  | a :: as, i + 1, g, h => congrArg (a :: ·) (modifyAt_ret_self (sigs := as) (by simpa using h))

/-- One round on both sides.  The two equations tie the model's bookkeeping to the specification's: `bodies` (what
`predeclare` collected) and `defs` (`Spec.blockDefs`) list the same definitions, and the model's index `i` into ALL the
signatures points at the entry of the first definition still to do (`sigs` from `i` on has the names of `defs`).  The model
rewrites that entry in place, the specification by `setAt`; `modifyAt_key2` is the step. -/
theorem retPass_round (env : Env) (te : TEnv) (makes : List Bytes) (hB : BRelT env te) :
    ∀ (bodies : List (List Param × Block)) (defs : List (Bytes × List Bytes × Block)) (i : Nat)
      (sigs : List FnSig) (ch : Bool),
      bodies.map (fun pb => (pb.1.map (·.name), pb.2)) = defs.map (fun d => (d.2.1, d.2.2)) →
      (sigs.map (·.name)).drop i = defs.map (·.1) →
      (retPass env makes bodies i sigs ch).1.map key2 = tableRound te makes defs i (sigs.map key2)
  | [], [], _, _, _, _, _ => by simp [retPass, tableRound]
  | [], _ :: _, _, _, _, hb, _ => by simp at hb
  | _ :: _, [], _, _, _, hb, _ => by simp at hb
  | (ps, body) :: bs, (name, pn, body') :: ds, i, sigs, ch, hb, hn => by
      simp only [List.map_cons, List.cons.injEq, Prod.mk.injEq] at hb
      obtain ⟨⟨hps, hbody⟩, hbs⟩ := hb
      subst hbody
      subst hps
      simp only [List.map_cons] at hn
      obtain ⟨hni, hnt⟩ := drop_cons_getElem? hn
      have hrt : inferRet { env with fns := sigs :: env.fns } (shadowOf env makes ps body) body
          = commonType (retTypesB (retEnv te (sigs.map key2) makes (ps.map (·.name)) body) body) := by
        rw [inferRet_eq, collectRetsB_eq _ _ _ _ (relSh_retEnv env te hB sigs makes ps body) body]
      obtain ⟨g, hg, _⟩ := Option.map_eq_some_iff.1 ((List.getElem?_map ..).symm.trans hni)
      have hup := modifyAt_key2
        (commonType (retTypesB (retEnv te (sigs.map key2) makes (ps.map (·.name)) body) body)) name sigs i hni
      simp only [retPass, tableRound, hrt, hg]
      rw [← hup]
      cases hr : (g.ret == commonType (retTypesB (retEnv te (sigs.map key2) makes (ps.map (·.name)) body) body))
      · simp only [Bool.false_eq_true, if_false]
        exact retPass_round env te makes hB bs ds (i + 1) _ true hbs (by rw [modifyAt_names]; exact hnt)
      · simp only [if_true]
        rw [← eq_of_beq hr, modifyAt_ret_self hg]
        exact retPass_round env te makes hB bs ds (i + 1) sigs ch hbs hnt

theorem tableIter_fix (te : TEnv) (makes : List Bytes) (defs : List (Bytes × List Bytes × Block)) (tab : FnTable)
    (h : tableRound te makes defs 0 tab = tab) : ∀ n, tableIter te makes defs n tab = tab
  | 0 => rfl
  | n + 1 => by simp only [tableIter, h]; exact tableIter_fix te makes defs tab h n

theorem retIter_table (env : Env) (te : TEnv) (makes : List Bytes) (hB : BRelT env te)
    (bodies : List (List Param × Block)) (defs : List (Bytes × List Bytes × Block))
    (hb : bodies.map (fun pb => (pb.1.map (·.name), pb.2)) = defs.map (fun d => (d.2.1, d.2.2))) :
    ∀ (n : Nat) (sigs : List FnSig), sigs.map (·.name) = defs.map (·.1) →
      (retIter env makes bodies n sigs).map key2 = tableIter te makes defs n (sigs.map key2)
  | 0 => fun sigs _ => by simp [retIter, tableIter]
  | n + 1 => fun sigs hn => by
      have hr := retPass_round env te makes hB bodies defs 0 sigs false hb (by simpa using hn)
      have hnm := map_of_core (k := (·.name)) (fun _ => rfl) (retPass_core env makes bodies 0 sigs false)
      simp only [retIter, tableIter]
      split
      · rw [retIter_table env te makes hB bodies defs hb n _ (by rw [hnm]; exact hn), hr]
      · next hch =>
        -- no change flag: the round was idle, and so are the rounds the specification still makes
        have hsame := (retPass_false env makes bodies 0 sigs false (by simpa using hch)).2
        rw [hsame] at hr ⊢
        rw [← hr, tableIter_fix te makes defs _ hr.symm n]

theorem findFn_append_none (sigs : List FnSig) (g : FnSig) (x : Bytes) (h : findFn sigs x = none) :
    findFn (sigs ++ [g]) x = if g.name == x then some g else none := by
  rw [findFn_append, h, Option.none_or]

theorem predeclare_defs (env : Env) : ∀ (ss : List Stmt) (sigs : List FnSig) (f : Facts) (seen : List Bytes),
    (∀ x, seen.contains x = (findFn sigs x).isSome) →
    (predeclare env ss sigs f).sigs.map key2
        = sigs.map key2 ++ (blockDefs ss seen).map (fun d => (d.1, VType.dynamic)) ∧
    (predeclare env ss sigs f).bodies.map (fun pb => (pb.1.map (·.name), pb.2))
        = (blockDefs ss seen).map (fun d => (d.2.1, d.2.2)) := by
  intro ss
  induction ss using stmts_fnDef_induction with
  | nil => intros; simp [predeclare, blockDefs]
  | other s rest hs ih =>
    intro sigs f seen h
    rw [predeclare_cons_other env hs, blockDefs_cons_other hs]
    exact ih sigs f seen h
  | fnDef name nsp ps body _ _ _ rest ih =>
    intro sigs f seen hs
    simp only [predeclare, blockDefs]
    have hn := hs name
    cases h : findFn sigs name with
    | some ex =>
      simp only [h, Option.isSome_some] at hn
      simp only [hn, if_true]
      exact ih sigs f seen hs
    | none =>
      simp only [h, Option.isSome_none] at hn
      simp only [hn, Bool.false_eq_true, if_false]
      obtain ⟨h1, h2⟩ := ih _ (pushFunction f name ps.length env.owner env.scope) (name :: seen)
        (seen_cons hs ⟨name, f.functions.length, ps.length, nsp, .dynamic⟩)
      constructor
      · rw [h1]; simp [key2]
      · simp only [List.map_cons, h2]

/-- C09, result types: the signatures `check_block` ends up with carry the result types of the
specification's table — for every block, whether or not the result types settle. -/
theorem block_table (env : Env) (te : TEnv) (hB : BRelT env te)
    (ss : List Stmt) (f : Facts) :
    (retIter env (ownMakes ss) (predeclare env ss [] f).bodies (predeclare env ss [] f).bodies.length
        (predeclare env ss [] f).sigs).map key2 = fnTable te ss := by
  obtain ⟨h1, h2⟩ := predeclare_defs env ss [] f [] (by intro x; simp [findFn])
  simp only [List.map_nil, List.nil_append] at h1
  have hlen : (predeclare env ss [] f).bodies.length = (blockDefs ss []).length := by
    have := congrArg List.length h2
    simpa using this
  have hnames : (predeclare env ss [] f).sigs.map (·.name) = (blockDefs ss []).map (·.1) := by
    have := congrArg (List.map Prod.fst) h1
    simpa [List.map_map, Function.comp_def, key2] using this
  unfold fnTable
  simp only []
  rw [hlen, ownMakes_eq]
  rw [← h1]
  exact retIter_table env te (blockMakes ss) hB _ _ h2 _ _ hnames

end NaijaVerif.Resolve
