import NaijaVerif.Model.Analysis
/-
Membership in the finite sets of ids that the analysis model keeps as lists (`ins`, `uni`, `dif`, `inter`, `subset`).
The model builds such sets by folds and by iterating a round; what a fold or an iteration keeps, and what a fold
contains, is read off its step (`foldl_keeps`, `iter_keeps`, `mem_foldl_iff`).  Then closure iterations over such sets:
`ins` and `uni` put what is new in front of a duplicate-free list and leave the rest as it is, so a round that is a fold
of unions (`addAll`) adds elements or changes nothing, and rounds whose lengths are bounded have reached a fixed point
after as many rounds as the bound (`iter_fixed_of_bounded`).  The instances are
`Ctx.bodyReachable` (`Lemmas/BridgeReachClosed.lean`) and `Ctx.calleesStar` (`Lemmas/ResolveStructSum.lean`).
-/
namespace NaijaVerif.C03
open NaijaVerif NaijaVerif.Analysis

theorem mem_ins_iff {x i : Nat} {s : List Nat} : i ∈ ins x s ↔ i = x ∨ i ∈ s := by
  simp only [ins]
  split
  · next h =>
    have : x ∈ s := by simpa using h
    constructor
    · exact Or.inr
    · rintro (rfl | h') <;> assumption
  · simp

theorem mem_uni_iff {i : Nat} {a b : List Nat} : i ∈ uni a b ↔ i ∈ a ∨ i ∈ b := by
  induction a with
  | nil => simp [uni]
  | cons x xs ih =>
    have : uni (x :: xs) b = ins x (uni xs b) := rfl
    rw [this, mem_ins_iff, ih, List.mem_cons]
    exact or_assoc.symm

theorem mem_dif_iff {i : Nat} {a b : List Nat} : i ∈ dif a b ↔ i ∈ a ∧ i ∉ b := by
  simp [dif]

theorem mem_inter_iff {i : Nat} {a b : List Nat} : i ∈ inter a b ↔ i ∈ a ∧ i ∈ b := by
  simp [inter]

theorem subset_iff {a b : List Nat} : subset a b = true ↔ ∀ i ∈ a, i ∈ b := by
  simp [subset]

theorem foldl_keeps {α β : Type} (g : β → α → β) {I : β → Prop} :
    ∀ (l : List α) (s : β), (∀ acc, ∀ r ∈ l, I acc → I (g acc r)) → I s → I (l.foldl g s)
  | [], _, _, h => h
  | r :: rs, s, hg, h =>
      foldl_keeps g rs (g s r) (fun acc r' hr' => hg acc r' (List.mem_cons_of_mem _ hr')) (hg s r List.mem_cons_self h)

theorem mem_foldl_iff {α : Type} {x : Nat} (g : List Nat → α → List Nat) {Q : α → Prop}
    (hg : ∀ acc r, x ∈ g acc r ↔ x ∈ acc ∨ Q r) :
    ∀ (l : List α) (s : List Nat), x ∈ l.foldl g s ↔ x ∈ s ∨ ∃ r ∈ l, Q r
  | [], s => by simp
  | r :: l, s => by
      rw [List.foldl_cons, mem_foldl_iff g hg l, hg]
      simp only [List.mem_cons, exists_eq_or_imp, or_assoc]

theorem mem_foldl_uni {α : Type} (F : α → List Nat) {x : Nat} (l : List α) (init : List Nat) :
    x ∈ l.foldl (fun acc g => uni (F g) acc) init ↔ x ∈ init ∨ ∃ g ∈ l, x ∈ F g :=
  mem_foldl_iff (Q := fun g => x ∈ F g) _ (fun _ _ => mem_uni_iff.trans or_comm) l init

theorem ins_suffix (x : Nat) (s : List Nat) : ∃ l, ins x s = l ++ s := by
  simp only [ins]
  split
  · exact ⟨[], rfl⟩
  · exact ⟨[x], rfl⟩

theorem ins_nodup {x : Nat} {s : List Nat} (h : s.Nodup) : (ins x s).Nodup := by
  simp only [ins]
  split
  · exact h
  · next hx => exact List.nodup_cons.2 ⟨by simpa using hx, h⟩

theorem uni_suffix (a b : List Nat) : ∃ l, uni a b = l ++ b := by
  induction a with
  | nil => exact ⟨[], rfl⟩
  | cons x xs ih =>
    obtain ⟨l, hl⟩ := ih
    have e : uni (x :: xs) b = ins x (uni xs b) := rfl
    obtain ⟨l', hl'⟩ := ins_suffix x (uni xs b)
    exact ⟨l' ++ l, by rw [e, hl', hl, List.append_assoc]⟩

theorem uni_nodup (a : List Nat) {b : List Nat} (h : b.Nodup) : (uni a b).Nodup := by
  induction a with
  | nil => exact h
  | cons x xs ih =>
    have e : uni (x :: xs) b = ins x (uni xs b) := rfl
    rw [e]; exact ins_nodup ih

theorem uni_eq_self {a b : List Nat} (h : ∀ x ∈ a, x ∈ b) : uni a b = b := by
  induction a with
  | nil => rfl
  | cons x xs ih =>
    have e : uni (x :: xs) b = ins x (uni xs b) := rfl
    rw [e, ih (fun y hy => h y (List.mem_cons_of_mem _ hy))]
    have : b.contains x = true := by simpa using h x List.mem_cons_self
    simp only [ins, this, if_true]

section fold
variable {α : Type} (P : α → Bool) (A : α → List Nat)

/-- The fold of `bodyReachStep` with the test `P` and the callee lists `A` made abstract. -/
def addAll (rows : List α) (s : List Nat) : List Nat :=
  rows.foldl (fun acc r => if P r then uni (A r) acc else acc) s

theorem addAll_suffix (rows : List α) (s : List Nat) : ∃ l, addAll P A rows s = l ++ s :=
  foldl_keeps (I := fun acc => ∃ l, acc = l ++ s) _ rows s (fun acc r _ ⟨l, hl⟩ => by
    split
    · obtain ⟨l1, h1⟩ := uni_suffix (A r) acc
      exact ⟨l1 ++ l, by rw [h1, hl, List.append_assoc]⟩
    · exact ⟨l, hl⟩) ⟨[], rfl⟩

theorem addAll_grows (rows : List α) (s : List Nat) :
    addAll P A rows s = s ∨ s.length < (addAll P A rows s).length := by
  obtain ⟨l, hl⟩ := addAll_suffix P A rows s
  cases l with
  | nil => exact Or.inl hl
  | cons a l => right; rw [hl]; simp only [List.cons_append, List.length_cons, List.length_append]; omega

theorem addAll_nodup (rows : List α) (s : List Nat) (h : s.Nodup) : (addAll P A rows s).Nodup :=
  foldl_keeps (I := List.Nodup) _ rows s (fun acc r _ h => by
    split
    · exact uni_nodup _ h
    · exact h) h

theorem mem_addAll {x : Nat} (rows : List α) (s : List Nat) :
    x ∈ addAll P A rows s ↔ x ∈ s ∨ ∃ r ∈ rows, P r = true ∧ x ∈ A r :=
  mem_foldl_iff _ (fun acc r => by
    split
    · next hp => rw [mem_uni_iff, or_comm]; simp [hp]
    · next hp => simp [hp]) rows s

theorem addAll_eq_self (rows : List α) (s : List Nat) (h : ∀ r ∈ rows, P r = true → ∀ x ∈ A r, x ∈ s) :
    addAll P A rows s = s :=
  foldl_keeps (I := (· = s)) _ rows s (fun acc r hr he => by
    subst he
    split
    · next hp => exact uni_eq_self (h r hr hp)
    · rfl) rfl

end fold

theorem iter_keeps {α : Type} {f : α → α} {I : α → Prop} (h : ∀ x, I x → I (f x)) : ∀ (n : Nat) (x : α), I x → I (iter f n x)
  | 0, _, hx => hx
  | n + 1, x, hx => iter_keeps h n (f x) (h x hx)

theorem iter_fixed {α : Type} (f : α → α) {x : α} (h : f x = x) (n : Nat) : iter f n x = x :=
  iter_keeps (I := (· = x)) (fun _ hy => hy ▸ h) n x rfl

/-- Pigeonhole for a closure iteration; the `M` rounds count the elements there at the start. -/
theorem iter_fixed_of_bounded {step : List Nat → List Nat} {I : List Nat → Prop} {M : Nat}
    (hg : ∀ s, step s = s ∨ s.length < (step s).length) (hI : ∀ s, I s → I (step s))
    (hM : ∀ s, I s → s.length ≤ M) : ∀ (n : Nat) (s : List Nat), I s → M ≤ s.length + n →
    step (iter step n s) = iter step n s
  | 0, s, hs, hlen => by
      simp only [iter]
      rcases hg s with h | h
      · exact h
      · have := hM _ (hI s hs)
        omega
  | n + 1, s, hs, hlen => by
      simp only [iter]
      rcases hg s with h | h
      · rw [h, iter_fixed _ h n]; exact h
      · exact iter_fixed_of_bounded hg hI hM n _ (hI s hs) (by omega)

end NaijaVerif.C03
