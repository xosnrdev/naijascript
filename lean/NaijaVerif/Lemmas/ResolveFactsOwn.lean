import NaijaVerif.Lemmas.ResolveFacts
import NaijaVerif.Lemmas.ResolveAnn
import NaijaVerif.Lemmas.AnalysisCheck
/-
`C03.ownOkB root facts` (`Lemmas/AnalysisCheck.lean`; the first half of `FactsCoverCalls`,
`Props/C06Accepted.lean`) says of an annotated program and its facts: walking the program with the
current function (`0` at top level, the `FunctionId` written on a definition inside its body), the
facts of every numbered statement name that function as its owner, and list every `FunctionId`
written on a user call in the statement's OWN expressions among its direct callees.

It holds of the output of the resolver model for EVERY input program (accepted or not): `check_stmt`
pushes the entry of the statement with `current_owner` before anything else, `check_expr` records the
callee (`record_stmt_callee`) at the very place where it writes the binding on the call, for the
`StmtId` of the statement being checked, and nothing ever removes a callee or changes an owner
(`SLe`, `Lemmas/ResolveFacts.lean`).  The walk is stated against the FINAL facts `F`: whatever the
checker produced at some point is below `F`.
-/
namespace NaijaVerif.ResolveFacts
open NaijaVerif NaijaVerif.Resolve NaijaVerif.C03

theorem lt_of_sle {f f' : Facts} {sid : Nat} (hs : sid < f.stmtEffects.length) (h : SLe f f') :
    sid < f'.stmtEffects.length := Nat.lt_of_lt_of_le hs h.len

theorem segsOk_noD : ∀ segs : List Seg, segsOk (fun _ => false) segs = true
  | [] => rfl
  | .lit _ :: ss => by simp only [segsOk]; exact segsOk_noD ss
  | .var _ (some _) :: ss => by simp [segsOk, segsOk_noD ss]
  | .var _ none :: ss => by simp only [segsOk]; exact segsOk_noD ss

theorem eOk_call_other (X D : Nat → Bool) (c : Expr) (args : List Expr) (fn : Option Nat) (sp : Span)
    (hc : otherCallee c = true) : eOk X D (.call c args fn sp) = eOkList X D args := by
  cases c with
  | var => cases hc
  | member => cases hc
  | _ => simp only [eOk]

theorem otherCallee_check (env : Env) (cur : Scope) (sid : Nat) (c : Expr) (f : Facts) :
    otherCallee (checkExpr env cur sid c f).val = otherCallee c := by
  rw [checkExpr_val]
  cases c with
  | str parts _ => cases parts <;> rfl
  | call callee args fn s => cases callee <;> rfl
  | _ => rfl

section expr
variable (env : Env) (cur : Scope) (sid : Nat) {F : Facts} {p : Nat × List Nat} (hp : (skey F)[sid]? = some p)
include hp

theorem check_own :
    (∀ (e : Expr) (f : Facts), sid < f.stmtEffects.length → SLe (checkExpr env cur sid e f).facts F →
      eOk (fun g => p.2.contains g) (fun _ => false) (checkExpr env cur sid e f).val = true) ∧
    (∀ (es : List Expr) (f : Facts), sid < f.stmtEffects.length → SLe (checkExprs env cur sid es f).facts F →
      eOkList (fun g => p.2.contains g) (fun _ => false) (checkExprs env cur sid es f).val = true) := by
  apply Expr.walk
  case num | bool | null => intros; rfl
  case str =>
    intro p _ f _ _
    cases p with
    | static => rfl
    | interp => exact segsOk_noD _
  case array =>
    intro es _ ih f hs h
    simp only [checkExpr, eOk] at h ⊢
    exact ih f hs h
  case index =>
    intro a i _ _ iha ihi f hs h
    simp only [checkExpr, eOk, Bool.and_eq_true] at h ⊢
    exact ⟨iha f hs ((checkExpr_sle env cur sid i _).trans h), ihi _ (lt_of_sle hs (checkExpr_sle env cur sid a f)) h⟩
  case var =>
    intro v _ s f _ _
    simp only [checkExpr]
    split <;> rfl
  case binary =>
    intro _ l r _ ihl ihr f hs h
    simp only [checkExpr, eOk, Bool.and_eq_true] at h ⊢
    exact ⟨ihl f hs ((checkExpr_sle env cur sid r _).trans h), ihr _ (lt_of_sle hs (checkExpr_sle env cur sid l f)) h⟩
  case unary =>
    intro _ e _ ih f hs h
    simp only [checkExpr, eOk] at h ⊢
    exact ih f hs h
  case member =>
    intro o _ _ _ ih f hs h
    simp only [checkExpr, eOk] at h ⊢
    exact ih f hs h
  case call =>
    intro callee args fn s hc _ iha f hs h
    cases callee using Expr.callee_cases with
    | other c ho =>
      rw [checkExpr_call_other _ _ _ _ _ _ _ _ ho] at h ⊢
      rw [eOk_call_other _ _ _ _ _ _ ((otherCallee_check ..).trans ho)]
      exact iha _ (lt_of_sle hs (checkExpr_sle _ _ _ _ _)) h
    | member o fld fs ms => exact absurd rfl (hc o fld fs ms)
    | var fname vb vs =>
      cases hg : GlobalB.ofName fname with
      | some g =>
        simp only [checkExpr, hg, eOk, Bool.true_and] at h ⊢
        exact iha f hs h
      | none =>
        cases hl : lookupFn env fname with
        | some g =>
          simp only [checkExpr, hg, hl, eOk, Bool.and_eq_true] at h ⊢
          have hs1 : sid < (recUserCall (recDirectCallee f env.owner g.id) env.owner g.id).stmtEffects.length := hs
          refine ⟨?_, iha _ (lt_of_sle hs1 (SLe.addCallee _ _ _)) h⟩
          have := SLe.callee hs1 ((checkExprs_sle env cur sid args _).trans h) hp
          simpa using this
        | none =>
          simp only [checkExpr, hg, hl, eOk, Bool.true_and] at h ⊢
          exact iha f hs h
  case callMember =>
    intro obj field fs ms args fn s iho iha f hs h
    have ho := checkExpr_sle env cur sid obj f
    cases hi : inferExpr env cur obj with
    | none =>
      simp only [checkExpr, hi, eOk, Bool.and_eq_true] at h ⊢
      exact ⟨iho f hs ((checkExprs_sle env cur sid args _).trans h), iha _ (lt_of_sle hs ho) h⟩
    | some rt =>
      simp only [checkExpr, hi, eOk, Bool.and_eq_true] at h ⊢
      have hm : SLe (checkExpr env cur sid obj f).facts
          (checkMethod env cur sid rt obj field args ms (checkExpr env cur sid obj f).facts).2 :=
        SLe.of_eq (checkMethod_skey _ _ _ _ _ _ _ _ _)
      exact ⟨iho f hs ((hm.trans (checkExprs_sle env cur sid args _)).trans h), iha _ (lt_of_sle hs (ho.trans hm)) h⟩
  case nil => intros; rfl
  case cons =>
    intro e es ihe ihes f hs h
    simp only [checkExprs, eOkList, Bool.and_eq_true] at h ⊢
    exact ⟨ihe f hs ((checkExprs_sle env cur sid es _).trans h), ihes _ (lt_of_sle hs (checkExpr_sle env cur sid e f)) h⟩

theorem checkExprs_own : ∀ (es : List Expr) (f : Facts), sid < f.stmtEffects.length →
    SLe (checkExprs env cur sid es f).facts F →
    eOkList (fun g => p.2.contains g) (fun _ => false) (checkExprs env cur sid es f).val = true :=
  (check_own env cur sid hp).2

end expr

/-- What `ownOkB` fixes of the setting of C03's simulation: no plan, no removed local, and the owner
and callee tables read off the facts `F`. -/
structure OwnSetup (S : Setup) (F : Facts) : Prop where
  skip : ∀ i, S.cfg.skip i = false
  d1 : ∀ l, S.D1 l = false
  d2 : ∀ l, S.D2 l = false
  fnOf : ∀ i p, (skey F)[i]? = some p → S.fnOf i = p.1
  callees : ∀ i p, (skey F)[i]? = some p → S.callees i = p.2

theorem ownSetup_of (root : Block) (F : Facts) :
    OwnSetup (setupOf root F none (fun _ => false) (fun _ => false)) F := by
  refine ⟨fun _ => rfl, fun _ => rfl, fun _ => rfl, ?_, ?_⟩
  · intro i p h
    simp only [skey, List.getElem?_map, Option.map_eq_some_iff] at h
    obtain ⟨e, he, rfl⟩ := h
    simp [setupOf, Analysis.mkCtx, Analysis.Ctx.fnOf, Analysis.Ctx.eff?, he]
  · intro i p h
    simp only [skey, List.getElem?_map, Option.map_eq_some_iff] at h
    obtain ⟨e, he, rfl⟩ := h
    simp [setupOf, Analysis.mkCtx, Analysis.Ctx.callees, Analysis.Ctx.eff?, he]

theorem eOkList_one {X D : Nat → Bool} {e : Expr} (h : eOk X D e = true) : eOkList X D [e] = true := by
  simp [eOkList, h]

section
variable {S : Setup} (q : Nat → Expr → Bool)

/-- `q` is the test `sokB` hands to `storeRuleB` for the expression of a SKIPPED store; an `OwnSetup` skips
nothing (`store_ok`), so every statement of this file holds of any `q`, and `resolveWith_ownOk` puts in the constant `false`
of `ownOkB`. -/
def ownB (S : Setup) (q : Nat → Expr → Bool) (f : Nat) (b : Block) : Bool := sokListB S q f b.stmts

def ownO (S : Setup) (q : Nat → Expr → Bool) (f : Nat) : Option Block → Bool
  | none => true
  | some b => ownB S q f b

theorem sok_ifS (f : Nat) (c : Expr) (t : Block) (e : Option Block) (i : Nat) (sp : Span) :
    sokB S q f (.ifS c t e (some i) sp) = (S.baseB f i [c] && S.otherRuleB i && ownB S q f t && ownO S q f e) := by
  cases t with
  | mk ts tsp =>
    cases e with
    | none => simp [sokB, ownB, ownO, Block.stmts]
    | some b => cases b; simp [sokB, ownB, ownO, Block.stmts]

theorem sok_loop (f : Nat) (c : Expr) (b : Block) (i : Nat) (sp : Span) :
    sokB S q f (.loop c b (some i) sp) = (S.baseB f i [c] && S.otherRuleB i && ownB S q f b) := by
  cases b; simp [sokB, ownB, Block.stmts]

theorem sok_block (f : Nat) (b : Block) (i : Nat) (sp : Span) :
    sokB S q f (.block b (some i) sp) = (S.baseB f i [] && S.otherRuleB i && ownB S q f b) := by
  cases b; simp [sokB, ownB, Block.stmts]

theorem sok_fnDef_some (f : Nat) (n : Bytes) (ns : Span) (ps : List Param) (b : Block) (g i : Nat) (sp : Span) :
    sokB S q f (.fnDef n ns ps b (some g) (some i) sp) = (S.baseB f i [] && S.otherRuleB i && ownB S q g b) := by
  cases b; simp [sokB, ownB, Block.stmts]

theorem sok_fnDef_none (f : Nat) (n : Bytes) (ns : Span) (ps : List Param) (b : Block) (i : Nat) (sp : Span) :
    sokB S q f (.fnDef n ns ps b none (some i) sp) = (S.baseB f i [] && S.otherRuleB i) := by
  cases b; simp [sokB]

end

section stmt
variable {S : Setup} {F : Facts} (hS : OwnSetup S F) (q : Nat → Expr → Bool)
include hS

theorem other_ok (i : Nat) : S.otherRuleB i = true := by simp [Setup.otherRuleB, hS.skip]

theorem store_ok (q' : Expr → Bool) (i : Nat) (isDecl : Bool) (b : Option Nat) (e : Expr) :
    S.storeRuleB q' i isDecl b e = true := by
  simp only [Setup.storeRuleB, hS.skip]
  cases b <;> simp [hS.d1]

theorem base_ok {i f : Nat} {p : Nat × List Nat} {es : List Expr} (hp : (skey F)[i]? = some p) (hpo : p.1 = f)
    (he : eOkList (fun g => p.2.contains g) (fun _ => false) es = true) : S.baseB f i es = true := by
  simp only [Setup.baseB, Bool.and_eq_true, beq_iff_eq]
  refine ⟨by rw [hS.fnOf i p hp]; exact hpo, ?_⟩
  refine eOkList_mono2 (fun g hg => ?_) (fun x hx => ?_) es he
  · rw [hS.callees i p hp]; exact hg
  · rw [hS.d2 x] at hx; cases hx

/-- The expression `e` of a statement, checked in facts `f1` that have the statement's entry as their last (`h1`), when
the steps that end the arm (`joinClass`, `recStmtWrite`, `pushLocal`, which leave `skey` alone: `hk`) lead to facts `g`
below the final ones. -/
theorem own_entry {env : Env} {cur : Scope} {f0 f1 g : Facts} {p : Nat × List Nat}
    (hp : (skey F)[f0.stmtEffects.length]? = some p) (hpo : p.1 = env.owner) (e : Expr)
    (h1 : skey f1 = skey (pushStmt f0 env.owner env.scope))
    (hk : skey g = skey (checkExpr env cur f0.stmtEffects.length e f1).facts) (h : SLe g F) :
    S.baseB env.owner f0.stmtEffects.length [(checkExpr env cur f0.stmtEffects.length e f1).val] = true :=
  have hlen : f1.stmtEffects.length = f0.stmtEffects.length + 1 := by
    rw [← skey_length, h1, skey_length, len_pushStmt]
  base_ok hS hp hpo (eOkList_one ((check_own env cur _ hp).1 e f1 (hlen ▸ Nat.lt_succ_self _) ((SLe.of_eq hk).trans h)))

/-- The statement's own entry `p` in the final facts is found once, where the statement list is taken apart. -/
theorem check_sok :
    (∀ (env : Env) (cur : Cur) (s : Stmt) (f : Facts) (p : Nat × List Nat), (skey F)[f.stmtEffects.length]? = some p →
      p.1 = env.owner → SLe (checkStmt env cur s f).facts F → sokB S q env.owner (checkStmt env cur s f).val = true) ∧
    (∀ (env : Env) (parent : Option Nat) (b : Option Block) (f : Facts),
      SLe (checkOptBlock env parent b f).facts F → ownO S q env.owner (checkOptBlock env parent b f).val = true) ∧
    (∀ (env : Env) (parent : Option Nat) (b : Block) (f : Facts),
      SLe (checkBlock env parent b f).facts F → ownB S q env.owner (checkBlock env parent b f).val = true) ∧
    (∀ (env : Env) (cur : Cur) (ss : List Stmt) (f : Facts),
      SLe (checkStmts env cur ss f).facts F → sokListB S q env.owner (checkStmts env cur ss f).val = true) := by
  -- the case numbers and the order of the names a case introduces: head of `Lemmas/ResolveShape.lean`
  apply checkStmt.mutual_induct_unfolding
    (motive_1 := fun env _ _ f out => ∀ p : Nat × List Nat, (skey F)[f.stmtEffects.length]? = some p → p.1 = env.owner →
      SLe out.facts F → sokB S q env.owner out.val = true)
    (motive_2 := fun env _ _ _ out => SLe out.facts F → ownO S q env.owner out.val = true)
    (motive_3 := fun env _ _ _ out => SLe out.facts F → ownB S q env.owner out.val = true)
    (motive_4 := fun env _ _ _ out => SLe out.facts F → sokListB S q env.owner out.val = true)
  case case1 =>
    intro env cur x xs e _ _ sp f0 sid f1 d1 r f2 ty ent _ p hp hpo h
    simp only [sokB, Bool.and_eq_true]
    exact ⟨own_entry hS hp hpo e rfl ((skey_recStmtWrite _ _ _ _).trans (skey_joinClass _ _ _)) h, store_ok hS _ _ _ _ _⟩
  case case2 =>
    intro env cur x xs e _ _ sp f0 sid f1 d1 r f2 ty _ id f3 p hp hpo h
    simp only [sokB, Bool.and_eq_true]
    exact ⟨own_entry hS hp hpo e rfl ((skey_recStmtWrite _ _ _ _).trans ((skey_pushLocal _ _ _ _ _ _ _).trans (skey_joinClass _ _ _))) h,
      store_ok hS _ _ _ _ _⟩
  case case3 =>
    intro env cur x xs e _ _ sp f0 sid f1 ent _ f2 r p hp hpo h
    simp only [sokB, Bool.and_eq_true]
    exact ⟨own_entry hS hp hpo e ((skey_recCapWrite _ _ _).trans (skey_recStmtWrite _ _ _ _)) (skey_joinClass _ _ _) h,
      store_ok hS _ _ _ _ _⟩
  case case4 =>
    intro env cur x xs e _ _ sp f0 sid f1 _ r p hp hpo h
    simp only [sokB, Bool.and_eq_true]
    exact ⟨own_entry hS hp hpo e rfl (skey_joinClass _ _ _) h, store_ok hS _ _ _ _ _⟩
  case case5 =>
    intro env cur t e _ sp f0 sid f1 rt re f2 p hp hpo h
    simp only [sokB, Bool.and_eq_true]
    refine ⟨base_ok hS hp hpo ?_, other_ok hS _⟩
    have h2 : SLe re.facts F := by
      refine SLe.trans (SLe.of_eq ?_) h
      simp only [f2, skey_joinClass]
      split
      · exact skey_recReadWrite _ _ _ _
      · rfl
    simp only [eOkList, Bool.and_eq_true, and_true]
    have hlt : sid < f1.stmtEffects.length := Nat.lt_of_lt_of_eq (Nat.lt_succ_self _) (len_pushStmt f0 _ _).symm
    exact ⟨(check_own env cur.vars _ hp).1 t f1 hlt ((checkExpr_sle _ _ _ e _).trans h2),
      (check_own env cur.vars _ hp).1 e _ (lt_of_sle hlt (checkExpr_sle _ _ _ t f1)) h2⟩
  case case6 =>
    intro env cur c t e _ sp f0 sid f1 rc d f2 envB rt re iht ihe p hp hpo h
    simp only [sok_ifS, Bool.and_eq_true]
    have hre : SLe rt.facts F := (checkOptBlock_sle _ _ e _).trans h
    exact ⟨⟨⟨own_entry hS hp hpo c rfl (skey_joinClass _ _ _) ((checkBlock_sle envB _ t f2).trans hre), other_ok hS _⟩,
      iht hre⟩, ihe h⟩
  case case7 =>
    intro env cur c b _ sp f0 sid f1 rc d f2 envB rb ih p hp hpo h
    simp only [sok_loop, Bool.and_eq_true]
    exact ⟨⟨own_entry hS hp hpo c rfl (skey_joinClass _ _ _) ((checkBlock_sle envB _ b f2).trans h), other_ok hS _⟩, ih h⟩
  case case8 =>
    intro env cur b _ sp f0 sid f1 rb ih p hp hpo h
    simp only [sok_block, Bool.and_eq_true]
    exact ⟨⟨base_ok hS hp hpo rfl, other_ok hS _⟩, ih h⟩
  case case9 =>
    intro env cur name nsp ps body _ _ sp f0 sid f1 sig _ p hp hpo h
    simp only [sok_fnDef_none, Bool.and_eq_true]
    exact ⟨base_ok hS hp hpo rfl, other_ok hS _⟩
  case case10 =>
    intro env cur name nsp ps body _ _ sp f0 sid f1 sig g _ f2 pscope f3 pr envB rb ih p hp hpo h
    simp only [sok_fnDef_some, Bool.and_eq_true]
    exact ⟨⟨base_ok hS hp hpo rfl, other_ok hS _⟩, ih h⟩
  case case11 =>
    intro env cur _ sp f0 sid f1 d e r p hp hpo h
    simp only [sokB, Bool.and_eq_true]
    exact ⟨own_entry hS hp hpo e rfl (skey_joinClass _ _ _) h, other_ok hS _⟩
  case case12 | case13 | case14 =>
    intros
    simp only [sokB, Bool.and_eq_true]
    exact ⟨base_ok hS ‹_› ‹_› rfl, other_ok hS _⟩
  case case15 =>
    intro env cur e _ sp f0 sid f1 r p hp hpo h
    simp only [sokB, Bool.and_eq_true]
    exact ⟨own_entry hS hp hpo e rfl (skey_joinClass _ _ _) h, other_ok hS _⟩
  case case16 => exact fun env parent ss sp f ih h => ih h
  case case18 => exact fun env parent b f ih h => ih h
  case case20 =>
    intro env cur s ss f r rs ihs ihss h
    have h1 : SLe r.facts F := (checkStmts_sle env ss r.cur r.facts).trans h
    obtain ⟨p, hp, hpo⟩ := SLe.head ((checkStmt_sle env cur s f).trans h1)
    exact Bool.and_eq_true_iff.2 ⟨ihs p hp hpo h1, ihss h⟩
  case case17 | case19 => intros; rfl

theorem checkStmt_own (env : Env) (cur : Cur) : ∀ (s : Stmt) (f : Facts),
    SLe (checkStmt env cur s f).facts F → sokB S q env.owner (checkStmt env cur s f).val = true :=
  fun s f h => by
    obtain ⟨p, hp, hpo⟩ := SLe.head ((checkStmt_sle env cur s f).trans h)
    exact (check_sok hS q).1 env cur s f p hp hpo h

theorem checkStmts_own (env : Env) : ∀ (ss : List Stmt) (cur : Cur) (f : Facts),
    SLe (checkStmts env cur ss f).facts F → sokListB S q env.owner (checkStmts env cur ss f).val = true :=
  fun ss cur f => (check_sok hS q).2.2.2 env cur ss f

theorem checkBlock_own (env : Env) (parent : Option Nat) : ∀ (b : Block) (f : Facts),
    SLe (checkBlock env parent b f).facts F → ownB S q env.owner (checkBlock env parent b f).val = true :=
  fun b f => (check_sok hS q).2.2.1 env parent b f

theorem checkOptBlock_own (env : Env) (parent : Option Nat) : ∀ (b : Option Block) (f : Facts),
    SLe (checkOptBlock env parent b f).facts F → ownO S q env.owner (checkOptBlock env parent b f).val = true :=
  fun b f => (check_sok hS q).2.1 env parent b f

end stmt

/-- The first half of `FactsCoverCalls` (`Props/C06Accepted.lean`), for EVERY input program. -/
theorem resolveWith_ownOk (spanLen : Bool) (q : Block) :
    ownOkB (resolveWith spanLen q).root (resolveWith spanLen q).facts = true := by
  have := checkBlock_own (ownSetup_of (resolveWith spanLen q).root (resolveWith spanLen q).facts) (fun _ _ => false)
    (rootEnv spanLen) none q rootFacts (SLe.refl _)
  exact this

end NaijaVerif.ResolveFacts
