import NaijaVerif.Lemmas.ResolveShape
import NaijaVerif.Lemmas.AstInduction
/-
Every function of `Model/Resolve.lean` changes the facts only through the primitives of its section "Facts bookkeeping".
A history `Steps P f g` is a sequence of steps of a relation `P`: a property each primitive preserves (`Steps.inv`) or a
reflexive-transitive relation each primitive satisfies (`Steps.rel`) holds of the whole resolver without another walk.
The step relations list the same eleven context-free primitives and the three records of a user call (`recStmtCallee`,
`recDirectCallee`, `recUserCall`) in the shape their use needs:
* `PrimE`: the modify-only primitives — the three records among them —, all `checkExpr` uses;
* `PrimS`: `PrimE` (constructor `e`) and the six primitives that push or set an entry, all a statement uses.  It is `PrimE`
  and six, not `PrimN` and the three records, so that a proof by cases over it reads the eight modify-only primitives off
  `LenE` in ONE case `e`;
* `PrimN`: the eleven flat, WITHOUT the three records.  It is what a step relation is asked for (`Walk.prim`): the records
  occur together only (`recCall`), and a history that carries a context cannot take them one by one;
* `PrimSC`: the eleven flat and one constructor `call`, the three records as ONE step that carries its context as
  hypotheses about the facts before it.
Expressions are walked once (`checkExpr_walk`) and statements once, for any `Walk P T` (`checkStmt_walk`); the instances are
`walkS` (here: `PrimS`, no context), `walkC` (`Lemmas/ResolveStructSumWalk.lean`: `PrimSC`) and `walkClt`
(`Lemmas/ResolveFactsRange.lean`).
`LenE` is the first such relation: the modify-only primitives, hence an expression, change the CONTENTS of `stmtEffects`,
`functionDirects` and `userCalls` and nothing else; every projection of the facts that a proof uses as a counter or a key
(`stmtEffects.length`, `locals`, `scopes`; `fkey` of `Lemmas/BridgeFacts.lean`) is read off it.
-/
namespace NaijaVerif.ResolveStruct
open NaijaVerif NaijaVerif.Resolve

inductive PrimE : Facts → Facts → Prop
  | recStmtRead (f : Facts) (o s i : Nat) : PrimE f (recStmtRead f o s i)
  | recStmtWrite (f : Facts) (o s i : Nat) : PrimE f (recStmtWrite f o s i)
  | recStmtCallee (f : Facts) (s g : Nat) : PrimE f (recStmtCallee f s g)
  | joinClass (f : Facts) (s : Nat) (c : ExprClass) : PrimE f (joinClass f s c)
  | recCapRead (f : Facts) (o i : Nat) : PrimE f (recCapRead f o i)
  | recCapWrite (f : Facts) (o i : Nat) : PrimE f (recCapWrite f o i)
  | recDirectCallee (f : Facts) (a b : Nat) : PrimE f (recDirectCallee f a b)
  | recUserCall (f : Facts) (a b : Nat) : PrimE f (recUserCall f a b)

inductive PrimS : Facts → Facts → Prop
  | e {f g : Facts} : PrimE f g → PrimS f g
  | pushStmt (f : Facts) (o s : Nat) : PrimS f (pushStmt f o s)
  | pushLocal (f : Facts) (sl : Bool) (name : Bytes) (o s : Nat) (d : Option Nat) (k : LocalKind) :
      PrimS f (pushLocal f sl name o s d k)
  | pushScope (f : Facts) (p : Option Nat) (o : Nat) : PrimS f (pushScope f p o)
  | pushFunction (f : Facts) (name : Bytes) (np parent scope : Nat) : PrimS f (pushFunction f name np parent scope)
  | setRootScope (f : Facts) (s : Nat) : PrimS f (setRootScope f s)
  | setDefStmt (f : Facts) (fn sid : Nat) : PrimS f (setDefStmt f fn sid)

inductive PrimN : Facts → Facts → Prop
  | recStmtRead (f : Facts) (o s i : Nat) : PrimN f (recStmtRead f o s i)
  | recStmtWrite (f : Facts) (o s i : Nat) : PrimN f (recStmtWrite f o s i)
  | joinClass (f : Facts) (s : Nat) (c : ExprClass) : PrimN f (joinClass f s c)
  | recCapRead (f : Facts) (o i : Nat) : PrimN f (recCapRead f o i)
  | recCapWrite (f : Facts) (o i : Nat) : PrimN f (recCapWrite f o i)
  | pushStmt (f : Facts) (o s : Nat) : PrimN f (pushStmt f o s)
  | pushLocal (f : Facts) (sl : Bool) (name : Bytes) (o s : Nat) (d : Option Nat) (k : LocalKind) :
      PrimN f (pushLocal f sl name o s d k)
  | pushScope (f : Facts) (p : Option Nat) (o : Nat) : PrimN f (pushScope f p o)
  | pushFunction (f : Facts) (name : Bytes) (np parent scope : Nat) : PrimN f (pushFunction f name np parent scope)
  | setRootScope (f : Facts) (s : Nat) : PrimN f (setRootScope f s)
  | setDefStmt (f : Facts) (fn sid : Nat) : PrimN f (setDefStmt f fn sid)

inductive Steps (P : Facts → Facts → Prop) : Facts → Facts → Prop
  | refl (f : Facts) : Steps P f f
  | step {f g h : Facts} : P f g → Steps P g h → Steps P f h

abbrev StepsE := Steps PrimE
abbrev StepsS := Steps PrimS

theorem Steps.trans {P : Facts → Facts → Prop} {a b c : Facts} (h1 : Steps P a b) (h2 : Steps P b c) : Steps P a c := by
  induction h1 with
  | refl => exact h2
  | step hp _ ih => exact .step hp (ih h2)

theorem Steps.one {P : Facts → Facts → Prop} {a b : Facts} (h : P a b) : Steps P a b := .step h (.refl _)

theorem Steps.of_eq {P : Facts → Facts → Prop} {a b : Facts} (h : a = b) : Steps P a b := h ▸ .refl _

theorem Steps.bind {P Q : Facts → Facts → Prop} (hpq : ∀ {a b}, P a b → Steps Q a b) {a b : Facts} (h : Steps P a b) :
    Steps Q a b := by
  induction h with
  | refl => exact .refl _
  | step hp _ ih => exact (hpq hp).trans ih

theorem Steps.toS {a b : Facts} (h : Steps PrimE a b) : Steps PrimS a b := h.bind (fun hp => .one (.e hp))

theorem Steps.inv {P : Facts → Facts → Prop} {I : Facts → Prop} (hI : ∀ a b, P a b → I a → I b) {a b : Facts}
    (h : Steps P a b) : I a → I b := by
  induction h with
  | refl => exact id
  | step hp _ ih => exact fun ha => ih (hI _ _ hp ha)

theorem Steps.rel {P : Facts → Facts → Prop} {R : Facts → Facts → Prop} (hr : ∀ a, R a a)
    (ht : ∀ a b c, R a b → R b c → R a c) (hP : ∀ a b, P a b → R a b) {a b : Facts} (h : Steps P a b) : R a b := by
  induction h with
  | refl => exact hr _
  | step hp _ ih => exact ht _ _ _ (hP _ _ hp) ih

theorem recUse_steps (f : Facts) (o s i : Nat) : StepsE f (recUse f o s i) :=
  .step (.recStmtRead f o s i) (.one (.recCapRead _ o i))

theorem recReadWrite_steps (f : Facts) (o s i : Nat) : StepsE f (recReadWrite f o s i) :=
  .step (.recStmtRead f o s i) (.step (.recStmtWrite _ o s i) (.step (.recCapRead _ o i) (.one (.recCapWrite _ o i))))

theorem recUse_stepsN (f : Facts) (o s i : Nat) : Steps PrimN f (recUse f o s i) :=
  .step (.recStmtRead f o s i) (.one (.recCapRead _ o i))

theorem recReadWrite_stepsN (f : Facts) (o s i : Nat) : Steps PrimN f (recReadWrite f o s i) :=
  .step (.recStmtRead f o s i) (.step (.recStmtWrite _ o s i) (.step (.recCapRead _ o i) (.one (.recCapWrite _ o i))))

/-- The IMMUTABLE part of the statement entries: owner and scope, which `push_stmt_effect` sets and nothing changes.
(`ResolveFacts.skey`, `Lemmas/ResolveFacts.lean`, is the projection to owner and direct callees, which only grows.) -/
def sImm (f : Facts) : List (Nat × Nat) := f.stmtEffects.map (fun e => (e.function, e.scope))

def recCall (f : Facts) (o sid g : Nat) : Facts := recStmtCallee (recUserCall (recDirectCallee f o g) o g) sid g

/-- The hypotheses of `call`: caller and callee are function ids and the statement entry `sid` belongs to the caller. -/
inductive PrimSC : Facts → Facts → Prop
  | recStmtRead (f : Facts) (o s i : Nat) : PrimSC f (recStmtRead f o s i)
  | recStmtWrite (f : Facts) (o s i : Nat) : PrimSC f (recStmtWrite f o s i)
  | joinClass (f : Facts) (s : Nat) (c : ExprClass) : PrimSC f (joinClass f s c)
  | recCapRead (f : Facts) (o i : Nat) : PrimSC f (recCapRead f o i)
  | recCapWrite (f : Facts) (o i : Nat) : PrimSC f (recCapWrite f o i)
  | pushStmt (f : Facts) (o s : Nat) : PrimSC f (pushStmt f o s)
  | pushLocal (f : Facts) (sl : Bool) (name : Bytes) (o s : Nat) (d : Option Nat) (k : LocalKind) :
      PrimSC f (pushLocal f sl name o s d k)
  | pushScope (f : Facts) (p : Option Nat) (o : Nat) : PrimSC f (pushScope f p o)
  | pushFunction (f : Facts) (name : Bytes) (np parent scope : Nat) : PrimSC f (pushFunction f name np parent scope)
  | setRootScope (f : Facts) (s : Nat) : PrimSC f (setRootScope f s)
  | setDefStmt (f : Facts) (fn sid : Nat) : PrimSC f (setDefStmt f fn sid)
  | call (f : Facts) (o sid g : Nat) (hg : g < f.functionDirects.length)
      (hsid : ∃ sc, (sImm f)[sid]? = some (o, sc)) (ho : o < f.functionDirects.length) : PrimSC f (recCall f o sid g)

abbrev StepsC := Steps PrimSC

theorem PrimN.sc : ∀ {f g : Facts}, PrimN f g → PrimSC f g
  | _, _, .recStmtRead f o s i => .recStmtRead f o s i
  | _, _, .recStmtWrite f o s i => .recStmtWrite f o s i
  | _, _, .joinClass f s c => .joinClass f s c
  | _, _, .recCapRead f o i => .recCapRead f o i
  | _, _, .recCapWrite f o i => .recCapWrite f o i
  | _, _, .pushStmt f o s => .pushStmt f o s
  | _, _, .pushLocal f sl name o s d k => .pushLocal f sl name o s d k
  | _, _, .pushScope f p o => .pushScope f p o
  | _, _, .pushFunction f name np parent scope => .pushFunction f name np parent scope
  | _, _, .setRootScope f s => .setRootScope f s
  | _, _, .setDefStmt f fn sid => .setDefStmt f fn sid

theorem sImm_modify (f : Facts) (sid : Nat) (g : StmtEffect → StmtEffect)
    (hg : ∀ e, ((g e).function, (g e).scope) = (e.function, e.scope)) :
    (modifyAt f.stmtEffects sid g).map (fun e => (e.function, e.scope)) = sImm f :=
  modifyAt_map_key _ g hg _ _

theorem sImm_pushStmt (f : Facts) (o s : Nat) : (sImm (pushStmt f o s))[f.stmtEffects.length]? = some (o, s) := by
  simp [sImm, pushStmt]

/-- The modify-only primitives keep `sImm` too (`primE_keeps`); that is no field because it has one user (`primS_pre`,
`Lemmas/ResolveStructSteps.lean`) and the users of `LenE` that compare whole tables (`lenE_fkey`) have no use for it. -/
structure LenE (f g : Facts) : Prop where
  stmts : g.stmtEffects.length = f.stmtEffects.length
  locals : g.locals = f.locals
  scopes : g.scopes = f.scopes
  scopeLocals : g.scopeLocals = f.scopeLocals
  functions : g.functions = f.functions
  directs : g.functionDirects.length = f.functionDirects.length

theorem LenE.refl (f : Facts) : LenE f f := ⟨rfl, rfl, rfl, rfl, rfl, rfl⟩

theorem LenE.trans {a b c : Facts} (h1 : LenE a b) (h2 : LenE b c) : LenE a c :=
  ⟨h2.stmts.trans h1.stmts, h2.locals.trans h1.locals, h2.scopes.trans h1.scopes,
   h2.scopeLocals.trans h1.scopeLocals, h2.functions.trans h1.functions, h2.directs.trans h1.directs⟩

theorem primE_keeps {f g : Facts} (h : PrimE f g) : LenE f g ∧ sImm g = sImm f := by
  cases h with
  | recStmtRead o s i =>
    unfold recStmtRead; split
    · exact ⟨⟨modifyAt_length _ _ _, rfl, rfl, rfl, rfl, rfl⟩, sImm_modify f s _ (fun _ => rfl)⟩
    · exact ⟨LenE.refl f, rfl⟩
  | recStmtWrite o s i =>
    unfold recStmtWrite; split
    · exact ⟨⟨modifyAt_length _ _ _, rfl, rfl, rfl, rfl, rfl⟩, sImm_modify f s _ (fun _ => rfl)⟩
    · exact ⟨LenE.refl f, rfl⟩
  | recStmtCallee s g => exact ⟨⟨modifyAt_length _ _ _, rfl, rfl, rfl, rfl, rfl⟩, sImm_modify f s _ (fun _ => rfl)⟩
  | joinClass s c => exact ⟨⟨modifyAt_length _ _ _, rfl, rfl, rfl, rfl, rfl⟩, sImm_modify f s _ (fun _ => rfl)⟩
  | recCapRead o i =>
    unfold recCapRead
    split
    · exact ⟨LenE.refl f, rfl⟩
    · split
      · exact ⟨LenE.refl f, rfl⟩
      · exact ⟨⟨rfl, rfl, rfl, rfl, rfl, modifyAt_length _ _ _⟩, rfl⟩
  | recCapWrite o i =>
    unfold recCapWrite
    split
    · exact ⟨LenE.refl f, rfl⟩
    · split
      · exact ⟨LenE.refl f, rfl⟩
      · exact ⟨⟨rfl, rfl, rfl, rfl, rfl, modifyAt_length _ _ _⟩, rfl⟩
  | recDirectCallee a b => exact ⟨⟨rfl, rfl, rfl, rfl, rfl, modifyAt_length _ _ _⟩, rfl⟩
  | recUserCall a b => exact ⟨⟨rfl, rfl, rfl, rfl, rfl, rfl⟩, rfl⟩

theorem primE_lenE {f g : Facts} (h : PrimE f g) : LenE f g := (primE_keeps h).1

theorem Steps.lenE {f g : Facts} (h : Steps PrimE f g) : LenE f g :=
  Steps.rel LenE.refl (fun _ _ _ => LenE.trans) (fun _ _ => primE_lenE) h

theorem recCall_steps (f : Facts) (o sid g : Nat) : StepsE f (recCall f o sid g) :=
  .step (.recDirectCallee f o g) (.step (.recUserCall _ o g) (.one (.recStmtCallee _ sid g)))

theorem primSC_steps {f g : Facts} (h : PrimSC f g) : StepsS f g := by
  cases h with
  | recStmtRead o s i => exact .one (.e (.recStmtRead f o s i))
  | recStmtWrite o s i => exact .one (.e (.recStmtWrite f o s i))
  | joinClass s c => exact .one (.e (.joinClass f s c))
  | recCapRead o i => exact .one (.e (.recCapRead f o i))
  | recCapWrite o i => exact .one (.e (.recCapWrite f o i))
  | pushStmt o s => exact .one (.pushStmt f o s)
  | pushLocal sl name o s d k => exact .one (.pushLocal f sl name o s d k)
  | pushScope p o => exact .one (.pushScope f p o)
  | pushFunction name np parent scope => exact .one (.pushFunction f name np parent scope)
  | setRootScope s => exact .one (.setRootScope f s)
  | setDefStmt fn sid => exact .one (.setDefStmt f fn sid)
  | call o sid g _ _ _ => exact (recCall_steps f o sid g).toS

section
variable {P : Facts → Facts → Prop} {C : Facts → Prop} (env : Env) (cur : Scope) (sid : Nat)
  (use : ∀ f i, Steps P f (recUse f env.owner sid i)) (recv : ∀ f i, Steps P f (recReadWrite f env.owner sid i))

include use in
theorem checkSegs_walk (span : Span) : ∀ (segs : List Seg) (f : Facts), Steps P f (checkSegs env cur sid span segs f).facts
  | [], f => .refl f
  | .lit _ :: rest, f => checkSegs_walk span rest f
  | .var n _ :: rest, f => by
      rw [checkSegs]
      cases lookupVar env cur n with
      | some e => exact (use f e.id).trans (checkSegs_walk span rest _)
      | none => exact checkSegs_walk span rest f

include recv in
theorem checkMethod_walk (rt : VType) (obj : Expr) (field : Bytes) (args : List Expr) (ms : Span) (f : Facts) :
    Steps P f (checkMethod env cur sid rt obj field args ms f).2 := by
  unfold checkMethod
  split
  · simp only
    split
    · split
      · exact recv f _
      · exact .refl f
    · exact .refl f
  · exact .refl f

variable (call : ∀ f x g, C f → lookupFn env x = some g → Steps P f (recCall f env.owner sid g.id))
  (mono : ∀ f g, C f → Steps P f g → C g)

include use recv call mono in
/-- One walk for every step relation `P` that has the records of a variable use, of a receiver and, where the context
`C` holds, of a user call; `C` is kept along the history. -/
theorem checkExpr_walk :
    (∀ (e : Expr) (f : Facts), C f → Steps P f (checkExpr env cur sid e f).facts) ∧
    (∀ (es : List Expr) (f : Facts), C f → Steps P f (checkExprs env cur sid es f).facts) := by
  apply Expr.walk
  case index =>
    intro a i _ _ iha ihi f h
    have h1 := iha f h
    exact h1.trans (ihi _ (mono _ _ h h1))
  case str =>
    intro p s f _
    cases p with
    | static => exact .refl f
    | interp segs => exact checkSegs_walk env cur sid use s segs f
  case num => exact fun _ _ f _ => .refl f
  case var =>
    intro v _ s f _
    rw [checkExpr]
    cases lookupVar env cur v with
    | some e => exact use f e.id
    | none => exact .refl f
  case binary =>
    intro _ l r _ ihl ihr f h
    have h1 := ihl f h
    exact h1.trans (ihr _ (mono _ _ h h1))
  case callMember =>
    intro obj field fs ms args fn s iho iha f h
    have h1 := iho f h
    rw [checkExpr]
    cases inferExpr env cur obj with
    | none => exact h1.trans (iha _ (mono _ _ h h1))
    | some rt =>
      have h2 := h1.trans (checkMethod_walk env cur sid recv rt obj field args ms _)
      exact h2.trans (iha _ (mono _ _ h h2))
  case call =>
    intro c args fn s hne ihc iha f h
    cases ho : otherCallee c with
    | true =>
      rw [checkExpr_call_other _ _ _ _ _ _ _ _ ho]
      have h1 := ihc f h
      exact h1.trans (iha _ (mono _ _ h h1))
    | false =>
      cases c with
      | var fname vb vs =>
        rw [checkExpr]
        cases GlobalB.ofName fname with
        | some g => exact iha f h
        | none =>
          cases hl : lookupFn env fname with
          | some g =>
            have h1 := call f fname g h hl
            exact h1.trans (iha _ (mono _ _ h h1))
          | none => exact iha f h
      | member obj field fs ms => exact absurd rfl (hne obj field fs ms)
      | _ => cases ho
  case array => exact fun es _ ih f h => ih f h
  case unary => exact fun _ e _ ih f h => ih f h
  case bool => exact fun _ _ f _ => .refl f
  case member => exact fun o _ _ _ ih f h => ih f h
  case null => exact fun _ f _ => .refl f
  case nil => exact fun f _ => .refl f
  case cons =>
    intro e es ihe ihes f h
    have h1 := ihe f h
    exact h1.trans (ihes _ (mono _ _ h h1))
end

theorem checkExpr_steps_both (env : Env) (cur : Scope) (sid : Nat) :
    (∀ (e : Expr) (f : Facts), StepsE f (checkExpr env cur sid e f).facts) ∧
    (∀ (es : List Expr) (f : Facts), StepsE f (checkExprs env cur sid es f).facts) :=
  have h := checkExpr_walk (C := fun _ => True) env cur sid (fun f i => recUse_steps f _ _ i)
    (fun f i => recReadWrite_steps f _ _ i) (fun f _ g _ _ => recCall_steps f _ _ g.id) (fun _ _ _ _ => trivial)
  ⟨fun e f => h.1 e f trivial, fun es f => h.2 es f trivial⟩

theorem checkExpr_steps (env : Env) (cur : Scope) (sid : Nat) (e : Expr) (f : Facts) :
    StepsE f (checkExpr env cur sid e f).facts := (checkExpr_steps_both env cur sid).1 e f

theorem checkExprs_steps (env : Env) (cur : Scope) (sid : Nat) :
      ∀ (es : List Expr) (f : Facts), StepsE f (checkExprs env cur sid es f).facts :=
  (checkExpr_steps_both env cur sid).2

theorem checkExpr_lenE (env : Env) (cur : Scope) (sid : Nat) (e : Expr) (f : Facts) :
    LenE f (checkExpr env cur sid e f).facts := (checkExpr_steps env cur sid e f).lenE

theorem condF_steps (env : Env) (cur : Cur) (f : Facts) (c : Expr) :
    StepsE (pushStmt f env.owner env.scope) (condF env cur f c) :=
  (checkExpr_steps env cur.vars f.stmtEffects.length c _).trans (.one (.joinClass _ _ _))

/-- `predeclare` is a sequence of `pushFunction`s: every definition whose name has no signature yet gets a signature
with the next function id.  `M sigs f sigs' f'` relates the signatures and facts passed to those returned. -/
theorem predeclare_pushes (env : Env) {M : List FnSig → Facts → List FnSig → Facts → Prop}
    (nil : ∀ sigs f, M sigs f sigs f)
    (push : ∀ name nsp np sigs f sigs' f',
      M (sigs ++ [⟨name, f.functions.length, np, nsp, .dynamic⟩]) (pushFunction f name np env.owner env.scope) sigs' f' →
      M sigs f sigs' f') (ss : List Stmt) (sigs : List FnSig) (f : Facts) :
    M sigs f (predeclare env ss sigs f).sigs (predeclare env ss sigs f).facts := by
  induction ss generalizing sigs f with
  | nil => exact nil sigs f
  | cons s rest ih =>
    cases s with
    | fnDef name nsp ps body _ _ _ =>
      simp only [predeclare]
      split
      · exact ih sigs f
      · exact push name nsp ps.length sigs f _ _ (ih _ _)
    | _ => simp only [predeclare]; exact ih sigs f

/-- What the walk over statements needs of a step relation `P` and of the context `T` in which a statement is
checked: `P` has the context-free primitives `PrimN` and, in the context, the records of a user call; the context is kept
along the history and passes to the body of a definition and to the statements of a block.  `congr` is the constraint on
a context: of the environment it may depend on the signatures in scope and the owner ONLY, since the blocks of an `if`, a
loop or a block statement are checked in an environment that differs in `vars` and `inLoop`. -/
structure Walk (P : Facts → Facts → Prop) (T : Env → Facts → Prop) : Prop where
  prim : ∀ {f g}, PrimN f g → Steps P f g
  call : ∀ {env f0 f x g}, T env f0 → Steps P (pushStmt f0 env.owner env.scope) f → lookupFn env x = some g →
    Steps P f (recCall f env.owner f0.stmtEffects.length g.id)
  mono : ∀ {env f g}, T env f → Steps P f g → T env g
  congr : ∀ {env env' f}, T env f → env'.fns = env.fns → env'.owner = env.owner → T env' f
  fnDef : ∀ {env cur name g f} (f0 : Facts) (ps : List Param), T env f → sigOf env cur name = some g →
    T (fnEnvB env cur f0 g ps) f
  block : ∀ {env parent ss f}, T env (blkPre env parent ss f).facts →
    T (blkEnvBody env parent ss f) (blkPre env parent ss f).facts

section
variable {P : Facts → Facts → Prop} {T : Env → Facts → Prop} (w : Walk P T)
include w

theorem Walk.lift {f g : Facts} (h : Steps PrimN f g) : Steps P f g := h.bind w.prim

/-- An expression of the statement whose entry `pushStmt f0 …` made, checked at any later point `f` of that
statement. -/
theorem Walk.expr {env : Env} {f0 f : Facts} (h : T env f0) (hs : Steps P (pushStmt f0 env.owner env.scope) f)
    (cur : Scope) (e : Expr) : Steps P f (checkExpr env cur f0.stmtEffects.length e f).facts :=
  (checkExpr_walk env cur f0.stmtEffects.length (fun f i => w.lift (recUse_stepsN f _ _ i))
    (fun f i => w.lift (recReadWrite_stepsN f _ _ i)) (fun _ _ _ hf hl => w.call h hf hl)
    (fun _ _ h1 h2 => h1.trans h2)).1 e f hs

theorem Walk.exprJ {env : Env} {f0 f : Facts} (h : T env f0) (hs : Steps P (pushStmt f0 env.owner env.scope) f)
    (cur : Scope) (e : Expr) (c : ExprClass) :
    Steps P f (joinClass (checkExpr env cur f0.stmtEffects.length e f).facts f0.stmtEffects.length c) :=
  (w.expr h hs cur e).trans (w.prim (.joinClass _ _ c))

theorem Walk.declareParams (sl : Bool) (owner scope : Nat) : ∀ (ps : List Param) (sc : Scope) (f : Facts),
    Steps P f (declareParams sl owner scope ps sc f).2.2
  | [] => fun _ f => .refl f
  | p :: ps => fun _ f =>
      (w.prim (.pushLocal f sl p.name owner scope none .parameter)).trans (Walk.declareParams sl owner scope ps _ _)

theorem Walk.blkPre (env : Env) (parent : Option Nat) (ss : List Stmt) (f : Facts) :
    Steps P f (blkPre env parent ss f).facts := by
  refine Steps.trans ?_ (predeclare_pushes _ (M := fun _ f _ f' => Steps P f f') (fun _ f => .refl f)
    (fun name _ np _ f _ _ ih => (w.prim (.pushFunction f name np _ _)).trans ih) ss _ _)
  unfold blkF2; split
  · exact w.lift (.step (.pushScope f parent env.owner) (.one (.setRootScope _ _)))
  · exact w.prim (.pushScope f parent env.owner)

theorem checkStmt_walk :
    (∀ env cur s f, T env f → Steps P (pushStmt f env.owner env.scope) (checkStmt env cur s f).facts) ∧
    (∀ env parent b f, T env f → Steps P f (checkOptBlock env parent b f).facts) ∧
    (∀ env parent b f, T env f → Steps P f (checkBlock env parent b f).facts) ∧
    (∀ env cur ss f, T env f → Steps P f (checkStmts env cur ss f).facts) := by
  -- the case numbers and the order of the names a case introduces: head of `Lemmas/ResolveShape.lean`
  apply checkStmt.mutual_induct_unfolding
    (motive_1 := fun env _ _ f out => T env f → Steps P (pushStmt f env.owner env.scope) out.facts)
    (motive_2 := fun env _ _ f out => T env f → Steps P f out.facts)
    (motive_3 := fun env _ _ f out => T env f → Steps P f out.facts)
    (motive_4 := fun env _ _ f out => T env f → Steps P f out.facts)
  case case1 =>
    intro env cur x xs e _ _ sp f0 sid f1 d1 r f2 ty ent _ h
    exact (w.exprJ h (.refl _) cur.vars e _).trans (w.prim (.recStmtWrite _ _ _ _))
  case case2 =>
    intro env cur x xs e _ _ sp f0 sid f1 d1 r f2 ty _ id f3 h
    exact (w.exprJ h (.refl _) cur.vars e _).trans ((w.prim (.pushLocal _ _ _ _ _ _ _)).trans (w.prim (.recStmtWrite _ _ _ _)))
  case case3 =>
    intro env cur x xs e _ _ sp f0 sid f1 ent _ f2 r h
    have h0 : Steps P f1 f2 := (w.prim (.recStmtWrite _ _ _ _)).trans (w.prim (.recCapWrite _ _ _))
    exact h0.trans (w.exprJ h h0 cur.vars e _)
  case case4 | case11 | case15 => intros; exact w.exprJ ‹_› (.refl _) _ _ _
  case case5 =>
    intro env cur t e _ sp f0 sid f1 rt re f2 h
    have h1 := w.expr h (.refl _) cur.vars t
    refine (h1.trans (w.expr h h1 cur.vars e)).trans ?_
    simp only [f2]
    split
    · exact (w.lift (recReadWrite_stepsN _ _ _ _)).trans (w.prim (.joinClass _ _ _))
    · exact w.prim (.joinClass _ _ _)
  case case6 =>
    intro env cur c t e _ sp f0 sid f1 rc d f2 envB rt re iht ihe h
    have h1 : Steps P f1 f2 := w.exprJ h (.refl _) cur.vars c _
    have hc1 := w.mono h ((w.prim (.pushStmt f0 env.owner env.scope)).trans h1)
    have h2 := iht (w.congr hc1 rfl rfl)
    exact h1.trans (h2.trans (ihe (w.congr (w.mono hc1 h2) rfl rfl)))
  case case7 =>
    intro env cur c b _ sp f0 sid f1 rc d f2 envB rb ihb h
    have h1 : Steps P f1 f2 := w.exprJ h (.refl _) cur.vars c _
    exact h1.trans (ihb (w.congr (w.mono h ((w.prim (.pushStmt f0 env.owner env.scope)).trans h1)) rfl rfl))
  case case8 =>
    intro env cur b _ sp f0 sid f1 rb ihb h
    exact ihb (w.congr (w.mono h (w.prim (.pushStmt f0 env.owner env.scope))) rfl rfl)
  case case9 | case12 => intros; exact w.prim (.joinClass _ _ _)
  case case10 =>
    intro env cur name nsp ps body _ _ sp f0 sid f1 sig g hsig f2 pscope f3 pr envB rb ihb h
    have h1 : Steps P (pushStmt f0 env.owner env.scope) pr.2.2 :=
      (w.lift (.step (.joinClass _ sid .impure) (.step (.setDefStmt _ _ _) (.one (.pushScope _ _ _))))).trans
        (w.declareParams _ _ _ _ _ _)
    exact h1.trans (ihb (w.fnDef f0 ps (w.mono h ((w.prim (.pushStmt f0 env.owner env.scope)).trans h1)) hsig))
  case case13 | case14 | case17 | case19 => intros; exact .refl _
  case case16 =>
    intro env parent ss sp f scope f1 f2 env1 pre sigs r ih h
    have h1 := w.blkPre env parent ss f
    exact h1.trans (ih (w.block (w.mono h h1)))
  case case18 => exact fun env parent b f ih h => ih h
  case case20 =>
    intro env cur s ss f r rs ihs ihss h
    have h1 := (w.prim (.pushStmt f env.owner env.scope)).trans (ihs h)
    exact h1.trans (ihss (w.mono h h1))
end

theorem walkS : Walk PrimS (fun _ _ => True) where
  prim := fun h => primSC_steps h.sc
  call := fun _ _ _ => (recCall_steps _ _ _ _).toS
  mono := fun _ _ => trivial
  congr := fun _ _ _ => trivial
  fnDef := fun _ _ _ _ => trivial
  block := fun _ => trivial

theorem checkStmt_steps' (env : Env) (cur : Cur) (s : Stmt) (f : Facts) :
    StepsS (pushStmt f env.owner env.scope) (checkStmt env cur s f).facts := (checkStmt_walk walkS).1 env cur s f trivial

theorem checkStmts_steps (env : Env) (ss : List Stmt) (cur : Cur) (f : Facts) :
    StepsS f (checkStmts env cur ss f).facts := (checkStmt_walk walkS).2.2.2 env cur ss f trivial

theorem checkBlock_steps (env : Env) (parent : Option Nat) (b : Block) (f : Facts) :
    StepsS f (checkBlock env parent b f).facts := (checkStmt_walk walkS).2.2.1 env parent b f trivial

theorem checkOptBlock_steps (env : Env) (parent : Option Nat) (b : Option Block) (f : Facts) :
    StepsS f (checkOptBlock env parent b f).facts := (checkStmt_walk walkS).2.1 env parent b f trivial

theorem checkStmt_steps (env : Env) (cur : Cur) (s : Stmt) (f : Facts) : StepsS f (checkStmt env cur s f).facts :=
  (Steps.one (.pushStmt f _ _)).trans (checkStmt_steps' env cur s f)

theorem declareParams_steps (sl : Bool) (owner scope : Nat) (ps : List Param) (sc : Scope) (f : Facts) :
    StepsS f (declareParams sl owner scope ps sc f).2.2 := walkS.declareParams sl owner scope ps sc f

theorem resolveWith_steps (spanLen : Bool) (q : Block) : StepsS rootFacts (resolveWith spanLen q).facts :=
  checkBlock_steps (rootEnv spanLen) none q rootFacts

end NaijaVerif.ResolveStruct
