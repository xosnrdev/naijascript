import NaijaVerif.Lemmas.EvalLogic
/-
The instance of `Logic` without invariant and without side condition: a relation `R` between results that
holds at equal leaves and at the two `trap`s and is kept by `Res.bind` passes through the evaluator.  The second
run may differ from the first in the fuel, in the switch `cfg.panics` and in the plan, as long as both plans
prune the same statements and functions; nothing else the evaluator reads changes: the second configuration is
written `cfg.alter p pl`, so that the laws about lookups, host and `std` hold by `rfl`, and a user whose second
configuration is another term (`cfg` itself, `cfg.repaired`, `{ cfg with plan := p }`) meets that shape by eta for
structures.  Used for fuel monotonicity (`Lemmas/EvalFuel.lean`: `Res.le`), the simulation of `cfg` by `cfg.repaired`
(`Lemmas/EvalRepair.lean`: `Sim`), the indifference to plans that prune alike (`Lemmas/LimitsRun.lean`: `Eq`).
-/
namespace NaijaVerif.Eval
open NaijaVerif

variable {N : Type}

def RunCfg.alter (cfg : RunCfg) (p : Bool) (pl : Option Plan) : RunCfg := { cfg with panics := p, plan := pl }

/-- `pl` is the plan of the first run, `pl'` that of the second; each field rewrites the second to the first, the
direction of `StateLaws.prune` and `hoist_congr`. -/
structure SamePrune (pl pl' : Option Plan) : Prop where
  stmt : ∀ sid, Plan.prunesStmt pl' sid = Plan.prunesStmt pl sid
  fn : ∀ fid, Plan.prunesFn pl' fid = Plan.prunesFn pl fid

theorem SamePrune.refl (pl : Option Plan) : SamePrune pl pl := ⟨fun _ => rfl, fun _ => rfl⟩

/-- What a user of `EvalRel.step` proves of `R`: the `RelLaws` of `Logic.ofRel R cfg (cfg.alter p pl)` (below) without
the two fields about `T`, which is `True` there — so `trap` is asked at every site.  `bind`: the continuations need be
related only where the first part succeeds. -/
structure BindRel (R : ∀ {α : Type}, Res N α → Res N α → Prop) (cfg : RunCfg) (p : Bool) (pl : Option Plan) : Prop where
  ok : ∀ {α : Type} (a : α) (st : State N), R (Res.ok a st) (Res.ok a st)
  err : ∀ {α : Type} (k : RtKind) (sp : Span) (st : State N), R (Res.err k sp st : Res N α) (Res.err k sp st)
  trap : ∀ {α : Type} (site : PanicSite) (sp : Span) (st : State N),
    R (trap cfg site sp st : Res N α) (trap (cfg.alter p pl) site sp st)
  bind : ∀ {α β : Type} {r r' : Res N α} {k k' : α → State N → Res N β},
    R r r' → (∀ a st, r = .ok a st → R (k a st) (k' a st)) → R (r.bind k) (r'.bind k')

variable [NumOps N]

def Logic.ofRel (R : ∀ {α : Type}, Res N α → Res N α → Prop) (cfg cfg' : RunCfg) : Logic N cfg cfg' Unit where
  R := R
  T := fun _ => True
  Inv := fun _ _ => True
  Fr := fun _ _ => True
  E := fun _ _ => True
  S := fun _ _ => True
  Ss := fun _ _ => True
  B := fun _ _ => True
  V := fun _ _ => True

/-- `R` between the eight functions at fuels `f`, `g`: read `(h.block () b st trivial trivial).1`. -/
abbrev EvalRel (R : ∀ {α : Type}, Res N α → Res N α → Prop) (cfg cfg' : RunCfg) (f g : Nat) : Prop :=
  (Logic.ofRel (N := N) R cfg cfg').All f g

variable {R : ∀ {α : Type}, Res N α → Res N α → Prop} {cfg : RunCfg} {p : Bool} {pl : Option Plan}

theorem Logic.ofRel_laws (hR : BindRel (N := N) R cfg p pl) (hp : SamePrune cfg.plan pl) :
    (Logic.ofRel (N := N) R cfg (cfg.alter p pl)).Laws where
  toSiteLaws := .ofT fun _ => trivial
  ok := hR.ok
  err := hR.err
  trap _ := hR.trap _
  fixedT _ := trivial
  bind := hR.bind
  kids _ _ _ := trivial
  seg _ _ := ⟨default, trivial⟩
  exprs _ _ _ := trivial
  blocks _ _ _ := trivial
  target _ := ⟨default, trivial⟩
  loop _ := ⟨(), fun _ => Iff.rfl, trivial, trivial⟩
  cons _ := ⟨fun _ => trivial, trivial⟩
  plain _ := trivial
  jumpBrk _ := trivial
  jumpNext _ := trivial
  refl _ := trivial
  trans _ _ := trivial
  host _ _ _ := rfl
  std := rfl
  prune := hp.stmt
  slot _ _ := rfl
  define _ _ _ := ⟨trivial, trivial⟩
  mutE _ _ _ _ _ := ⟨trivial, trivial⟩
  mutS _ _ _ _ := ⟨trivial, trivial⟩
  io _ _ _ _ _ := ⟨trivial, trivial⟩
  enterBlock _ _ := ⟨(), hoist_congr (cfg := cfg) (cfg' := cfg.alter p pl) hp.fn _ _, trivial, trivial,
    fun _ _ _ => ⟨trivial, trivial, fun _ _ => trivial⟩⟩
  callFn _ _ _ := ⟨rfl, fun _ => trivial, fun _ _ _ _ _ _ _ =>
    ⟨fun _ => trivial, fun _ => trivial, fun _ _ => ⟨(), trivial, trivial, fun _ _ _ => ⟨trivial, trivial⟩,
      fun _ _ _ => trivial⟩⟩⟩

theorem EvalRel.step {f g : Nat} (hR : BindRel (N := N) R cfg p pl) (hp : SamePrune cfg.plan pl)
    (h : EvalRel (N := N) R cfg (cfg.alter p pl) f g) : EvalRel (N := N) R cfg (cfg.alter p pl) (f + 1) (g + 1) :=
  Logic.step (Logic.ofRel_laws hR hp) h

end NaijaVerif.Eval
