import NaijaVerif.Lemmas.SpanMapAst
import NaijaVerif.Lemmas.ResolveShape
/-
C10, downstream of the parser: the resolver is natural in the spans of its input.  For any `φ : Span → Span`,
`checkBlock` on the program with its spans mapped, in an environment whose function signatures differ from the
original's in their `nameSpan` only (`SigsRel`), returns the annotated program with its spans mapped, the same
diagnostics with every span mapped, and the same facts (`Facts` holds no span): `checkStmt_map`, `resolveWith_map`.  So no
decision of the resolver reads a span; the name span of a signature of the environment is never looked at.  There is one
lemma per function of the model that takes syntax, and `checkExpr_map` / `checkStmt_map` walk the checker itself with value,
diagnostics and facts in ONE equation (`mapOut`): the facts of one sub-call are the input of the next.

Span erasure is the constant `φ`: `resolveWith_erase` is what C10 uses; `Lemmas/ResolveSpans.lean` uses a `φ` that is the
identity on the spans of a statement.  The end of the file records the constant-map instance of each lemma, function by
function (`checkBlock_erase` …); `resolveWith_erase` does not go through them.
-/
namespace NaijaVerif.SpanErase
open NaijaVerif NaijaVerif.Parse NaijaVerif.Resolve NaijaVerif.SpanMap

def mapSig (φ : Span → Span) (g : FnSig) : FnSig := { g with nameSpan := φ g.nameSpan }

abbrev withFns (env : Env) (fns' : List (List FnSig)) : Env := { env with fns := fns' }

def mapRD (φ : Span → Span) (d : RDiag) : RDiag := ⟨d.rule, φ d.span, d.labels.map φ⟩

def mapOut {α : Type} (φ : Span → Span) (g : α → α) (r : Out α) : Out α := ⟨g r.val, r.ds.map (mapRD φ), r.facts⟩

def mapSOut (φ : Span → Span) (r : SOut) : SOut := ⟨mapStmt φ r.val, r.ds.map (mapRD φ), r.facts, r.cur⟩

def mapSsOut (φ : Span → Span) (r : SsOut) : SsOut := ⟨mapStmts φ r.val, r.ds.map (mapRD φ), r.facts, r.cur⟩

def eraseSig (g : FnSig) : FnSig := { g with nameSpan := zspan }

def eraseFnScopes (fns : List (List FnSig)) : List (List FnSig) := fns.map (·.map eraseSig)

section
variable (φ : Span → Span)

theorem mapRD_at (r : Rule) (s : Span) : mapRD φ (RDiag.at r s) = RDiag.at r (φ s) := rfl

theorem map_mapRD_errIf (b : Bool) (d : RDiag) : (errIf b d).map (mapRD φ) = errIf b (mapRD φ d) := by
  cases b <;> rfl

theorem findFn_map (s : List FnSig) (x : Bytes) :
    findFn (s.map (mapSig φ)) x = (findFn s x).map (mapSig φ) := by
  rw [findFn, List.find?_map]
  rfl

theorem lookupFns_map (x : Bytes) (ss : List (List FnSig)) :
    lookupFns (ss.map (·.map (mapSig φ))) x = (lookupFns ss x).map (mapSig φ) := by
  rw [lookupFns_eq, lookupFns_eq, List.findSome?_map, List.map_findSome?]
  exact congrArg ss.findSome? (funext fun s => findFn_map φ s x)

end

/-- The two tables of signatures differ in their `nameSpan`s only. Said through erasure of the name spans, which is
why `eraseSig` and `eraseFnScopes` stand before the general part. -/
def SigsRel (fns fns' : List (List FnSig)) : Prop := eraseFnScopes fns' = eraseFnScopes fns

theorem SigsRel.erase (fns : List (List FnSig)) : SigsRel fns (eraseFnScopes fns) := by
  show (fns.map (·.map eraseSig)).map (·.map eraseSig) = fns.map (·.map eraseSig)
  rw [List.map_map]
  exact List.map_congr_left fun s _ => List.map_map.trans (List.map_congr_left fun g _ => rfl)

theorem SigsRel.cons (φ : Span → Span) {fns fns' : List (List FnSig)} (h : SigsRel fns fns') (sigs : List FnSig) :
    SigsRel (sigs :: fns) (sigs.map (mapSig φ) :: fns') := by
  simp only [SigsRel, eraseFnScopes, List.map_cons, List.map_map] at h ⊢
  rw [h]
  rfl

theorem sig_cases {o o' : Option FnSig} (h : o'.map eraseSig = o.map eraseSig) :
    (o = none ∧ o' = none) ∨ ∃ g t, o = some g ∧ o' = some { g with nameSpan := t } := by
  cases o with
  | none =>
    cases o' with
    | none => exact .inl ⟨rfl, rfl⟩
    | some _ => cases h
  | some g =>
    cases o' with
    | none => cases h
    | some g' =>
      refine .inr ⟨g, g'.nameSpan, rfl, congrArg some ?_⟩
      cases g; cases g'
      simp only [Option.map_some, Option.some.injEq, eraseSig, FnSig.mk.injEq] at h
      obtain ⟨rfl, rfl, rfl, _, rfl⟩ := h
      rfl

theorem findFn_rel {s s' : List FnSig} (h : s'.map eraseSig = s.map eraseSig) (x : Bytes) :
    (findFn s x = none ∧ findFn s' x = none) ∨ ∃ g t, findFn s x = some g ∧ findFn s' x = some { g with nameSpan := t } :=
  sig_cases (((findFn_map (fun _ => zspan) s' x).symm.trans (congrArg (findFn · x) h)).trans
    (findFn_map (fun _ => zspan) s x))

theorem lookupFn_rel {env : Env} {fns' : List (List FnSig)} (hf : SigsRel env.fns fns') (x : Bytes) :
    (lookupFn env x = none ∧ lookupFn (withFns env fns') x = none) ∨
      ∃ g t, lookupFn env x = some g ∧ lookupFn (withFns env fns') x = some { g with nameSpan := t } :=
  sig_cases (((lookupFns_map (fun _ => zspan) x fns').symm.trans (congrArg (lookupFns · x) hf)).trans
    (lookupFns_map (fun _ => zspan) x env.fns))

section
variable (φ : Span → Span)

theorem inferExprSh_map (sh : Shadow) {env : Env} {fns' : List (List FnSig)} (hf : SigsRel env.fns fns')
    (cur : Scope) : ∀ e : Expr, inferExprSh sh (withFns env fns') cur (mapExpr φ e) = inferExprSh sh env cur e := by
  -- `Expr.walk` proves a statement about expression lists as well; this function has no list companion, so that
  -- statement is `True` (likewise in `literalType_map`, `exprRootLocal_map`, `isVarRooted_map`)
  refine (?_ : _ ∧ ∀ _ : List Expr, True).1
  apply Expr.walk
  case binary => intro op l r _ hl hr; simp only [mapExpr, inferExprSh, hl, hr]; rfl
  case unary => intro op e _ he; simp only [mapExpr, inferExprSh, he]
  case callMember => intro o fld _ _ _ _ _ ho _; simp only [mapExpr, inferExprSh, ho]
  case call =>
    intro c _ _ _ hc _ _
    cases c with
    | var fname _ _ =>
      simp only [mapExpr, inferExprSh]
      cases GlobalB.ofName fname with
      | some g => rfl
      | none =>
        dsimp only
        split
        · rfl
        · rcases lookupFn_rel hf fname with ⟨h, h'⟩ | ⟨g, t, h, h'⟩ <;> rw [h, h'] <;> rfl
    | member o fld fs ms => exact absurd rfl (hc o fld fs ms)
    | _ => rfl
  case nil => trivial
  case cons => intros; trivial
  all_goals intros; rfl

theorem inferExpr_map {env : Env} {fns' : List (List FnSig)} (hf : SigsRel env.fns fns') (cur : Scope) (e : Expr) :
    inferExpr (withFns env fns') cur (mapExpr φ e) = inferExpr env cur e := by
  rw [← inferExprSh_nil, ← inferExprSh_nil, inferExprSh_map φ {} hf]

theorem literalType_map : ∀ e : Expr, literalType (mapExpr φ e) = literalType e := by
  refine (?_ : _ ∧ ∀ _ : List Expr, True).1
  apply Expr.walk
  case binary => intro op l r _ hl hr; simp only [mapExpr, literalType, hl, hr]
  case unary => intro op e _ he; simp only [mapExpr, literalType, he]
  case nil => trivial
  case cons => intros; trivial
  all_goals intros; rfl

theorem segsClass_withFns (env : Env) (fns' : List (List FnSig)) (cur : Scope) (fx : Facts) (segs : List Seg) :
    Resolve.segsClass (withFns env fns') cur fx segs = Resolve.segsClass env cur fx segs := by
  induction segs with
  | nil => rfl
  | cons s ss ih =>
    cases s with
    | lit _ => exact ih
    | var v _ => exact congrArg ((varReadClass env cur fx v).join ·) ih

theorem classifyExpr_map {env : Env} {fns' : List (List FnSig)} (hf : SigsRel env.fns fns') (cur : Scope) (fx : Facts) :
    (∀ e : Expr, classifyExpr (withFns env fns') cur fx (mapExpr φ e) = classifyExpr env cur fx e) ∧
    (∀ es : List Expr, classifyExprs (withFns env fns') cur fx (mapExprs φ es) = classifyExprs env cur fx es) := by
  apply Expr.walk
  case str =>
    intro p _
    cases p with
    | static _ => rfl
    | interp _ => simp only [mapExpr, classifyExpr, segsClass_withFns]
  case array => intro es _ h; simp only [mapExpr, classifyExpr, h]
  case index => intro a i _ _ ha hi; simp only [mapExpr, classifyExpr, ha, hi]
  case binary =>
    intro op l r s hl hr
    have h := literalType_map φ (.binary op l r s)
    simp only [mapExpr] at h
    simp only [mapExpr, classifyExpr, hl, hr, h]
  case unary =>
    intro op e s he
    have h := literalType_map φ (.unary op e s)
    simp only [mapExpr] at h
    simp only [mapExpr, classifyExpr, he, h]
  case member => intro o _ _ _ ho; simp only [mapExpr, classifyExpr, ho]
  case callMember => intro o fld _ _ args _ _ ho ha; simp only [mapExpr, classifyExpr, ha, ho]
  case call =>
    intro c args _ _ hc _ ha
    cases c with
    | var fname _ _ =>
      have hh : (mapExprs φ args).head?.bind literalType = args.head?.bind literalType := by
        cases args with
        | nil => rfl
        | cons e es => exact literalType_map φ e
      simp only [mapExpr, classifyExpr, ha, hh]
      rcases lookupFn_rel hf fname with ⟨h, h'⟩ | ⟨g, t, h, h'⟩ <;> rw [h, h'] <;> rfl
    | member o fld fs ms => exact absurd rfl (hc o fld fs ms)
    | _ => simp only [mapExpr, classifyExpr, ha]
  case cons => intro e es he hes; simp only [mapExprs, classifyExprs, he, hes]
  all_goals intros; rfl

theorem condClass_map {env : Env} {fns' : List (List FnSig)} (hf : SigsRel env.fns fns') (cur : Scope) (fx : Facts)
    (c : Expr) : Resolve.condClass (withFns env fns') cur fx (mapExpr φ c) = Resolve.condClass env cur fx c := by
  simp only [Resolve.condClass, (classifyExpr_map φ hf cur fx).1, literalType_map]

theorem exprRootLocal_map (env : Env) (fns' : List (List FnSig)) (cur : Scope) :
    ∀ e : Expr, exprRootLocal (withFns env fns') cur (mapExpr φ e) = exprRootLocal env cur e := by
  refine (?_ : _ ∧ ∀ _ : List Expr, True).1
  apply Expr.walk
  case index => intro a _ _ _ ha _; simp only [mapExpr, exprRootLocal, ha]
  case member => intro a _ _ _ ha; simp only [mapExpr, exprRootLocal, ha]
  case nil => trivial
  case cons => intros; trivial
  all_goals intros; rfl

theorem isVarRooted_map : ∀ e : Expr, isVarRooted (mapExpr φ e) = isVarRooted e := by
  refine (?_ : _ ∧ ∀ _ : List Expr, True).1
  apply Expr.walk
  case index => intro a _ _ _ ha _; simp only [mapExpr, isVarRooted, ha]
  case member => intro a _ _ _ ha; simp only [mapExpr, isVarRooted, ha]
  case nil => trivial
  case cons => intros; trivial
  all_goals intros; rfl

theorem checkSegs_map (env : Env) (fns' : List (List FnSig)) (cur : Scope) (sid : Nat) (sp : Span) :
    ∀ (segs : List Seg) (f : Facts),
      checkSegs (withFns env fns') cur sid (φ sp) segs f = mapOut φ id (checkSegs env cur sid sp segs f)
  | [], f => rfl
  | .lit s :: rest, f => by
    simp only [checkSegs, checkSegs_map env fns' cur sid sp rest f, mapOut, id]
  | .var n b :: rest, f => by
    simp only [checkSegs, show lookupVar (withFns env fns') cur n = lookupVar env cur n from rfl]
    cases lookupVar env cur n with
    | some e => simp only [checkSegs_map env fns' cur sid sp rest, mapOut, id]
    | none => simp only [checkSegs_map env fns' cur sid sp rest f, mapOut, id, List.map_cons, mapRD_at]

theorem argLoop_map {env : Env} {fns' : List (List FnSig)} (hf : SigsRel env.fns fns') (cur : Scope)
    (P : Option VType → Bool) (r : Rule) (ms : Span) (n : Nat) (args : List Expr) :
    (((mapExprs φ args).take n).map fun a =>
        errIf (P (inferExpr (withFns env fns') cur a)) (RDiag.at r (φ ms))).flatten
      = (((args.take n).map fun a => errIf (P (inferExpr env cur a)) (RDiag.at r ms)).flatten).map (mapRD φ) := by
  simp only [mapExprs_eq_map, ← List.map_take, List.map_flatten, List.map_map, Function.comp_def,
    inferExpr_map φ hf, map_mapRD_errIf, mapRD_at]

theorem argDiags_map {env : Env} {fns' : List (List FnSig)} (hf : SigsRel env.fns fns') (cur : Scope) (ck : ArgCheck)
    (args : List Expr) (ms : Span) :
    argDiags (withFns env fns') cur ck (mapExprs φ args) (φ ms)
      = (argDiags env cur ck args ms).map (mapRD φ) := by
  cases ck <;> simp only [argDiags, mapExprs_length, List.map_nil]
  · exact argLoop_map φ hf cur (fun t => !stringArgOk t) _ ms 1 args
  · by_cases h : args.length ≥ 2
    · rw [if_pos h, if_pos h]; exact argLoop_map φ hf cur (fun t => !stringArgOk t) _ ms 1 args
    · rw [if_neg h, if_neg h]; rfl
  · exact argLoop_map φ hf cur (fun t => !numberArgOk t) _ ms 1 args
  · exact argLoop_map φ hf cur (fun t => !stringArgOk t) _ ms 2 args
  · exact argLoop_map φ hf cur (fun t => !numberArgOk t) _ ms 2 args

theorem checkMethod_map {env : Env} {fns' : List (List FnSig)} (hf : SigsRel env.fns fns') (cur : Scope) (sid : Nat)
    (rt : VType) (obj : Expr) (field : Bytes) (args : List Expr) (ms : Span) (f : Facts) :
    checkMethod (withFns env fns') cur sid rt (mapExpr φ obj) field (mapExprs φ args) (φ ms) f
      = ((checkMethod env cur sid rt obj field args ms f).1.map (mapRD φ),
         (checkMethod env cur sid rt obj field args ms f).2) := by
  simp only [checkMethod, exprRootLocal_map, mapExprs_length, argDiags_map φ hf cur _ args ms]
  cases (MemberKind.ofType rt).bind (fun k => memberOf k field) <;>
    simp only [List.map_append, map_mapRD_errIf, mapRD_at]

theorem otherCallee_map (c : Expr) : otherCallee (mapExpr φ c) = otherCallee c := by
  cases c <;> rfl

theorem checkExpr_map {env : Env} {fns' : List (List FnSig)} (hf : SigsRel env.fns fns') (cur : Scope) (sid : Nat) :
    (∀ (e : Expr) (f : Facts),
      checkExpr (withFns env fns') cur sid (mapExpr φ e) f = mapOut φ (mapExpr φ) (checkExpr env cur sid e f)) ∧
    (∀ (es : List Expr) (f : Facts),
      checkExprs (withFns env fns') cur sid (mapExprs φ es) f = mapOut φ (mapExprs φ) (checkExprs env cur sid es f)) := by
  have hI := inferExpr_map φ hf cur
  apply Expr.walk
  case str =>
    intro p s f
    cases p with
    | static _ => rfl
    | interp segs => simp only [mapExpr, checkExpr, mapOut, checkSegs_map φ env fns' cur sid s segs f, id]
  case array => intro es s h f; simp only [mapExpr, checkExpr, mapOut, h f]
  case index =>
    intro a i isp s ha hi f
    simp only [mapExpr, checkExpr, mapOut, ha f, hi, hI, List.map_append, map_mapRD_errIf, mapRD_at]
  case var =>
    intro v _ s f
    simp only [mapExpr, checkExpr, mapOut, show lookupVar (withFns env fns') cur v = lookupVar env cur v from rfl]
    cases lookupVar env cur v <;> simp only [mapExpr, List.map_nil, List.map_cons, mapRD_at]
  case binary =>
    intro op l r s hl hr f
    simp only [mapExpr, checkExpr, mapOut, hl f, hr, hI, List.map_append, map_mapRD_errIf, mapRD_at]
  case unary =>
    intro op e s he f
    simp only [mapExpr, checkExpr, mapOut, he f, hI, List.map_append, map_mapRD_errIf, mapRD_at]
  case member =>
    intro o fld fs s ho f
    simp only [mapExpr, checkExpr, mapOut, ho f, List.map_append, List.map_cons, List.map_nil, mapRD_at]
  case callMember =>
    intro obj field fs ms args fn s ho ha f
    simp only [mapExpr, checkExpr, ho f, hI, mapOut]
    cases inferExpr env cur obj with
    | none => simp only [ha, mapOut, List.map_append, List.map_nil]
    | some rt => simp only [checkMethod_map φ hf cur sid rt obj field args ms, ha, mapOut, List.map_append]
  case call =>
    intro c args fn s hc hcallee ha f
    cases hco : otherCallee c with
    | true =>
      rw [mapExpr, checkExpr_call_other _ _ _ _ _ _ _ _ ((otherCallee_map φ c).trans hco),
        checkExpr_call_other _ _ _ _ _ _ _ _ hco]
      simp only [hcallee, ha, mapOut, mapExpr, List.map_append, List.map_cons, List.map_nil, mapRD_at]
    | false =>
      cases c with
      | var fname vb vs =>
        simp only [mapExpr, checkExpr, mapExprs_length]
        cases GlobalB.ofName fname with
        | some g =>
          simp only [mapOut, ha f, mapExpr, List.map_append, map_mapRD_errIf, mapRD_at]
          congr 2
          -- the type check of the first argument, made for `command` only: decided by `g` and by whether `args` is empty
          cases g <;> cases args <;>
            simp only [mapExprs, hI, List.map_nil, map_mapRD_errIf, mapRD_at]
        | none =>
          rcases lookupFn_rel hf fname with ⟨h, h'⟩ | ⟨g, t, h, h'⟩
          · simp only [h, h', mapOut, mapExpr, ha f, List.map_cons, mapRD_at]
          · simp only [h, h', mapOut, mapExpr, List.map_append, map_mapRD_errIf, mapRD_at, ha]
      | member o fld fs ms => exact absurd rfl (hc o fld fs ms)
      | _ => cases hco
  case cons =>
    intro e es he hes f
    simp only [mapExprs, checkExprs, mapOut, he f, hes, List.map_append]
  all_goals intros; rfl

theorem collectRets_map (sh : Shadow) {env : Env} {fns' : List (List FnSig)} (hf : SigsRel env.fns fns') (cur : Scope) :
    (∀ s : Stmt, collectRets sh (withFns env fns') cur (mapStmt φ s) = collectRets sh env cur s) ∧
    (∀ ss : List Stmt, collectRetsL sh (withFns env fns') cur (mapStmts φ ss) = collectRetsL sh env cur ss) ∧
    (∀ b : Block, collectRetsB sh (withFns env fns') cur (mapBlock φ b) = collectRetsB sh env cur b) ∧
    (∀ o : Option Block, collectRetsO sh (withFns env fns') cur (o.map (mapBlock φ)) = collectRetsO sh env cur o) := by
  apply Stmt.walk
  case ifS => intro c t e _ _ ht he; rw [mapStmt_ifS, collectRets, collectRets, ht, he]
  case loop => intro c b _ _ hb; exact hb
  case block => intro b _ _ hb; exact hb
  case ret =>
    intro e _ _
    cases e with
    | none => rfl
    | some e => simp only [mapStmt, collectRets, inferExprSh_map φ sh hf]
  case mk => intro ss _ h; exact h
  case some => intro b hb; exact hb
  case cons => intro s ss hs hss; rw [mapStmts, collectRetsL, collectRetsL, hs, hss]
  all_goals intros; rfl

theorem bodyNames_map (fns : Bool) :
    (∀ s : Stmt, bodyNames fns (mapStmt φ s) = bodyNames fns s) ∧
    (∀ ss : List Stmt, bodyNamesL fns (mapStmts φ ss) = bodyNamesL fns ss) ∧
    (∀ b : Block, bodyNamesB fns (mapBlock φ b) = bodyNamesB fns b) ∧
    (∀ o : Option Block, bodyNamesO fns (o.map (mapBlock φ)) = bodyNamesO fns o) := by
  apply Stmt.walk
  case ifS => intro c t e _ _ ht he; rw [mapStmt_ifS, bodyNames, bodyNames, ht, he]
  case loop => intro c b _ _ hb; exact hb
  case block => intro b _ _ hb; exact hb
  case ret => intro e _ _; cases e <;> rfl
  case mk => intro ss _ h; exact h
  case some => intro b hb; exact hb
  case cons => intro s ss hs hss; rw [mapStmts, bodyNamesL, bodyNamesL, hs, hss]
  all_goals intros; rfl

theorem ownMakes_map : ∀ ss : List Stmt, ownMakes (mapStmts φ ss) = ownMakes ss
  | [] => rfl
  | s :: ss => by
    have ih := ownMakes_map ss
    cases s with
    | assign x _ _ _ _ _ => exact congrArg (x :: ·) ih
    | ifS c t e _ _ => cases e <;> exact ih
    | ret e _ _ => cases e <;> exact ih
    | _ => exact ih

theorem shadowOf_map (env : Env) (fns' : List (List FnSig)) (makes : List Bytes) (ps : List Param) (body : Block) :
    shadowOf (withFns env fns') makes (ps.map (mapParam φ)) (mapBlock φ body) = shadowOf env makes ps body := by
  simp only [shadowOf, (bodyNames_map φ _).2.2.1, List.map_map, Function.comp_def, mapParam]

theorem inferRet_map {env : Env} {fns' : List (List FnSig)} (hf : SigsRel env.fns fns') (sh : Shadow) (body : Block) :
    inferRet (withFns env fns') sh (mapBlock φ body) = inferRet env sh body := by
  simp only [inferRet, (collectRets_map φ sh hf []).2.2.1]

theorem paramDiags_map : ∀ (seen : List Bytes) (ps : List Param),
    paramDiags seen (ps.map (mapParam φ)) = (paramDiags seen ps).map (mapRD φ)
  | _, [] => rfl
  | seen, p :: ps => by
    simp only [List.map_cons, paramDiags, paramDiags_map _ ps, mapParam, List.map_append, map_mapRD_errIf, mapRD_at]

def mapPB (φ : Span → Span) (b : List Param × Block) : List Param × Block := (b.1.map (mapParam φ), mapBlock φ b.2)

def mapPre (φ : Span → Span) (r : Pre) : Pre :=
  ⟨r.sigs.map (mapSig φ), r.bodies.map (mapPB φ), r.ds.map (mapRD φ), r.facts⟩

theorem predeclare_map (env : Env) (fns' : List (List FnSig)) : ∀ (ss : List Stmt) (sigs : List FnSig) (f : Facts),
    predeclare (withFns env fns') (mapStmts φ ss) (sigs.map (mapSig φ)) f = mapPre φ (predeclare env ss sigs f)
  | [], sigs, f => rfl
  | s :: rest, sigs, f => by
    cases s with
    | fnDef name nsp ps body _ _ _ =>
      simp only [mapStmts, mapStmt, predeclare, findFn_map, List.length_map]
      cases findFn sigs name with
      | some ex =>
        simp only [Option.map_some, predeclare_map env fns' rest sigs f, mapPre, List.map_append,
          map_mapRD_errIf, mapRD_at, List.map_cons, List.map_nil]
        rfl
      | none =>
        have h := predeclare_map env fns' rest (sigs ++ [⟨name, f.functions.length, ps.length, nsp, .dynamic⟩])
          (pushFunction f name ps.length env.owner env.scope)
        rw [List.map_append] at h
        simp only [Option.map_none, mapPre, List.map_append, map_mapRD_errIf, mapRD_at, List.map_cons,
          paramDiags_map]
        exact congrArg (fun r : Pre => (⟨r.sigs, _ :: r.bodies, _ ++ r.ds, r.facts⟩ : Pre)) h
    | ifS c t e _ _ => cases e <;> exact predeclare_map env fns' rest sigs f
    | ret e _ _ => cases e <;> exact predeclare_map env fns' rest sigs f
    | _ => exact predeclare_map env fns' rest sigs f

theorem retPass_map {env : Env} {fns' : List (List FnSig)} (hf : SigsRel env.fns fns') (makes : List Bytes) :
    ∀ (bs : List (List Param × Block)) (i : Nat) (sigs : List FnSig) (ch : Bool),
      retPass (withFns env fns') makes (bs.map (mapPB φ)) i (sigs.map (mapSig φ)) ch
        = ((retPass env makes bs i sigs ch).1.map (mapSig φ), (retPass env makes bs i sigs ch).2)
  | [], _, sigs, ch => rfl
  | (ps, body) :: bs, i, sigs, ch => by
    simp only [List.map_cons, mapPB, retPass, shadowOf_map, List.getElem?_map,
      inferRet_map φ (env := { env with fns := sigs :: env.fns }) (hf.cons φ sigs)]
    cases sigs[i]? with
    | none => exact retPass_map hf makes bs (i + 1) sigs ch
    | some g =>
      simp only [Option.map_some, show (mapSig φ g).ret = g.ret from rfl]
      generalize inferRet _ _ body = rt
      split
      · exact retPass_map hf makes bs (i + 1) sigs ch
      · rw [← modifyAt_map (mapSig φ) (fun g => { g with ret := rt }) (fun g => { g with ret := rt }) (fun _ => rfl)]
        exact retPass_map hf makes bs (i + 1) _ true

theorem retIter_map {env : Env} {fns' : List (List FnSig)} (hf : SigsRel env.fns fns') (makes : List Bytes)
    (bs : List (List Param × Block)) :
    ∀ (n : Nat) (sigs : List FnSig),
      retIter (withFns env fns') makes (bs.map (mapPB φ)) n (sigs.map (mapSig φ))
        = (retIter env makes bs n sigs).map (mapSig φ)
  | 0, sigs => rfl
  | n + 1, sigs => by
    simp only [retIter, retPass_map φ hf]
    split
    · exact retIter_map hf makes bs n _
    · rfl

theorem declareParams_map (spanLen : Bool) (owner scope : Nat) :
    ∀ (ps : List Param) (sc : Scope) (f : Facts),
      declareParams spanLen owner scope (ps.map (mapParam φ)) sc f
        = ((declareParams spanLen owner scope ps sc f).1.map (mapParam φ),
           (declareParams spanLen owner scope ps sc f).2.1, (declareParams spanLen owner scope ps sc f).2.2)
  | [], sc, f => rfl
  | p :: ps, sc, f => by
    simp only [List.map_cons, declareParams, declareParams_map spanLen owner scope ps]
    rfl

theorem checkStmt_map :
    (∀ (s : Stmt) (env : Env) (fns' : List (List FnSig)) (cur : Cur) (f0 : Facts), SigsRel env.fns fns' →
      checkStmt (withFns env fns') cur (mapStmt φ s) f0 = mapSOut φ (checkStmt env cur s f0)) ∧
    (∀ (ss : List Stmt) (env : Env) (fns' : List (List FnSig)) (cur : Cur) (f : Facts), SigsRel env.fns fns' →
      checkStmts (withFns env fns') cur (mapStmts φ ss) f = mapSsOut φ (checkStmts env cur ss f)) ∧
    (∀ (b : Block) (env : Env) (fns' : List (List FnSig)) (parent : Option Nat) (f : Facts), SigsRel env.fns fns' →
      checkBlock (withFns env fns') parent (mapBlock φ b) f = mapOut φ (mapBlock φ) (checkBlock env parent b f)) ∧
    (∀ (o : Option Block) (env : Env) (fns' : List (List FnSig)) (parent : Option Nat) (f : Facts),
      SigsRel env.fns fns' →
      checkOptBlock (withFns env fns') parent (o.map (mapBlock φ)) f
        = mapOut φ (Option.map (mapBlock φ)) (checkOptBlock env parent o f)) := by
  apply Stmt.walk
  case assign =>
    intro x xs e b sid sp env fns' cur f0 hf
    have hE := fun cur sid => (checkExpr_map φ hf cur sid).1
    have hC := fun cur fx => (classifyExpr_map φ hf cur fx).1
    simp only [mapStmt, checkStmt, mapSOut, hE, mapOut, hC, inferExpr_map φ hf]
    cases findVar cur.vars x <;> simp only [mapStmt, List.map_append, map_mapRD_errIf, mapRD_at]
  case assignExisting =>
    intro x xs e b sid sp env fns' cur f0 hf
    have hE := fun cur sid => (checkExpr_map φ hf cur sid).1
    have hC := fun cur fx => (classifyExpr_map φ hf cur fx).1
    simp only [mapStmt, checkStmt, mapSOut,
      show lookupVar (withFns env fns') cur.vars x = lookupVar env cur.vars x from rfl]
    cases lookupVar env cur.vars x <;> simp only [mapStmt, hE, mapOut, hC, List.map_cons, mapRD_at]
  case assignIndex =>
    intro t e sid sp env fns' cur f0 hf
    have hE := fun cur sid => (checkExpr_map φ hf cur sid).1
    simp only [mapStmt, checkStmt, mapSOut, hE, mapOut, exprRootLocal_map, isVarRooted_map,
      List.map_append, map_mapRD_errIf, mapRD_at]
  case ifS =>
    intro c t e sid sp ht he env fns' cur f0 hf
    have hE := fun cur sid => (checkExpr_map φ hf cur sid).1
    rw [mapStmt_ifS]
    simp only [checkStmt, mapSOut, hE, mapOut, inferExpr_map φ hf, condClass_map φ hf, mapExpr_span,
      ht { env with vars := cur.vars :: env.vars } fns' _ _ hf,
      he { env with vars := cur.vars :: env.vars } fns' _ _ hf, mapStmt_ifS, List.map_append, map_mapRD_errIf,
      mapRD_at]
  case loop =>
    intro c b sid sp hb env fns' cur f0 hf
    have hE := fun cur sid => (checkExpr_map φ hf cur sid).1
    simp only [mapStmt, checkStmt, mapSOut, hE, mapOut, inferExpr_map φ hf, condClass_map φ hf, mapExpr_span,
      hb { env with vars := cur.vars :: env.vars, inLoop := env.inLoop + 1 } fns' _ _ hf, List.map_append,
      map_mapRD_errIf, mapRD_at]
  case block =>
    intro b sid sp hb env fns' cur f0 hf
    simp only [mapStmt, checkStmt, mapSOut, hb { env with vars := cur.vars :: env.vars } fns' _ _ hf, mapOut]
  case fnDef =>
    intro name nsp ps body fn sid sp hb env fns' cur f0 hf
    simp only [mapStmt, checkStmt, declareParams_map]
    cases cur.seenFns.contains name with
    | true => simp only [if_true, mapSOut, mapStmt, List.map_nil]
    | false =>
      simp only [Bool.false_eq_true, if_false]
      cases hfn : env.fns with
      | nil =>
        cases fns' with
        | nil => simp only [mapSOut, mapStmt, List.map_nil]
        | cons _ _ => rw [hfn] at hf; cases hf
      | cons own rest =>
        cases fns' with
        | nil => rw [hfn] at hf; cases hf
        | cons own' rest' =>
          have ho : own'.map eraseSig = own.map eraseSig := by rw [hfn] at hf; exact (List.cons.inj hf).1
          rcases findFn_rel ho name with ⟨h, h'⟩ | ⟨g, t, h, h'⟩
          · simp only [h, h', mapSOut, mapStmt, List.map_nil]
          · simp only [h, h', mapSOut, mapStmt, mapOut,
              hb { env with vars := _ :: cur.vars :: env.vars, curFn := some g.id, owner := g.id, inLoop := 0,
                            scope := _ } (own' :: rest') _ _ hf, ← hfn]
  case ret =>
    intro e sid sp env fns' cur f0 hf
    have hE := fun cur sid => (checkExpr_map φ hf cur sid).1
    have hC := fun cur fx => (classifyExpr_map φ hf cur fx).1
    rw [mapStmt_ret]
    cases e with
    | none => simp only [Option.map_none, checkStmt, mapSOut, mapStmt, map_mapRD_errIf, mapRD_at]
    | some e =>
      simp only [Option.map_some, checkStmt, mapSOut, mapStmt, hE, mapOut, hC, List.map_append, map_mapRD_errIf,
        mapRD_at]
  case brk =>
    intro sid sp env fns' cur f0 _
    simp only [mapStmt, checkStmt, mapSOut, map_mapRD_errIf, mapRD_at]
  case cont =>
    intro sid sp env fns' cur f0 _
    simp only [mapStmt, checkStmt, mapSOut, map_mapRD_errIf, mapRD_at]
  case expr =>
    intro e sid sp env fns' cur f0 hf
    have hE := fun cur sid => (checkExpr_map φ hf cur sid).1
    have hC := fun cur fx => (classifyExpr_map φ hf cur fx).1
    simp only [mapStmt, checkStmt, mapSOut, hE, mapOut, hC]
  case mk =>
    intro ss sp h env fns' parent f hf
    have hpre : ∀ g : Facts,
        predeclare (withFns { env with scope := f.scopes.length } fns') (mapStmts φ ss) [] g
          = mapPre φ (predeclare { env with scope := f.scopes.length } ss [] g) :=
      fun g => predeclare_map φ _ fns' ss [] g
    simp only [mapBlock, checkBlock, mapOut, hpre, mapPre, List.length_map, ownMakes_map,
      retIter_map φ (env := { env with scope := f.scopes.length }) hf, mapSsOut, List.map_append,
      h { env with scope := f.scopes.length, fns := _ :: env.fns } (_ :: fns') _ _ (hf.cons φ _)]
  case none => intro env fns' parent f _; rfl
  case some => intro b hb env fns' parent f hf; simp only [Option.map_some, checkOptBlock, hb env fns' parent f hf, mapOut]
  case nil => intro env fns' cur f _; rfl
  case cons =>
    intro s ss hs hss env fns' cur f hf
    simp only [mapStmts, checkStmts, mapSsOut, hs env fns' cur f hf, mapSOut, hss env fns' _ _ hf, List.map_append]

theorem resolveWith_map (spanLen : Bool) (p : Block) :
    (resolveWith spanLen (mapBlock φ p)).root = mapBlock φ (resolveWith spanLen p).root ∧
    (resolveWith spanLen (mapBlock φ p)).facts = (resolveWith spanLen p).facts ∧
    (resolveWith spanLen (mapBlock φ p)).rdiags = (resolveWith spanLen p).rdiags.map (mapRD φ) := by
  have h : checkBlock (rootEnv spanLen) none (mapBlock φ p) rootFacts = _ :=
    (checkStmt_map φ).2.2.1 p (rootEnv spanLen) [] none rootFacts rfl
  simp only [resolveWith, h, mapOut]
  exact ⟨trivial, trivial, trivial⟩

end

/-! Span erasure is the constant map: `eraseSig`, `eraseRD` are `mapSig`, `mapRD` at it by unfolding, and the tree
erasures are the tree maps (`eraseBlock_eq_mapBlock` …). -/

def eraseRD (d : RDiag) : RDiag := ⟨d.rule, zspan, d.labels.map fun _ => zspan⟩

theorem eraseRD_toDiag (d : RDiag) : (eraseRD d).toDiag = eraseDiag d.toDiag := rfl

theorem resolveWith_erase (spanLen : Bool) (p : Block) :
    (resolveWith spanLen (eraseSpans p)).root = eraseSpans (resolveWith spanLen p).root ∧
    (resolveWith spanLen (eraseSpans p)).diags = (resolveWith spanLen p).diags.map eraseDiag ∧
    (resolveWith spanLen (eraseSpans p)).facts = (resolveWith spanLen p).facts ∧
    (resolveWith spanLen (eraseSpans p)).rdiags = (resolveWith spanLen p).rdiags.map eraseRD := by
  have h := resolveWith_map (fun _ => zspan) spanLen p
  simp only [eraseSpans, eraseBlock_eq_mapBlock]
  refine ⟨h.1, ?_, h.2.1, h.2.2⟩
  have hd : ∀ q : Block, (resolveWith spanLen q).diags = (resolveWith spanLen q).rdiags.map RDiag.toDiag :=
    fun _ => rfl
  rw [hd, hd, h.2.2, List.map_map, List.map_map]
  rfl

theorem hasErrors_eraseDiag (ds : List Diag) : hasErrors (ds.map eraseDiag) = hasErrors ds := by
  simp [hasErrors, List.any_map, Function.comp_def, eraseDiag]

/-! The vocabulary of erasure for the resolver: `eraseEnv env` is `env` with the name spans of its signatures erased
(related to `env` by `SigsRel.erase`), `eraseSOut` … erase the value and the diagnostics of a result. -/

def eraseEnv (env : Env) : Env := { env with fns := eraseFnScopes env.fns }

@[simp] theorem eraseFnScopes_cons (sigs : List FnSig) (fns : List (List FnSig)) :
    sigs.map eraseSig :: eraseFnScopes fns = eraseFnScopes (sigs :: fns) := rfl

@[simp] theorem eraseEnv_mk (vars : List Scope) (fns : List (List FnSig)) (curFn : Option Nat)
    (owner inLoop scope : Nat) (spanLen shadowRet recovery : Bool) :
    (⟨vars, eraseFnScopes fns, curFn, owner, inLoop, scope, spanLen, shadowRet, recovery⟩ : Env)
      = eraseEnv ⟨vars, fns, curFn, owner, inLoop, scope, spanLen, shadowRet, recovery⟩ := rfl

@[simp] theorem eraseRD_at (r : Rule) (s : Span) : eraseRD (RDiag.at r s) = RDiag.at r zspan := rfl

@[simp] theorem eraseEnv_vars (env : Env) : (eraseEnv env).vars = env.vars := rfl
@[simp] theorem eraseEnv_owner (env : Env) : (eraseEnv env).owner = env.owner := rfl
@[simp] theorem eraseEnv_scope (env : Env) : (eraseEnv env).scope = env.scope := rfl
@[simp] theorem eraseEnv_curFn (env : Env) : (eraseEnv env).curFn = env.curFn := rfl
@[simp] theorem eraseEnv_inLoop (env : Env) : (eraseEnv env).inLoop = env.inLoop := rfl
@[simp] theorem eraseEnv_spanLen (env : Env) : (eraseEnv env).spanLen = env.spanLen := rfl
@[simp] theorem eraseEnv_shadowRet (env : Env) : (eraseEnv env).shadowRet = env.shadowRet := rfl
@[simp] theorem eraseEnv_recovery (env : Env) : (eraseEnv env).recovery = env.recovery := rfl
@[simp] theorem eraseEnv_fns (env : Env) : (eraseEnv env).fns = eraseFnScopes env.fns := rfl

@[simp] theorem lookupVar_eraseEnv (env : Env) (cur : Scope) (x : Bytes) :
    lookupVar (eraseEnv env) cur x = lookupVar env cur x := rfl

@[simp] theorem inferBin_eraseEnv (env : Env) (op : BinOp) (a b : VType) :
    inferBin (eraseEnv env) op a b = inferBin env op a b := rfl

@[simp] theorem varReadClass_eraseEnv (env : Env) (cur : Scope) (fx : Facts) (v : Bytes) :
    varReadClass (eraseEnv env) cur fx v = varReadClass env cur fx v := rfl

theorem eraseStmts_eq_map (ss : List Stmt) : eraseStmts ss = ss.map eraseStmt := by
  induction ss with
  | nil => rfl
  | cons s ss ih => rw [eraseStmts, ih, List.map_cons]


theorem classifyExprs_erase (env : Env) (cur : Scope) (fx : Facts) :
    ∀ es : List Expr, classifyExprs (eraseEnv env) cur fx (eraseExprs es) = classifyExprs env cur fx es :=
  fun es => by
    rw [eraseExpr_eq_mapExpr.eraseExprs_eq_mapExprs]
    exact (classifyExpr_map (fun _ => zspan) (SigsRel.erase env.fns) cur fx).2 es

def eraseOutEs (r : Out (List Expr)) : Out (List Expr) := ⟨eraseExprs r.val, r.ds.map eraseRD, r.facts⟩

theorem checkExprs_erase (env : Env) (cur : Scope) (sid : Nat) : ∀ (es : List Expr) (f : Facts),
    checkExprs (eraseEnv env) cur sid (eraseExprs es) f = eraseOutEs (checkExprs env cur sid es f) :=
  fun es f => by
    simp only [eraseOutEs, eraseExpr_eq_mapExpr.eraseExprs_eq_mapExprs]
    exact (checkExpr_map (fun _ => zspan) (SigsRel.erase env.fns) cur sid).2 es f

theorem collectRets_erase (sh : Shadow) (env : Env) (cur : Scope) :
    ∀ s : Stmt, collectRets sh (eraseEnv env) cur (eraseStmt s) = collectRets sh env cur s :=
  fun s => by rw [eraseStmt_eq_mapStmt]; exact (collectRets_map (fun _ => zspan) sh (SigsRel.erase env.fns) cur).1 s

theorem collectRetsL_erase (sh : Shadow) (env : Env) (cur : Scope) :
    ∀ ss : List Stmt, collectRetsL sh (eraseEnv env) cur (eraseStmts ss) = collectRetsL sh env cur ss :=
  fun ss => by rw [eraseStmts_eq_mapStmts]; exact (collectRets_map (fun _ => zspan) sh (SigsRel.erase env.fns) cur).2.1 ss

theorem bodyNames_erase (fns : Bool) : ∀ s : Stmt, bodyNames fns (eraseStmt s) = bodyNames fns s :=
  fun s => by rw [eraseStmt_eq_mapStmt]; exact (bodyNames_map (fun _ => zspan) fns).1 s

theorem bodyNamesL_erase (fns : Bool) : ∀ ss : List Stmt, bodyNamesL fns (eraseStmts ss) = bodyNamesL fns ss :=
  fun ss => by rw [eraseStmts_eq_mapStmts]; exact (bodyNames_map (fun _ => zspan) fns).2.1 ss

def eraseSOut (r : SOut) : SOut := ⟨eraseStmt r.val, r.ds.map eraseRD, r.facts, r.cur⟩
def eraseSsOut (r : SsOut) : SsOut := ⟨eraseStmts r.val, r.ds.map eraseRD, r.facts, r.cur⟩
def eraseOutB (r : Out Block) : Out Block := ⟨eraseBlock r.val, r.ds.map eraseRD, r.facts⟩
def eraseOB : Option Block → Option Block
  | none => none
  | some b => some (eraseBlock b)
def eraseOutOB (r : Out (Option Block)) : Out (Option Block) := ⟨eraseOB r.val, r.ds.map eraseRD, r.facts⟩

theorem eraseOB_eq_map (o : Option Block) : eraseOB o = o.map (mapBlock fun _ => zspan) :=
  (by cases o <;> rfl : eraseOB o = o.map eraseBlock).trans (erase_eq_map.2.2.2 o)

theorem checkStmt_erase (env : Env) (cur : Cur) : ∀ (s : Stmt) (f0 : Facts),
    checkStmt (eraseEnv env) cur (eraseStmt s) f0 = eraseSOut (checkStmt env cur s f0) :=
  fun s f0 => by
    simp only [eraseSOut, eraseStmt_eq_mapStmt]
    exact (checkStmt_map fun _ => zspan).1 s env _ cur f0 (SigsRel.erase env.fns)

theorem checkStmts_erase (env : Env) (cur : Cur) : ∀ (ss : List Stmt) (f : Facts),
    checkStmts (eraseEnv env) cur (eraseStmts ss) f = eraseSsOut (checkStmts env cur ss f) :=
  fun ss f => by
    simp only [eraseSsOut, eraseStmts_eq_mapStmts]
    exact (checkStmt_map fun _ => zspan).2.1 ss env _ cur f (SigsRel.erase env.fns)

theorem checkBlock_erase (env : Env) (parent : Option Nat) : ∀ (b : Block) (f : Facts),
    checkBlock (eraseEnv env) parent (eraseBlock b) f = eraseOutB (checkBlock env parent b f) :=
  fun b f => by
    simp only [eraseOutB, eraseBlock_eq_mapBlock]
    exact (checkStmt_map fun _ => zspan).2.2.1 b env _ parent f (SigsRel.erase env.fns)

theorem checkOptBlock_erase (env : Env) (parent : Option Nat) : ∀ (b : Option Block) (f : Facts),
    checkOptBlock (eraseEnv env) parent (eraseOB b) f = eraseOutOB (checkOptBlock env parent b f) :=
  fun b f => by
    simp only [eraseOutOB, eraseOB_eq_map]
    exact (checkStmt_map fun _ => zspan).2.2.2 b env _ parent f (SigsRel.erase env.fns)

end NaijaVerif.SpanErase
