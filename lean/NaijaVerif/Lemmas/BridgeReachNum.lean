import NaijaVerif.Lemmas.BridgeReach
/-
Bridge resolver → evaluator: `numBlock` (`Lemmas/BridgeReach.lean`: every statement carries a `StmtId`,
every definition a `FunctionId`) is what `c06_pipeline_reach` (`Props/C06Accepted.lean`) needs of the
tree next to `FactsCoverCalls`.  It holds of the output of the resolver model whenever the resolver
reports nothing: `check_stmt` allocates the next `StmtId` for every statement it visits, and a
definition gets the `FunctionId` predeclared for it unless its name was defined before in the same
block — which is reported (`DuplicateIdentifier`, `predeclare`).
-/
namespace NaijaVerif.Bridge
open NaijaVerif NaijaVerif.Resolve

theorem check_num :
    (∀ (env : Env) (cur : Cur) (s : Stmt) (f : Facts), DefsOK env cur.seenFns [s] →
      (checkStmt env cur s f).ds = [] → numStmt (checkStmt env cur s f).val = true) ∧
    (∀ (env : Env) (parent : Option Nat) (b : Option Block) (f : Facts),
      (checkOptBlock env parent b f).ds = [] → numOptBlock (checkOptBlock env parent b f).val = true) ∧
    (∀ (env : Env) (parent : Option Nat) (b : Block) (f : Facts),
      (checkBlock env parent b f).ds = [] → numBlock (checkBlock env parent b f).val = true) ∧
    (∀ (env : Env) (cur : Cur) (ss : List Stmt) (f : Facts), DefsOK env cur.seenFns ss →
      (checkStmts env cur ss f).ds = [] → numStmts (checkStmts env cur ss f).val = true) := by
  -- the cases by number: see the head of `Lemmas/BridgeWS.lean`.  The motives do not mention the facts, so the principle's
  -- local definitions are unused and drop out: a case introduces fewer variables here than the same case of `check_ws`.
  -- The arms without a nested block or definition (1–5, 11–15, 17, 19) write `some sid` into the statement they return
  -- and are closed by `rfl` at the end.
  apply checkStmt.mutual_induct_unfolding
    (motive_1 := fun env cur s _ out => DefsOK env cur.seenFns [s] → out.ds = [] → numStmt out.val = true)
    (motive_2 := fun _ _ _ _ out => out.ds = [] → numOptBlock out.val = true)
    (motive_3 := fun _ _ _ _ out => out.ds = [] → numBlock out.val = true)
    (motive_4 := fun env cur ss _ out => DefsOK env cur.seenFns ss → out.ds = [] → numStmts out.val = true)
  case case6 =>
    intro env cur c t e _ sp f0 sid f1 rc d f2 envB rt re iht ihe _ h
    simp only [List.append_eq_nil_iff] at h
    exact Bool.and_eq_true_iff.2 ⟨iht h.1.2, ihe h.2⟩
  case case7 =>
    intro env cur c b _ sp f0 sid f1 rc d f2 envB rb ih _ h
    exact ih (List.append_eq_nil_iff.1 h).2
  case case8 => exact fun env cur b _ sp f0 ih _ h => ih h
  case case9 => exact fun env cur name nsp ps body _ _ sp f0 hsig hd _ => absurd hsig (sigOf_ne_none hd)
  case case10 => exact fun env cur name nsp ps body _ _ sp f0 g hsig ih _ h => ih h
  case case16 =>
    intro env parent ss sp f scope f1 f2 env1 pre sigs r ih h
    obtain ⟨h1, h2⟩ := List.append_eq_nil_iff.1 h
    exact ih (defsOK_block h1) h2
  case case18 => exact fun env parent b f ih h => ih h
  case case20 =>
    intro env cur s ss f r rs ih1 ih2 hd h
    obtain ⟨h1, h2⟩ := List.append_eq_nil_iff.1 h
    exact Bool.and_eq_true_iff.2 ⟨ih1 hd.head h1, ih2 (hd.tail f) h2⟩
  all_goals intros; rfl

/-! The conjuncts of `check_num` for statement lists and optional blocks; `resolve_num` needs the one for blocks only. -/

theorem checkStmts_num (env : Env) : ∀ (ss : List Stmt) (cur : Cur) (f : Facts), DefsOK env cur.seenFns ss →
    (checkStmts env cur ss f).ds = [] → numStmts (checkStmts env cur ss f).val = true :=
  fun ss cur f => check_num.2.2.2 env cur ss f

theorem checkOptBlock_num (env : Env) (parent : Option Nat) : ∀ (b : Option Block) (f : Facts),
    (checkOptBlock env parent b f).ds = [] → numOptBlock (checkOptBlock env parent b f).val = true :=
  fun b f => check_num.2.1 env parent b f

theorem resolve_num (spanLen : Bool) (q : Block) (h : (resolveWith spanLen q).rdiags = []) :
    numBlock (resolveWith spanLen q).root = true :=
  check_num.2.2.1 (rootEnv spanLen) none q rootFacts h

end NaijaVerif.Bridge
