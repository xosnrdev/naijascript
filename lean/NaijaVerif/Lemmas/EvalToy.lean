import NaijaVerif.Model.Eval
/-
A toy instance of `NumOps` over `Int` (kernel-reducible, so `decide` / `rfl` evaluate the model)
and a toy configuration, used ONLY for the non-vacuity examples and concrete witnesses in `Props/`.
No theorem stated for every number type depends on it.
-/
namespace NaijaVerif.Eval.Toy
open NaijaVerif NaijaVerif.Eval

def digitsVal? : Bytes → Option Nat
  | [] => some 0
  | d :: rest =>
    if 48 ≤ d ∧ d ≤ 57 then
      match digitsVal? rest with
      | some _ => some (rest.foldl (fun acc x => acc * 10 + (x - 48)) (d - 48))
      | none => none
    else none

def ofLit (l : Bytes) : Option Int :=
  if l.isEmpty then none else (digitsVal? l).map Int.ofNat

instance : NumOps Int where
  ofLit := ofLit
  add := (· + ·)
  sub := (· - ·)
  mul := (· * ·)
  div := Int.tdiv
  fmod := Int.tmod
  neg a := -a
  lt a b := decide (a < b)
  gt a b := decide (a > b)
  approxEq a b := a == b
  isZero a := a == 0
  isFinite _ := true
  fractIsZero _ := true
  toIsize a := a
  toUsize a := a.toNat
  toU32 a := a.toNat
  ofInt i := i
  fmt := intDec
  abs a := a.natAbs
  sqrt a := (Nat.sqrt a.toNat : Nat)
  floor a := a
  ceil a := a
  round a := a
  parseNumber s := ((ofLit s).getD 0)

def caps : Proc.Caps :=
  { maxProgram := 4096, maxCwd := 4096, maxArgs := 256, maxArg := 65536, maxTotalArg := 262144,
    maxEnvPairs := 128, maxEnvKey := 256, maxEnvValue := 16384, maxTotalEnv := 131072,
    maxStdin := 1048576, maxCapture := 1048576, defaultTimeout := 900000, maxTimeout := 3600000,
    waitPoll := 10 }

/-- The implementation configuration: dynamic lookup, no plan, the current code (`panics := false`),
process denied. -/
def cfg : RunCfg :=
  { lookup := .dynamic, plan := none, panics := false, policy := { allow := false, caps := caps },
    runProc := fun _ => .error .processUnsupported,
    std := { trim := id, upper := id, lower := id }, input := [] }

/-- Display texts of the printed values. -/
def texts (vs : List (Value Int)) : List Bytes := vs.map Value.display

/-- Printed texts and the kind of ending of an outcome (for `decide`). -/
def summary : Outcome Int → List Bytes × Nat
  | .ok out => (texts out, 0)
  | .rt _ _ out => (texts out, 1)
  | .panic _ out => (texts out, 2)
  | .fuelOut => ([], 3)

def panicSite : Outcome Int → Option PanicSite
  | .panic s _ => some s
  | _ => none

def rtKind : Outcome Int → Option RtKind
  | .rt k _ _ => some k
  | _ => none

end NaijaVerif.Eval.Toy
