import NaijaVerif.Lemmas.AnalysisRefineConv
import NaijaVerif.Lemmas.AnalysisRefineStep
import NaijaVerif.Lemmas.EvalBasic
/- BRIDGE, both directions: expressions without calls.  The fuel: the fragment spends one unit per `evalExpr` and one per cell
of an operand list (`evalList`), `Eval` one per `evalExpr` only.  Hence the shape of every proof here: `Bis.step` once for the
node, `Bis.stepA rfl` before each operand and `bis_nil` for the end of the list. -/
namespace NaijaVerif.C03
open NaijaVerif NaijaVerif.Analysis

variable {N : Type} [NumOps N] {B : Brg}

/-- `AEval.evalExpr_node` for the instance and a node that reads no variable. -/
theorem evalExpr_nodeE {e : Expr} (n : Nat) (t : AEval.St (VE N)) (h : ¬ AEval.Special e)
    (hint : AEval.interpIds e = []) :
    AEval.evalExpr B.P B.ac (n + 1) e t =
      AEval.andThen (AEval.evalList B.P B.ac n (AEval.children e) t) fun vs t1 => (nodeE e vs, t1) := by
  simp only [AEval.evalExpr_node h, AEval.finishNode_eq, AEval.nodeValue, hint, AEval.readAll, List.append_nil, P_node]

theorem bis_nil {β γ : Type} {vr : γ → β → Prop} {m : Nat} (t : AEval.St (VE N))
    (K : List (VE N) → AEval.St (VE N) → AEval.R (VE N) γ) {r : Eval.Res N β} (h : RSim B vr (K [] t) r) :
    Bis B vr m (fun n => AEval.andThen (AEval.evalList B.P B.ac n [] t) K) (fun _ => r) :=
  Bis.stepA rfl (Bis.const h)

theorem bis_var (hB : B.Ok N) (name : Bytes) (b : Option Nat) (sp : Span) (s : Eval.State N) (t : AEval.St (VE N))
    (hok : okExpr B.o (.var name b sp) = true) (hs : B.Sim s t) (m : Nat) :
    Bis B Eq (m + 1) (fun n => AEval.evalExpr B.P B.ac n (.var name b sp) t)
      (fun f => Eval.evalExpr B.rc f (.var name b sp) s) := by
  refine Bis.step rfl rfl ?_
  simp only [okExpr] at hok
  obtain ⟨l, rfl⟩ := Option.isSome_iff_exists.mp hok
  simp only [AEval.evalExpr_var, AEval.readVar, Eval.evalExpr, Option.bind_some, lookupVal_sim hB.lookup hs, P_dscope]
  cases AEval.lookupEnv B.ds l t.env with
  | some v => exact Bis.const (RSim.ok rfl hs)
  | none => exact Bis.const (RSim.err (unbound_err hB hs _ rfl rfl sp))

theorem bis_unary (hB : B.Ok N) {m : Nat} (IH : Both (N := N) B m) (op : UnOp) (x : Expr) (sp : Span)
    (s : Eval.State N) (t : AEval.St (VE N)) (hok : okExpr B.o (.unary op x sp) = true) (hs : B.Sim s t) :
    Bis B Eq (m + 1) (fun n => AEval.evalExpr B.P B.ac n (.unary op x sp) t)
      (fun f => Eval.evalExpr B.rc f (.unary op x sp) s) := by
  refine Bis.step rfl rfl ?_
  simp only [okExpr] at hok
  simp only [fun n => evalExpr_nodeE (B := B) (e := .unary op x sp) n t nofun rfl,
    AEval.children, Eval.evalExpr]
  refine Bis.stepA rfl ?_
  simp only [AEval.evalList_cons, andThen_assoc, AEval.andThen_ok]
  refine Bis.bind (IH.expr x s t hok hs) fun v t1 s1 hs1 => ?_
  exact bis_nil t1 _ (ofExcept_sim hB hs1 _ _)

theorem bis_arith (hB : B.Ok N) {m : Nat} (IH : Both (N := N) B m) {op : BinOp} {o : Eval.ArithOp}
    (hop : Eval.ArithOp.ofBin op = some o) (l r : Expr) (sp : Span) (s : Eval.State N) (t : AEval.St (VE N))
    (hok : okExpr B.o (.binary op l r sp) = true) (hs : B.Sim s t) :
    Bis B Eq (m + 1) (fun n => AEval.evalExpr B.P B.ac n (.binary op l r sp) t)
      (fun f => Eval.evalExpr B.rc f (.binary op l r sp) s) := by
  refine Bis.step rfl rfl ?_
  simp only [okExpr, Bool.and_eq_true] at hok
  have hsp : ¬ AEval.Special (.binary op l r sp) := by
    intro h
    cases h <;> cases hop
  simp only [fun n => evalExpr_nodeE (B := B) n t hsp rfl, AEval.children, Eval.evalExpr_arith B.rc _ hop]
  refine Bis.stepA rfl ?_
  simp only [AEval.evalList_cons, andThen_assoc, AEval.andThen_ok]
  refine Bis.bind (IH.expr l s t hok.1 hs) fun a t1 s1 hs1 => ?_
  refine Bis.stepA rfl ?_
  simp only [AEval.evalList_cons, andThen_assoc, AEval.andThen_ok]
  refine Bis.bind (IH.expr r s1 t1 hok.2 hs1) fun b t2 s2 hs2 => ?_
  refine bis_nil t2 _ ?_
  simp only [nodeE, hop]
  exact ofExcept_sim hB hs2 _ _

theorem bis_index (hB : B.Ok N) {m : Nat} (IH : Both (N := N) B m) (a i : Expr) (isp sp : Span)
    (s : Eval.State N) (t : AEval.St (VE N)) (hok : okExpr B.o (.index a i isp sp) = true) (hs : B.Sim s t) :
    Bis B Eq (m + 1) (fun n => AEval.evalExpr B.P B.ac n (.index a i isp sp) t)
      (fun f => Eval.evalExpr B.rc f (.index a i isp sp) s) := by
  refine Bis.step rfl rfl ?_
  simp only [okExpr, Bool.and_eq_true] at hok
  simp only [fun n => evalExpr_nodeE (B := B) (e := .index a i isp sp) n t nofun rfl,
    AEval.children, Eval.evalExpr]
  refine Bis.stepA rfl ?_
  simp only [AEval.evalList_cons, andThen_assoc, AEval.andThen_ok]
  refine Bis.bind (IH.expr a s t hok.1 hs) fun av t1 s1 hs1 => ?_
  refine Bis.stepA rfl ?_
  simp only [AEval.evalList_cons, andThen_assoc, AEval.andThen_ok]
  refine Bis.bind (IH.expr i s1 t1 hok.2 hs1) fun iv t2 s2 hs2 => ?_
  exact bis_nil t2 _ (ofExcept_sim hB hs2 _ _)

theorem bis_array {m : Nat} (IH : Both (N := N) B m) (es : List Expr) (sp : Span)
    (s : Eval.State N) (t : AEval.St (VE N)) (hok : okExpr B.o (.array es sp) = true) (hs : B.Sim s t) :
    Bis B Eq (m + 1) (fun n => AEval.evalExpr B.P B.ac n (.array es sp) t)
      (fun f => Eval.evalExpr B.rc f (.array es sp) s) := by
  refine Bis.step rfl rfl ?_
  simp only [okExpr] at hok
  simp only [fun n => evalExpr_nodeE (B := B) (e := .array es sp) n t nofun rfl,
    AEval.children, Eval.evalExpr]
  refine Bis.bind (IH.list es s t hok hs) fun vs t1 s1 hs1 => ?_
  exact Bis.const (RSim.ok rfl hs1)

theorem bis_leaf (e : Expr) (s : Eval.State N) (t : AEval.St (VE N)) (m : Nat)
    (hch : AEval.children e = []) (hint : AEval.interpIds e = [])
    (hsp : ¬ AEval.Special e)
    (r : Eval.Res N (VE N)) (hr : RSim B Eq ((nodeE e [], t) : AEval.R (VE N) (VE N)) r)
    (hE : ∀ f, Eval.evalExpr B.rc (f + 1) e s = r) :
    Bis B Eq (m + 1) (fun n => AEval.evalExpr B.P B.ac n e t) (fun f => Eval.evalExpr B.rc f e s) := by
  refine Bis.step rfl rfl ?_
  simp only [fun n => evalExpr_nodeE (B := B) n t hsp hint, hch, hE]
  exact bis_nil t _ hr

/-- The two short-circuit operators at once: `stop` and `short` are what the operator stops on and what it answers then,
`site` is where `Eval` checks the right operand (`liftE` forgets the site: `liftE_logicRhs_or`). -/
theorem bis_logic (hB : B.Ok N) {m : Nat} (IH : Both (N := N) B m) (stop : VE N → Bool) (short : VE N)
    (site : Eval.PanicSite) (hsite : ∀ v : VE N, liftE (Eval.logicRhs site v) = liftE (Eval.logicRhs .andRhs v))
    (l r : Expr) (sp : Span) (s : Eval.State N) (t : AEval.St (VE N)) (hl : okExpr B.o l = true)
    (hr : okExpr B.o r = true) (hs : B.Sim s t) :
    Bis B Eq m (fun n => AEval.logicSeq B.P B.ac n stop short l r t)
      (fun f => (Eval.evalExpr B.rc f l s).bind fun lv s1 =>
        if stop lv = true then .ok short s1
        else (Eval.evalExpr B.rc f r s1).bind fun rv s2 => Eval.Res.ofExcept B.rc (Eval.logicRhs site rv) sp s2) := by
  simp only [AEval.logicSeq, P_logicRhs, ← hsite]
  refine Bis.bind (IH.expr l s t hl hs) fun lv t1 s1 hs1 => ?_
  by_cases hst : stop lv = true
  · simp only [hst, ↓reduceIte]; exact Bis.const (RSim.ok rfl hs1)
  · simp only [hst, Bool.false_eq_true, ↓reduceIte]
    refine Bis.bind (IH.expr r s1 t1 hr hs1) fun rv t2 s2 hs2 => ?_
    exact Bis.const (ofExcept_sim hB hs2 _ _)

theorem bis_and (hB : B.Ok N) {m : Nat} (IH : Both (N := N) B m) (l r : Expr) (sp : Span) (s : Eval.State N)
    (t : AEval.St (VE N)) (hok : okExpr B.o (.binary .and l r sp) = true) (hs : B.Sim s t) :
    Bis B Eq (m + 1) (fun n => AEval.evalExpr B.P B.ac n (.binary .and l r sp) t)
      (fun f => Eval.evalExpr B.rc f (.binary .and l r sp) s) := by
  refine Bis.step rfl rfl ?_
  simp only [okExpr, Bool.and_eq_true] at hok
  simp only [AEval.evalExpr_and, P_falsy, P_logicShort_and, Eval.evalExpr]
  exact bis_logic hB IH _ _ .andRhs (fun _ => rfl) l r r.span s t hok.1 hok.2 hs

theorem bis_or (hB : B.Ok N) {m : Nat} (IH : Both (N := N) B m) (l r : Expr) (sp : Span) (s : Eval.State N)
    (t : AEval.St (VE N)) (hok : okExpr B.o (.binary .or l r sp) = true) (hs : B.Sim s t) :
    Bis B Eq (m + 1) (fun n => AEval.evalExpr B.P B.ac n (.binary .or l r sp) t)
      (fun f => Eval.evalExpr B.rc f (.binary .or l r sp) s) := by
  refine Bis.step rfl rfl ?_
  simp only [okExpr, Bool.and_eq_true] at hok
  simp only [AEval.evalExpr_or, P_truthy, P_logicShort_or, Eval.evalExpr]
  exact bis_logic hB IH _ _ .orRhs liftE_logicRhs_or l r r.span s t hok.1 hok.2 hs

theorem bis_interp (hB : B.Ok N) (segs : List Seg) (sp : Span) (s : Eval.State N) (t : AEval.St (VE N)) (m : Nat)
    (hok : okExpr B.o (.str (.interp segs) sp) = true) (hs : B.Sim s t) :
    Bis B Eq (m + 1) (fun n => AEval.evalExpr B.P B.ac n (.str (.interp segs) sp) t)
      (fun f => Eval.evalExpr B.rc f (.str (.interp segs) sp) s) := by
  refine Bis.step rfl rfl ?_
  simp only [okExpr] at hok
  refine Bis.stepA rfl ?_
  simp only [AEval.evalExpr_node (e := .str (.interp segs) sp) nofun, AEval.children, AEval.evalList_nil,
    AEval.finishNode_eq, AEval.andThen_ok, AEval.nodeValue, AEval.interpIds, Eval.evalExpr, P_dscope,
    interp_sim hB hs segs [] hok, P_node, List.nil_append]
  cases AEval.readAll B.ds t.env (AEval.segIds segs) with
  | none => exact Bis.const (RSim.err (unbound_err hB hs _ rfl rfl sp))
  | some rs => exact Bis.const (RSim.ok rfl hs)

end NaijaVerif.C03
