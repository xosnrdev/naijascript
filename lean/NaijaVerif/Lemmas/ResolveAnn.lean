import NaijaVerif.Lemmas.ResolveDiags
import NaijaVerif.Lemmas.AstInduction
/-
An expression checked by `check_expr` has three outputs that do not depend on one another: the annotated expression
(`annExpr`), the diagnostics (`exprDiags`, `Lemmas/ResolveDiags.lean`) — both functions of the scopes and the expression
alone, `check_pure` — and the facts, which are a history of primitive steps (`Lemmas/ResolveSteps.lean`).  A property of
one of them is proved about that one.  Two statements tie outputs together and therefore walk `checkExpr` itself:
naturality in spans (`SpanErase.checkExpr_map`, one equation of the whole record, about two runs) and `check_own`
(`Lemmas/ResolveFactsOwn.lean`: the `FunctionId` written on a call is the one recorded in the facts).
An expression that is checked without a diagnostic went through the arms that report nothing, every lookup found its
name and every operand type was accepted: `Expr.clean_walk` is induction over exactly those arms, source and annotated
expression side by side.
-/
namespace NaijaVerif.Resolve
open NaijaVerif

def annSegs (env : Env) (cur : Scope) : List Seg → List Seg
  | [] => []
  | .lit s :: rest => .lit s :: annSegs env cur rest
  | .var n _ :: rest => .var n ((lookupVar env cur n).map (·.id)) :: annSegs env cur rest

/-- The `FunctionId` a call of the name gets: none for a builtin. -/
def calleeId (env : Env) (fname : Bytes) : Option Nat :=
  match GlobalB.ofName fname with
  | some _ => none
  | none => (lookupFn env fname).map (·.id)

mutual
  def annExpr (env : Env) (cur : Scope) : Expr → Expr
    | .num l s => .num l s
    | .bool b s => .bool b s
    | .null s => .null s
    | .str (.static b) s => .str (.static b) s
    | .str (.interp segs) s => .str (.interp (annSegs env cur segs)) s
    | .array es s => .array (annExprs env cur es) s
    | .index a i isp s => .index (annExpr env cur a) (annExpr env cur i) isp s
    | .var v _ s => .var v ((lookupVar env cur v).map (·.id)) s
    | .binary op l r s => .binary op (annExpr env cur l) (annExpr env cur r) s
    | .unary op e s => .unary op (annExpr env cur e) s
    | .member o fld fs s => .member (annExpr env cur o) fld fs s
    | .call callee args _ s =>
        match callee with
        | .var fname vb vs => .call (.var fname vb vs) (annExprs env cur args) (calleeId env fname) s
        | .member obj field fs ms => .call (.member (annExpr env cur obj) field fs ms) (annExprs env cur args) none s
        | c => .call (annExpr env cur c) (annExprs env cur args) none s
  def annExprs (env : Env) (cur : Scope) : List Expr → List Expr
    | [] => []
    | e :: es => annExpr env cur e :: annExprs env cur es
end

theorem annExpr_call_other (env : Env) (cur : Scope) {c : Expr} (hc : otherCallee c = true) (args : List Expr)
    (fn : Option Nat) (s : Span) :
    annExpr env cur (.call c args fn s) = .call (annExpr env cur c) (annExprs env cur args) none s := by
  cases c with
  | var => cases hc
  | member => cases hc
  | _ => rw [annExpr.eq_def]

theorem checkSegs_pure (env : Env) (cur : Scope) (sid : Nat) (span : Span) :
    ∀ (segs : List Seg) (f : Facts), (checkSegs env cur sid span segs f).val = annSegs env cur segs ∧
      (checkSegs env cur sid span segs f).ds = segsDiags env cur span segs
  | [], _ => ⟨rfl, rfl⟩
  | .lit _ :: rest, f => ⟨congrArg _ (checkSegs_pure env cur sid span rest f).1, (checkSegs_pure env cur sid span rest f).2⟩
  | .var n _ :: rest, f => by
      rw [checkSegs, annSegs, segsDiags]
      cases lookupVar env cur n with
      | some e => exact ⟨congrArg _ (checkSegs_pure env cur sid span rest _).1, (checkSegs_pure env cur sid span rest _).2⟩
      | none => exact ⟨congrArg _ (checkSegs_pure env cur sid span rest f).1, congrArg _ (checkSegs_pure env cur sid span rest f).2⟩

theorem checkMethod_ds (env : Env) (cur : Scope) (sid : Nat) (rt : VType) (obj : Expr) (field : Bytes)
    (args : List Expr) (ms : Span) (f : Facts) :
    (checkMethod env cur sid rt obj field args ms f).1 = methodDiags env cur rt obj field args ms := by
  rw [checkMethod, methodDiags]
  cases (MemberKind.ofType rt).bind (fun k => memberOf k field) <;> rfl

theorem check_pure (env : Env) (cur : Scope) (sid : Nat) :
    (∀ (e : Expr) (f : Facts), (checkExpr env cur sid e f).val = annExpr env cur e ∧
      (checkExpr env cur sid e f).ds = exprDiags env cur e) ∧
    (∀ (es : List Expr) (f : Facts), (checkExprs env cur sid es f).val = annExprs env cur es ∧
      (checkExprs env cur sid es f).ds = exprsDiags env cur es) := by
  apply Expr.walk
  case num => intro _ _ f; exact ⟨rfl, rfl⟩
  case bool => intro _ _ f; exact ⟨rfl, rfl⟩
  case null => intro _ f; exact ⟨rfl, rfl⟩
  case str =>
    intro p s f
    cases p with
    | static _ => exact ⟨rfl, rfl⟩
    | interp segs => simp only [checkExpr, annExpr, exprDiags, checkSegs_pure, and_self]
  case array => intro es _ ih f; simp only [checkExpr, annExpr, exprDiags, ih, and_self]
  case index => intro a i _ _ iha ihi f; simp only [checkExpr, annExpr, exprDiags, iha, ihi, and_self]
  case var =>
    intro v _ s f
    simp only [checkExpr, annExpr, exprDiags]
    cases lookupVar env cur v <;> exact ⟨rfl, rfl⟩
  case binary => intro _ l r _ ihl ihr f; simp only [checkExpr, annExpr, exprDiags, ihl, ihr, and_self]
  case unary => intro _ e _ ih f; simp only [checkExpr, annExpr, exprDiags, ih, and_self]
  case member => intro o _ _ _ ih f; simp only [checkExpr, annExpr, exprDiags, ih, and_self]
  case callMember =>
    intro obj field fs ms args _ s iho iha f
    simp only [checkExpr, annExpr, exprDiags, iho, iha, recvDiags, true_and]
    cases inferExpr env cur obj with
    | some rt => simp only [checkMethod_ds]
    | none => rfl
  case call =>
    intro callee args _ s hc ihc iha f
    cases callee using Expr.callee_cases with
    | var fname vb vs =>
      simp only [checkExpr, annExpr, calleeId, exprDiags, nameCallDiags]
      cases GlobalB.ofName fname with
      -- in each branch both components are the model's own terms once the arguments are rewritten; the closings differ
      -- by which of the two `simp only` has already reduced to `True`
      | some g => simp only [iha, List.append_assoc, true_and]; rfl
      | none =>
        cases lookupFn env fname with
        | some g => simp only [iha]; exact ⟨rfl, trivial⟩
        | none => simp only [iha]; exact ⟨rfl, rfl⟩
    | member o fld fs ms => exact absurd rfl (hc o fld fs ms)
    | other c ho =>
      rw [checkExpr_call_other _ _ _ _ _ _ _ _ ho, annExpr_call_other _ _ ho, exprDiags_call_other _ _ ho]
      simp only [ihc, iha, and_self]
  case nil => intro f; exact ⟨rfl, rfl⟩
  case cons => intro e es ihe ihes f; simp only [checkExprs, annExprs, exprsDiags, ihe, ihes, and_self]

theorem checkExpr_val (env : Env) (cur : Scope) (sid : Nat) (e : Expr) (f : Facts) :
    (checkExpr env cur sid e f).val = annExpr env cur e := ((check_pure env cur sid).1 e f).1

theorem checkExprs_val (env : Env) (cur : Scope) (sid : Nat) (es : List Expr) (f : Facts) :
    (checkExprs env cur sid es f).val = annExprs env cur es := ((check_pure env cur sid).2 es f).1

theorem checkExpr_ds (env : Env) (cur : Scope) (sid : Nat) (e : Expr) (f : Facts) :
    (checkExpr env cur sid e f).ds = exprDiags env cur e := ((check_pure env cur sid).1 e f).2

theorem checkExprs_ds (env : Env) (cur : Scope) (sid : Nat) (es : List Expr) (f : Facts) :
    (checkExprs env cur sid es f).ds = exprsDiags env cur es := ((check_pure env cur sid).2 es f).2

section
variable {env : Env} {cur : Scope} {P : Expr → Expr → Prop} {Q : List Expr → List Expr → Prop}

/-- A case gives what the arm looked up, the operand types an
operator or an index accepted and the arity a call accepted; what the call of a builtin or of a method accepted of its
ARGUMENTS' types is not taken apart (`callGlobal` drops it, `callMember` hands over `recvDiags … = []` as it is).  The
arms that always report (a bare member access, a callee that is neither a name nor a method, an unknown name) have no
case. -/
theorem Expr.clean_walk
    (num : ∀ l s, P (.num l s) (.num l s))
    (bool : ∀ b s, P (.bool b s) (.bool b s))
    (null : ∀ s, P (.null s) (.null s))
    (str : ∀ b s, P (.str (.static b) s) (.str (.static b) s))
    (interp : ∀ segs s, segsDiags env cur s segs = [] → P (.str (.interp segs) s) (.str (.interp (annSegs env cur segs)) s))
    (array : ∀ es es' s, Q es es' → P (.array es s) (.array es' s))
    (index : ∀ a a' i i' isp s, indexBaseOk (inferExpr env cur a) = true → indexIdxOk (inferExpr env cur i) = true →
      P a a' → P i i' → P (.index a i isp s) (.index a' i' isp s))
    (var : ∀ v b s ent, lookupVar env cur v = some ent → P (.var v b s) (.var v (some ent.id) s))
    (binary : ∀ op l l' r r' s, binaryOk op (inferExpr env cur l) (inferExpr env cur r) = true →
      P l l' → P r r' → P (.binary op l r s) (.binary op l' r' s))
    (unary : ∀ op e e' s, unaryOk op (inferExpr env cur e) = true → P e e' → P (.unary op e s) (.unary op e' s))
    (callGlobal : ∀ fname vb vs args args' fn s g, GlobalB.ofName fname = some g → args.length = g.arity →
      Q args args' → P (.call (.var fname vb vs) args fn s) (.call (.var fname vb vs) args' none s))
    (callUser : ∀ fname vb vs args args' fn s g, GlobalB.ofName fname = none → lookupFn env fname = some g →
      args.length = g.arity → Q args args' →
      P (.call (.var fname vb vs) args fn s) (.call (.var fname vb vs) args' (some g.id) s))
    (callMember : ∀ obj obj' field fs ms args args' fn s, recvDiags env cur obj field args ms = [] →
      P obj obj' → Q args args' →
      P (.call (.member obj field fs ms) args fn s) (.call (.member obj' field fs ms) args' none s))
    (nil : Q [] [])
    (cons : ∀ e e' es es', P e e' → Q es es' → Q (e :: es) (e' :: es')) :
    (∀ e, exprDiags env cur e = [] → P e (annExpr env cur e)) ∧
    (∀ es, exprsDiags env cur es = [] → Q es (annExprs env cur es)) := by
  apply Expr.walk
  case num => exact fun l s _ => num l s
  case bool => exact fun b s _ => bool b s
  case null => exact fun s _ => null s
  case str =>
    intro p s h
    cases p with
    | static b => exact str b s
    | interp segs => exact interp segs s h
  case array => exact fun es s ih h => array es _ s (ih h)
  case index =>
    intro a i isp s iha ihi h
    simp only [exprDiags, List.append_eq_nil_iff] at h
    exact index a _ i _ isp s (errIf_nil_not h.1.2) (errIf_nil_not h.2)
      (iha h.1.1.1) (ihi h.1.1.2)
  case var =>
    intro v b s h
    rw [annExpr]
    rw [exprDiags] at h
    cases hl : lookupVar env cur v with
    | some ent => exact var v b s ent hl
    | none => rw [hl] at h; cases h
  case binary =>
    intro op l r s ihl ihr h
    simp only [exprDiags, List.append_eq_nil_iff] at h
    exact binary op l _ r _ s (errIf_nil_not h.2) (ihl h.1.1) (ihr h.1.2)
  case unary =>
    intro op e s ih h
    simp only [exprDiags, List.append_eq_nil_iff] at h
    exact unary op e _ s (errIf_nil_not h.2) (ih h.1)
  case member => intro o _ _ s _ h; simp only [exprDiags, List.append_eq_nil_iff] at h; cases h.2
  case callMember =>
    intro obj field fs ms args fn s iho iha h
    simp only [exprDiags, List.append_eq_nil_iff] at h
    exact callMember obj _ field fs ms args _ fn s h.1.2 (iho h.1.1) (iha h.2)
  case call =>
    intro c args fn s hc _ iha h
    cases c using Expr.callee_cases with
    | var fname vb vs =>
      simp only [annExpr, calleeId]
      cases hg : GlobalB.ofName fname with
      | some g =>
        simp only [exprDiags, nameCallDiags, hg, List.append_eq_nil_iff] at h
        exact callGlobal fname vb vs args _ fn s g hg (errIf_nil_bne h.1.1) (iha h.2)
      | none =>
        cases hl : lookupFn env fname with
        | some g =>
          simp only [exprDiags, nameCallDiags, hg, hl, List.append_eq_nil_iff] at h
          exact callUser fname vb vs args _ fn s g hg hl (errIf_nil_bne h.1) (iha h.2)
        | none =>
          simp only [exprDiags, nameCallDiags, hg, hl, List.append_eq_nil_iff] at h
          cases h.1
    | member o fld fs ms => exact absurd rfl (hc o fld fs ms)
    | other c ho =>
      rw [exprDiags_call_other _ _ ho] at h
      simp only [List.append_eq_nil_iff] at h
      cases h.1.2
  case nil => exact fun _ => nil
  case cons =>
    intro e es ihe ihes h
    simp only [exprsDiags, List.append_eq_nil_iff] at h
    exact cons e _ es _ (ihe h.1) (ihes h.2)
end

end NaijaVerif.Resolve
