import NaijaVerif.Lemmas.ResolveSteps
/-
Bridge resolver → evaluator: what the bridge reads of the resolver's `Facts` is the next `LocalId`
(`locals.length`) and the parameter counts of the functions pushed so far (`functions.map paramCount`;
its length is the next `FunctionId`).  `fkey` is this projection; every bookkeeping primitive except
`pushLocal` / `pushFunction` leaves it alone, so `checkExpr` does.
-/
namespace NaijaVerif.Resolve
open NaijaVerif

def fkey (f : Facts) : Nat × List Nat := (f.locals.length, f.functions.map (·.paramCount))

theorem fkey_nl (f : Facts) : (fkey f).1 = f.locals.length := rfl
theorem fkey_nf (f : Facts) : (fkey f).2.length = f.functions.length := by simp [fkey]

theorem nl_eq {f f' : Facts} (h : fkey f' = fkey f) : f'.locals.length = f.locals.length :=
  congrArg Prod.fst h

theorem nf_eq {f f' : Facts} (h : fkey f' = fkey f) : f'.functions.length = f.functions.length := by
  have := congrArg (fun k => k.2.length) h
  simpa [fkey_nf] using this

@[simp] theorem fkey_pushStmt (f : Facts) (o s : Nat) : fkey (pushStmt f o s) = fkey f := rfl
@[simp] theorem fkey_joinClass (f : Facts) (sid : Nat) (c : ExprClass) : fkey (joinClass f sid c) = fkey f := rfl
@[simp] theorem fkey_pushScope (f : Facts) (p : Option Nat) (o : Nat) : fkey (pushScope f p o) = fkey f := rfl
@[simp] theorem fkey_recStmtCallee (f : Facts) (a b : Nat) : fkey (recStmtCallee f a b) = fkey f := rfl
@[simp] theorem fkey_recDirectCallee (f : Facts) (a b : Nat) : fkey (recDirectCallee f a b) = fkey f := rfl
@[simp] theorem fkey_recUserCall (f : Facts) (a b : Nat) : fkey (recUserCall f a b) = fkey f := rfl

theorem lenE_fkey {f g : Facts} (h : ResolveStruct.LenE f g) : fkey g = fkey f := by
  rw [fkey, h.locals, h.functions]; rfl

theorem primE_fkey {f g : Facts} (h : ResolveStruct.PrimE f g) : fkey g = fkey f := lenE_fkey (ResolveStruct.primE_lenE h)

theorem stepsE_fkey {f g : Facts} (h : ResolveStruct.StepsE f g) : fkey g = fkey f := lenE_fkey h.lenE

-- The primitives below branch on `ownedBy`, so `rfl` does not decide them; they are steps of `PrimE` / `StepsE`, which keep
-- `locals` and `functions` (`LenE`).
@[simp] theorem fkey_recStmtRead (f : Facts) (a b c : Nat) : fkey (recStmtRead f a b c) = fkey f :=
  primE_fkey (.recStmtRead f a b c)
@[simp] theorem fkey_recStmtWrite (f : Facts) (a b c : Nat) : fkey (recStmtWrite f a b c) = fkey f :=
  primE_fkey (.recStmtWrite f a b c)
@[simp] theorem fkey_recCapRead (f : Facts) (a b : Nat) : fkey (recCapRead f a b) = fkey f :=
  primE_fkey (.recCapRead f a b)
@[simp] theorem fkey_recCapWrite (f : Facts) (a b : Nat) : fkey (recCapWrite f a b) = fkey f :=
  primE_fkey (.recCapWrite f a b)
@[simp] theorem fkey_recUse (f : Facts) (a b c : Nat) : fkey (recUse f a b c) = fkey f :=
  stepsE_fkey (ResolveStruct.recUse_steps f a b c)
@[simp] theorem fkey_recReadWrite (f : Facts) (a b c : Nat) : fkey (recReadWrite f a b c) = fkey f :=
  stepsE_fkey (ResolveStruct.recReadWrite_steps f a b c)

@[simp] theorem fkey_setDefStmt (f : Facts) (fn sid : Nat) : fkey (setDefStmt f fn sid) = fkey f := by
  simp only [fkey, setDefStmt]
  refine Prod.ext rfl ?_
  apply modifyAt_map_key; intro a; rfl
@[simp] theorem fkey_setRootScope (f : Facts) (s : Nat) : fkey (setRootScope f s) = fkey f := by
  simp only [fkey, setRootScope]
  refine Prod.ext rfl ?_
  apply modifyAt_map_key; intro a; rfl

theorem fkey_pushLocal (f : Facts) (sl : Bool) (name : Bytes) (o s : Nat) (d : Option Nat) (k : LocalKind) :
    fkey (pushLocal f sl name o s d k) = ((fkey f).1 + 1, (fkey f).2) := by
  simp only [fkey, pushLocal, List.length_append, List.length_singleton]
  refine Prod.ext rfl ?_
  apply modifyAt_map_key; intro a; rfl

theorem fkey_pushFunction (f : Facts) (name : Bytes) (np parent scope : Nat) :
    fkey (pushFunction f name np parent scope) = ((fkey f).1, (fkey f).2 ++ [np]) := by
  simp [fkey, pushFunction]

theorem checkExpr_fkey (env : Env) (cur : Scope) (sid : Nat) :
    ∀ (e : Expr) (f : Facts), fkey (checkExpr env cur sid e f).facts = fkey f :=
  fun e f => stepsE_fkey (ResolveStruct.checkExpr_steps env cur sid e f)

theorem fkey_condF (env : Env) (cur : Cur) (f : Facts) (c : Expr) : fkey (ResolveStruct.condF env cur f c) = fkey f :=
  (stepsE_fkey (ResolveStruct.condF_steps env cur f c)).trans (fkey_pushStmt f _ _)

theorem checkExprs_fkey (env : Env) (cur : Scope) (sid : Nat) :
    ∀ (es : List Expr) (f : Facts), fkey (checkExprs env cur sid es f).facts = fkey f :=
  fun es f => stepsE_fkey (ResolveStruct.checkExprs_steps env cur sid es f)

end NaijaVerif.Resolve
