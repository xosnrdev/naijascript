import NaijaVerif.Model.Types
import NaijaVerif.Model.Diag
/-
`src/resolver.rs` without the analysis passes it calls at the end (`emit_analysis_warnings`):
scope handling, per-block function pre-declaration with return-type inference at block entry,
`check_stmt`, `check_expr`, `infer_expr_type`, `classify_expr`, and the collection of
`ProgramFacts`.  The result is the AST with the resolver's bindings as annotations, the resolver's
own diagnostics (all of severity error; `check_*` emits no warning) and the facts by ids.

Rendering of the imperative code:
* The scope *stacks* (`variable_scopes`, `function_scopes`, `scope_stack`) and the saved/restored
  context (`current_function`, `current_owner`, `in_loop`, `current_stmt`) are passed downwards as
  an environment `Env`; the variable scope of the block being checked is threaded through its
  statements (`Cur`).  Push at block entry / pop at block exit is therefore structural.
* Diagnostics never influence the traversal; every function returns the list it emitted, in order.
* Ids are positions: `FunctionId` = `facts.functions.length` at pre-declaration, `ScopeId` =
  `facts.scopes.length` at `check_block` / parameter scope, `LocalId` = `facts.locals.length` at
  declaration, `StmtId` = `facts.stmtEffects.length` at `push_stmt_effect`.
* Pointer identity: `predeclared_function_id(body)` finds the function pushed for *this* definition;
  a definition is pushed iff no earlier definition of the block has its name, so the model keeps the
  names of the definitions already passed in the block (`Cur.seenFns`).

Operator typing on dynamic operands is the FIXED one (D-09e, commit b1ccf31: `add` with a dynamic
operand is dynamic unless an operand is a string; `not`/`minus` on a dynamic operand are typed).
Return types are inferred at block entry in the enclosing scopes, where every name that the function
(parameters, `make`s and function definitions anywhere in its body) or its defining block (`make`s) binds
is dynamic (`shadowed_vars` / `shadowed_funcs`, fix D-09b; `Env.shadowRet := false` is the pinned code,
which looked those names up in the enclosing scopes).
`infer_expr_type` gives an operator application a type exactly when `check_expr` accepts its operand
types (fix D-09f; `Env.recovery := true` is the pinned code, whose *recovery types* — `"s" add <bool>` is
a string — could become a function's result type when the rounds of a block do not settle).
Quirk reproduced as it is (DESIGN §6): `x get e` is never checked against the declared type of `x`.  D-09a is FIXED in the code
(`in_loop` is 0 while a function body is checked), and so is D-18: `localsLen` is the span
`last own id − start + 1` (`spanLen := true`; `false` gives the count of the originally pinned code).
Core-only.
-/
namespace NaijaVerif.Resolve
open NaijaVerif

/-! ### Diagnostics: the rule behind each `emit_error` site -/

/-- One constructor per `emit_error` site of `check_*` / `predeclare_block_functions`. -/
inductive Rule where
  -- scoping rules
  | reservedVar | reservedFn | reservedParam
  | dupFunction | dupParam
  | undeclaredVar | undeclaredSeg | assignUndeclared | undeclaredFn
  | arityUser | arityGlobal
  | breakOutside | continueOutside | returnOutside
  -- typing rules
  | tyBinary | tyUnary | tyCond | tyIndexBase | tyIndexIdx | tyCommandArg | tyMethodArg
  | tyMutReceiver | methodUnknown | arityMethod
  -- shapes without a run-time meaning (fix D-09c)
  | bareMember | badCallee | badIndexRoot
deriving DecidableEq, Repr, Inhabited

/-- The `SemanticError` the site passes. -/
def Rule.kind : Rule → DiagKind
  | .reservedVar | .reservedFn | .reservedParam => .semReservedKeyword
  | .dupFunction | .dupParam => .duplicateIdentifier
  | .undeclaredVar | .undeclaredSeg | .undeclaredFn | .methodUnknown => .undeclaredIdentifier
  | .assignUndeclared => .assignmentToUndeclared
  | .arityUser | .arityGlobal | .arityMethod => .functionCallArity
  | .breakOutside | .continueOutside | .returnOutside => .unreachableCode
  | .tyBinary | .tyUnary | .tyCond | .tyIndexBase | .tyIndexIdx | .tyCommandArg | .tyMethodArg
  | .tyMutReceiver | .bareMember | .badCallee | .badIndexRoot => .typeMismatch

/-- The scoping fragment of the static rules (everything that does not depend on static types). -/
def Rule.isScoping : Rule → Bool
  | .reservedVar | .reservedFn | .reservedParam | .dupFunction | .dupParam | .undeclaredVar
  | .undeclaredSeg | .assignUndeclared | .undeclaredFn | .arityUser | .arityGlobal | .breakOutside
  | .continueOutside | .returnOutside => true
  | _ => false

structure RDiag where
  rule : Rule
  span : Span
  labels : List Span
deriving DecidableEq, Repr, Inhabited

def RDiag.at (r : Rule) (s : Span) : RDiag := ⟨r, s, [s]⟩

def RDiag.toDiag (d : RDiag) : Diag := { sev := .error, kind := d.rule.kind, span := d.span, labels := d.labels }

/-! ### Scopes -/

/-- `VariableScopeEntry`. -/
structure VarEntry where
  name : Bytes
  ty : VType
  id : Nat
deriving DecidableEq, Repr, Inhabited

/-- One variable scope, **newest entry first** (the Rust vector is searched from the back). -/
abbrev Scope := List VarEntry

/-- `FunctionSig`. -/
structure FnSig where
  name : Bytes
  id : Nat
  arity : Nat
  nameSpan : Span
  ret : VType
deriving DecidableEq, Repr, Inhabited

/-- The context of the statement being checked. -/
structure Env where
  /-- enclosing variable scopes, innermost first (without the scope of the current block) -/
  vars : List Scope
  /-- function scopes, innermost first (the head is the current block's) -/
  fns : List (List FnSig)
  curFn : Option Nat
  owner : Nat
  inLoop : Nat
  /-- `current_scope()` -/
  scope : Nat
  /-- `locals_len` is the span of the own ids (D-18 fix) instead of their count -/
  spanLen : Bool
  /-- return-type inference treats the names that the function or its defining block binds as dynamic
  (fix D-09b); `false` = the pinned code, which looked them up in the enclosing scopes -/
  shadowRet : Bool := true
  /-- `infer_expr_type` answers a type for operator applications that `check_expr` rejects (the code
  as pinned before the fix of D-09f) -/
  recovery : Bool := false
deriving Repr, Inhabited

/-- The state threaded through the statements of one block. -/
structure Cur where
  /-- the block's own variable scope -/
  vars : Scope := []
  /-- names of the function definitions of this block already passed -/
  seenFns : List Bytes := []
deriving Repr, Inhabited

def findVar (s : Scope) (x : Bytes) : Option VarEntry := s.find? (fun e => e.name == x)

/-- `lookup_var_info`: innermost scope first, newest entry first. -/
def lookupScopes : List Scope → Bytes → Option VarEntry
  | [], _ => none
  | s :: ss, x => match findVar s x with
    | some e => some e
    | none => lookupScopes ss x

def lookupVar (env : Env) (cur : Scope) (x : Bytes) : Option VarEntry := lookupScopes (cur :: env.vars) x

def findFn (s : List FnSig) (x : Bytes) : Option FnSig := s.find? (fun g => g.name == x)

/-- `lookup_func`: innermost function scope first. -/
def lookupFns : List (List FnSig) → Bytes → Option FnSig
  | [], _ => none
  | s :: ss, x => match findFn s x with
    | some g => some g
    | none => lookupFns ss x

def lookupFn (env : Env) (x : Bytes) : Option FnSig := lookupFns env.fns x

/-- Re-declaration in the same scope: the entry keeps its id, the static type is replaced. -/
def updateTy : Scope → Bytes → VType → Scope
  | [], _, _ => []
  | e :: es, x, t => if e.name == x then { e with ty := t } :: es else e :: updateTy es x t

/-! ### Facts bookkeeping (`analysis/facts.rs`) -/

def modifyAt {α : Type} : List α → Nat → (α → α) → List α
  | [], _, _ => []
  | a :: as, 0, f => f a :: as
  | a :: as, n + 1, f => a :: modifyAt as n f

def addNew (l : List Nat) (x : Nat) : List Nat := if l.contains x then l else l ++ [x]

def rootName : Bytes := b!"<script>"

/-- `push_root_function`. -/
def rootFacts : Facts :=
  { functions := [{ name := rootName, hasParams := false, paramCount := 0, parent := none,
                    definingScope := none, defStmt := none, localsStart := 0, localsLen := 0 }],
    functionDirects := [⟨[], [], []⟩] }

def pushFunction (f : Facts) (name : Bytes) (nparams parent scope : Nat) : Facts :=
  { f with
    functions := f.functions ++ [{ name := name, hasParams := true, paramCount := nparams,
                                   parent := some parent, definingScope := some scope,
                                   defStmt := none, localsStart := f.locals.length, localsLen := 0 }],
    functionDirects := f.functionDirects ++ [⟨[], [], []⟩] }

def pushScope (f : Facts) (parent : Option Nat) (owner : Nat) : Facts :=
  { f with scopes := f.scopes ++ [⟨parent, owner⟩], scopeLocals := f.scopeLocals ++ [[]] }

def setRootScope (f : Facts) (scope : Nat) : Facts :=
  { f with functions := modifyAt f.functions 0 (fun i => { i with definingScope := some scope }) }

def setDefStmt (f : Facts) (fn sid : Nat) : Facts :=
  { f with functions := modifyAt f.functions fn (fun i => { i with defStmt := some sid }) }

/-- `push_stmt_effect`. -/
def pushStmt (f : Facts) (owner scope : Nat) : Facts :=
  { f with stmtEffects := f.stmtEffects ++ [⟨owner, scope, [], [], [], .pureNoTrap⟩] }

/-- `push_local_with_kind`. -/
def pushLocal (f : Facts) (spanLen : Bool) (name : Bytes) (owner scope : Nat) (declStmt : Option Nat)
    (kind : LocalKind) : Facts :=
  let id := f.locals.length
  { f with
    locals := f.locals ++ [⟨name, owner, scope, declStmt, kind⟩],
    scopeLocals := modifyAt f.scopeLocals scope (fun l => l ++ [id]),
    functions := modifyAt f.functions owner (fun i =>
      let start := if i.localsLen == 0 then id else i.localsStart
      { i with localsStart := start,
               localsLen := if spanLen then id - start + 1 else i.localsLen + 1 }) }

def ownedBy (f : Facts) (owner id : Nat) : Bool :=
  match f.locals[id]? with
  | some l => l.owner == owner
  | none => false

/-- `Resolver::record_stmt_read` (only locals of the current owner). -/
def recStmtRead (f : Facts) (owner sid id : Nat) : Facts :=
  if ownedBy f owner id then
    { f with stmtEffects := modifyAt f.stmtEffects sid (fun e => { e with reads := addNew e.reads id }) }
  else f

def recStmtWrite (f : Facts) (owner sid id : Nat) : Facts :=
  if ownedBy f owner id then
    { f with stmtEffects := modifyAt f.stmtEffects sid (fun e => { e with writes := addNew e.writes id }) }
  else f

def recStmtCallee (f : Facts) (sid callee : Nat) : Facts :=
  { f with stmtEffects :=
      modifyAt f.stmtEffects sid (fun e => { e with directCallees := addNew e.directCallees callee }) }

def joinClass (f : Facts) (sid : Nat) (c : ExprClass) : Facts :=
  { f with stmtEffects := modifyAt f.stmtEffects sid (fun e => { e with exprClass := e.exprClass.join c }) }

/-- `Resolver::record_capture_read` (only locals of another owner). -/
def recCapRead (f : Facts) (owner id : Nat) : Facts :=
  if ownedBy f owner id then f else
    match f.locals[id]? with
    | none => f
    | some _ =>
      { f with functionDirects :=
          modifyAt f.functionDirects owner (fun d => { d with captureReads := addNew d.captureReads id }) }

def recCapWrite (f : Facts) (owner id : Nat) : Facts :=
  if ownedBy f owner id then f else
    match f.locals[id]? with
    | none => f
    | some _ =>
      { f with functionDirects :=
          modifyAt f.functionDirects owner (fun d => { d with captureWrites := addNew d.captureWrites id }) }

def recDirectCallee (f : Facts) (caller callee : Nat) : Facts :=
  { f with functionDirects :=
      modifyAt f.functionDirects caller (fun d => { d with directCallees := addNew d.directCallees callee }) }

def recUserCall (f : Facts) (caller callee : Nat) : Facts :=
  { f with userCalls := f.userCalls ++ [(caller, callee)] }

/-- read + capture-read of a variable use -/
def recUse (f : Facts) (owner sid id : Nat) : Facts := recCapRead (recStmtRead f owner sid id) owner id

/-- `record_stmt_read; record_stmt_write; record_capture_read; record_capture_write` -/
def recReadWrite (f : Facts) (owner sid id : Nat) : Facts :=
  recCapWrite (recCapRead (recStmtWrite (recStmtRead f owner sid id) owner sid id) owner id) owner id

/-! ### `infer_expr_type`, `classify_expr`, `expr_root_local` -/

/-- `infer_expr_type`, arm `Expr::Binary`, both operand types known. -/
def inferBin (env : Env) (op : BinOp) (a b : VType) : Option VType :=
  if env.recovery then inferBinaryPinned op a b else inferBinary op a b

def inferExpr (env : Env) (cur : Scope) : Expr → Option VType
  | .num _ _ => some .number
  | .null _ => some .null
  | .str _ _ => some .string
  | .bool _ _ => some .bool
  | .array _ _ => some .array
  | .index _ _ _ _ => some .dynamic
  | .var v _ _ => (lookupVar env cur v).map (·.ty)
  | .binary op l r _ =>
      match inferExpr env cur l, inferExpr env cur r with
      | some a, some b => inferBin env op a b
      | _, _ => none
  | .unary op e _ =>
      match inferExpr env cur e with
      | some t => inferUnary op t
      | none => none
  | .member _ _ _ _ => some .dynamic
  | .call callee _ _ _ =>
      match callee with
      | .var fname _ _ =>
          match GlobalB.ofName fname with
          | some g => some g.retType
          | none => (lookupFn env fname).map (·.ret)
      | .member obj field _ _ =>
          match inferExpr env cur obj with
          | none => none
          | some rt =>
              match MemberKind.ofType rt with
              | none => some .dynamic
              | some k =>
                  match memberOf k field with
                  | some m => some m.ret
                  | none => some .dynamic
      | _ => none

/-- `Resolver::{shadowed_vars, shadowed_funcs}`: the names `infer_expr_type` must not look up while a
function's return type is inferred; both lists are empty at any other time. -/
structure Shadow where
  vars : List Bytes := []
  fns : List Bytes := []
deriving Repr, Inhabited

/-- `infer_expr_type` while the shadow lists are filled (fix D-09b): a shadowed variable and a call of
a shadowed function are dynamic; everything else as `inferExpr` (which is this function on empty
lists, `Lemmas/ResolveShape.lean: inferExprSh_nil`). -/
def inferExprSh (sh : Shadow) (env : Env) (cur : Scope) : Expr → Option VType
  | .num _ _ => some .number
  | .null _ => some .null
  | .str _ _ => some .string
  | .bool _ _ => some .bool
  | .array _ _ => some .array
  | .index _ _ _ _ => some .dynamic
  | .var v _ _ => if sh.vars.contains v then some .dynamic else (lookupVar env cur v).map (·.ty)
  | .binary op l r _ =>
      match inferExprSh sh env cur l, inferExprSh sh env cur r with
      | some a, some b => inferBin env op a b
      | _, _ => none
  | .unary op e _ =>
      match inferExprSh sh env cur e with
      | some t => inferUnary op t
      | none => none
  | .member _ _ _ _ => some .dynamic
  | .call callee _ _ _ =>
      match callee with
      | .var fname _ _ =>
          match GlobalB.ofName fname with
          | some g => some g.retType
          | none => if sh.fns.contains fname then some .dynamic else (lookupFn env fname).map (·.ret)
      | .member obj field _ _ =>
          match inferExprSh sh env cur obj with
          | none => none
          | some rt =>
              match MemberKind.ofType rt with
              | none => some .dynamic
              | some k =>
                  match memberOf k field with
                  | some m => some m.ret
                  | none => some .dynamic
      | _ => none

/-- `Resolver::literal_expr_type`: the type of an expression built from literals and operators
only, when the run time has a case for every operator in it. -/
def literalType : Expr → Option VType
  | .num _ _ => some .number
  | .str _ _ => some .string
  | .bool _ _ => some .bool
  | .null _ => some .null
  | .unary op e _ =>
      match literalType e with
      | some t => literalUnary op t
      | none => none
  | .binary op l r _ =>
      match literalType l, literalType r with
      | some a, some b => literalMeaning op a b
      | _, _ => none
  | _ => none

/-- `variable_read_class` (fix D-03e): a read of a local of an ENCLOSING function may trap (the
function can be called before the variable's `make`); own locals, parameters and unresolved names
do not. -/
def varReadClass (env : Env) (cur : Scope) (fx : Facts) (v : Bytes) : ExprClass :=
  match lookupVar env cur v with
  | some e =>
      match fx.locals[e.id]? with
      | some l => if l.owner != env.owner then .pureMayTrap else .pureNoTrap
      | none => .pureNoTrap
  | none => .pureNoTrap

/-- The `{name}` segments of an interpolated string. -/
def segsClass (env : Env) (cur : Scope) (fx : Facts) : List Seg → ExprClass
  | [] => .pureNoTrap
  | .lit _ :: rest => segsClass env cur fx rest
  | .var v _ :: rest => (varReadClass env cur fx v).join (segsClass env cur fx rest)

mutual
  def classifyExpr (env : Env) (cur : Scope) (fx : Facts) : Expr → ExprClass
    | .num _ _ | .bool _ _ | .null _ | .str (.static _) _ => .pureNoTrap
    | .var v _ _ => varReadClass env cur fx v
    | .str (.interp segs) _ => segsClass env cur fx segs
    | .array es _ => classifyExprs env cur fx es
    | .index a i _ _ => ((classifyExpr env cur fx a).join (classifyExpr env cur fx i)).join .pureMayTrap
    | .binary op l r s =>
        let c := (classifyExpr env cur fx l).join (classifyExpr env cur fx r)
        if op = .divide || op = .mod || (literalType (.binary op l r s)).isNone then c.join .pureMayTrap else c
    | .unary op e s =>
        let c := classifyExpr env cur fx e
        if (literalType (.unary op e s)).isNone then c.join .pureMayTrap else c
    | .member o _ _ _ => (classifyExpr env cur fx o).join .pureMayTrap
    | .call callee args _ _ =>
        let c := classifyExprs env cur fx args
        match callee with
        | .var fname _ _ =>
            match GlobalB.ofName fname with
            | some g =>
                let c := c.join g.cls
                if g = .command && (args.head?.bind literalType) != some .string then c.join .pureMayTrap else c
            | none => if (lookupFn env fname).isNone then c.join .impure else c
        | .member obj field _ _ =>
            let c := (c.join (classifyExpr env cur fx obj)).join .pureMayTrap
            match memberAny field with
            | some m => c.join m.cls
            | none => c.join .impure
        | _ => c.join .impure
  /-- fold of `join` over a list, starting from `PureNoTrap` -/
  def classifyExprs (env : Env) (cur : Scope) (fx : Facts) : List Expr → ExprClass
    | [] => .pureNoTrap
    | e :: es => (classifyExpr env cur fx e).join (classifyExprs env cur fx es)
end

/-- `Resolver::condition_class` (fix D-03f): evaluating the condition of an `if` / `jasi` and then the
run-time test that its value is a boolean or null; only a type that follows from the condition's own
literals rules the `Type mismatch` out. -/
def condClass (env : Env) (cur : Scope) (fx : Facts) (c : Expr) : ExprClass :=
  let k := classifyExpr env cur fx c
  match literalType c with
  | some .bool | some .null => k
  | _ => k.join .pureMayTrap

/-- `expr_root_local`. -/
def exprRootLocal (env : Env) (cur : Scope) : Expr → Option Nat
  | .var n _ _ => (lookupVar env cur n).map (·.id)
  | .index a _ _ _ => exprRootLocal env cur a
  | .member o _ _ _ => exprRootLocal env cur o
  | _ => none

/-- `is_variable_rooted`: an index / member chain that starts at a variable. -/
def isVarRooted : Expr → Bool
  | .var _ _ _ => true
  | .index a _ _ _ => isVarRooted a
  | .member o _ _ _ => isVarRooted o
  | _ => false

/-! ### `check_expr` -/

structure Out (α : Type) where
  val : α
  ds : List RDiag
  facts : Facts

/-- The `{name}` segments of an interpolated string. -/
def checkSegs (env : Env) (cur : Scope) (sid : Nat) (span : Span) : List Seg → Facts → Out (List Seg)
  | [], f => ⟨[], [], f⟩
  | .lit s :: rest, f =>
      let r := checkSegs env cur sid span rest f
      ⟨.lit s :: r.val, r.ds, r.facts⟩
  | .var n _ :: rest, f =>
      match lookupVar env cur n with
      | some e =>
          let r := checkSegs env cur sid span rest (recUse f env.owner sid e.id)
          ⟨.var n (some e.id) :: r.val, r.ds, r.facts⟩
      | none =>
          let r := checkSegs env cur sid span rest f
          ⟨.var n none :: r.val, RDiag.at .undeclaredSeg span :: r.ds, r.facts⟩

def errIf (bad : Bool) (d : RDiag) : List RDiag := if bad then [d] else []

/-- `expect_member_string_arg` / `expect_member_number_arg` on the arguments the code looks at. -/
def argDiags (env : Env) (cur : Scope) (ck : ArgCheck) (args : List Expr) (mspan : Span) : List RDiag :=
  match ck with
  | .none => []
  | .string0 => ((args.take 1).map fun a => errIf (!stringArgOk (inferExpr env cur a)) (RDiag.at .tyMethodArg mspan)).flatten
  | .string0If2 =>
      if args.length ≥ 2 then
        ((args.take 1).map fun a => errIf (!stringArgOk (inferExpr env cur a)) (RDiag.at .tyMethodArg mspan)).flatten
      else []
  | .number0 => ((args.take 1).map fun a => errIf (!numberArgOk (inferExpr env cur a)) (RDiag.at .tyMethodArg mspan)).flatten
  | .strings2 => ((args.take 2).map fun a => errIf (!stringArgOk (inferExpr env cur a)) (RDiag.at .tyMethodArg mspan)).flatten
  | .numbers2 => ((args.take 2).map fun a => errIf (!numberArgOk (inferExpr env cur a)) (RDiag.at .tyMethodArg mspan)).flatten

/-- Checks of a method call whose receiver has the static type `rt` (after the receiver itself
has been checked): diagnostics and the receiver read/write facts. -/
def checkMethod (env : Env) (cur : Scope) (sid : Nat) (rt : VType) (obj : Expr) (field : Bytes)
    (args : List Expr) (mspan : Span) (f : Facts) : List RDiag × Facts :=
  match (MemberKind.ofType rt).bind (fun k => memberOf k field) with
  | some m =>
      let root := exprRootLocal env cur obj
      let f1 := if m.mutRecv then
          (match root with
           | some id => recReadWrite f env.owner sid id
           | none => f)
        else f
      let d1 := errIf (m.mutRecv && root.isNone && m.kind == .processCommand) (RDiag.at .tyMutReceiver mspan)
      let d2 := errIf (args.length != m.arity) (RDiag.at .arityMethod mspan)
      (d1 ++ d2 ++ argDiags env cur m.argCheck args mspan, f1)
  | none => (errIf (rt != .dynamic) (RDiag.at .methodUnknown mspan), f)

mutual
  def checkExpr (env : Env) (cur : Scope) (sid : Nat) : Expr → Facts → Out Expr
    | .num l s, f => ⟨.num l s, [], f⟩
    | .bool b s, f => ⟨.bool b s, [], f⟩
    | .null s, f => ⟨.null s, [], f⟩
    | .str (.static b) s, f => ⟨.str (.static b) s, [], f⟩
    | .str (.interp segs) s, f =>
        let r := checkSegs env cur sid s segs f
        ⟨.str (.interp r.val) s, r.ds, r.facts⟩
    | .array es s, f =>
        let r := checkExprs env cur sid es f
        ⟨.array r.val s, r.ds, r.facts⟩
    | .index a i isp s, f =>
        let ra := checkExpr env cur sid a f
        let ri := checkExpr env cur sid i ra.facts
        ⟨.index ra.val ri.val isp s,
         ra.ds ++ ri.ds ++ errIf (!indexBaseOk (inferExpr env cur a)) (RDiag.at .tyIndexBase s)
           ++ errIf (!indexIdxOk (inferExpr env cur i)) (RDiag.at .tyIndexIdx isp),
         ri.facts⟩
    | .var v _ s, f =>
        match lookupVar env cur v with
        | some e => ⟨.var v (some e.id) s, [], recUse f env.owner sid e.id⟩
        | none => ⟨.var v none s, [RDiag.at .undeclaredVar s], f⟩
    | .binary op l r s, f =>
        let rl := checkExpr env cur sid l f
        let rr := checkExpr env cur sid r rl.facts
        ⟨.binary op rl.val rr.val s,
         rl.ds ++ rr.ds ++ errIf (!binaryOk op (inferExpr env cur l) (inferExpr env cur r)) (RDiag.at .tyBinary s),
         rr.facts⟩
    | .unary op e s, f =>
        let r := checkExpr env cur sid e f
        ⟨.unary op r.val s, r.ds ++ errIf (!unaryOk op (inferExpr env cur e)) (RDiag.at .tyUnary s), r.facts⟩
    | .member o fld fs s, f =>
        let r := checkExpr env cur sid o f
        -- a member access that is not a callee has no meaning (fix D-09c)
        ⟨.member r.val fld fs s, r.ds ++ [RDiag.at .bareMember s], r.facts⟩
    | .call callee args _ s, f =>
        match callee with
        | .var fname vb vs =>
            match GlobalB.ofName fname with
            | some g =>
                let d1 := errIf (args.length != g.arity) (RDiag.at .arityGlobal s)
                let d2 := match g, args with
                  | .command, a :: _ => errIf (!stringArgOk (inferExpr env cur a)) (RDiag.at .tyCommandArg s)
                  | _, _ => []
                let ra := checkExprs env cur sid args f
                ⟨.call (.var fname vb vs) ra.val none s, d1 ++ d2 ++ ra.ds, ra.facts⟩
            | none =>
                match lookupFn env fname with
                | some g =>
                    let f1 := recStmtCallee (recUserCall (recDirectCallee f env.owner g.id) env.owner g.id) sid g.id
                    let ra := checkExprs env cur sid args f1
                    ⟨.call (.var fname vb vs) ra.val (some g.id) s,
                     errIf (args.length != g.arity) (RDiag.at .arityUser s) ++ ra.ds, ra.facts⟩
                | none =>
                    let ra := checkExprs env cur sid args f
                    ⟨.call (.var fname vb vs) ra.val none s, RDiag.at .undeclaredFn s :: ra.ds, ra.facts⟩
        | .member obj field fs ms =>
            let ro := checkExpr env cur sid obj f
            let m := match inferExpr env cur obj with
              | some rt => checkMethod env cur sid rt obj field args ms ro.facts
              | none => ([], ro.facts)
            let ra := checkExprs env cur sid args m.2
            ⟨.call (.member ro.val field fs ms) ra.val none s, ro.ds ++ m.1 ++ ra.ds, ra.facts⟩
        | c =>
            let rc := checkExpr env cur sid c f
            let ra := checkExprs env cur sid args rc.facts
            -- only a name or a method can be called (fix D-09c)
            ⟨.call rc.val ra.val none s, rc.ds ++ [RDiag.at .badCallee s] ++ ra.ds, ra.facts⟩
  def checkExprs (env : Env) (cur : Scope) (sid : Nat) : List Expr → Facts → Out (List Expr)
    | [], f => ⟨[], [], f⟩
    | e :: es, f =>
        let r := checkExpr env cur sid e f
        let rs := checkExprs env cur sid es r.facts
        ⟨r.val :: rs.val, r.ds ++ rs.ds, rs.facts⟩
end

/-! ### Function pre-declaration (`predeclare_block_functions`) -/

mutual
  /-- `collect_return_types_from_stmt`: nested function bodies are excluded. -/
  def collectRets (sh : Shadow) (env : Env) (cur : Scope) : Stmt → List VType
    | .ret (some e) _ _ => [(inferExprSh sh env cur e).getD .dynamic]
    | .ret none _ _ => [.null]
    | .ifS _ t e _ _ => collectRetsB sh env cur t ++ collectRetsO sh env cur e
    | .loop _ b _ _ => collectRetsB sh env cur b
    | .block b _ _ => collectRetsB sh env cur b
    | _ => []
  def collectRetsL (sh : Shadow) (env : Env) (cur : Scope) : List Stmt → List VType
    | [] => []
    | s :: ss => collectRets sh env cur s ++ collectRetsL sh env cur ss
  def collectRetsB (sh : Shadow) (env : Env) (cur : Scope) : Block → List VType
    | .mk ss _ => collectRetsL sh env cur ss
  def collectRetsO (sh : Shadow) (env : Env) (cur : Scope) : Option Block → List VType
    | none => []
    | some b => collectRetsB sh env cur b
end

mutual
  /-- `collect_body_bindings`: the names bound anywhere in a function body — by `make`
  (`fns := false`) or by a function definition (`fns := true`) — nested function bodies excluded.
  (The code fills both lists in one walk, in another order; they are only searched.) -/
  def bodyNames (fns : Bool) : Stmt → List Bytes
    | .assign x _ _ _ _ _ => if fns then [] else [x]
    | .fnDef name _ _ _ _ _ _ => if fns then [name] else []
    | .ifS _ t e _ _ => bodyNamesB fns t ++ bodyNamesO fns e
    | .loop _ b _ _ => bodyNamesB fns b
    | .block b _ _ => bodyNamesB fns b
    | _ => []
  def bodyNamesL (fns : Bool) : List Stmt → List Bytes
    | [] => []
    | s :: ss => bodyNames fns s ++ bodyNamesL fns ss
  def bodyNamesB (fns : Bool) : Block → List Bytes
    | .mk ss _ => bodyNamesL fns ss
  def bodyNamesO (fns : Bool) : Option Block → List Bytes
    | none => []
    | some b => bodyNamesB fns b
end

/-- The names a block declares with `make` directly (not in scope yet at block entry). -/
def ownMakes : List Stmt → List Bytes
  | [] => []
  | .assign x _ _ _ _ _ :: rest => x :: ownMakes rest
  | _ :: rest => ownMakes rest

/-- The shadow lists `infer_function_return_type` fills for a function with parameters `ps` and body
`body` whose defining block declares `makes` (none in the pinned code). -/
def shadowOf (env : Env) (makes : List Bytes) (ps : List Param) (body : Block) : Shadow :=
  if env.shadowRet then
    { vars := ps.map (·.name) ++ makes ++ bodyNamesB false body, fns := bodyNamesB true body }
  else {}

/-- `infer_function_return_type`, evaluated where the code evaluates it: at the entry of the
block that *contains* the definition, whose own variable scope is still empty. -/
def inferRet (env : Env) (sh : Shadow) (body : Block) : VType :=
  match collectRetsB sh env [] body with
  | [] => .null
  | t :: ts => if ts.all (· == t) then t else .dynamic

structure Pre where
  sigs : List FnSig
  /-- `pending`: parameters and body of the definitions that got a signature, in order -/
  bodies : List (List Param × Block)
  ds : List RDiag
  facts : Facts

def paramDiags (seen : List Bytes) : List Param → List RDiag
  | [] => []
  | p :: ps =>
      errIf (isReservedName p.name) (RDiag.at .reservedParam p.span)
        ++ errIf (seen.contains p.name) (RDiag.at .dupParam p.span)
        ++ paramDiags (p.name :: seen) ps

/-- First loop of `predeclare_block_functions`: signatures in definition order, duplicates
skipped (`continue`). -/
def predeclare (env : Env) : List Stmt → List FnSig → Facts → Pre
  | [], sigs, f => ⟨sigs, [], [], f⟩
  | .fnDef name nsp ps body _ _ _ :: rest, sigs, f =>
      let d1 := errIf (isReservedName name) (RDiag.at .reservedFn nsp)
      match findFn sigs name with
      | some ex =>
          let r := predeclare env rest sigs f
          ⟨r.sigs, r.bodies, d1 ++ [⟨.dupFunction, nsp, [ex.nameSpan, nsp]⟩] ++ r.ds, r.facts⟩
      | none =>
          let sig : FnSig := ⟨name, f.functions.length, ps.length, nsp, .dynamic⟩
          let r := predeclare env rest (sigs ++ [sig]) (pushFunction f name ps.length env.owner env.scope)
          ⟨r.sigs, (ps, body) :: r.bodies, d1 ++ paramDiags [] ps ++ r.ds, r.facts⟩
  | _ :: rest, sigs, f => predeclare env rest sigs f

/-- One round of the return-type loop: signatures are updated in place, in definition order;
`makes` are the names the defining block declares. -/
def retPass (env : Env) (makes : List Bytes) : List (List Param × Block) → Nat → List FnSig → Bool → List FnSig × Bool
  | [], _, sigs, ch => (sigs, ch)
  | (ps, body) :: bs, i, sigs, ch =>
      let rt := inferRet { env with fns := sigs :: env.fns } (shadowOf env makes ps body) body
      match sigs[i]? with
      | some g =>
          if g.ret == rt then retPass env makes bs (i + 1) sigs ch
          else retPass env makes bs (i + 1) (modifyAt sigs i (fun g => { g with ret := rt })) true
      | none => retPass env makes bs (i + 1) sigs ch

/-- At most `pending.len()` rounds, stopping at the first round without a change. -/
def retIter (env : Env) (makes : List Bytes) (bodies : List (List Param × Block)) : Nat → List FnSig → List FnSig
  | 0, sigs => sigs
  | n + 1, sigs =>
      let r := retPass env makes bodies 0 sigs false
      if r.2 then retIter env makes bodies n r.1 else r.1

/-! ### `check_stmt`, `check_block`, `check_function_body` -/

structure SOut where
  val : Stmt
  ds : List RDiag
  facts : Facts
  cur : Cur

structure SsOut where
  val : List Stmt
  ds : List RDiag
  facts : Facts
  cur : Cur

/-- Parameters become locals of the parameter scope (newest first). -/
def declareParams (spanLen : Bool) (owner scope : Nat) : List Param → Scope → Facts → List Param × Scope × Facts
  | [], sc, f => ([], sc, f)
  | p :: ps, sc, f =>
      let id := f.locals.length
      let f1 := pushLocal f spanLen p.name owner scope none .parameter
      let r := declareParams spanLen owner scope ps (⟨p.name, .dynamic, id⟩ :: sc) f1
      ({ p with bind := some id } :: r.1, r.2.1, r.2.2)

mutual
  def checkStmt (env : Env) (cur : Cur) : Stmt → Facts → SOut
    | .assign x xs e _ _ sp, f0 =>
        let sid := f0.stmtEffects.length
        let f1 := pushStmt f0 env.owner env.scope
        let d1 := errIf (isReservedName x) (RDiag.at .reservedVar xs)
        let r := checkExpr env cur.vars sid e f1
        let f2 := joinClass r.facts sid (classifyExpr env cur.vars r.facts e)
        let ty := (inferExpr env cur.vars e).getD .dynamic
        match findVar cur.vars x with
        | some ent =>
            ⟨.assign x xs r.val (some ent.id) (some sid) sp, d1 ++ r.ds,
             recStmtWrite f2 env.owner sid ent.id, { cur with vars := updateTy cur.vars x ty }⟩
        | none =>
            let id := f2.locals.length
            let f3 := pushLocal f2 env.spanLen x env.owner env.scope (some sid) .variable
            ⟨.assign x xs r.val (some id) (some sid) sp, d1 ++ r.ds,
             recStmtWrite f3 env.owner sid id, { cur with vars := ⟨x, ty, id⟩ :: cur.vars }⟩
    | .assignExisting x xs e _ _ sp, f0 =>
        let sid := f0.stmtEffects.length
        let f1 := pushStmt f0 env.owner env.scope
        match lookupVar env cur.vars x with
        | some ent =>
            let f2 := recCapWrite (recStmtWrite f1 env.owner sid ent.id) env.owner ent.id
            let r := checkExpr env cur.vars sid e f2
            ⟨.assignExisting x xs r.val (some ent.id) (some sid) sp, r.ds,
             joinClass r.facts sid (classifyExpr env cur.vars r.facts e), cur⟩
        | none =>
            let r := checkExpr env cur.vars sid e f1
            ⟨.assignExisting x xs r.val none (some sid) sp, RDiag.at .assignUndeclared xs :: r.ds,
             joinClass r.facts sid (classifyExpr env cur.vars r.facts e), cur⟩
    | .assignIndex t e _ sp, f0 =>
        let sid := f0.stmtEffects.length
        let f1 := pushStmt f0 env.owner env.scope
        let rt := checkExpr env cur.vars sid t f1
        let re := checkExpr env cur.vars sid e rt.facts
        let f2 := match exprRootLocal env cur.vars t with
          | some id => recReadWrite re.facts env.owner sid id
          | none => re.facts
        -- the target must be rooted in a variable (fix D-09c)
        ⟨.assignIndex rt.val re.val (some sid) sp,
         rt.ds ++ re.ds ++ errIf (!isVarRooted t) (RDiag.at .badIndexRoot sp), joinClass f2 sid .impure, cur⟩
    | .ifS c t e _ sp, f0 =>
        let sid := f0.stmtEffects.length
        let f1 := pushStmt f0 env.owner env.scope
        let rc := checkExpr env cur.vars sid c f1
        let d := errIf (!condOk (inferExpr env cur.vars c)) (RDiag.at .tyCond c.span)
        let f2 := joinClass rc.facts sid (condClass env cur.vars rc.facts c)
        let envB := { env with vars := cur.vars :: env.vars }
        let rt := checkBlock envB (some env.scope) t f2
        let re := checkOptBlock envB (some env.scope) e rt.facts
        ⟨.ifS rc.val rt.val re.val (some sid) sp, rc.ds ++ d ++ rt.ds ++ re.ds, re.facts, cur⟩
    | .loop c b _ sp, f0 =>
        let sid := f0.stmtEffects.length
        let f1 := pushStmt f0 env.owner env.scope
        let rc := checkExpr env cur.vars sid c f1
        let d := errIf (!condOk (inferExpr env cur.vars c)) (RDiag.at .tyCond c.span)
        let f2 := joinClass rc.facts sid (condClass env cur.vars rc.facts c)
        let envB := { env with vars := cur.vars :: env.vars, inLoop := env.inLoop + 1 }
        let rb := checkBlock envB (some env.scope) b f2
        ⟨.loop rc.val rb.val (some sid) sp, rc.ds ++ d ++ rb.ds, rb.facts, cur⟩
    | .block b _ sp, f0 =>
        let sid := f0.stmtEffects.length
        let f1 := pushStmt f0 env.owner env.scope
        let rb := checkBlock { env with vars := cur.vars :: env.vars } (some env.scope) b f1
        ⟨.block rb.val (some sid) sp, rb.ds, rb.facts, cur⟩
    | .fnDef name nsp ps body _ _ sp, f0 =>
        let sid := f0.stmtEffects.length
        let f1 := joinClass (pushStmt f0 env.owner env.scope) sid .impure
        -- `predeclared_function_id(body)`: the signature pushed for this very definition
        let sig := if cur.seenFns.contains name then none else
          match env.fns with
          | own :: _ => findFn own name
          | [] => none
        match sig with
        | none => ⟨.fnDef name nsp ps body none (some sid) sp, [], f1, cur⟩
        | some g =>
            let f2 := setDefStmt f1 g.id sid
            let pscope := f2.scopes.length
            let f3 := pushScope f2 (some env.scope) g.id
            let pr := declareParams env.spanLen g.id pscope ps [] f3
            -- D-09a FIXED: the loop depth does not leak into the function body
            let envB := { env with vars := pr.2.1 :: cur.vars :: env.vars, curFn := some g.id,
                                   owner := g.id, inLoop := 0, scope := pscope }
            let rb := checkBlock envB (some pscope) body pr.2.2
            ⟨.fnDef name nsp pr.1 rb.val (some g.id) (some sid) sp, rb.ds, rb.facts,
             { cur with seenFns := name :: cur.seenFns }⟩
    | .ret e _ sp, f0 =>
        let sid := f0.stmtEffects.length
        let f1 := pushStmt f0 env.owner env.scope
        let d := errIf env.curFn.isNone (RDiag.at .returnOutside sp)
        match e with
        | some e =>
            let r := checkExpr env cur.vars sid e f1
            ⟨.ret (some r.val) (some sid) sp, d ++ r.ds, joinClass r.facts sid (classifyExpr env cur.vars r.facts e), cur⟩
        | none => ⟨.ret none (some sid) sp, d, joinClass f1 sid .pureNoTrap, cur⟩
    | .brk _ sp, f0 =>
        let sid := f0.stmtEffects.length
        ⟨.brk (some sid) sp, errIf (env.inLoop == 0) (RDiag.at .breakOutside sp),
         pushStmt f0 env.owner env.scope, cur⟩
    | .cont _ sp, f0 =>
        let sid := f0.stmtEffects.length
        ⟨.cont (some sid) sp, errIf (env.inLoop == 0) (RDiag.at .continueOutside sp),
         pushStmt f0 env.owner env.scope, cur⟩
    | .expr e _ sp, f0 =>
        let sid := f0.stmtEffects.length
        let f1 := pushStmt f0 env.owner env.scope
        let r := checkExpr env cur.vars sid e f1
        ⟨.expr r.val (some sid) sp, r.ds, joinClass r.facts sid (classifyExpr env cur.vars r.facts e), cur⟩
  def checkStmts (env : Env) (cur : Cur) : List Stmt → Facts → SsOut
    | [], f => ⟨[], [], f, cur⟩
    | s :: ss, f =>
        let r := checkStmt env cur s f
        let rs := checkStmts env r.cur ss r.facts
        ⟨r.val :: rs.val, r.ds ++ rs.ds, rs.facts, rs.cur⟩
  /-- `check_block`; `env.vars` are all enclosing variable scopes, `parent` the enclosing
  `ScopeId` (`none` for the program root). -/
  def checkBlock (env : Env) (parent : Option Nat) : Block → Facts → Out Block
    | .mk ss sp, f =>
        let scope := f.scopes.length
        let f1 := pushScope f parent env.owner
        let f2 := if parent.isNone && env.owner == 0 then setRootScope f1 scope else f1
        let env1 := { env with scope := scope }
        let pre := predeclare env1 ss [] f2
        let sigs := retIter env1 (ownMakes ss) pre.bodies pre.bodies.length pre.sigs
        let r := checkStmts { env1 with fns := sigs :: env.fns } {} ss pre.facts
        ⟨.mk r.val sp, pre.ds ++ r.ds, r.facts⟩
  def checkOptBlock (env : Env) (parent : Option Nat) : Option Block → Facts → Out (Option Block)
    | none, f => ⟨none, [], f⟩
    | some b, f =>
        let r := checkBlock env parent b f
        ⟨some r.val, r.ds, r.facts⟩
end

/-! ### Entry point -/

structure Resolved where
  /-- the program with every binding annotation filled in -/
  root : Block
  /-- the resolver's own diagnostics in emission order (all errors) -/
  diags : List Diag
  facts : Facts
  /-- the same diagnostics with the rule each one reports -/
  rdiags : List RDiag

def rootEnv (spanLen : Bool) : Env :=
  { vars := [], fns := [], curFn := none, owner := 0, inLoop := 0, scope := 0, spanLen := spanLen }

def resolveWith (spanLen : Bool) (root : Block) : Resolved :=
  let r := checkBlock (rootEnv spanLen) none root rootFacts
  { root := r.val, diags := r.ds.map RDiag.toDiag, facts := r.facts, rdiags := r.ds }

/-- `Resolver::resolve` up to (excluding) `emit_analysis_warnings`; `locals_len` is the span of a
function's own local ids (fix D-18, commit c01db5f). -/
def resolve (root : Block) : Resolved := resolveWith true root

/-- The resolver as PINNED with respect to D-09b: return types inferred with the plain scopes of the
enclosing code (a `return x` is typed by a same-named outer `x`). -/
def resolvePinnedRet (root : Block) : Resolved :=
  let r := checkBlock { rootEnv true with shadowRet := false } none root rootFacts
  { root := r.val, diags := r.ds.map RDiag.toDiag, facts := r.facts, rdiags := r.ds }

/-- The resolver as PINNED with respect to D-09f: `infer_expr_type` with recovery types. -/
def resolvePinnedRecovery (root : Block) : Resolved :=
  let r := checkBlock { rootEnv true with recovery := true } none root rootFacts
  { root := r.val, diags := r.ds.map RDiag.toDiag, facts := r.facts, rdiags := r.ds }

end NaijaVerif.Resolve
