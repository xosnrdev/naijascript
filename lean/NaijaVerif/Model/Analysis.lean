import NaijaVerif.Model.Facts
import NaijaVerif.Model.Diag
import NaijaVerif.Gen.Builtins
/-
Model of the static analyses that build the optimisation plan (`src/analysis/{cfg,reachability,
summary,liveness,diagnostics,opt,effects}.rs`, `classify_expr` / `emit_analysis_warnings` in
`src/resolver.rs`) as they are after the fixes D-03a … D-03f (`/verif/proposed-fixes/D-03*.diff`,
committed to /repo as `fix:` commits).

The Rust code lowers every function body to a side CFG and runs worklist / bit-set dataflow on it.
The model is *structural*: it walks the annotated AST (statement ids `sid`, bindings) with the
per-statement facts of the resolver (`Facts.stmtEffects`) and reproduces what the CFG passes compute:

* reachability: a `live` flag threaded through statement sequences (`afterStmt`): `return`, `comot`,
  `next` clear it, an `if` joins its branches with `or`, a loop passes it through, a nested function
  body starts live (every function has its own CFG whose entry is reachable);
* liveness: backward, continuation style (`lvStmt`): live-after-normal is the threaded state, the
  `comot`/`next` continuations and the scope locals to kill on those edges sit in `LoopCtx`, `return`
  continues with ∅, loops iterate to the least fixpoint.  One quirk of the CFG is reproduced exactly:
  the locals of a bare `start … end` block are killed at the end of the *basic block* in which the
  block closes, not at the `end` itself (cfg.rs `add_scope_kills(nested_cursor.block, …)` followed
  by more statements in the same block).  The state therefore carries `gen`, the locals made live
  by the statements since the last basic-block boundary: at the `end` of a bare block its locals
  survive iff they are in `gen`;
* summaries: transitive closure over direct callees.  The event budget of summary.rs is not
  modelled: the limit preflight bounds the number of events by `max_summary_events` before the
  summaries run, so `available = false` cannot happen on the path from the resolver;
* plan construction as in opt.rs.

Everything indexed by an id goes through `[i]?`; ids out of range (facts that do not belong to the
AST) are rejected up front by `wf` — the driver answers `malformed` — and never reach these
functions on the path from the real front end.
-/
namespace NaijaVerif.Analysis
open NaijaVerif

/-! ### Finite sets of ids as lists -/

def ins (x : Nat) (s : List Nat) : List Nat := if s.contains x then s else x :: s
def uni (a b : List Nat) : List Nat := a.foldr ins b
def dif (a b : List Nat) : List Nat := a.filter (fun x => !b.contains x)
def inter (a b : List Nat) : List Nat := a.filter (fun x => b.contains x)
def subset (a b : List Nat) : Bool := a.all (fun x => b.contains x)

def insertSorted (x : Nat) : List Nat → List Nat
  | [] => [x]
  | y :: ys => if x < y then x :: y :: ys else if x = y then y :: ys else y :: insertSorted x ys

/-- Ascending, duplicate free (canonical output form). -/
def sortDedup (l : List Nat) : List Nat := l.foldr insertSorted []

/-! ### Effect classes: `classify_expr` with fix D-03a -/

def globalClass (name : Bytes) : Option ExprClass :=
  (Gen.Builtins.globals.find? (fun g => g.1 == name)).map (fun g => g.2.2.2)

/-- `MemberBuiltin::from_name(field)` then `member_builtin_class`; `none` for an unknown method. -/
def memberClass (field : Bytes) : Option ExprClass :=
  match Gen.Builtins.memberAny.find? (fun m => m.1 == field) with
  | some (_, k) => (Gen.Builtins.members.find? (fun m => m.kind == k && m.name == field)).map (·.cls)
  | none => none

inductive LTy where
  | num | str | bool | null
deriving DecidableEq, Repr

def litUnary : UnOp → LTy → Option LTy
  | .not, .bool | .not, .null => some .bool
  | .neg, .num => some .num
  | _, _ => none

def isArith : BinOp → Bool
  | .add | .minus | .times | .divide | .mod => true
  | _ => false

def isCmp : BinOp → Bool
  | .eq | .gt | .lt => true
  | _ => false

def isLogic : BinOp → Bool
  | .and | .or => true
  | _ => false

/-- The operator/operand-type combinations the runtime has a case for (`literal_expr_type`). -/
def litBinary (op : BinOp) (l r : LTy) : Option LTy :=
  if isArith op && l == .num && r == .num then some .num
  else if op == .add && ((l == .str && (r == .str || r == .num)) || (l == .num && r == .str)) then some .str
  else if isCmp op && (l == r || l == .null || r == .null) then some .bool
  else if isLogic op && (l == .bool || l == .null) && (r == .bool || r == .null) then some .bool
  else none

/-- Type of an expression built from literals and operators only (`Resolver::literal_expr_type`). -/
def literalTy : Expr → Option LTy
  | .num _ _ => some .num
  | .str _ _ => some .str
  | .bool _ _ => some .bool
  | .null _ => some .null
  | .unary op e _ => (literalTy e).bind (litUnary op)
  | .binary op l r _ =>
      match literalTy l, literalTy r with
      | some a, some b => litBinary op a b
      | _, _ => none
  | _ => none

def commandName : Bytes := b!"command"

/-- `variable_read_class` (fix D-03e): a read of a variable of an enclosing function may come
before that variable's `make` (hoisted call) and is then an `Undefined variable` error. -/
def readClass (capt : Nat → Bool) : Option Nat → ExprClass
  | some id => if capt id then .pureMayTrap else .pureNoTrap
  | none => .pureNoTrap

def segsClass (capt : Nat → Bool) : List Seg → ExprClass
  | [] => .pureNoTrap
  | .lit _ :: ss => segsClass capt ss
  | .var _ b :: ss => (readClass capt b).join (segsClass capt ss)

mutual
  /-- `Resolver::classify_expr` (fixed; `capt id` = local `id` belongs to an enclosing function):
  a user call contributes only its arguments here; the callee's class is joined per statement
  through the summaries (`effClass`). -/
  def classify (capt : Nat → Bool) : Expr → ExprClass
    | .num _ _ | .bool _ _ | .null _ => .pureNoTrap
    | .var _ b _ => readClass capt b
    | .str (.static _) _ => .pureNoTrap
    | .str (.interp segs) _ => segsClass capt segs
    | .array es _ => classifyList capt es
    | .index a i _ _ => ((classify capt a).join (classify capt i)).join .pureMayTrap
    | .binary op l r s =>
        let c := (classify capt l).join (classify capt r)
        if op == .divide || op == .mod || (literalTy (.binary op l r s)).isNone then c.join .pureMayTrap else c
    | .unary op x s =>
        let c := classify capt x
        if (literalTy (.unary op x s)).isNone then c.join .pureMayTrap else c
    | .member o _ _ _ => (classify capt o).join .pureMayTrap
    | .call (.var name _ _) args fn _ =>
        let c := classifyList capt args
        match globalClass name with
        | some gc =>
            let c := c.join gc
            if name == commandName && (args.head?.bind literalTy) != some .str then c.join .pureMayTrap else c
        | none => if fn.isSome then c else c.join .impure
    | .call (.member o field _ _) args _ _ =>
        let c := ((classifyList capt args).join (classify capt o)).join .pureMayTrap
        match memberClass field with
        | some mc => c.join mc
        | none => c.join .impure
    | .call _ args _ _ => (classifyList capt args).join .impure
  def classifyList (capt : Nat → Bool) : List Expr → ExprClass
    | [] => .pureNoTrap
    | e :: es => (classify capt e).join (classifyList capt es)
end

/-- `Resolver::condition_class` (fix D-03f): evaluating the condition of an `if` / `jasi` and then
the run-time test that its value is a boolean or null (`Type mismatch` otherwise); only a type that
follows from the condition's own literals rules the failure out. -/
def condClass (capt : Nat → Bool) (c : Expr) : ExprClass :=
  match literalTy c with
  | some .bool | some .null => classify capt c
  | _ => (classify capt c).join .pureMayTrap

/-- The class `check_stmt` records for a statement (before callee summaries are joined). -/
def stmtClass (capt : Nat → Bool) : Stmt → ExprClass
  | .assign _ _ e _ _ _ | .assignExisting _ _ e _ _ _ | .expr e _ _ => classify capt e
  | .assignIndex _ _ _ _ | .fnDef _ _ _ _ _ _ _ => .impure
  | .ifS c _ _ _ _ | .loop c _ _ _ => condClass capt c
  | .ret (some e) _ _ => classify capt e
  | .ret none _ _ | .brk _ _ | .cont _ _ | .block _ _ _ => .pureNoTrap

mutual
  /-- (statement id, class) of every statement; `cur` = the function whose body is being walked,
  `lo` = owner of a local. -/
  def clsStmt (lo : Nat → Option Nat) (cur : Nat) : Stmt → List (Nat × ExprClass)
    | .fnDef n ns ps (.mk body bs) f sid sp =>
        (match sid with | some i => [(i, stmtClass (fun l => lo l != some cur) (.fnDef n ns ps (.mk body bs) f sid sp))] | none => []) ++
        clsStmts lo (match f with | some g => g | none => cur) body
    | .ifS c (.mk t ts) none sid sp =>
        (match sid with | some i => [(i, stmtClass (fun l => lo l != some cur) (.ifS c (.mk t ts) none sid sp))] | none => []) ++
        clsStmts lo cur t
    | .ifS c (.mk t ts) (some (.mk e es)) sid sp =>
        (match sid with | some i => [(i, stmtClass (fun l => lo l != some cur) (.ifS c (.mk t ts) (some (.mk e es)) sid sp))] | none => []) ++
        clsStmts lo cur t ++ clsStmts lo cur e
    | .loop c (.mk b bs) sid sp =>
        (match sid with | some i => [(i, stmtClass (fun l => lo l != some cur) (.loop c (.mk b bs) sid sp))] | none => []) ++
        clsStmts lo cur b
    | .block (.mk b bs) sid sp =>
        (match sid with | some i => [(i, ExprClass.pureNoTrap)] | none => []) ++ clsStmts lo cur b
    | s => match s.sid with | some i => [(i, stmtClass (fun l => lo l != some cur) s)] | none => []
  def clsStmts (lo : Nat → Option Nat) (cur : Nat) : List Stmt → List (Nat × ExprClass)
    | [] => []
    | s :: ss => clsStmt lo cur s ++ clsStmts lo cur ss
end

/-! ### Statement table -/

inductive Kind where
  | assign | assignExisting | fnDef | other
deriving DecidableEq, Repr

/-- What the passes need to know about one statement besides the resolver's facts. -/
structure Row where
  sid : Nat
  kind : Kind
  span : Span
  /-- `var_span` of an assignment / `name_span` of a function definition -/
  auxSpan : Span
  /-- reachable inside its own function (reachability.rs `reachable_statement_mask`) -/
  live : Bool
  /-- the enclosing statement (or, for a function body's statements, the definition) is reachable -/
  parentLive : Bool
deriving Repr

def stmtKind : Stmt → Kind
  | .assign .. => .assign
  | .assignExisting .. => .assignExisting
  | .fnDef .. => .fnDef
  | _ => .other

def stmtAux : Stmt → Span
  | .assign _ vs _ _ _ _ | .assignExisting _ vs _ _ _ _ => vs
  | .fnDef _ ns _ _ _ _ _ => ns
  | s => s.span

/-! ### Reachability (cfg.rs lowering + reachability.rs, structurally) -/

mutual
  /-- Is the point after `s` reachable when the point before it is (`live`)? -/
  def afterStmt (live : Bool) : Stmt → Bool
    | .ret _ _ _ | .brk _ _ | .cont _ _ => false
    | .block (.mk b _) _ _ => afterStmts live b
    | .ifS _ (.mk t _) none _ _ => afterStmts live t || live
    | .ifS _ (.mk t _) (some (.mk e _)) _ _ => afterStmts live t || afterStmts live e
    | _ => live
  def afterStmts (live : Bool) : List Stmt → Bool
    | [] => live
    | s :: ss => afterStmts (afterStmt live s) ss
end

def mkRow (pl live : Bool) (s : Stmt) : List Row :=
  match s.sid with
  | some i => [{ sid := i, kind := stmtKind s, span := s.span, auxSpan := stmtAux s,
                 live := live, parentLive := pl }]
  | none => []

mutual
  /-- All statements of the program (nested function bodies included) with their reachability.
  `pl`: reachability of the parent statement; a function body starts live, its statements' parent
  is the definition statement. -/
  def rowsStmt (pl live : Bool) : Stmt → List Row
    | .fnDef n ns ps (.mk body bs) f sid sp =>
        mkRow pl live (.fnDef n ns ps (.mk body bs) f sid sp) ++ rowsStmts live true body
    | .ifS c (.mk t ts) none sid sp =>
        mkRow pl live (.ifS c (.mk t ts) none sid sp) ++ rowsStmts live live t
    | .ifS c (.mk t ts) (some (.mk e es)) sid sp =>
        mkRow pl live (.ifS c (.mk t ts) (some (.mk e es)) sid sp) ++ rowsStmts live live t ++ rowsStmts live live e
    | .loop c (.mk b bs) sid sp => mkRow pl live (.loop c (.mk b bs) sid sp) ++ rowsStmts live live b
    | .block (.mk b bs) sid sp => mkRow pl live (.block (.mk b bs) sid sp) ++ rowsStmts live live b
    | .assign v vs e b sid sp => mkRow pl live (.assign v vs e b sid sp)
    | .assignExisting v vs e b sid sp => mkRow pl live (.assignExisting v vs e b sid sp)
    | .assignIndex t e sid sp => mkRow pl live (.assignIndex t e sid sp)
    | .ret e sid sp => mkRow pl live (.ret e sid sp)
    | .brk sid sp => mkRow pl live (.brk sid sp)
    | .cont sid sp => mkRow pl live (.cont sid sp)
    | .expr e sid sp => mkRow pl live (.expr e sid sp)
  def rowsStmts (pl live : Bool) : List Stmt → List Row
    | [] => []
    | s :: ss => rowsStmt pl live s ++ rowsStmts pl (afterStmt live s) ss
end

def rows (root : Block) : List Row := rowsStmts true true root.stmts

/-- Statement ids the analysis calls unreachable. -/
def unreachable (root : Block) : List Nat :=
  ((rows root).filter (fun r => !r.live)).map (·.sid)

/-! ### The analysis context -/

structure Ctx where
  facts : Facts
  rows : List Row
  /-- (statement id, class recorded by `check_stmt`) -/
  cls : List (Nat × ExprClass)

/-- Class of a statement; an id that is not in the table counts as `Impure`. -/
def Ctx.clsOf (c : Ctx) (sid : Nat) : ExprClass :=
  match c.cls.find? (fun p => p.1 == sid) with
  | some p => p.2
  | none => .impure

def Ctx.row? (c : Ctx) (sid : Nat) : Option Row := c.rows.find? (fun r => r.sid == sid)
def Ctx.live (c : Ctx) (sid : Nat) : Bool := match c.row? sid with | some r => r.live | none => false
def Ctx.eff? (c : Ctx) (sid : Nat) : Option StmtEffect := c.facts.stmtEffects[sid]?
def Ctx.reads (c : Ctx) (sid : Nat) : List Nat := match c.eff? sid with | some e => e.reads | none => []
def Ctx.writes (c : Ctx) (sid : Nat) : List Nat := match c.eff? sid with | some e => e.writes | none => []
def Ctx.callees (c : Ctx) (sid : Nat) : List Nat := match c.eff? sid with | some e => e.directCallees | none => []
def Ctx.fnOf (c : Ctx) (sid : Nat) : Nat := match c.eff? sid with | some e => e.function | none => 0
def Ctx.owner (c : Ctx) (l : Nat) : Option Nat := (c.facts.locals[l]?).map (·.owner)
def Ctx.nFns (c : Ctx) : Nat := c.facts.functions.length

/-- Facts and AST belong together: every statement has an id, ids are distinct and index
`stmtEffects`, every id mentioned in the facts is in range. -/
def wf (root : Block) (facts : Facts) : Bool :=
  let rs := rows root
  let nS := facts.stmtEffects.length
  let nF := facts.functions.length
  let nL := facts.locals.length
  let sids := rs.map (·.sid)
  sids.length == nS && (sortDedup sids).length == nS && sids.all (· < nS) &&
  facts.functionDirects.length == nF && facts.scopeLocals.length == facts.scopes.length && 0 < nF &&
  facts.stmtEffects.all (fun e =>
    e.function < nF && e.scope < facts.scopes.length && e.reads.all (· < nL) && e.writes.all (· < nL) &&
    e.directCallees.all (· < nF)) &&
  facts.functionDirects.all (fun d =>
    d.directCallees.all (· < nF) && d.captureReads.all (· < nL) && d.captureWrites.all (· < nL)) &&
  facts.locals.all (fun l => l.owner < nF && l.declaringScope < facts.scopes.length &&
    (match l.declStmt with | some s => s < nS | none => true)) &&
  facts.functions.all (fun f => match f.defStmt with | some s => s < nS | none => true) &&
  facts.scopeLocals.all (fun ls => ls.all (· < nL))

/-! ### Summaries (summary.rs; fix D-03c) -/

def Ctx.direct (c : Ctx) (f : Nat) : FunctionDirect :=
  match c.facts.functionDirects[f]? with
  | some d => d
  | none => { directCallees := [], captureReads := [], captureWrites := [] }

def iter {α : Type} (f : α → α) : Nat → α → α
  | 0, x => x
  | n + 1, x => iter f n (f x)

/-- Functions reachable from `f` through direct calls (reflexive). -/
def Ctx.calleesStar (c : Ctx) (f : Nat) : List Nat :=
  iter (fun s => s.foldl (fun acc g => uni (c.direct g).directCallees acc) s) c.nFns [f]

def Ctx.transReads (c : Ctx) (f : Nat) : List Nat :=
  (c.calleesStar f).foldl (fun acc g => uni (c.direct g).captureReads acc) []

def Ctx.transWrites (c : Ctx) (f : Nat) : List Nat :=
  (c.calleesStar f).foldl (fun acc g => uni (c.direct g).captureWrites acc) []

/-- `compute_body_classes`: join of the statement classes of the body; `Impure` when the body
stores into a captured variable (D-03c). -/
def Ctx.bodyClass (c : Ctx) (f : Nat) : ExprClass :=
  let j := c.rows.foldl (fun acc r => if c.fnOf r.sid == f then acc.join (c.clsOf r.sid) else acc) ExprClass.pureNoTrap
  if (c.direct f).captureWrites.isEmpty then j else .impure

def Ctx.transClass (c : Ctx) (f : Nat) : ExprClass :=
  (c.calleesStar f).foldl (fun acc g => acc.join (c.bodyClass g)) .pureNoTrap

/-- opt.rs `stmt_effective_class`. -/
def Ctx.effClass (c : Ctx) (sid : Nat) : ExprClass :=
  (c.callees sid).foldl (fun acc g => acc.join (c.transClass g)) (c.clsOf sid)

/-! ### Call-graph reachability (diagnostics.rs `compute_function_reachability`) -/

def Ctx.bodyReachStep (c : Ctx) (s : List Nat) : List Nat :=
  c.rows.foldl (fun acc r => if r.live && s.contains (c.fnOf r.sid) then uni (c.callees r.sid) acc else acc) s

def Ctx.bodyReachable (c : Ctx) : List Nat := iter c.bodyReachStep c.nFns [0]

def Ctx.defReachable (c : Ctx) (g : Nat) : Bool :=
  if g == 0 then true else
  match (c.facts.functions[g]?).bind (·.defStmt) with
  | some s => c.live s && c.bodyReachable.contains (c.fnOf s)
  | none => false

/-- The body-reachable set is closed under the calls of reachable statements of body-reachable
functions (the fixpoint iteration ran long enough).  A conjunct of `globalOkB`; hypothesis of T3. -/
def Ctx.brClosed (c : Ctx) : Bool :=
  let br := c.bodyReachable
  c.rows.all fun r => !(r.live && br.contains (c.fnOf r.sid)) || (c.callees r.sid).all (fun g => br.contains g)

/-- `unused_functions`: (definition statement, function id). -/
def Ctx.unusedFns (c : Ctx) : List (Nat × Nat) :=
  let br := c.bodyReachable
  (List.range c.nFns).filterMap fun g =>
    if g == 0 then none else
    match (c.facts.functions[g]?).bind (·.defStmt) with
    | some s => if c.live s && c.defReachable g && !br.contains g then some (s, g) else none
    | none => none

/-! ### Liveness (liveness.rs over the CFG of cfg.rs; fixes D-03b, D-03d) -/

/-- Own locals of the scope of a statement list (`scope_of_block` → `scope_locals`); the scope is
read off the first statement's facts, an empty block declares nothing. -/
def Ctx.scopeLocalsOf (c : Ctx) (ss : List Stmt) : List Nat :=
  match ss with
  | [] => []
  | s :: _ =>
      match s.sid.bind c.eff? with
      | some e => match c.facts.scopeLocals[e.scope]? with | some ls => ls | none => []
      | none => []

/-- Locals of function `f` a statement's callees may read (transitive capture reads). -/
def Ctx.calleeReads (c : Ctx) (f sid : Nat) : List Nat :=
  (c.callees sid).foldl (fun acc g => uni ((c.transReads g).filter (fun l => c.owner l == some f)) acc) []

/-- Backward state: `live` = live set, `gen` = locals made live since the last basic-block end. -/
structure LS where
  live : List Nat
  gen : List Nat
deriving Repr

/-- `apply_op_transfer` (fixed: only the statement's own writes kill). -/
def Ctx.transfer (c : Ctx) (f sid : Nat) (s : LS) : LS :=
  let r := uni (c.reads sid) (c.calleeReads f sid)
  { live := uni r (dif s.live (c.writes sid)), gen := uni r (dif s.gen (c.writes sid)) }

structure LoopCtx where
  /-- live-in of the `comot` target / of the `next` target; `none` outside a loop -/
  brk : Option (List Nat)
  cont : Option (List Nat)
  /-- own locals of every scope from the innermost one through the loop body (`kill_scopes_through`) -/
  kills : List Nat

def boundary (l : List Nat) : LS := { live := l, gen := [] }

/-- Least fixpoint by iteration from ∅ (at most `fuel` rounds; the sets only grow). -/
def lfp (step : List Nat → List Nat) : Nat → List Nat → List Nat
  | 0, x => x
  | n + 1, x => let y := step x; if subset y x then x else lfp step n (uni y x)

mutual
  /-- State before `s` from the state after it, and the assignments whose value is dead
  (`unused_assignments`, reachable statements only).  `nl` bounds the fixpoint rounds. -/
  def lvStmt (c : Ctx) (f nl : Nat) (lc : LoopCtx) : Stmt → LS → LS × List Nat
    | .ret _ (some sid) _, _ => (c.transfer f sid (boundary []), [])
    | .brk (some sid) _, _ =>
        (c.transfer f sid (boundary (match lc.brk with | some b => dif b lc.kills | none => [])), [])
    | .cont (some sid) _, _ =>
        (c.transfer f sid (boundary (match lc.cont with | some b => dif b lc.kills | none => [])), [])
    | .block (.mk b _) (some sid) _, st =>
        let sl := c.scopeLocalsOf b
        -- the block's locals die at the end of the basic block: they survive here iff generated since
        let st' : LS := { live := uni (inter st.gen sl) (dif st.live sl), gen := st.gen }
        let (st1, w) := lvStmts c f nl { lc with kills := uni sl lc.kills } b st'
        (c.transfer f sid st1, w)
    | .ifS _ (.mk t _) els (some sid) _, st =>
        let tl := c.scopeLocalsOf t
        let (tIn, wt) := lvStmts c f nl { lc with kills := uni tl lc.kills } t (boundary (dif st.live tl))
        let (eIn, we) :=
          match els with
          | some (.mk e _) =>
              let el := c.scopeLocalsOf e
              lvStmts c f nl { lc with kills := uni el lc.kills } e (boundary (dif st.live el))
          | none => (boundary st.live, [])
        (c.transfer f sid (boundary (uni tIn.live eIn.live)), wt ++ we)
    | .loop _ (.mk b _) (some sid) _, st =>
        let bl := c.scopeLocalsOf b
        let a := st.live
        let head (x : List Nat) : List Nat :=
          let (bIn, _) := lvStmts c f nl { brk := some a, cont := some x, kills := bl } b (boundary (dif x bl))
          (c.transfer f sid (boundary (uni bIn.live a))).live
        let x := lfp head (nl + 1) []
        let (_, w) := lvStmts c f nl { brk := some a, cont := some x, kills := bl } b (boundary (dif x bl))
        (boundary x, w)
    | .fnDef _ _ _ _ _ (some sid) _, st => (c.transfer f sid st, [])
    | .assign _ _ _ _ (some sid) _, st =>
        let w := match (c.writes sid).head? with
          | some l => if c.live sid && !st.live.contains l then [sid] else []
          | none => []
        (c.transfer f sid st, w)
    | .assignExisting _ _ _ _ (some sid) _, st =>
        let w := match (c.writes sid).head? with
          | some l => if c.live sid && !st.live.contains l then [sid] else []
          | none => []
        (c.transfer f sid st, w)
    | .assignIndex _ _ (some sid) _, st => (c.transfer f sid st, [])
    | .expr _ (some sid) _, st => (c.transfer f sid st, [])
    | _, st => (st, [])
  def lvStmts (c : Ctx) (f nl : Nat) (lc : LoopCtx) : List Stmt → LS → LS × List Nat
    | [], st => (st, [])
    | s :: ss, st =>
        let (st1, w1) := lvStmts c f nl lc ss st
        let (st2, w2) := lvStmt c f nl lc s st1
        (st2, w2 ++ w1)
end

/-- Dead assignments of one function body. -/
def Ctx.deadStoresIn (c : Ctx) (f : Nat) (body : List Stmt) : List Nat :=
  (lvStmts c f c.facts.locals.length { brk := none, cont := none, kills := [] } body (boundary [])).2

mutual
  /-- Every function body of the program with its function id (`function_by_body`). -/
  def bodiesStmt : Stmt → List (Nat × List Stmt)
    | .fnDef _ _ _ (.mk body _) (some f) _ _ => (f, body) :: bodiesStmts body
    | .fnDef _ _ _ (.mk body _) none _ _ => bodiesStmts body
    | .ifS _ (.mk t _) none _ _ => bodiesStmts t
    | .ifS _ (.mk t _) (some (.mk e _)) _ _ => bodiesStmts t ++ bodiesStmts e
    | .loop _ (.mk b _) _ _ => bodiesStmts b
    | .block (.mk b _) _ _ => bodiesStmts b
    | _ => []
  def bodiesStmts : List Stmt → List (Nat × List Stmt)
    | [] => []
    | s :: ss => bodiesStmt s ++ bodiesStmts ss
end

/-- `unused_assignments` for the whole program. -/
def Ctx.unusedAsg (c : Ctx) (root : Block) : List Nat :=
  ((0, root.stmts) :: bodiesStmts root.stmts).foldl (fun acc fb => acc ++ c.deadStoresIn fb.1 fb.2) []

/-! ### Unused variables (diagnostics.rs) -/

def Ctx.usedLocals (c : Ctx) : List Nat :=
  let br := c.bodyReachable
  c.rows.foldl (fun acc r =>
    if r.live && br.contains (c.fnOf r.sid) then
      (c.callees r.sid).foldl (fun acc g => uni (c.transReads g) acc) (uni (c.reads r.sid) acc)
    else acc) []

/-- (declaration statement, local id). -/
def Ctx.unusedVars (c : Ctx) : List (Nat × Nat) :=
  let used := c.usedLocals
  let br := c.bodyReachable
  (List.range c.facts.locals.length).filterMap fun l =>
    match c.facts.locals[l]? with
    | some li =>
        if li.kind == .variable && !used.contains l && br.contains li.owner then
          match li.declStmt with
          | some s => if c.live s then some (s, l) else none
          | none => none
        else none
    | none => none

/-! ### Plan (opt.rs) -/

/-- `compute_max_local_reference_stmt` for one local. -/
def Ctx.maxRef (c : Ctx) (l : Nat) : Option Nat :=
  c.rows.foldl (fun acc r =>
    if !r.live then acc else
    let f := c.fnOf r.sid
    let viaCallee := (c.callees r.sid).any fun g =>
      c.owner l == some f && ((c.transReads g).contains l || (c.transWrites g).contains l)
    if (c.reads r.sid).contains l || (c.writes r.sid).contains l || viaCallee then
      match acc with
      | some m => some (max m r.sid)
      | none => some r.sid
    else acc) none

def Ctx.declRemovable (c : Ctx) (l sid : Nat) : Bool :=
  match c.maxRef l with
  | none => true
  | some m => m ≤ sid

structure Plan where
  stmts : List Nat
  fns : List Nat
deriving Repr, DecidableEq

def Plan.empty : Plan := ⟨[], []⟩

/-- `p` removes nothing that `q` keeps. -/
def Plan.sub (p q : Plan) : Bool := subset p.stmts q.stmts && subset p.fns q.fns

inductive WKind where
  | unreachable | unusedAsg | unusedVar | unusedFn
deriving DecidableEq, Repr

def WKind.ord : WKind → Nat
  | .unreachable => 0 | .unusedAsg => 1 | .unusedVar => 2 | .unusedFn => 3

def WKind.name : WKind → String
  | .unreachable => "unreachable" | .unusedAsg => "unusedAsg" | .unusedVar => "unusedVar" | .unusedFn => "unusedFn"

def WKind.diag : WKind → DiagKind
  | .unreachable => .unreachableCode | .unusedAsg => .unusedAssignment | .unusedVar => .unusedVariable
  | .unusedFn => .unusedFunction

structure Warn where
  sid : Nat
  kind : WKind
  span : Span
deriving Repr

def insertWarn (w : Warn) : List Warn → List Warn
  | [] => [w]
  | x :: xs =>
      if w.sid < x.sid || (w.sid == x.sid && w.kind.ord < x.kind.ord) then w :: x :: xs
      else x :: insertWarn w xs

structure Result where
  unreach : List Nat
  unusedAsg : List Nat
  unusedVar : List (Nat × Nat)
  unusedFn : List (Nat × Nat)
  plan : Plan
  /-- in emission order: by statement id, then unreachable < assignment < variable < function -/
  warns : List Warn
  cls : List ExprClass
deriving Repr

def ownerFn (facts : Facts) (l : Nat) : Option Nat := (facts.locals[l]?).map (·.owner)

def mkCtx (root : Block) (facts : Facts) : Ctx :=
  { facts := facts, rows := rows root, cls := clsStmts (ownerFn facts) 0 root.stmts }

/-- Statements the unused-assignment verdicts make removable. -/
def Ctx.removableAsg (c : Ctx) (ua : List Nat) : List Nat :=
  ua.filter fun s =>
    c.effClass s == .pureNoTrap &&
    (match c.row? s with
     | some r =>
        if r.kind == .assign then
          (match (c.writes s).head? with | some l => c.declRemovable l s | none => false)
        else true
     | none => false)

/-- Declarations of never-read variables that are removable. -/
def Ctx.removableDecls (c : Ctx) (uv : List (Nat × Nat)) : List Nat :=
  (uv.filter fun (s, l) => c.effClass s == .pureNoTrap && c.declRemovable l s).map (·.1)

/-- `emit_analysis_warnings` below the limit preflight. -/
def analyse (root : Block) (facts : Facts) : Result :=
  let c := mkCtx root facts
  let unreach := unreachable root
  let ua := c.unusedAsg root
  let uv := c.unusedVars
  let uf := c.unusedFns
  let spanOf (s : Nat) (aux : Bool) : Span :=
    match c.row? s with
    | some r => if aux then r.auxSpan else r.span
    | none => ⟨0, 0⟩
  let w1 := (c.rows.filter (fun r => !r.live && r.parentLive)).map fun r => ({ sid := r.sid, kind := .unreachable, span := r.span } : Warn)
  let w2 := ua.map fun s => ({ sid := s, kind := .unusedAsg, span := spanOf s false } : Warn)
  let w3 := uv.map fun (s, _) => ({ sid := s, kind := .unusedVar, span := spanOf s true } : Warn)
  let w4 := uf.map fun (s, _) => ({ sid := s, kind := .unusedFn, span := spanOf s true } : Warn)
  { unreach := unreach
    unusedAsg := ua
    unusedVar := uv
    unusedFn := uf
    plan := { stmts := uni unreach (uni (c.removableAsg ua) (c.removableDecls uv)), fns := uf.map (·.2) }
    warns := (w1 ++ w2 ++ w3 ++ w4).foldr insertWarn []
    cls := (List.range facts.stmtEffects.length).map c.clsOf }

/-- The plan of the model (`build_optimization_plan`). -/
def planModel (root : Block) (facts : Facts) : Plan := (analyse root facts).plan

end NaijaVerif.Analysis
