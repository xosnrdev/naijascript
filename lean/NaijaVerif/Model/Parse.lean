import NaijaVerif.Model.Ast
import NaijaVerif.Model.Diag
import NaijaVerif.Gen.Pratt
/-
Model of `src/syntax/parser.rs`: recursive descent + Pratt, always returns a complete AST and a
diagnostics list.  Function by function the model follows the Rust code, including

* `bump` at the end of the token stream fabricates `EOF` at `cur.span.end..cur.span.end`;
* every `end` of a span is `cur.span.end` *after* consumption (so spans reach over the look-ahead token);
* `parse_expression` does `mem::take(&mut self.cur.token)`: in its fallback arm the current token has
  been **replaced by `EOF`** (same span) before the error is emitted and `synchronize` runs — so
  `synchronize` is a no-op there and everything after the offending token is silently dropped;
* every recovery path (placeholder `"_"` names, `Expr::Null(0..0)` statements, fabricated `Number "0"`);
* `parse_string_literal` / `parse_template_segments` (strings whose token is `escaped` are `Static`).

The table-like parts (binary binding powers, prefix operand power, statement-start / block-stop /
synchronisation sets) come from `Gen/Pratt.lean`, regenerated from the source on every check.

The token list is what the lexer *iterator* yields, with or without the closing `EOF` that `Lex.lex` appends
(`Model/Pipeline.lean` passes it with): `Parser::new` takes the first token or the default `EOF 0..0`; the real
lexer never yields `EOF`, the model accepts it anywhere and fabricates it again past the end of the list.  All recursion is
structural: on a fuel argument for the mutually recursive descent (`Lemmas/ParseFuel.lean` proves
fuel monotonicity and adequacy of `fuelFor`), on the token list for `synchronize` and the parameter
list, and well-founded on `len - i` for the template scanner.
-/
namespace NaijaVerif.Parse
open NaijaVerif

/-! ### Tables -/

/-- Same token kind (payloads ignored). -/
def sameKind : Tok → Tok → Bool
  | .str _ _, .str _ _ => true
  | .ident _, .ident _ => true
  | .num _, .num _ => true
  | .str _ _, _ | .ident _, _ | .num _, _ => false
  | _, .str _ _ | _, .ident _ | _, .num _ => false
  | a, b => a == b

def kindIn (set : List Tok) (t : Tok) : Bool := set.any (sameKind t)

def isStmtStart (t : Tok) : Bool := kindIn Gen.Pratt.stmtStart t
def isBlockStop (t : Tok) : Bool := kindIn Gen.Pratt.blockStop t
def isSync (t : Tok) : Bool := kindIn Gen.Pratt.syncSet t

/-- The operator row of a token in `parse_expression_continuation`. -/
def binInfo (t : Tok) : Option (BinOp × Nat × Nat) :=
  match Gen.Pratt.binTable.find? (fun r => r.1 == t) with
  | some (_, op, l, r) => some (op, l, r)
  | none => none

/-- The prefix-operator arm of a token in `parse_expression`. -/
def unaryInfo (t : Tok) : Option (UnOp × Nat) :=
  match Gen.Pratt.unaryTable.find? (fun r => r.1 == t) with
  | some (_, op, bp) => some (op, bp)
  | none => none

/-! ### Parser state -/

structure PState where
  cur : SpTok
  rest : List SpTok
  /-- syntax diagnostics, most recent first -/
  errs : List Diag
deriving Repr, Inhabited

def eofAt (p : Nat) : SpTok := ⟨.eof, ⟨p, p⟩⟩

/-- `Parser::new`: `lexer.next().unwrap_or_default()`. -/
def PState.init : List SpTok → PState
  | [] => ⟨⟨.eof, ⟨0, 0⟩⟩, [], []⟩
  | t :: ts => ⟨t, ts, []⟩

/-- `bump`. -/
def PState.bump (st : PState) : PState :=
  match st.rest with
  | [] => { st with cur := eofAt st.cur.span.hi }
  | t :: ts => { st with cur := t, rest := ts }

/-- `emit_error(span, kind, labels)`. -/
def PState.err (st : PState) (k : DiagKind) (sp : Span) (labels : List Span) : PState :=
  { st with errs := ⟨.error, k, sp, labels⟩ :: st.errs }

/-- `emit_error(span, kind, vec![Label { span, .. }])`. -/
def PState.err1 (st : PState) (k : DiagKind) (sp : Span) : PState := st.err k sp [sp]

/-- `mem::take(&mut self.cur.token)`. -/
def PState.take (st : PState) : PState := { st with cur := ⟨.eof, st.cur.span⟩ }

/-- `if let Token::T = self.cur.token { self.bump() } else { emit_error(span, kind, [span]) }`. -/
def PState.expect (st : PState) (t : Tok) (k : DiagKind) (sp : Span) : PState :=
  if st.cur.tok == t then st.bump else st.err1 k sp

def syncGo (cur : SpTok) : List SpTok → SpTok × List SpTok
  | [] => if isSync cur.tok then (cur, []) else (eofAt cur.span.hi, [])
  | t :: ts => if isSync cur.tok then (cur, t :: ts) else syncGo t ts

/-- `synchronize`: bump until a synchronisation token. -/
def PState.sync (st : PState) : PState :=
  let r := syncGo st.cur st.rest
  { st with cur := r.1, rest := r.2 }

/-! ### String literals (`parse_string_literal`, `parse_template_segments`) -/

/-- Number of leading elements satisfying `p`. -/
def scanWhile (p : Nat → Bool) : Bytes → Nat
  | [] => 0
  | b :: bs => if p b then scanWhile p bs + 1 else 0

/-- `(b as char).is_whitespace()` for a byte. -/
def isWsByte (b : Nat) : Bool :=
  (9 ≤ b && b ≤ 13) || b == 32 || b == 0x85 || b == 0xA0

def isAlphaU (b : Nat) : Bool := (65 ≤ b && b ≤ 90) || (97 ≤ b && b ≤ 122) || b == 95
def isAlnumU (b : Nat) : Bool := isAlphaU b || (48 ≤ b && b ≤ 57)

def slice (bs : Bytes) (a b : Nat) : Bytes := (bs.drop a).take (b - a)

/-- `if i > beg { push Literal(beg..i) }`. -/
def pushLit (bs : Bytes) (beg i : Nat) (acc : List Seg) : List Seg :=
  if i > beg then .lit (slice bs beg i) :: acc else acc

def lbrace : Nat := 123
def rbrace : Nat := 125

theorem scanWhile_le (p : Nat → Bool) (bs : Bytes) : scanWhile p bs ≤ bs.length := by
  induction bs with
  | nil => simp [scanWhile]
  | cons b bs ih => simp only [scanWhile]; split <;> simp <;> omega

/-- The `while i < len` loop of `parse_template_segments`; `acc` is the buffer in reverse. -/
def tmplLoop (bs : Bytes) (i beg : Nat) (acc : List Seg) : List Seg :=
  let len := bs.length
  if h : i < len then
    -- `memchr2(b'{', b'}', bytes, i)`
    let ix := i + scanWhile (fun b => b != lbrace && b != rbrace) (bs.drop i)
    if hix : ix < len then
      let c := bs.getD ix 0
      if c == lbrace then
        if ix + 1 < len && bs.getD (ix + 1) 0 == lbrace then
          tmplLoop bs (ix + 2) (ix + 2) (.lit [lbrace] :: pushLit bs beg ix acc)
        else
          let j0 := ix + 1 + scanWhile isWsByte (bs.drop (ix + 1))
          let fallback : Unit → List Seg := fun _ =>
            -- literal up to and including the next `}`
            let e0 := ix + 1 + scanWhile (fun b => b != rbrace) (bs.drop (ix + 1))
            let e := min (e0 + 1) len   -- `if end < len { end += 1 }` (`e0 ≤ len`)
            tmplLoop bs e e (.lit (slice bs ix e) :: pushLit bs beg ix acc)
          if j0 < len && isAlphaU (bs.getD j0 0) then
            let j1 := j0 + 1 + scanWhile isAlnumU (bs.drop (j0 + 1))
            let j2 := j1 + scanWhile isWsByte (bs.drop j1)
            if j2 < len && bs.getD j2 0 == rbrace then
              tmplLoop bs (j2 + 1) (j2 + 1) (.var (slice bs j0 j1) none :: pushLit bs beg ix acc)
            else fallback ()
          else fallback ()
      else if c == rbrace then
        if ix + 1 < len && bs.getD (ix + 1) 0 == rbrace then
          tmplLoop bs (ix + 2) (ix + 2) (.lit [rbrace] :: pushLit bs beg ix acc)
        else tmplLoop bs (ix + 1) beg acc
      else tmplLoop bs (ix + 1) beg acc
    else (if beg < len then .lit (slice bs beg len) :: acc else acc)
  else (if beg < len then .lit (slice bs beg len) :: acc else acc)
termination_by bs.length - i
decreasing_by all_goals omega

/-- `parse_template_segments`. -/
def templateSegs (bs : Bytes) : List Seg := (tmplLoop bs 0 0 []).reverse

/-- `parse_string_literal`: the parts of a string token. -/
def strParts (content : Bytes) (escaped : Bool) : StrParts :=
  if !content.contains lbrace then .static content
  else if escaped then .static content
  else
    let segs := templateSegs content
    if segs.isEmpty then .static content else .interp segs

/-! ### Expressions -/

/-- The single-token arms of `parse_expression`. -/
def atomOf (t : SpTok) : Option Expr :=
  match t.tok with
  | .num n => some (.num n t.span)
  | .str c esc => some (.str (strParts c esc) t.span)
  | .tru => some (.bool true t.span)
  | .fals => some (.bool false t.span)
  | .null => some (.null t.span)
  | .ident v => some (.var v none t.span)
  | _ => none

def underscore : Bytes := [95]

/-- After `.`: the field name (with recovery), then `bump`. -/
def parseField (st : PState) : Bytes × Span × PState :=
  let sp := st.cur.span
  match st.cur.tok with
  | .ident name => (name, sp, st.bump)
  | t =>
    if t.isReserved then (underscore, sp, (st.err1 .synReservedKeyword sp).bump)
    else (underscore, sp, (st.err1 .expectedIdentifier sp).bump)

/-- `if let Token::RBracket = cur { end = cur.span.end; bump } else { error; cur.span.end }`. -/
def closeBracket (st : PState) : Nat × PState :=
  if st.cur.tok == .rbracket then (st.cur.span.hi, st.bump)
  else (st.cur.span.hi, st.err1 .expectedRBracket st.cur.span)

mutual
  /-- `parse_expression(min_bp)`. -/
  def parseExpr : Nat → Nat → PState → Option (Expr × PState)
    | 0, _, _ => none
    | f + 1, minBp, st =>
      let start := st.cur.span.lo
      match atomOf st.cur with
      | some e => parseCont f minBp e st.bump
      | none =>
        match unaryInfo st.cur.tok with
        | some (op, bp) =>
          match parseExpr f bp st.bump with
          | none => none
          | some (e, st1) => parseCont f minBp (.unary op e ⟨start, st1.cur.span.hi⟩) st1
        | none =>
          if st.cur.tok == .lparen then
            match parseExpr f 0 st.bump with
            | none => none
            | some (e, st1) =>
              parseCont f minBp e
                (st1.expect .rparen .expectedNumberOrVariableOrLParen st1.cur.span)
          else if st.cur.tok == .lbracket then
            let st1 := st.bump
            match (if st1.cur.tok == .rbracket then some ([], st1) else parseElems f .rbracket st1) with
            | none => none
            | some (es, st2) =>
              let (e, st3) := closeBracket st2
              parseCont f minBp (.array es ⟨start, e⟩) st3
          else
            -- `mem::take` has replaced the current token by EOF
            let st1 := (st.take.err1 .expectedNumberOrVariableOrLParen st.cur.span).sync
            parseCont f minBp (.num [48] st1.cur.span) st1

  /-- `parse_expression_continuation(lhs, min_bp)`: the Pratt loop. -/
  def parseCont : Nat → Nat → Expr → PState → Option (Expr × PState)
    | 0, _, _, _ => none
    | f + 1, minBp, lhs, st =>
      let start := lhs.span.lo
      if st.cur.tok == .dot then
        let (field, fsp, st1) := parseField st.bump
        parseCont f minBp (.member lhs field fsp ⟨start, st1.cur.span.hi⟩) st1
      else if st.cur.tok == .lparen then
        let st1 := st.bump
        match (if st1.cur.tok == .rparen then some ([], st1) else parseElems f .rparen st1) with
        | none => none
        | some (args, st2) =>
          let st3 := st2.expect .rparen .expectedRParen st2.cur.span
          parseCont f minBp (.call lhs args none ⟨start, st3.cur.span.hi⟩) st3
      else if st.cur.tok == .lbracket then
        let bracketStart := st.cur.span.lo
        match parseExpr f 0 st.bump with
        | none => none
        | some (ix, st1) =>
          let (e, st2) := closeBracket st1
          parseCont f minBp (.index lhs ix ⟨bracketStart, e⟩ ⟨start, e⟩) st2
      else
        match binInfo st.cur.tok with
        | none => some (lhs, st)
        | some (op, lbp, rbp) =>
          if lbp < minBp then some (lhs, st)
          else
            match parseExpr f rbp st.bump with
            | none => none
            | some (rhs, st1) => parseCont f minBp (.binary op lhs rhs ⟨start, st1.cur.span.hi⟩) st1

  /-- The argument / element loop: `loop { e = parse_expression(0); push; if Comma { bump; if cur is
      the closer { break } } else { break } }`. -/
  def parseElems : Nat → Tok → PState → Option (List Expr × PState)
    | 0, _, _ => none
    | f + 1, close, st =>
      match parseExpr f 0 st with
      | none => none
      | some (e, st1) =>
        if st1.cur.tok == .comma then
          let st2 := st1.bump
          if st2.cur.tok == close then some ([e], st2)
          else
            match parseElems f close st2 with
            | none => none
            | some (es, st3) => some (e :: es, st3)
        else some ([e], st1)
end

/-! ### Statements -/

/-- Name after `do` / `make` / `.`: identifier, or placeholder `_` with a diagnostic.
    `missSpan` is the span of the "missing identifier" diagnostic. -/
def nameOrPlaceholder (st : PState) (missSpan : Span) : Bytes × PState :=
  match st.cur.tok with
  | .ident n => (n, st)
  | t =>
    if t.isReserved then (underscore, st.err1 .synReservedKeyword st.cur.span)
    else (underscore, st.err1 .expectedIdentifier missSpan)

/-- One round of the parameter loop on the current token: `none` = `break` before consuming. -/
def paramStep (st : PState) : Option (Param × PState) :=
  match st.cur.tok with
  | .ident p => some ({ name := p, span := st.cur.span }, st)
  | t =>
    if t.isReserved then
      some ({ name := underscore, span := st.cur.span }, st.err1 .synReservedKeyword st.cur.span)
    else none

/-- The parameter loop of `parse_function_def`, structural on the remaining tokens:
    `cur` is examined; a parameter consumes `cur`; a following comma is consumed too. -/
def paramsGo (cur : SpTok) (errs : List Diag) : List SpTok → List Param × PState
  | [] =>
    match paramStep ⟨cur, [], errs⟩ with
    | none => ([], ⟨cur, [], errs⟩)
    | some (p, st) => ([p], st.bump)       -- bump gives EOF: neither comma nor parameter
  | [t] =>
    match paramStep ⟨cur, [t], errs⟩ with
    | none => ([], ⟨cur, [t], errs⟩)
    | some (p, st) =>
      let st1 := st.bump
      if st1.cur.tok == .comma then
        -- bump over the comma fabricates EOF, on which the loop breaks
        ([p], st1.bump)
      else ([p], st1)
  | t :: u :: us =>
    match paramStep ⟨cur, t :: u :: us, errs⟩ with
    | none => ([], ⟨cur, t :: u :: us, errs⟩)
    | some (p, st) =>
      if t.tok == .comma then
        let r := paramsGo u st.errs us
        (p :: r.1, r.2)
      else ([p], st.bump)

def parseParams (st : PState) : List Param × PState := paramsGo st.cur st.errs st.rest

structure FnHeader where
  name : Bytes
  doSpan : Span
  rparenSpan : Span
  startSpan : Span
  params : List Param

/-- `parse_function_def` up to (not including) the body. -/
def parseFnHeader (start : Nat) (st : PState) : FnHeader × PState :=
  let doSpan := st.cur.span
  let st := st.bump
  let nameSpan := st.cur.span
  let (name, st) := nameOrPlaceholder st doSpan
  let st := st.bump
  let lparenSpan := st.cur.span
  let st := st.expect .lparen .expectedLParen ⟨start, nameSpan.hi⟩
  let (params, st) := parseParams st
  let rparenSpan := st.cur.span
  let lastHi := match params.getLast? with | some p => p.span.hi | none => lparenSpan.hi
  let st := st.expect .rparen .expectedRParen ⟨start, lastHi⟩
  let startSpan := st.cur.span
  let st := st.expect .start .expectedStartBlock ⟨start, rparenSpan.hi⟩
  ({ name, doSpan, rparenSpan, startSpan, params }, st)

/-- `parse_assignment` up to the optional `get`: returns name, name span, state at `get`/after. -/
def parseMakeHeader (st : PState) : Bytes × Span × PState :=
  let makeSpan := st.cur.span
  let st := st.bump
  match st.cur.tok with
  | .ident n => (n, st.cur.span, st.bump)
  | t =>
    if t.isReserved then (underscore, st.cur.span, (st.err1 .synReservedKeyword st.cur.span).bump)
    else (underscore, ⟨0, 0⟩, (st.err1 .expectedIdentifier makeSpan).bump)

/-- `( cond ) start` of `if to say` / `jasi`, after the keyword: open paren. -/
def openCond (kwSpan : Span) (st : PState) : PState :=
  st.expect .lparen .expectedLParen kwSpan

/-- After the condition: `)` then `start`; returns the span of the token at `start` position too. -/
def closeCond (start : Nat) (cond : Expr) (st : PState) : Span × PState :=
  let rparenSpan := st.cur.span
  let st := st.expect .rparen .expectedRParen ⟨start, cond.span.hi⟩
  let startSpan := st.cur.span
  let st := st.expect .start .expectedStartBlock ⟨start, rparenSpan.hi⟩
  (startSpan, st)

/-- The tail of the identifier-led statement once the target and the value are known. -/
def finishAssign (start : Nat) (target value : Expr) (st : PState) : Stmt × PState :=
  let sp : Span := ⟨start, st.cur.span.hi⟩
  match target with
  | .var name _ vsp => (.assignExisting name vsp value none none sp, st)
  | .index .. => (.assignIndex target value none sp, st)
  | _ => (.expr (.null ⟨0, 0⟩) none ⟨0, 0⟩, st.err1 .invalidAssignmentTarget sp)

mutual
  /-- `parse_statement`. -/
  def parseStmt : Nat → PState → Option (Stmt × PState)
    | 0, _ => none
    | f + 1, st =>
      let start := st.cur.span.lo
      match st.cur.tok with
      | .do =>
        let (h, st1) := parseFnHeader start st
        match parseBlock f st1 with
        | none => none
        | some (body, st2) =>
          let st3 := st2.expect .end .unterminatedBlock ⟨start, h.startSpan.hi⟩
          some (.fnDef h.name ⟨h.doSpan.lo, h.rparenSpan.hi⟩ h.params body none none
                  ⟨start, st3.cur.span.hi⟩, st3)
      | .ret =>
        let st1 := st.bump
        if st1.cur.tok == .end || st1.cur.tok == .eof then
          some (.ret none none ⟨start, st1.cur.span.hi⟩, st1)
        else
          match parseExpr f 0 st1 with
          | none => none
          | some (e, st2) => some (.ret (some e) none ⟨start, st2.cur.span.hi⟩, st2)
      | .make =>
        let (name, nameSpan, st1) := parseMakeHeader st
        if st1.cur.tok == .get then
          match parseExpr f 0 st1.bump with
          | none => none
          | some (e, st2) => some (.assign name nameSpan e none none ⟨start, st2.cur.span.hi⟩, st2)
        else
          some (.assign name nameSpan (.null nameSpan) none none ⟨start, st1.cur.span.hi⟩, st1)
      | .ifToSay =>
        let st1 := openCond st.cur.span st.bump
        match parseExpr f 0 st1 with
        | none => none
        | some (cond, st2) =>
          let (_, st3) := closeCond start cond st2
          match parseBlock f st3 with
          | none => none
          | some (thenB, st4) =>
            let st5 := st4.expect .end .unterminatedBlock st4.cur.span
            if st5.cur.tok == .ifNotSo then
              let elseSpan := st5.cur.span
              let st6 := st5.bump
              let startSpan := st6.cur.span
              let st7 := st6.expect .start .expectedStartBlock elseSpan
              match parseBlock f st7 with
              | none => none
              | some (elseB, st8) =>
                let st9 := st8.expect .end .unterminatedBlock ⟨elseSpan.lo, startSpan.hi⟩
                some (.ifS cond thenB (some elseB) none ⟨start, st9.cur.span.hi⟩, st9)
            else some (.ifS cond thenB none none ⟨start, st5.cur.span.hi⟩, st5)
      | .jasi =>
        let st1 := openCond st.cur.span st.bump
        match parseExpr f 0 st1 with
        | none => none
        | some (cond, st2) =>
          let (startSpan, st3) := closeCond start cond st2
          match parseBlock f st3 with
          | none => none
          | some (body, st4) =>
            let st5 := st4.expect .end .unterminatedBlock ⟨start, startSpan.hi⟩
            some (.loop cond body none ⟨start, st5.cur.span.hi⟩, st5)
      | .comot =>
        let st1 := st.bump
        some (.brk none ⟨start, st1.cur.span.hi⟩, st1)
      | .next =>
        let st1 := st.bump
        some (.cont none ⟨start, st1.cur.span.hi⟩, st1)
      | .start =>
        match parseBlock f st.bump with
        | none => none
        | some (b, st1) =>
          let st2 := st1.expect .end .unterminatedBlock st1.cur.span
          some (.block b none ⟨start, st2.cur.span.hi⟩, st2)
      | .ident v =>
        match parseCont f 0 (.var v none st.cur.span) st.bump with
        | none => none
        | some (target, st1) =>
          if st1.cur.tok == .get then
            match parseExpr f 0 st1.bump with
            | none => none
            | some (value, st2) => some (finishAssign start target value st2)
          else some (.expr target none ⟨start, st1.cur.span.hi⟩, st1)
      | _ =>
        -- error recovery always makes progress: bump, then synchronize
        let st1 := ((st.err1 .expectedStatement st.cur.span).bump).sync
        some (.expr (.null ⟨0, 0⟩) none ⟨0, 0⟩, st1)

  /-- The statement loop of `parse_block_body`. -/
  def parseStmts : Nat → PState → Option (List Stmt × PState)
    | 0, _ => none
    | f + 1, st =>
      if isBlockStop st.cur.tok then some ([], st)
      else
        match parseStmt f st with
        | none => none
        | some (s, st1) =>
          match parseStmts f st1 with
          | none => none
          | some (ss, st2) => some (s :: ss, st2)

  /-- `parse_block_body`. -/
  def parseBlock : Nat → PState → Option (Block × PState)
    | 0, _ => none
    | f + 1, st =>
      match parseStmts f st with
      | none => none
      | some (ss, st1) => some (.mk ss ⟨st.cur.span.lo, st1.cur.span.hi⟩, st1)
end

/-- The statement loop of `parse_program_body`. -/
def parseTopStmts : Nat → PState → Option (List Stmt × PState)
  | 0, _ => none
  | f + 1, st =>
    if isStmtStart st.cur.tok then
      match parseStmt f st with
      | none => none
      | some (s, st1) =>
        match parseTopStmts f st1 with
        | none => none
        | some (ss, st2) => some (s :: ss, st2)
    else some ([], st)

/-- `parse_program` without the lexer-diagnostics merge, with explicit fuel. -/
def parseProgramFuel (fuel : Nat) (toks : List SpTok) : Option (Block × List Diag) :=
  let st := PState.init toks
  match parseTopStmts fuel st with
  | none => none
  | some (ss, st1) =>
    let st2 := if st1.cur.tok != .eof then st1.err .trailingTokens st1.cur.span [] else st1
    some (.mk ss ⟨st.cur.span.lo, st1.cur.span.hi⟩, st2.errs.reverse)

/-- Enough fuel for every token list (`Lemmas/ParseFuel.lean`: `parseProgramFuel_adequate`). -/
def fuelFor (toks : List SpTok) : Nat := 3 * toks.length + 10

/-- `Parser::parse_program` (syntax diagnostics only, in emission order). -/
def parseProgram (toks : List SpTok) : Block × List Diag :=
  match parseProgramFuel (fuelFor toks) toks with
  | some r => r
  | none => (.mk [] ⟨0, 0⟩, [])   -- unreachable: `parseProgramFuel_adequate`

end NaijaVerif.Parse
