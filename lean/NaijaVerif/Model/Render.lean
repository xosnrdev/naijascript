import NaijaVerif.Model.Diag
/-
`src/diagnostics.rs`: the diagnostic renderer (`render_ansi`, `render_diagnostic`,
`line_col_from_span`, `compute_line_starts`, `compute_gutter_width`, `expand_tabs`, `visual_col`, the
caret and label lines) — the last stage of property C07.

The model produces the exact bytes `render_ansi(src, filename)` returns.  What can make the Rust code
panic is made explicit:

* every `&src[a..b]` goes through the ONE checked function `slice?`, which is `none` exactly when Rust
  panics: `a > b`, `b > len`, or an end that is not on a character boundary;
* every `x - 1` on a `usize` goes through `sub1?` (`none` for `x = 0`: debug builds panic on the
  underflow, release builds wrap and then index out of bounds);
* every `v[i]` goes through `[i]?`.

So the renderer model returns `Option Bytes`; `none` = the Rust code panics.  Memory is not modelled
(every buffer lives in the bump arena; see the unit's report for what that hides).

Text is bytes.  `str::chars()` of a (valid UTF-8) slice is modelled on bytes: a character is counted /
acted upon at its lead byte, i.e. at every byte that is not a continuation byte `10xxxxxx`; continuation
bytes are copied and never counted.  Core-only.
-/
namespace NaijaVerif.Render
open NaijaVerif
open NaijaVerif.Bytes (isCont isBoundary)

/-! ## constants (tied to the source by `Gen/Render.lean`, see `Props/C07Render.lean`) -/

/-- `Diagnostics::TAB_WIDTH` -/
def tabWidth : Nat := 4
/-- `BOLD = "\x1b[1m"` -/
def bold : Bytes := [27, 91, 49, 109]
/-- `RESET = "\x1b[0m"` -/
def reset : Bytes := [27, 91, 48, 109]
/-- `Severity::color_code` -/
def color : Sev → Bytes
  | .error => [27, 91, 51, 49, 109]
  | .warning => [27, 91, 51, 51, 109]
  | .note => [27, 91, 51, 52, 109]
/-- `Severity::label` -/
def sevLabel : Sev → Bytes
  | .error => b!"error"
  | .warning => b!"warning"
  | .note => b!"note"

abbrev nl : Nat := 10
abbrev cr : Nat := 13
abbrev tab : Nat := 9
abbrev space : Nat := 32

/-! ## the checked primitives -/

/-- `&src[a..b]`: `none` exactly when Rust's `str` slicing panics. -/
def slice? (src : Bytes) (a b : Nat) : Option Bytes :=
  if a ≤ b ∧ b ≤ src.length ∧ isBoundary src a = true ∧ isBoundary src b = true then
    some ((src.drop a).take (b - a))
  else none

/-- `x - 1` on `usize`. -/
def sub1? (x : Nat) : Option Nat := if x = 0 then none else some (x - 1)

/-- `mapM` for `Option`, written out (structural, easy to induct on). -/
def mapOpt {α β : Type} (f : α → Option β) : List α → Option (List β)
  | [] => some []
  | a :: as =>
    match f a with
    | none => none
    | some b =>
      match mapOpt f as with
      | none => none
      | some bs => some (b :: bs)

/-! ## `compute_line_starts` -/

/-- The loop of `compute_line_starts` from offset `i` on (`rest` = `src[i..]`): `memchr2` skips to the
next `'\r'` / `'\n'`; `"\r\n"` pushes `idx + 2`, a lone `'\r'` and a `'\n'` push `idx + 1`. -/
def lineStartsFrom : Nat → Bytes → List Nat
  | _, [] => []
  | i, [b] => if b = cr then [i + 1] else if b = nl then [i + 1] else []
  | i, b :: c :: r' =>
    if b = cr then
      if c = nl then (i + 2) :: lineStartsFrom (i + 2) r'
      else (i + 1) :: lineStartsFrom (i + 1) (c :: r')
    else if b = nl then (i + 1) :: lineStartsFrom (i + 1) (c :: r')
    else lineStartsFrom (i + 1) (c :: r')

/-- `compute_line_starts(src)`: `starts.push(0)` and the loop. -/
def computeLineStarts (src : Bytes) : List Nat := 0 :: lineStartsFrom 0 src

/-! ## `visual_col`, `expand_tabs`, `chars().count()` -/

/-- the fold of `visual_col`, from column `col` -/
def visualColGo : Nat → Bytes → Nat
  | col, [] => col
  | col, b :: r =>
    if isCont b then visualColGo col r
    else if b = tab then visualColGo (col + (tabWidth - col % tabWidth)) r
    else visualColGo (col + 1) r

/-- `Diagnostics::visual_col(text)` -/
def visualCol (text : Bytes) : Nat := visualColGo 0 text

/-- the loop of `expand_tabs`, from column `col` -/
def expandTabsGo : Nat → Bytes → Bytes
  | _, [] => []
  | col, b :: r =>
    if isCont b then b :: expandTabsGo col r
    else if b = tab then
      List.replicate (tabWidth - col % tabWidth) space ++ expandTabsGo (col + (tabWidth - col % tabWidth)) r
    else b :: expandTabsGo (col + 1) r

/-- `expand_tabs(text)` -/
def expandTabs (text : Bytes) : Bytes := expandTabsGo 0 text

/-- `text.chars().count()` -/
def charCount : Bytes → Nat
  | [] => 0
  | b :: r => if isCont b then charCount r else charCount r + 1

/-! ## `line_col_from_span` -/

/-- result of `slice::binary_search` -/
inductive BS where
  | found (i : Nat)
  | insertAt (i : Nat)
deriving DecidableEq, Repr

/-- `xs.binary_search(&t)` on a strictly increasing vector (`Render.computeLineStarts_sorted`), where
the result is determined: `Ok(i)` for the one `i` with `xs[i] = t`, else `Err(number of elements < t)`.
Computed here by a scan from the left, `i` = index of the head. -/
def bsearch : List Nat → Nat → Nat → BS
  | [], i, _ => .insertAt i
  | x :: xs, i, t => if x = t then .found i else if t < x then .insertAt i else bsearch xs (i + 1) t

/-- `line_starts.binary_search(&start).unwrap_or_else(|x| x - 1)` -/
def lineIdx (starts : List Nat) (start : Nat) : Option Nat :=
  match bsearch starts 0 start with
  | .found i => some i
  | .insertAt x => sub1? x

/-- `(line_start, line_end)` of line index `idx`: `line_starts[idx]` and
`line_starts[idx + 1] - 1` (the position of the `'\n'` / lone `'\r'` that ends the line — for `"\r\n"` the
position of the `'\n'`, so the `'\r'` belongs to the line) or `src.len()` for the last line. -/
def lineBounds (src : Bytes) (starts : List Nat) (idx : Nat) : Option (Nat × Nat) :=
  match starts[idx]? with
  | none => none
  | some ls =>
    if idx + 1 < starts.length then
      match starts[idx + 1]? with
      | none => none
      | some nx =>
        match sub1? nx with
        | none => none
        | some le => some (ls, le)
    else some (ls, src.length)

structure LineCol where
  line : Nat
  col : Nat
  lineStart : Nat
  lineEnd : Nat
deriving DecidableEq, Repr

/-- `line_col_from_span(src, start)` -/
def lineColFromSpan (src : Bytes) (start : Nat) : Option LineCol :=
  let starts := computeLineStarts src
  match lineIdx starts start with
  | none => none
  | some idx =>
    match lineBounds src starts idx with
    | none => none
    | some (ls, le) =>
      match slice? src ls start with
      | none => none
      | some pre => some ⟨idx + 1, visualCol pre + 1, ls, le⟩

/-! ## diagnostics as the renderer sees them -/

structure RLabel where
  msg : Bytes
  span : Span
deriving DecidableEq, Repr

structure RDiag where
  sev : Sev
  code : Bytes
  msg : Bytes
  span : Span
  labels : List RLabel := []
deriving DecidableEq, Repr

/-! ## formatting -/

/-- decimal digits of `n`, most significant first (`fuel` ≥ number of digits) -/
def digitsGo : Nat → Nat → Bytes → Bytes
  | 0, _, acc => acc
  | fuel + 1, n, acc => if n < 10 then (48 + n) :: acc else digitsGo fuel (n / 10) ((48 + n % 10) :: acc)

/-- `format!("{n}")` -/
def natStr (n : Nat) : Bytes := digitsGo (n + 1) n []

/-- `format!("{s:>width$}")` for an ASCII `s` -/
def padLeft (width : Nat) (s : Bytes) : Bytes := List.replicate (width - s.length) space ++ s

/-- the positions `compute_gutter_width` calls `line_col_from_span` on, in order: each diagnostic's
`span.start`, then its labels' -/
def spanStarts (ds : List RDiag) : List Nat :=
  ds.flatMap fun d => d.span.lo :: d.labels.map (·.span.lo)

/-- `compute_gutter_width`: the number of digits of the largest line number that will be shown
(`max_line` starts at 1). -/
def computeGutterWidth (src : Bytes) (ds : List RDiag) : Option Nat :=
  (mapOpt (lineColFromSpan src) (spanStarts ds)).map fun lcs =>
    (natStr (lcs.foldl (fun m lc => max m lc.line) 1)).length

/-- `render_header` -/
def renderHeader (sev : Sev) (code msg : Bytes) : Bytes :=
  bold ++ color sev ++ sevLabel sev ++ b!"[" ++ code ++ b!"]" ++ reset ++ b!": " ++ bold ++ msg ++ reset

/-- `render_location` -/
def renderLocation (file : Bytes) (line col : Nat) (c : Bytes) : Bytes :=
  b!" " ++ bold ++ c ++ b!"-->" ++ reset ++ b!" " ++ file ++ b!":" ++ natStr line ++ b!":" ++ natStr col

/-- `render_gutter` -/
def renderGutter (line : Nat) (c : Bytes) (width : Nat) : Bytes :=
  bold ++ c ++ padLeft width (natStr line) ++ b!" |" ++ reset ++ b!" "

/-- `render_plain_gutter` -/
def renderPlainGutter (c : Bytes) (width : Nat) : Bytes :=
  bold ++ c ++ padLeft width [] ++ b!" |" ++ reset ++ b!" "

/-- `render_caret_line` (`col - 1` spaces, `len` carets) -/
def renderCaretLine (col len : Nat) (c plain : Bytes) : Option Bytes :=
  match sub1? col with
  | none => none
  | some k => some (plain ++ List.replicate k space ++ bold ++ c ++ List.replicate len 94 ++ reset)

/-- `render_label_line` (`lbl_col - 1` spaces, `dash_count` dashes, the message) -/
def renderLabelLine (col dashes : Nat) (c msg plain : Bytes) : Option Bytes :=
  match sub1? col with
  | none => none
  | some k =>
    some (plain ++ List.replicate k space ++ bold ++ c ++ List.replicate dashes 45 ++ reset ++ b!" "
      ++ bold ++ msg ++ reset)

/-! ## `render_diagnostic` -/

/-- the body of the `for label in same_line_labels` loop -/
def sameLineLabel (src : Bytes) (ls le : Nat) (c plain : Bytes) (l : RLabel) : Option Bytes :=
  match slice? src ls l.span.lo with
  | none => none
  | some pre =>
    match slice? src l.span.lo (min l.span.hi le) with
    | none => none
    | some body => renderLabelLine (visualCol pre + 1) (max (visualCol body) 1) c l.msg plain

/-- the body of the `for label in cross_line_labels` loop followed by the three lines written for it:
the label's source line, its underline, a plain gutter -/
def crossLineLabel (src : Bytes) (width : Nat) (c plain : Bytes) (l : RLabel) : Option Bytes :=
  match lineColFromSpan src l.span.lo with
  | none => none
  | some lc =>
    match slice? src lc.lineStart lc.lineEnd with
    | none => none
    | some lineTxt =>
      match slice? src l.span.lo (min l.span.hi lc.lineEnd) with
      | none => none
      | some body =>
        match renderLabelLine lc.col (max (visualCol body) 1) c l.msg plain with
        | none => none
        | some underline =>
          some (renderGutter lc.line c width ++ expandTabs lineTxt ++ [nl] ++ underline ++ [nl] ++ plain ++ [nl])

/-- `render_diagnostic(diag, src, filename, gutter_width, Some(buf))`: the bytes appended to `buf`. -/
def renderDiagnostic (src file : Bytes) (width : Nat) (d : RDiag) : Option Bytes :=
  let c := color d.sev
  match lineColFromSpan src d.span.lo with
  | none => none
  | some lc =>
    match slice? src lc.lineStart lc.lineEnd with
    | none => none
    | some lineTxt =>
      let plain := renderPlainGutter c width
      match slice? src d.span.lo (min d.span.hi lc.lineEnd) with
      | none => none
      | some caretTxt =>
        match renderCaretLine lc.col (max (charCount caretTxt) 1) c plain with
        | none => none
        | some caretLine =>
          -- `partition`: the closure computes the line of every label
          match mapOpt (fun l => (lineColFromSpan src l.span.lo).map fun llc => (l, llc.line == lc.line)) d.labels with
          | none => none
          | some tagged =>
            let same := (tagged.filter (·.2)).map (·.1)
            let cross := (tagged.filter (!·.2)).map (·.1)
            match mapOpt (sameLineLabel src lc.lineStart lc.lineEnd c plain) same with
            | none => none
            | some labelLines =>
              match mapOpt (crossLineLabel src width c plain) cross with
              | none => none
              | some crossBlocks =>
                some (renderHeader d.sev d.code d.msg ++ [nl]
                  ++ renderLocation file lc.line lc.col c ++ [nl]
                  ++ plain ++ [nl]
                  ++ crossBlocks.flatten
                  ++ renderGutter lc.line c width ++ expandTabs lineTxt ++ [nl]
                  ++ caretLine ++ [nl]
                  ++ (labelLines.map (· ++ [nl])).flatten)

/-- `Diagnostics::render_ansi(src, filename)`: `none` = the Rust code panics. -/
def renderAnsi (src file : Bytes) (ds : List RDiag) : Option Bytes :=
  match computeGutterWidth src ds with
  | none => none
  | some width => (mapOpt (renderDiagnostic src file width) ds).map List.flatten

end NaijaVerif.Render
