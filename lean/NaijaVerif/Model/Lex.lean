import NaijaVerif.Model.Token
import NaijaVerif.Model.Diag
/-
`src/syntax/scanner.rs` — the lexer, byte for byte (with the D-07 fix applied, see
`/verif/proposed-fixes/D-07.diff`: after `1.` and after a backslash the cursor advances by a whole
character, and the invalid-number path `continue`s the loop of `next_token` instead of recursing).

The state of the Rust `Lexer` is `(src, pos)`; here it is a cursor `Cur = (pos, rest)` with
`rest = src.drop pos` (the not yet consumed suffix).  Every function takes the cursor where the Rust
function finds `self.pos` and returns the cursor where the Rust function leaves it.

Interface for the other models:

  `lex (src : Bytes) : List SpTok × List Diag`

the token stream *as the parser sees it* and the lexer's diagnostics in emission order.  The Rust
`Iterator::next` never yields `Token::EOF` (it returns `None` when `next_token` answers EOF), and the
parser then fabricates the EOF itself: `Parser::new` uses `unwrap_or_default()` (span `0..0`) and
`bump` uses `cur.span.end..cur.span.end`.  So the list ends with exactly one `eof` whose span is
`(h, h)`, `h` = `hi` of the last real token (`0` when there is none) — *not* the length of the text.
`lexIter` is the stream without that EOF.
-/
namespace NaijaVerif.Lex

/-! ## byte classes -/

/-- `u8::is_ascii_whitespace`: space, TAB, LF, FF, CR (not VT). -/
def isWs (b : Nat) : Bool := b == 32 || b == 9 || b == 10 || b == 12 || b == 13
/-- `u8::is_ascii_digit` -/
def isDigit (b : Nat) : Bool := decide (48 ≤ b) && decide (b ≤ 57)
/-- `Lexer::is_alpha_or_underscore` -/
def isAlpha (b : Nat) : Bool :=
  (decide (65 ≤ b) && decide (b ≤ 90)) || (decide (97 ≤ b) && decide (b ≤ 122)) || b == 95
/-- a byte `read_word` keeps reading over -/
def isWordCh (b : Nat) : Bool := isAlpha b || isDigit b
/-- not a line end: what `memchr2(b'\n', b'\r', …)` skips -/
def notNl (b : Nat) : Bool := b != 10 && b != 13
/-- what `memchr2(quote, b'\\', …)` skips -/
def notQuoteEsc (quote b : Nat) : Bool := b != quote && b != 92

/-- Length of the UTF-8 character whose first byte is `b` (`rest.chars().next().len_utf8()` for a
cursor on a character boundary of valid UTF-8). -/
def charLen (b : Nat) : Nat := if b < 128 then 1 else if b < 224 then 2 else if b < 240 then 3 else 4

/-! ## tables (closed forms; `Props/C07Lex.lean` proves them equal to the extracted `Gen.Lexical`) -/

/-- the single-word keywords: the `match word` arms of `scan_identifier_or_keyword` -/
def kwTable : List (Bytes × Tok) := [
  (b!"make", .make), (b!"get", .get), (b!"add", .add), (b!"minus", .minus), (b!"times", .times),
  (b!"divide", .divide), (b!"mod", .mod), (b!"and", .and), (b!"or", .or), (b!"not", .not),
  (b!"jasi", .jasi), (b!"start", .start), (b!"end", .end), (b!"comot", .comot), (b!"next", .next),
  (b!"na", .na), (b!"pass", .pass), (b!"true", .tru), (b!"false", .fals), (b!"null", .null),
  (b!"do", .do), (b!"return", .ret)]

/-- the multi-word keywords: first word ↦ alternatives (following words, token), in source order -/
def multiWord : List (Bytes × List (List Bytes × Tok)) := [
  (b!"if", [([b!"to", b!"say"], .ifToSay), ([b!"not", b!"so"], .ifNotSo)]),
  (b!"small", [([b!"pass"], .smallPass)])]

/-- `scan_punctuation` -/
def punctTable : List (Nat × Tok) :=
  [(40, .lparen), (41, .rparen), (91, .lbracket), (93, .rbracket), (44, .comma), (46, .dot)]

/-- the escape `match`: (escape byte, quote guard, produced byte) -/
def escTable : List (Nat × Option Nat × Nat) :=
  [(34, some 34, 34), (39, some 39, 39), (92, none, 92), (110, none, 10), (116, none, 9)]

/-- string delimiters -/
def quoteChars : List Nat := [34, 39]
/-- comment introducer -/
def commentChar : Nat := 35
/-- whitespace set -/
def wsBytes : List Nat := [9, 10, 12, 13, 32]

def punct (b : Nat) : Option Tok := punctTable.lookup b

def escapeOf (quote e : Nat) : Option Nat :=
  (escTable.find? fun (c, g, _) => c == e && (g == none || g == some quote)).map (·.2.2)

/-! ## cursor -/

/-- `(self.pos, &self.src[self.pos..])` -/
structure Cur where
  pos : Nat
  rest : Bytes
deriving Repr, DecidableEq, Inhabited

/-- `self.pos += k` -/
def Cur.adv (c : Cur) (k : Nat) : Cur := ⟨c.pos + k, c.rest.drop k⟩

/-- `while self.pos < self.len && p(self.src[self.pos]) { self.pos += 1 }` -/
def Cur.skipWhile (p : Nat → Bool) (c : Cur) : Cur :=
  ⟨c.pos + (c.rest.takeWhile p).length, c.rest.dropWhile p⟩

/-- every lexer diagnostic is an error with one label over the same span -/
def mkDiag (k : DiagKind) (lo hi : Nat) : Diag :=
  { sev := .error, kind := k, span := ⟨lo, hi⟩, labels := [⟨lo, hi⟩] }

/-- `skip_whitespace` -/
def skipWs (c : Cur) : Cur := c.skipWhile isWs

/-- `skip_comment` (cursor on the `#`): up to the first LF/CR, which is consumed as well -/
def skipComment (c : Cur) : Cur :=
  let c' := c.skipWhile notNl
  match c'.rest with
  | [] => c'
  | _ :: _ => c'.adv 1

/-! ## strings -/

structure StrRes where
  content : Bytes
  escaped : Bool
  cur : Cur
  diags : List Diag
deriving Repr, DecidableEq, Inhabited

/-- The `loop` of `scan_string`.  `c` is `self.pos`, `buf` the `buffer`, `esc` is `has_escape`.
While `has_escape` is false the Rust cursor still stands at `beg`, so `src[beg..x]` is `src[pos..x]`.
Each further iteration follows an escape of at least two bytes; fuel `|rest|` is enough. -/
def scanStrLoop (start quote : Nat) : Nat → Cur → Bytes → Bool → List Diag → StrRes
  | 0, c, buf, esc, ds => ⟨buf, esc, c, ds⟩
  | f+1, c, buf, esc, ds =>
    let qe := c.rest.takeWhile (notQuoteEsc quote)   -- memchr2(quote, '\\')
    let nl := c.rest.takeWhile notNl                 -- memchr2('\n', '\r')
    if nl.length < qe.length then
      -- a line end comes first: unterminated, the cursor stops *on* the line end
      let e := c.adv nl.length
      ⟨if esc then buf else nl, esc, e, ds ++ [mkDiag .unterminatedString start e.pos]⟩
    else
      match c.rest.dropWhile (notQuoteEsc quote) with
      | [] =>
        -- end of input: the cursor is NOT moved (stays after the last escape, or at `beg`)
        ⟨if esc then buf else [], esc, c, ds ++ [mkDiag .unterminatedString start c.pos]⟩
      | q :: after =>
        let p := c.pos + qe.length                   -- position of the quote / backslash
        if q == quote then
          ⟨if esc then buf ++ qe else qe, esc, ⟨p + 1, after⟩, ds⟩
        else
          let buf' := buf ++ qe
          match after with
          | [] =>
            -- backslash is the last byte: error, cursor not moved
            ⟨buf', true, c, ds ++ [mkDiag .unterminatedString start c.pos]⟩
          | e :: _ =>
            match escapeOf quote e with
            | some y => scanStrLoop start quote f ⟨p + 2, after.drop 1⟩ (buf' ++ [y]) true ds
            | none =>
              -- invalid escape: the whole character after the backslash is appended (fixed D-07b)
              let k := charLen e
              scanStrLoop start quote f ⟨p + 1 + k, after.drop k⟩ (buf' ++ after.take k) true
                (ds ++ [mkDiag .invalidStringEscape p (p + 1 + k)])

/-- `scan_string(start, quote)`; `c` is the cursor after the opening quote -/
def scanString (start quote : Nat) (c : Cur) : StrRes :=
  scanStrLoop start quote (c.rest.length + 1) c [] false []

/-! ## numbers -/

inductive NumRes where
  /-- `Token::Number(lexeme)`; the cursor may already be past a glued-on identifier -/
  | ok (lexeme : Bytes) (cur : Cur) (diags : List Diag)
  /-- no digit after the `.`: error, one character skipped, `next_token` goes round again -/
  | invalid (cur : Cur) (diags : List Diag)
deriving Repr, DecidableEq, Inhabited

/-- the tail of `scan_number`: a letter or `_` directly after the digits -/
def numFinish (start : Nat) (lexeme : Bytes) (c : Cur) : NumRes :=
  match c.rest with
  | [] => .ok lexeme c []
  | b :: _ =>
    if isAlpha b then
      let c' := c.skipWhile isWordCh
      .ok lexeme c' [mkDiag .invalidIdentifier start c'.pos]
    else .ok lexeme c []

/-- `scan_number(start)`; `c` is the cursor on the first digit (`c.pos = start`) -/
def scanNumber (start : Nat) (c : Cur) : NumRes :=
  let ip := c.rest.takeWhile isDigit
  let c1 := c.skipWhile isDigit
  match c1.rest with
  | 46 :: r2 =>
    let c2 : Cur := ⟨c1.pos + 1, r2⟩
    match r2 with
    | [] => .invalid c2 [mkDiag .invalidNumber start c2.pos]
    | d :: _ =>
      if isDigit d then
        let fp := r2.takeWhile isDigit
        numFinish start (ip ++ 46 :: fp) (c2.skipWhile isDigit)
      else
        -- fixed D-07a/c: skip the whole character after the dot, no recursion
        .invalid (c2.adv (charLen d)) [mkDiag .invalidNumber start c2.pos]
  | _ => numFinish start ip c1

/-! ## words -/

/-- `try_consume_word(word)`: skip whitespace (not comments), compare, require a following byte that
is not a letter/underscore (a digit is accepted — `if to say2`). `none` leaves the cursor alone. -/
def tryWord (w : Bytes) (c : Cur) : Option Cur :=
  let c1 := skipWs c
  if w.isPrefixOf c1.rest then
    let c2 := c1.adv w.length
    match c2.rest with
    | [] => some c2
    | b :: _ => if isAlpha b then none else some c2
  else none

/-- `try(w₁) && try(w₂) && …`: on failure the cursor stays after the words that did match. -/
def tryWords : List Bytes → Cur → Bool × Cur
  | [], c => (true, c)
  | w :: ws, c =>
    match tryWord w c with
    | some c' => tryWords ws c'
    | none => (false, c)

/-- The alternatives are tried one after the other **without** resetting the cursor in between
(`if to not so` is `IfNotSo`); only when all fail does the caller roll back. -/
def tryAlts : List (List Bytes × Tok) → Cur → Option (Tok × Cur)
  | [], _ => none
  | (ws, t) :: alts, c =>
    match tryWords ws c with
    | (true, c') => some (t, c')
    | (false, c') => tryAlts alts c'

/-- `scan_identifier_or_keyword` (its `InvalidIdentifier` branches are dead: `read_word` only
returns word characters and the caller checked the first byte). -/
def scanWord (c : Cur) : Tok × Cur :=
  let w := c.rest.takeWhile isWordCh
  let c1 := c.skipWhile isWordCh
  match multiWord.lookup w with
  | some alts =>
    match tryAlts alts c1 with
    | some (t, c') => (t, c')
    | none => (.ident w, c1)          -- rollback to `save`
  | none =>
    match kwTable.lookup w with
    | some t => (t, c1)
    | none => (.ident w, c1)

/-! ## `next_token` -/

/-- one turn of the `loop` in `next_token` -/
inductive Step where
  | eof (pos : Nat)
  | skip (cur : Cur) (diags : List Diag)
  | tok (t : SpTok) (cur : Cur) (diags : List Diag)
deriving Repr, DecidableEq, Inhabited

def step (c0 : Cur) : Step :=
  let c := skipWs c0
  let start := c.pos
  match c.rest with
  | [] => .eof start
  | b :: r =>
    let c1 : Cur := ⟨start + 1, r⟩
    if b == commentChar then .skip (skipComment c) []
    else if quoteChars.contains b then
      let s := scanString start b c1
      .tok ⟨.str s.content s.escaped, ⟨start, s.cur.pos⟩⟩ s.cur s.diags
    else match punct b with
    | some t => .tok ⟨t, ⟨start, start + 1⟩⟩ c1 []
    | none =>
      if isDigit b then
        match scanNumber start c with
        | .ok lx c' ds => .tok ⟨.num lx, ⟨start, c'.pos⟩⟩ c' ds
        | .invalid c' ds => .skip c' ds
      else if isAlpha b then
        let (t, c') := scanWord c
        .tok ⟨t, ⟨start, c'.pos⟩⟩ c' []
      else if 128 ≤ b then
        let k := charLen b
        .skip (c.adv k) [mkDiag .unexpectedChar start (start + k)]
      else
        -- unexpected ASCII byte: the span is empty (`start..self.pos` before the increment)
        .skip c1 [mkDiag .unexpectedChar start start]

/-- The loop of `next_token` iterated until EOF.  Every turn that is not EOF consumes at least one
byte, so fuel `|rest| + 1` is enough (`Lemmas/LexInv.lean`, `lexGo_fuel`). The third component is
`true` iff the fuel ran out before EOF. -/
def lexGo : Nat → Cur → List SpTok × List Diag × Bool
  | 0, _ => ([], [], true)
  | f+1, c =>
    match step c with
    | .eof _ => ([], [], false)
    | .skip c' ds =>
      let (ts, ds', o) := lexGo f c'
      (ts, ds ++ ds', o)
    | .tok t c' ds =>
      let (ts, ds', o) := lexGo f c'
      (t :: ts, ds ++ ds', o)

/-- what `Lexer::next` yields until it returns `None`, and `lexer.errors` -/
def lexIter (src : Bytes) : List SpTok × List Diag :=
  let r := lexGo (src.length + 1) ⟨0, src⟩
  (r.1, r.2.1)

/-- the EOF token the parser makes up when the iterator is exhausted -/
def eofTok (ts : List SpTok) : SpTok :=
  match ts.getLast? with
  | some t => ⟨.eof, ⟨t.span.hi, t.span.hi⟩⟩
  | none => ⟨.eof, ⟨0, 0⟩⟩

/-- Tokens as `Parser::new`/`bump` see them (real tokens, then one EOF) and lexer diagnostics. -/
def lex (src : Bytes) : List SpTok × List Diag :=
  let r := lexIter src
  (r.1 ++ [eofTok r.1], r.2)

end NaijaVerif.Lex
