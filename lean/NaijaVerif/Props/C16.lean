/-
C16 (partial) — captured child output is complete or an error, never silently truncated, and the
child is not left running.  Statements about the transition system of `Model/Capture.lean`, for all
interleavings, sizes, caps, policies, exit codes, failing `read`s/`write`s of the runner, children
that close a captured stream and keep running, and descendants holding the pipes (`Held`); only the
success-path liveness needs `NoForeignHolder`.  Assumed, as the model states them: OS scheduling,
pipes, kill/wait.  The `gen_*` theorems tie `Gen/Capture.lean` (extracted from
`src/sys/process_common.rs`) to the constants and the shape of the code the theorems are about.
Refuted variants: `c16_pinned_wrong_kind` (D-16), `c16_error_path_join_is_wrong` (D-21),
`c16_writer_first_is_wrong` (seeded change C16-c2), `c16_wait_after_eof_is_wrong` (C16-d1).
-/
import NaijaVerif.Lemmas.CaptureLive
import NaijaVerif.Lemmas.CaptureFault
import NaijaVerif.Lemmas.CaptureTime
import NaijaVerif.Lemmas.CaptureRead
import NaijaVerif.Lemmas.CaptureHeld
import NaijaVerif.Gen.Capture

namespace NaijaVerif.Capture

/-- A zero-length `read` would look like EOF. -/
theorem gen_chunk_pos : 0 < Gen.Capture.chunk := by decide

theorem gen_flag_codes :
    Gen.Capture.initFlag = 0 ∧ Gen.Capture.casExpected = Gen.Capture.initFlag ∧
    Gen.Capture.codeOut = code .out ∧ Gen.Capture.codeErr = code .err ∧
    Gen.Capture.fromCodeArm = code .out ∧ Gen.Capture.fromCodeArmIsOut = true ∧
    Gen.Capture.fromCodeOtherIsErr = true := by decide

theorem fromCode_code (x : Strm) : fromCode (code x) = x := by cases x <;> rfl

/-- The source's `join_capture` takes any non-zero flag for an overflow, not only the D-16
`flag == stream_code(stream)`. -/
theorem gen_join_checks_any_flag : Gen.Capture.joinAnyFlag = true := by decide

/-- A failing `read` leaves the reader loop through `?` and `join_capture` passes the thread's `Err`
on before it looks at anything else: the `rdFail` step and the `.failed` arms of `joinOut`/`joinErr`.
Fails under seeded change C16-c1 (a failing read treated like end of file). -/
theorem gen_reader_error_propagates :
    Gen.Capture.readErrorPropagates = true ∧ Gen.Capture.joinPassesReaderError = true := by decide

/-- The stdin writer is joined after the wait loop (`stepMain`, not `stepMainWF`), and `BrokenPipe`
alone maps to `Ok`. Fails under seeded change C16-c2 (join first). -/
theorem gen_writer_joined_after_wait :
    Gen.Capture.writerJoinedAfterWait = true ∧ Gen.Capture.writerEpipeIsOk = true := by decide

/-- The wait loop's body is, statement for statement, `Pc.load`, `Pc.tryWait`, `Pc.deadline`,
`Pc.sleep` of `stepMain`: no early exit, no test of the reader threads, no blocking `wait()` inside
`wait_for_child` (the only one is `terminate_child`'s, after `kill`), and the interval is
`wait_poll_ms.max(1)`, computed once before the loop. Fails under seeded changes C16-d1 (a blocking
`child.wait()` once the capture readers have finished, `stepMainWE`) and C16-e2 (the sleep doubles
after every poll). -/
theorem gen_wait_loop_polls_unconditionally :
    Gen.Capture.waitLoopPollsUnconditionally = true ∧ Gen.Capture.waitLoopBlockingWaits = 0 ∧
      Gen.Capture.pollIntervalConstant = true := by decide

/-- `terminate_child` is `child.kill()` (SIGKILL) unconditionally, then the blocking `child.wait()`,
and nothing else in the file signals the child: what the model's `Pc.kill` step assumes. Fails under
seeded change C16-e1 (SIGTERM first). -/
theorem gen_terminate_kills_unconditionally :
    Gen.Capture.terminateIsKillThenWait = true ∧ Gen.Capture.otherSignalsSent = 0 := by decide

/-- D-21: the `Err` arm of the `wait_for_child` match in `run_host_process` only drops the handles
and returns `Err(err)` — `Pc.reap e → Pc.done (.error e)` of `stepMain`, not the
`eJoinWr`/`eJoinOut`/`eJoinErr` statements of `stepMainEJ`. -/
theorem gen_error_path_does_not_join :
    Gen.Capture.errorPathJoins = 0 ∧ Gen.Capture.errorPathReturnsWaitError = true ∧
      Gen.Capture.errorPathOnlyDrops = true := by decide

theorem gen_default_poll_pos : 0 < Gen.Capture.defaultPollMs := by decide

theorem inv_init (cfg : Cfg) (plan : Plan) : Inv cfg plan (init cfg plan) := Inv.init cfg plan

theorem inv_step (cfg : Cfg) (plan : Plan) (s s' : State) (l : Label) (h : Inv cfg plan s)
    (hs : step cfg plan s l = some s') : Inv cfg plan s' := h.step hs

theorem inv_reachable (cfg : Cfg) (plan : Plan) (ls : List Label) (s : State)
    (hr : run cfg plan (init cfg plan) ls = some s) : Inv cfg plan s := (Inv.init cfg plan).run hr

theorem conservation (cfg : Cfg) (plan : Plan) (ls : List Label) (s : State) (x : Strm)
    (hr : run cfg plan (init cfg plan) ls = some s) (hc : cfg.captured x = true)
    (hn : (s.side x).rd ≠ .ovf) (hnf : (s.side x).rd ≠ .failed) :
    (s.side x).acc ++ (s.side x).rd.inHand ++ (s.side x).pipe ++ (s.side x).pending = plan.bytes x := by
  have h := (inv_reachable cfg plan ls s hr).side x
  have hna : (s.side x).rd ≠ .absent := fun ha => by rw [h.absentIff.mp ha] at hc; cases hc
  rw [h.conserve hna hn, h.planned hn hnf]

theorem buffer_within_cap (cfg : Cfg) (plan : Plan) (ls : List Label) (s : State) (x : Strm)
    (hr : run cfg plan (init cfg plan) ls = some s) : (s.side x).acc.length ≤ cfg.cap :=
  ((inv_reachable cfg plan ls s hr).side x).accCap

/-! `childClose x`: the child's end of the stream is closed while the child lives on (`close(1)`,
`exec >/dev/null`, a daemon detaching). The reader then sees end of file with the child alive. -/

theorem no_write_after_close (cfg : Cfg) (plan : Plan) (s : State) (x : Strm) (n : Nat)
    (hc : (s.side x).wopen = false) : step cfg plan s (.childWrite x n) = none := by
  simp only [step]
  split
  · simp [Side.write, hc]
  · rfl

theorem closed_after_last_byte (cfg : Cfg) (plan : Plan) (ls : List Label) (s : State) (x : Strm)
    (hr : run cfg plan (init cfg plan) ls = some s) (hc : (s.side x).wopen = false) :
    (s.side x).pending = [] :=
  ((inv_reachable cfg plan ls s hr).side x).closedDone hc

/-- End of file means "closed", not "exited"; either way the buffer is every byte written. -/
theorem eof_is_complete (cfg : Cfg) (plan : Plan) (ls : List Label) (s : State) (x : Strm)
    (hr : run cfg plan (init cfg plan) ls = some s) (he : (s.side x).rd = .eof) :
    (s.child.isAlive = false ∨ (s.side x).wopen = false) ∧ (s.side x).pipe = [] ∧
      (s.side x).acc = (s.side x).written ∧
      (s.side x).written ++ (s.side x).pending = plan.bytes x ∧
      (s.child.isAlive = false ∨ (s.side x).acc = plan.bytes x) := by
  have h := inv_reachable cfg plan ls s hr
  have hd := h.eofDead x he
  have hx := h.side x
  obtain ⟨hacc, hpl⟩ := hx.eof_acc he
  refine ⟨hd, hx.eofEmpty he, hacc, hpl, hd.imp_right fun hd => ?_⟩
  rw [hx.closedDone hd, List.append_nil] at hpl
  rw [hacc, hpl]

def closeCfg : Cfg :=
  { cap := 4, chunk := 8192, pipeCap := 65536, polOut := .capture, polErr := .capture,
    timeout := 1000, poll := 1, fixedJoin := true }

/-- Non-vacuity: stdout's reader is at end of file, holding "hi", while the child hangs, alive;
stderr is still open. -/
example :
    (run closeCfg { out := b!"hi", err := b!"x", ending := .never, sigpipeDies := false }
      (init closeCfg { out := b!"hi", err := b!"x", ending := .never, sigpipeDies := false })
      [.childWrite .out 2, .childClose .out, .rdRead .out, .rdCheck .out, .rdEof .out]).map
      (fun s => (s.o.rd, s.o.acc, s.child, s.o.wopen, s.e.wopen))
    = some (.eof, b!"hi", .alive, false, true) := by decide +kernel

example :
    (run closeCfg { out := b!"hi", err := [], ending := .code 0, sigpipeDies := false }
      (init closeCfg { out := b!"hi", err := [], ending := .code 0, sigpipeDies := false })
      [.childWrite .out 1, .childClose .out]) = none ∧
    (run closeCfg { out := b!"hi", err := [], ending := .code 0, sigpipeDies := false }
      (init closeCfg { out := b!"hi", err := [], ending := .code 0, sigpipeDies := false })
      [.childClose .err, .childClose .err]) = none := by decide +kernel

theorem result_iff (s : State) (r : Outcome) : s.result = some r ↔ s.pc = .done r := by
  unfold State.result
  cases s.pc <;> simp

theorem terminal_sound (cfg : Cfg) (plan : Plan) (ls : List Label) (s : State) (r : Outcome)
    (hr : run cfg plan (init cfg plan) ls = some s) (ht : s.result = some r) :
    allowedIn cfg plan s r = true ∧ s.child.isReaped = true ∧ Good cfg plan s r := by
  have h := (inv_reachable cfg plan ls s hr).pcInv.row ((result_iff s r).mp ht)
  exact ⟨h.2.1, h.1, h.2⟩

theorem terminal_sound_no_fault (cfg : Cfg) (plan : Plan) (ls : List Label) (s : State) (r : Outcome)
    (hr : run cfg plan (init cfg plan) ls = some s) (ht : s.result = some r)
    (hfo : s.o.rd ≠ .failed) (hfe : s.e.rd ≠ .failed) (hfw : s.i.wr ≠ .failed) :
    allowed cfg plan r = true := by
  have h := (terminal_sound cfg plan ls s r hr ht).1
  rwa [allowedIn, beq_eq_false_iff_ne.mpr hfo, beq_eq_false_iff_ne.mpr hfe, beq_eq_false_iff_ne.mpr hfw,
    faultAllowed_no_fault, Bool.or_false] at h

theorem allowedIn_plain (cfg : Cfg) (plan : Plan) (s : State) (r : Outcome)
    (hk : (∃ st o e, r = .ok st o e) ∨ (∃ x, r = .error (.ole x)) ∨ r = .error .timeout)
    (h : allowedIn cfg plan s r = true) : allowed cfg plan r = true := by
  simp only [allowedIn, Bool.or_eq_true] at h
  rcases h with h | h
  · exact h
  · rcases hk with ⟨st, o, e, rfl⟩ | ⟨x, rfl⟩ | rfl <;> simp [faultAllowed] at h

/-- C16, "complete or nothing": an `ok` result carries the planned exit code (`none` for a signal),
each captured stream is all the bytes the child was told to write to it, within the cap and valid
UTF-8, an uncaptured stream is null, and the child ended by itself and was reaped. -/
theorem ok_is_complete (cfg : Cfg) (plan : Plan) (ls : List Label) (s : State)
    (st : Option Nat) (out err : Option Bytes)
    (hr : run cfg plan (init cfg plan) ls = some s) (ht : s.result = some (.ok st out err)) :
    s.child = .reaped st .plan ∧ plan.ending.status = some st ∧
    (cfg.polOut = .capture → out = some plan.out ∧ plan.out.length ≤ cfg.cap ∧ validUtf8 plan.out = true) ∧
    (cfg.polOut ≠ .capture → out = none) ∧
    (cfg.polErr = .capture → err = some plan.err ∧ plan.err.length ≤ cfg.cap ∧ validUtf8 plan.err = true) ∧
    (cfg.polErr ≠ .capture → err = none) := by
  obtain ⟨ha, _, hg⟩ := terminal_sound cfg plan ls s _ hr ht
  have ha := allowedIn_plain cfg plan s _ (Or.inl ⟨_, _, _, rfl⟩) ha
  simp only [allowed, Bool.and_eq_true, beq_iff_eq, Bool.not_eq_true'] at ha
  obtain ⟨⟨⟨⟨⟨⟨hst, hoo⟩, hoe⟩, ho⟩, he⟩, hvo⟩, hve⟩ := ha
  have hO := expect_complete hoo ho hvo
  have hE := expect_complete hoe he hve
  exact ⟨hg.2.2.1 st out err rfl, hst, hO.1, hO.2, hE.1, hE.2⟩

/-- `polOut`, `polErr` only name the two policies of `cfg`, so that the statement can be read for each of the
nine combinations. -/
theorem never_truncated_ok (polOut polErr : Policy) (cfg : Cfg) (plan : Plan) (ls : List Label)
    (s : State) (st : Option Nat) (out err : Option Bytes)
    (hpo : cfg.polOut = polOut) (hpe : cfg.polErr = polErr)
    (hr : run cfg plan (init cfg plan) ls = some s) (ht : s.result = some (.ok st out err)) :
    out = (if polOut = .capture then some plan.out else none) ∧
    err = (if polErr = .capture then some plan.err else none) := by
  obtain ⟨_, _, h1, h2, h3, h4⟩ := ok_is_complete cfg plan ls s st out err hr ht
  subst hpo hpe
  constructor
  · split
    · next hc => exact (h1 hc).1
    · next hc => exact h2 hc
  · split
    · next hc => exact (h3 hc).1
    · next hc => exact h4 hc

theorem ole_only_if_over (cfg : Cfg) (plan : Plan) (ls : List Label) (s : State) (x : Strm)
    (hr : run cfg plan (init cfg plan) ls = some s) (ht : s.result = some (.error (.ole x))) :
    cfg.pol x = .capture ∧ cfg.cap < (plan.bytes x).length := by
  obtain ⟨ha, _, _⟩ := terminal_sound cfg plan ls s _ hr ht
  have ha := allowedIn_plain cfg plan s _ (Or.inr (Or.inl ⟨_, rfl⟩)) ha
  simpa [allowed, over, Cfg.captured] using ha

theorem timeout_only_after_deadline (cfg : Cfg) (plan : Plan) (ls : List Label) (s : State)
    (hr : run cfg plan (init cfg plan) ls = some s) (ht : s.result = some (.error .timeout)) :
    cfg.timeout ≤ s.now :=
  (terminal_sound cfg plan ls s _ hr ht).2.2.2.1 rfl

theorem hang_is_never_ok (cfg : Cfg) (plan : Plan) (ls : List Label) (s : State) (r : Outcome)
    (hh : plan.ending = .never) (hr : run cfg plan (init cfg plan) ls = some s)
    (ht : s.result = some r) : ∃ e, r = .error e := by
  cases r with
  | error e => exact ⟨e, rfl⟩
  | ok st o e =>
    have := (ok_is_complete cfg plan ls s st o e hr ht).2.1
    simp [hh, Ending.status] at this

/-- C16, "the child is not left running": every terminal state — success, either kill path, an
error found while joining — has the child reaped. -/
theorem child_reaped_at_end (cfg : Cfg) (plan : Plan) (ls : List Label) (s : State) (r : Outcome)
    (hr : run cfg plan (init cfg plan) ls = some s) (ht : s.result = some r) :
    ∃ st c, s.child = .reaped st c := by
  have := (terminal_sound cfg plan ls s r hr ht).2.1
  cases hc : s.child <;> simp_all [Child.isReaped]

/-- When `child.wait()` is called on the kill path the child is a zombie, when an error is returned
(on the kill path or from a join) it is reaped, and the `eJoin*` statements of `stepMainEJ` are
unreachable. -/
theorem kill_paths_kill_then_reap (cfg : Cfg) (plan : Plan) (ls : List Label) (s : State) (e : Err)
    (hr : run cfg plan (init cfg plan) ls = some s) :
    (s.pc = .reap e → s.child.isZombie = true) ∧
    (s.pc = .done (.error e) → s.child.isReaped = true) ∧
    (∀ e', s.pc ≠ .eJoinWr e' ∧ s.pc ≠ .eJoinOut e' ∧ s.pc ≠ .eJoinErr e') := by
  have h := (inv_reachable cfg plan ls s hr).pcInv
  -- the rows of `PcInv` for `eJoinWr`, `eJoinOut`, `eJoinErr` are `False`
  exact ⟨fun hpc => (h.row hpc).1, fun hpc => (h.row hpc).1,
    fun e' => ⟨fun hpc => h.row hpc, fun hpc => h.row hpc, fun hpc => h.row hpc⟩⟩

/-- `InvalidUtf8(x)` only if what the child wrote to `x` is not valid UTF-8. `fixedJoin` selects the
`join_capture` modelled; `false` is the D-16 one (`flag == stream_code(stream)`). -/
def c16_right_kind (fixedJoin : Bool) : Prop :=
  ∀ (cfg : Cfg) (plan : Plan) (ls : List Label) (s : State) (x : Strm),
    cfg.fixedJoin = fixedJoin → run cfg plan (init cfg plan) ls = some s →
    s.result = some (.error (.badUtf8 x)) → validUtf8 (s.side x).written = false

/-- The second disjunct: the D-16 `join_capture` validates the truncated buffer of a reader that lost
the CAS, which takes both streams over the cap. -/
theorem badUtf8_written (cfg : Cfg) (plan : Plan) (ls : List Label) (s : State) (x : Strm)
    (hr : run cfg plan (init cfg plan) ls = some s) (ht : s.result = some (.error (.badUtf8 x))) :
    validUtf8 (s.side x).written = false ∨
      (cfg.fixedJoin = false ∧ over cfg plan .out = true ∧ over cfg plan .err = true) := by
  obtain ⟨_, _, hg⟩ := terminal_sound cfg plan ls s _ hr ht
  cases x with
  | out => exact hg.2.2.2.1 rfl
  | err => exact Or.inl (hg.2.2.2.2 rfl)

/-- `fixedJoin = true` is what `gen_join_checks_any_flag` ties to the source. -/
theorem c16_right_kind_fixed : c16_right_kind true := fun cfg plan ls s x hf hr ht =>
  (badUtf8_written cfg plan ls s x hr ht).resolve_right fun h => by rw [hf] at h; cases h.1

/-- The second disjunct is the case read faults add: stderr's reader failed and closed its pipe, the
child died of `SIGPIPE` writing to it, and what it had written to stdout ends inside a character. -/
theorem badUtf8_only_if_invalid (cfg : Cfg) (plan : Plan) (ls : List Label) (s : State) (x : Strm)
    (hf : cfg.fixedJoin = true) (hr : run cfg plan (init cfg plan) ls = some s)
    (ht : s.result = some (.error (.badUtf8 x))) :
    (cfg.pol x = .capture ∧ (plan.bytes x).length ≤ cfg.cap ∧ validUtf8 (plan.bytes x) = false) ∨
    (x = .out ∧ s.e.rd = .failed ∧ plan.sigpipeDies = true ∧ cfg.polOut = .capture ∧
      prefixInvalid cfg.cap plan.out = true) := by
  obtain ⟨ha, _, _⟩ := terminal_sound cfg plan ls s _ hr ht
  have plain : ∀ y, cfg.captured y = true → over cfg plan y = false →
      validUtf8 (plan.bytes y) = false →
      cfg.pol y = .capture ∧ (plan.bytes y).length ≤ cfg.cap ∧ validUtf8 (plan.bytes y) = false :=
    fun y hc hno hv => ⟨by simpa [Cfg.captured] using hc,
      ((over_eq_false_iff cfg plan y).mp hno).resolve_left (by rw [hc]; nofun), hv⟩
  simp only [allowedIn, Bool.or_eq_true] at ha
  cases x with
  | out =>
    rcases ha with ha | ha
    · simp only [allowed, hf, Bool.and_eq_true, Bool.not_eq_true', Bool.not_true,
        Bool.false_and, Bool.or_false] at ha
      exact Or.inl (plain .out ha.1 ha.2.1 ha.2.2)
    · simp only [faultAllowed, Bool.and_eq_true, beq_iff_eq] at ha
      obtain ⟨⟨⟨h1, h2⟩, h3⟩, h4⟩ := ha
      exact Or.inr ⟨rfl, h1, h2, by simpa [Cfg.captured, Cfg.pol] using h3, h4⟩
  | err =>
    rcases ha with ha | ha
    · simp only [allowed, Bool.and_eq_true, Bool.not_eq_true'] at ha
      exact Or.inl (plain .err ha.1.1.1.1 ha.1.1.1.2 ha.1.2)
    · cases ha

/-- D-16 witness. cap 4; stdout `"€€"`, stderr `"₩₩"`, both valid. The waiter loads the flag (0);
stdout's reader buffers 4 bytes; stderr's reader overflows and wins the CAS; stdout's reader
overflows, loses the CAS and keeps its truncated buffer; the child exits; `join_capture(stdout)` sees
flag 2 ≠ 1 and validates the truncated buffer.
The examples further down that run under `d16Cfg` itself use it for its sizes only: each comes out
the same with `fixedJoin := true`. -/
def d16Cfg : Cfg :=
  { cap := 4, chunk := 8192, pipeCap := 65536, polOut := .capture, polErr := .capture,
    timeout := 1000, poll := 1, fixedJoin := false }

def d16Plan : Plan := { out := b!"€€", err := b!"₩₩", ending := .code 0, sigpipeDies := false }

def d16Labels : List Label :=
  [.main, .childWrite .out 4, .rdRead .out, .rdCheck .out, .childWrite .err 6, .rdRead .err,
   .rdCheck .err, .childWrite .out 2, .rdRead .out, .rdCheck .out, .childEnd, .main, .main, .main, .main]

theorem c16_pinned_wrong_kind : ¬ c16_right_kind false := by
  intro h
  have hd : (run d16Cfg d16Plan (init d16Cfg d16Plan) d16Labels).map
      (fun s => (s.result, validUtf8 (s.side .out).written)) =
      some (some (.error (.badUtf8 .out)), true) := by decide +kernel
  obtain ⟨s, hr, hd⟩ := Option.map_eq_some_iff.mp hd
  obtain ⟨h1, h2⟩ := Prod.mk.inj hd
  exact absurd (h d16Cfg d16Plan d16Labels s .out rfl hr h1) (by rw [h2]; nofun)

example : (run { d16Cfg with fixedJoin := true } d16Plan (init d16Cfg d16Plan) d16Labels).map State.result
    = some (some (.error (.ole .err))) := by decide +kernel

/-- The D-16 wrong kind needs both streams over the cap. -/
theorem c16_right_kind_pinned_partial (cfg : Cfg) (plan : Plan) (ls : List Label) (s : State) (x : Strm)
    (hex : ¬ (over cfg plan .out = true ∧ over cfg plan .err = true))
    (hr : run cfg plan (init cfg plan) ls = some s) (ht : s.result = some (.error (.badUtf8 x))) :
    validUtf8 (s.side x).written = false :=
  (badUtf8_written cfg plan ls s x hr ht).resolve_right fun h => hex h.2

example : ¬ (over d16Cfg { d16Plan with out := [0xE2, 0x82] } .out = true ∧
    over d16Cfg { d16Plan with out := [0xE2, 0x82] } .err = true) := by decide +kernel

theorem over_limit_is_never_ok (cfg : Cfg) (plan : Plan) (ls : List Label) (s : State) (r : Outcome) (x : Strm)
    (ho : over cfg plan x = true) (hr : run cfg plan (init cfg plan) ls = some s)
    (ht : s.result = some r) : ∃ e, r = .error e := by
  cases r with
  | error e => exact ⟨e, rfl⟩
  | ok st o e =>
    obtain ⟨ha, _, _⟩ := terminal_sound cfg plan ls s _ hr ht
    have ha := allowedIn_plain cfg plan s _ (Or.inl ⟨_, _, _, rfl⟩) ha
    simp only [allowed, Bool.and_eq_true, Bool.not_eq_true'] at ha
    cases x <;> simp_all

/-! Liveness. `no_deadlock`: the runner can always move by itself, except that on the success path a
join may wait for a foreign holder of the thread's pipe (`State.waitsForHolder`). `bounded_work`: a
run has boundedly many non-tick steps. Together: if time keeps passing and an enabled thread
eventually steps, every run ends — a reading of the two, not a theorem: no notion of a fair run is
defined. -/

theorem no_deadlock (cfg : Cfg) (plan : Plan) (ls : List Label) (s : State) (hchunk : 0 < cfg.chunk)
    (hr : run cfg plan (init cfg plan) ls = some s) (hnt : s.result = none) :
    (step cfg plan s .main).isSome = true ∨ (∃ w, s.pc = .sleep w ∧ s.now < w) ∨
      (∃ x, readerEnabled cfg plan s x) ∨ writerEnabled cfg plan s ∨ s.waitsForHolder = true :=
  progress_of_inv hchunk (inv_reachable cfg plan ls s hr) hnt

/-- The hypothesis of the success-path liveness: no descendant of the child holds an inherited write
end of a capture pipe or the read end of the stdin pipe. -/
def NoForeignHolder (s : State) : Prop := s.held.free = true

instance (s : State) : Decidable (NoForeignHolder s) := by unfold NoForeignHolder; infer_instance

theorem noForeignHolder_of_plan (cfg : Cfg) (plan : Plan) (ls : List Label) (s : State)
    (hp : plan.held.free = true) (hr : run cfg plan (init cfg plan) ls = some s) : NoForeignHolder s :=
  run_free hr (by simpa [init] using hp)

theorem noForeignHolder_stable (cfg : Cfg) (plan : Plan) (ls : List Label) (s s' : State)
    (hr : run cfg plan s ls = some s') (h : NoForeignHolder s) : NoForeignHolder s' :=
  run_free hr h

theorem waitsForHolder_spec (cfg : Cfg) (plan : Plan) (s : State) (h : s.waitsForHolder = true) :
    s.pc.okPath = true ∧
      ∃ l, (l = .holderCloseIn ∨ ∃ x, l = .holderClose x) ∧ (step cfg plan s l).isSome = true := by
  unfold State.waitsForHolder at h
  cases hpc : s.pc <;> simp only [hpc] at h <;> try (cases h)
  case joinWr st =>
    exact ⟨rfl, .holderCloseIn, Or.inl rfl, by simp [step, Held.releaseIn, h]⟩
  case joinOut st =>
    exact ⟨rfl, .holderClose .out, Or.inr ⟨_, rfl⟩, by simp [step, Held.release, h]⟩
  case joinErr st ro =>
    exact ⟨rfl, .holderClose .err, Or.inr ⟨_, rfl⟩, by simp [step, Held.release, h]⟩

/-- The hypothesis is needed on the success path and only there: a result owes every byte up to end of
file, and end of file comes when the last holder lets go. -/
theorem no_deadlock_no_holder (cfg : Cfg) (plan : Plan) (ls : List Label) (s : State) (hchunk : 0 < cfg.chunk)
    (hr : run cfg plan (init cfg plan) ls = some s) (hnt : s.result = none) (hfree : NoForeignHolder s) :
    (step cfg plan s .main).isSome = true ∨ (∃ w, s.pc = .sleep w ∧ s.now < w) ∨
      (∃ x, readerEnabled cfg plan s x) ∨ writerEnabled cfg plan s := by
  have hnw : s.waitsForHolder ≠ true := by rw [State.not_waitsForHolder_of_free hfree]; nofun
  exact (no_deadlock cfg plan ls s hchunk hr hnt).imp_right fun h => h.imp_right fun h =>
    h.imp_right fun h => h.resolve_right hnw

theorem stuck_is_terminal (cfg : Cfg) (plan : Plan) (ls : List Label) (s : State) (hchunk : 0 < cfg.chunk)
    (hr : run cfg plan (init cfg plan) ls = some s)
    (hmain : step cfg plan s .main = none) (hsleep : ∀ w, s.pc = .sleep w → w ≤ s.now)
    (hrd : ∀ x, ¬ readerEnabled cfg plan s x) (hwr : ¬ writerEnabled cfg plan s)
    (hhold : s.waitsForHolder = false) :
    ∃ r, s.result = some r := by
  cases hres : s.result with
  | some r => exact ⟨r, rfl⟩
  | none =>
    rcases no_deadlock cfg plan ls s hchunk hr hres with h | ⟨w, hw, hlt⟩ | ⟨x, hx⟩ | hx | hx
    · simp [hmain] at h
    · have := hsleep w hw; omega
    · exact absurd hx (hrd x)
    · exact absurd hx hwr
    · simp [hhold] at hx

theorem step_decreases_variant (cfg : Cfg) (plan : Plan) (s s' : State) (l : Label)
    (h : step cfg plan s l = some s') : (l ≠ .tick → s'.mu cfg < s.mu cfg) ∧ s'.mu cfg ≤ s.mu cfg := by
  by_cases hl : l = .tick
  · subst hl; exact ⟨fun h' => absurd rfl h', step_mu_tick h⟩
  · exact ⟨fun _ => step_mu_lt h hl, Nat.le_of_lt (step_mu_lt h hl)⟩

theorem bounded_work (cfg : Cfg) (plan : Plan) (ls : List Label) (s : State)
    (hr : run cfg plan (init cfg plan) ls = some s) :
    nonTicks ls ≤ 5 * cfg.timeout + 5 * (plan.out.length + plan.err.length) + 2 * cfg.stdin.getD 0 + 23 := by
  have h := run_nonTicks_le hr
  have hi : (init cfg plan).mu cfg ≤
      5 * cfg.timeout + 5 * (plan.out.length + plan.err.length) + 2 * cfg.stdin.getD 0 + 23 := by
    have h3 : plan.held.mu ≤ 3 := by
      rcases plan.held with ⟨_ | _, _ | _, _ | _⟩ <;> decide
    -- besides the terms in the sizes: 10 for `Pc.load`, 3 + 3 for two open idle sides, 1 for the child, 2 for
    -- the stdin side, 3 for the holders: 22 in all, so the `+ 23` of the statement is not tight
    simp only [State.mu, init, Side.init, Pc.mu, Side.mu, Child.mu, List.length_nil, if_true]
    have h1 : ∀ p : Policy, (if p = .capture then Rd.idle else Rd.absent).rank ≤ 2 := by
      intro p; split <;> decide
    have := h1 cfg.polOut; have := h1 cfg.polErr
    have h2 : (Inp.init cfg.stdin).mu ≤ 2 * cfg.stdin.getD 0 + 2 := by
      cases cfg.stdin <;> simp [Inp.init, Inp.mu]
    omega
  omega

/-! Read faults. `readLoop` is the reader loop as a function of a script of `read` results; the `rd`
requests run the real loop against it on scripted readers (seeded change C16-c1:
`while let Ok(n) = reader.read(..)`). -/

theorem read_fault_is_never_ok (cfg : Cfg) (plan : Plan) (ls : List Label) (s : State) (r : Outcome)
    (x : Strm) (hr : run cfg plan (init cfg plan) ls = some s) (hf : Label.rdFail x ∈ ls)
    (ht : s.result = some r) : ∃ e, r = .error e := by
  cases r with
  | error e => exact ⟨e, rfl⟩
  | ok st o e =>
    exfalso
    have hfail := run_failed_of_mem hr hf
    obtain ⟨hjo, hje⟩ := (OkJoined.init cfg plan).run (Inv.init cfg plan) hr st o e ((result_iff s _).mp ht)
    cases x
    · exact Side.not_failed_of_joined hjo hfail
    · exact Side.not_failed_of_joined hje hfail

/-- The kind of the error: the reader's failure itself (`SpawnFailed`) only for a stream whose `read`
did fail, otherwise an error the fault-free run could also end in. -/
theorem read_fault_error_kind (cfg : Cfg) (plan : Plan) (ls : List Label) (s : State) (e : Err)
    (hr : run cfg plan (init cfg plan) ls = some s) (ht : s.result = some (.error e)) :
    s.child.isReaped = true ∧
    (∀ y, e = .readFailed y → (s.side y).rd = .failed ∧ cfg.pol y = .capture) ∧
    (e = .writeFailed → s.i.wr = .failed) ∧
    (∀ y, e = .ole y → cfg.pol y = .capture ∧ cfg.cap < (plan.bytes y).length) ∧
    (e = .timeout → cfg.timeout ≤ s.now) ∧
    (∀ y, e = .badUtf8 y → cfg.fixedJoin = true → validUtf8 (s.side y).written = false) := by
  obtain ⟨ha, hreap, hg⟩ := terminal_sound cfg plan ls s _ hr ht
  have hinv := inv_reachable cfg plan ls s hr
  refine ⟨hreap, ?_, ?_, ?_, ?_, ?_⟩
  · intro y hy; subst hy
    simp only [allowedIn, allowed, Bool.false_or] at ha
    have hf : (s.side y).rd = .failed := by
      cases y <;> simpa only [faultAllowed, beq_iff_eq, side_out, side_err] using ha
    exact ⟨hf, by simpa [Cfg.captured] using (hinv.side y).captured_of (by rw [hf]; nofun)⟩
  · intro hy; subst hy
    simpa [allowedIn, allowed, faultAllowed] using ha
  · intro y hy; subst hy
    exact ole_only_if_over cfg plan ls s y hr ht
  · intro hy; subst hy
    exact timeout_only_after_deadline cfg plan ls s hr ht
  · intro y hy hfix; subst hy
    exact c16_right_kind_fixed cfg plan ls s y hfix hr ht

/-- Non-vacuity: stdout's `read` fails between two chunks (3 of 5 bytes buffered): the reader's error,
not `ok "hel"`. -/
example :
    (run d16Cfg { out := b!"hello", err := [], ending := .code 0, sigpipeDies := false }
      (init d16Cfg { out := b!"hello", err := [], ending := .code 0, sigpipeDies := false })
      [.main, .childWrite .out 3, .rdRead .out, .rdCheck .out, .rdFail .out, .childDrop .out 2,
       .childEnd, .main, .main, .main]).map (fun s => (s.result, s.child))
    = some (some (.error (.readFailed .out)), .reaped (some 0) .plan) := by decide +kernel

example :
    (run { d16Cfg with cap := 5 } { out := b!"hello", err := b!"x", ending := .code 0, sigpipeDies := false }
      (init { d16Cfg with cap := 5 } { out := b!"hello", err := b!"x", ending := .code 0, sigpipeDies := false })
      [.rdFail .err, .childWrite .out 5, .childDrop .err 1, .childEnd, .rdRead .out, .rdCheck .out,
       .rdEof .out, .main, .main, .main, .main, .main, .main]).map State.result
    = some (some (.error (.readFailed .err))) := by decide +kernel

/-- Non-vacuity: a failed read and an overflow of the other stream: the waiter's kill path wins. -/
example :
    (run d16Cfg { out := b!"hello", err := b!"x", ending := .never, sigpipeDies := false }
      (init d16Cfg { out := b!"hello", err := b!"x", ending := .never, sigpipeDies := false })
      [.rdFail .err, .childWrite .out 5, .rdRead .out, .rdCheck .out, .main, .main, .main]).map
        (fun s => (s.result, s.child))
    = some (some (.error (.ole .out)), .reaped none .killed) := by decide +kernel

theorem readLoop_is_lts_reader (chunk cap my : Nat) (hchunk : 0 < chunk) (evs : List RdEv)
    (flag : Nat) (d : Side) (hd : d.rd = .idle) (hsz : ∀ c, RdEv.data c ∈ evs → c.length ≤ chunk) :
    RdRes.ofSide (Side.feed chunk cap my flag d evs).1 = (readLoop cap my flag d.acc evs).1 ∧
    (Side.feed chunk cap my flag d evs).2 = (readLoop cap my flag d.acc evs).2 ∧
    (Side.feed chunk cap my flag d evs).1.finished = true := by
  induction evs generalizing flag d with
  | nil => simp [Side.feed, readLoop, Side.eof, hd, RdRes.ofSide, Side.finished]
  | cons ev rest ih =>
    cases ev with
    | zero => simp [Side.feed, readLoop, Side.eof, hd, RdRes.ofSide, Side.finished]
    | fail => simp [Side.feed, readLoop, Side.fail, hd, RdRes.ofSide, Side.finished]
    | data c =>
      have hc : c.length ≤ chunk := hsz c (by simp)
      by_cases hce : c = []
      · subst hce
        simp [Side.feed, readLoop, Side.read, Side.eof, hd, RdRes.ofSide, Side.finished]
      · by_cases hov : d.acc.length + c.length > cap
        · simp [Side.feed, readLoop, Side.read_script hchunk hd hce hc, Side.check, hce, hov,
            RdRes.ofSide, Side.finished]
        · have hrest : ∀ c', RdEv.data c' ∈ rest → c'.length ≤ chunk :=
            fun c' hm => hsz c' (by simp [hm])
          have := ih flag { d with rd := .idle, acc := d.acc ++ c, pipe := [] } rfl hrest
          simp only [Side.feed, readLoop, Side.read_script hchunk hd hce hc, Side.check, hce, hov,
            if_false, if_true]
          simpa using this

/-- The driver's splitting of long data into reads of at most `chunk` bytes meets `hsz` of
`readLoop_is_lts_reader`, for the chunk size extracted from the source. -/
theorem expanded_reads_fit (evs : List RdEv) (c : Bytes)
    (h : RdEv.data c ∈ expandEvents Gen.Capture.chunk evs) : c.length ≤ Gen.Capture.chunk :=
  expandEvents_le gen_chunk_pos evs c h

theorem readLoop_unflagged_ok_is_complete (cap my : Nat) (hmy : my ≠ 0) (evs : List RdEv)
    (out : Bytes) (h : readLoop cap my 0 [] evs = (.ok out, 0)) : cleanData evs = some out := by
  obtain ⟨rest, h1, h2⟩ := readLoop_clean cap my hmy evs [] out h
  simpa [h2] using h1

theorem readLoop_fail_is_err (cap my flag : Nat) (pre : List RdEv) (post : List RdEv)
    (hpre : ∀ e ∈ pre, ∃ c, e = RdEv.data c ∧ c ≠ [])
    (hsum : (pre.map RdEv.size).sum ≤ cap) :
    readLoop cap my flag [] (pre ++ .fail :: post) = (.err, flag) :=
  readLoop_err_of_fail cap my flag pre [] post hpre (by simpa using hsum)

/-- The tie of `joinCapture` to the source is static (`gen_reader_error_propagates`): `join_capture`
is not hooked. -/

theorem joinCapture_is_main_thread_join (cfg : Cfg) (s : State) (st : Option Nat)
    (hpc : s.pc = .joinOut st) (hfin : s.o.finished = true) (hna : s.o.rd ≠ .absent) :
    (joinOutSteps cfg s).map State.pc = some
      (match joinCapture cfg.fixedJoin s.flag .out (RdRes.ofSide s.o) with
       | .error e => .done (.error e)
       | .text b => .joinErr st (some b)) := by
  unfold joinOutSteps RdRes.ofSide joinCapture
  unfold Side.finished at hfin
  rw [stepMain, hpc]
  cases hrd : s.o.rd <;> rw [hrd] at hfin hna
  case absent => exact absurd rfl hna
  case idle | got => cases hfin
  case failed => rfl
  -- the reader returned `Ok`: the second statement looks at the flag, then validates the buffer
  case eof | ovf =>
    simp only [Option.bind_some, reduceCtorEq, if_false]
    rw [stepMain]
    cases joinOverflow cfg.fixedJoin s.flag .out
    · cases validUtf8 s.o.acc <;> rfl
    · rfl

/-- The script of C16-c1's demonstration: "hello ", a failing read, "world", end of file. -/
example : readLoop 100 1 0 [] [.data (b!"hello "), .fail, .data (b!"world"), .zero] = (.err, 0) := by decide +kernel
example : joinCapture true 0 .out (readLoop 100 1 0 [] [.data (b!"hello "), .fail, .data (b!"world")]).1
    = .error (.readFailed .out) := by decide +kernel

/-! The stdin writer. `join_writer` comes after the wait loop, on the success path only: the wait loop
and the kill path ignore the stdin side, and at the join the child has ended by itself, so the writer
can end. `stepMainWF` (seeded change C16-c2) is the other order. -/

theorem wait_loop_ignores_writer (cfg : Cfg) (s : State) (i' : Inp) (hw : s.pc.inWait = true) :
    stepMain cfg { s with i := i' } = (stepMain cfg s).map (fun t => { t with i := i' }) :=
  stepMain_inWait_indep_of cfg s (fun t => { t with i := i' }) hw (fun _ _ _ => rfl) rfl rfl rfl rfl

/-- Never blocked by another thread, that is: the main thread has an enabled step, or it is in its own `sleep` and
the wake-up time has not come (`Inv.inWait_enabled`). -/
theorem wait_loop_never_blocks (cfg : Cfg) (plan : Plan) (ls : List Label) (s : State)
    (hr : run cfg plan (init cfg plan) ls = some s) (hw : s.pc.inWait = true) :
    (step cfg plan s .main).isSome = true ∨ ∃ w, s.pc = .sleep w ∧ s.now < w :=
  (inv_reachable cfg plan ls s hr).inWait_enabled hw

/-- `hfree`: with a foreign holder of the read end there is no `EPIPE`; the writer fills the pipe and
waits for the holder, and `join_writer` with it (`State.waitsForHolder`). -/
theorem join_writer_terminates (cfg : Cfg) (plan : Plan) (ls : List Label) (s : State) (st : Option Nat)
    (hr : run cfg plan (init cfg plan) ls = some s) (hpc : s.pc = .joinWr st)
    (hfree : s.held.inp = false) :
    s.child.isReaped = true ∧
    ((step cfg plan s .main).isSome = true ∨
      ∃ l s', (l = .wrEnd ∨ l = .wrEpipe) ∧ step cfg plan s l = some s' ∧
        (step cfg plan s' .main).isSome = true) := by
  have hp := (inv_reachable cfg plan ls s hr).pcInv.row hpc
  refine ⟨hp.1, ?_⟩
  cases hfin : s.i.finished
  · right
    have hmain : ∀ i' : Inp, i'.wr = .fin → (step cfg plan { s with i := i' } .main).isSome = true :=
      fun i' hi' => stepMain_joinWr_isSome (s := { s with i := i' }) hpc
        (by unfold Inp.finished; rw [hi'])
    rcases writerEnabled_of (cfg := cfg) (plan := plan) hfin (Child.not_alive_of_reaped hp.1) hfree
      with hw | hw <;> obtain ⟨s', hs'⟩ := Option.isSome_iff_exists.mp hw <;>
      obtain ⟨i', hi', rfl⟩ := step_inv hs'
    · exact ⟨.wrEnd, _, Or.inl rfl, hs', hmain i' (by rw [(Inp.finish_some hi').2.2])⟩
    · exact ⟨.wrEpipe, _, Or.inr rfl, hs', hmain i' (by rw [(Inp.epipe_some hi').2.2.2])⟩
  · exact Or.inl (stepMain_joinWr_isSome hpc hfin)

/-- A child still asleep one poll interval after the deadline never yields an `ok`, in prompt
executions (time passes only while the main thread is blocked). Parameterised by the main-thread
program so that the variants can be refuted. -/
def c16_outliving (mainF : Cfg → State → Option State)
    (stepF : Cfg → Plan → State → Label → Option State)
    (runF : Cfg → Plan → State → List Label → Option State) (initF : Cfg → Plan → State) : Prop :=
  ∀ (cfg : Cfg) (plan : Plan) (ls : List Label) (s : State) (r : Outcome),
    cfg.timeout + max cfg.poll 1 ≤ plan.endAfter →
    runF cfg plan (initF cfg plan) ls = some s →
    prompt (mainF cfg) (stepF cfg plan) (initF cfg plan) ls = true →
    s.result = some r → ∃ e, r = .error e

/-- Progress, parameterised likewise. The last disjunct is there because the success path owes every
byte up to end of file. -/
def c16_progress (mainF : Cfg → State → Option State)
    (runF : Cfg → Plan → State → List Label → Option State) (initF : Cfg → Plan → State) : Prop :=
  ∀ (cfg : Cfg) (plan : Plan) (ls : List Label) (s : State), 0 < cfg.chunk →
    runF cfg plan (initF cfg plan) ls = some s → s.result = none →
    (mainF cfg s).isSome = true ∨ (∃ w, s.pc = .sleep w ∧ s.now < w) ∨
      (∃ x, readerEnabled cfg plan s x) ∨ writerEnabled cfg plan s ∨ s.waitsForHolder = true

theorem not_outliving_of_ok {mainF stepF runF initF} {cfg : Cfg} {plan : Plan} {ls : List Label} {st o e}
    (hlate : cfg.timeout + max cfg.poll 1 ≤ plan.endAfter)
    (hp : prompt (mainF cfg) (stepF cfg plan) (initF cfg plan) ls = true)
    (hrun : (runF cfg plan (initF cfg plan) ls).map State.result = some (some (.ok st o e))) :
    ¬ c16_outliving mainF stepF runF initF := by
  intro h
  obtain ⟨s, hs, hres⟩ := Option.map_eq_some_iff.mp hrun
  obtain ⟨e', he⟩ := h cfg plan ls s _ hlate hs hp hres
  cases he

/-- Every disjunct of `c16_progress` fails in `s`. The writer's `write` is tested with one byte: a
`write` of `n` bytes that goes through leaves room for one (`step_wrWrite_one`). -/
def stuck (mainF : Cfg → State → Option State) (cfg : Cfg) (plan : Plan) (s : State) : Bool :=
  s.result.isNone && (mainF cfg s).isNone && (match s.pc with | .sleep _ => false | _ => true) &&
    [Label.rdRead .out, .rdCheck .out, .rdEof .out, .rdRead .err, .rdCheck .err, .rdEof .err,
      .wrWrite 1, .wrEnd, .wrEpipe].all (fun l => (step cfg plan s l).isNone) &&
    !s.waitsForHolder

theorem not_progress_of_stuck {mainF runF initF} {cfg : Cfg} {plan : Plan} {ls : List Label}
    (hchunk : 0 < cfg.chunk)
    (hrun : (runF cfg plan (initF cfg plan) ls).any (stuck mainF cfg plan) = true) :
    ¬ c16_progress mainF runF initF := by
  intro h
  obtain ⟨s, hs, hst⟩ := (Option.any_eq_true _ _).mp hrun
  simp only [stuck, Bool.and_eq_true, Bool.not_eq_true', List.all_eq_true,
    Option.isNone_iff_eq_none] at hst
  obtain ⟨⟨⟨⟨hres, hmain⟩, hsl⟩, hall⟩, hhold⟩ := hst
  rcases h cfg plan ls s hchunk hs hres with hm | ⟨w, hw, _⟩ | ⟨x, hx⟩ | hx | hx
  · rw [hmain] at hm; cases hm
  · rw [hw] at hsl; cases hsl
  · cases x <;> rcases hx with hx | hx | hx <;>
      exact Option.isSome_iff_ne_none.mp hx (hall _ (by decide))
  · rcases hx with ⟨n, hx⟩ | hx | hx
    · exact Option.isSome_iff_ne_none.mp (step_wrWrite_one hx) (hall _ (by decide))
    all_goals exact Option.isSome_iff_ne_none.mp hx (hall _ (by decide))
  · rw [hhold] at hx; cases hx

theorem timeInv_reachable (cfg : Cfg) (plan : Plan) (ls : List Label) (s : State)
    (hr : run cfg plan (init cfg plan) ls = some s)
    (hp : prompt (stepMain cfg) (step cfg plan) (init cfg plan) ls = true) : TimeInv cfg plan s :=
  (TimeInv.init cfg plan).run (Inv.init cfg plan) hr hp

/-- `plan.held` is arbitrary: the executions include every foreign holder. -/
theorem outliving_child_is_never_ok : c16_outliving stepMain step run init := by
  intro cfg plan ls s r hlate hr hp ht
  cases r with
  | error e => exact ⟨e, rfl⟩
  | ok st o e =>
    have hchild := (ok_is_complete cfg plan ls s st o e hr ht).1
    exact absurd (by rw [hchild]; rfl) ((timeInv_reachable cfg plan ls s hr hp).not_plan_of_late hlate
      (by rw [(result_iff s _).mp ht]; rfl))

/-- Without a fault of the runner's own I/O and without an over-limit stream the result is `Timeout`,
for every set of foreign holders; that there is a result is `error_path_terminates`. -/
theorem outliving_child_times_out (cfg : Cfg) (plan : Plan) (ls : List Label) (s : State) (r : Outcome)
    (hlate : cfg.timeout + max cfg.poll 1 ≤ plan.endAfter)
    (hr : run cfg plan (init cfg plan) ls = some s)
    (hp : prompt (stepMain cfg) (step cfg plan) (init cfg plan) ls = true)
    (ht : s.result = some r)
    (hfo : s.o.rd ≠ .failed) (hfe : s.e.rd ≠ .failed) (hfw : s.i.wr ≠ .failed)
    (hoo : over cfg plan .out = false) (hoe : over cfg plan .err = false) :
    r = .error .timeout ∧ s.child.isReaped = true := by
  have hti := timeInv_reachable cfg plan ls s hr hp
  have hinv := inv_reachable cfg plan ls s hr
  have hpc := (result_iff s _).mp ht
  obtain ⟨_, hreap, _⟩ := terminal_sound cfg plan ls s r hr ht
  have hall := terminal_sound_no_fault cfg plan ls s r hr ht hfo hfe hfw
  refine ⟨?_, hreap⟩
  -- a result that only the success path produces needs a child that ended by itself
  have hself : s.pc.okPath = true → False := by
    intro hok
    have h1 := hti.not_plan_of_late hlate hok
    have h2 := hti.notKilled hok
    cases hc : s.child with
    | alive => rw [hc] at hreap; cases hreap
    | zombie st c => rw [hc] at hreap; cases hreap
    | reaped st c =>
      rcases hinv.cause_of_reaped hc with rfl | ⟨rfl, _⟩ | ⟨rfl, h0 | h0 | h0, _⟩
      · exact h2 (by rw [hc]; rfl)
      · exact h1 (by rw [hc]; rfl)
      · rcases hinv.flagRange with h | h | h
        · exact h0 h
        · have := hinv.over_of_flag (x := .out) h; rw [hoo] at this; cases this
        · have := hinv.over_of_flag (x := .err) h; rw [hoe] at this; cases this
      · exact hfo h0
      · exact hfe h0
  cases r with
  | ok st o e => exact (hself (by rw [hpc]; rfl)).elim
  | error e =>
    cases e with
    | timeout => rfl
    | ole x => cases x <;> simp [allowed, hoo, hoe] at hall
    | _ => exact (hself (by rw [hpc]; rfl)).elim

/-- `no_deadlock` in the form that can be stated of the other main-thread programs too
(`step cfg plan s .main` is `stepMain cfg s`). -/
theorem no_deadlock_statement : c16_progress stepMain run init := no_deadlock

/-- Non-vacuity of `outliving_child_times_out`: 3 bytes of stdin text into a pipe of 2 that the child
never reads. The writer blocks; the main thread sees the deadline (1 tick) while the child sleeps
until tick 5, kills and reaps it; nobody joins the writer, whose next `write` gets `EPIPE`. -/
def slowCfg : Cfg := { d16Cfg with pipeCap := 2, timeout := 1, poll := 1, fixedJoin := true, stdin := some 3 }
def slowPlan : Plan := { out := [], err := [], ending := .code 0, sigpipeDies := false, endAfter := 5 }
def slowLabels : List Label :=
  [.wrWrite 2, .main, .main, .main, .tick, .main, .main, .main, .main, .main, .main]

example : (run slowCfg slowPlan (init slowCfg slowPlan) slowLabels).map (fun s => (s.result, s.child, s.i.wr))
    = some (some (.error .timeout), .reaped none .killed, .busy) := by decide +kernel
example : (run slowCfg slowPlan (init slowCfg slowPlan) (slowLabels ++ [.wrEpipe])).map (fun s => (s.result, s.i.wr))
    = some (some (.error .timeout), .fin) := by decide +kernel
example : prompt (stepMain slowCfg) (step slowCfg slowPlan) (init slowCfg slowPlan) slowLabels = true := by decide +kernel
example : slowCfg.timeout + max slowCfg.poll 1 ≤ slowPlan.endAfter := by decide +kernel

/-- The same under `stepMainWF`: the main thread sits in `join_writer` while the writer is blocked;
five ticks pass; the child ends by itself; the writer gets `EPIPE`; `wait_for_child` starts its clock
and `try_wait` succeeds at once: a success for a child that ran to five times its timeout. -/
def wfLabels : List Label :=
  [.wrWrite 2, .tick, .tick, .tick, .tick, .tick, .childEnd, .wrEpipe, .main, .main, .main,
   .rdEof .out, .rdEof .err, .main, .main, .main, .main]

def wfStuckPlan : Plan := { slowPlan with ending := .never }

/-- Seeded change C16-c2 (join the stdin writer before the wait loop): a child that outlives its
deadline is reported as a success, and a reachable state is stuck. -/
theorem c16_writer_first_is_wrong :
    ¬ c16_outliving stepMainWF stepWF runWF initWF ∧ ¬ c16_progress stepMainWF runWF initWF :=
  ⟨not_outliving_of_ok (cfg := slowCfg) (plan := slowPlan) (ls := wfLabels) (st := some 0) (o := some [])
      (e := some []) (by decide +kernel) (by decide +kernel) (by decide +kernel),
    not_progress_of_stuck (cfg := slowCfg) (plan := wfStuckPlan) (ls := [.wrWrite 2]) (by decide +kernel)
      (by decide +kernel)⟩

/-- Under `stepMain` the same state moves on: the main thread is in the wait loop. -/
example : ((run slowCfg wfStuckPlan (init slowCfg wfStuckPlan) [.wrWrite 2]).bind
    (fun s => step slowCfg wfStuckPlan s .main)).isSome = true := by decide +kernel

/-! The wait loop does not look at the reader threads, so a child that closes its captured streams and
keeps running is polled, timed out and killed like any other. `stepMainWE` (seeded change C16-d1)
takes "all readers have finished" for "the child is on its way out" and blocks in `child.wait()`. -/

theorem wait_loop_ignores_readers (cfg : Cfg) (s : State) (o' e' : Side) (hw : s.pc.inWait = true) :
    stepMain cfg { s with o := o', e := e' } =
      (stepMain cfg s).map (fun t => { t with o := o', e := e' }) :=
  stepMain_inWait_indep_of cfg s (fun t => { t with o := o', e := e' }) hw (fun _ _ _ => rfl)
    rfl rfl rfl rfl

/-- A child that writes "hi", closes both captured streams and goes on for five ticks, against a
timeout of one tick. -/
def weCfg : Cfg := { d16Cfg with timeout := 1, poll := 1, fixedJoin := true }
def wePlan : Plan := { out := b!"hi", err := [], ending := .code 0, sigpipeDies := false, endAfter := 5 }

/-- Under `stepMain`: both readers finish at end of file while the child is alive; then deadline, kill,
reap: `Timeout`. -/
def weGoodLabels : List Label :=
  [.childWrite .out 2, .childClose .out, .childClose .err, .rdRead .out, .rdCheck .out, .rdEof .out,
   .rdEof .err, .main, .main, .main, .tick, .main, .main, .main, .main, .main, .main]

example : (run weCfg wePlan (init weCfg wePlan) weGoodLabels).map (fun s => (s.result, s.child, s.o.acc))
    = some (some (.error .timeout), .reaped none .killed, b!"hi") := by decide +kernel
example : prompt (stepMain weCfg) (step weCfg wePlan) (init weCfg wePlan) weGoodLabels = true := by decide +kernel
example : weCfg.timeout + max weCfg.poll 1 ≤ wePlan.endAfter := by decide +kernel

/-- Under `stepMainWE`: the readers are found finished and the flag clear, and the main thread blocks
in `child.wait()` … -/
def weStuckLabels : List Label :=
  [.childWrite .out 2, .childClose .out, .childClose .err, .rdRead .out, .rdCheck .out, .rdEof .out,
   .rdEof .err, .main, .main, .main, .main]

/-- … five ticks pass; the child ends by itself: a complete `ok "hi"` for a child that ran to five
times its timeout and was never killed. -/
def weLabels : List Label :=
  weStuckLabels ++ [.tick, .tick, .tick, .tick, .tick, .childEnd, .main, .main, .main, .main, .main, .main]

def weStuckPlan : Plan := { wePlan with ending := .never }

/-- Seeded change C16-d1 (stop polling at end of file): a child that closes its captured streams and
outlives its deadline is reported as a success; if it never ends, the run never returns. -/
theorem c16_wait_after_eof_is_wrong :
    ¬ c16_outliving stepMainWE stepWE runWE init ∧ ¬ c16_progress stepMainWE runWE init :=
  ⟨not_outliving_of_ok (cfg := weCfg) (plan := wePlan) (ls := weLabels) (st := some 0) (o := some (b!"hi"))
      (e := some []) (by decide +kernel) (by decide +kernel) (by decide +kernel),
    not_progress_of_stuck (cfg := weCfg) (plan := weStuckPlan) (ls := weStuckLabels) (by decide +kernel)
      (by decide +kernel)⟩

/-- In that state `stepMain` is at its `sleep` and goes on once the interval has passed. -/
example : ((run weCfg weStuckPlan (init weCfg weStuckPlan)
    [.childWrite .out 2, .childClose .out, .childClose .err, .rdRead .out, .rdCheck .out, .rdEof .out,
     .rdEof .err, .main, .main, .main, .tick]).bind
    (fun s => step weCfg weStuckPlan s .main)).isSome = true := by decide +kernel

example :
    (run d16Cfg { out := b!"hi", err := [], ending := .code 3, sigpipeDies := false, endAfter := 2 }
      (init d16Cfg { out := b!"hi", err := [], ending := .code 3, sigpipeDies := false, endAfter := 2 })
      [.childClose .err, .rdEof .err, .childWrite .out 2, .childClose .out, .rdRead .out, .rdCheck .out,
       .rdEof .out, .main, .main, .main, .tick, .tick, .childEnd, .main, .main, .main, .main, .main, .main,
       .main, .main]).map State.result
    = some (some (.ok (some 3) (some (b!"hi")) (some []))) := by decide +kernel

/-! Foreign holders (D-21). A descendant that inherited the child's ends of the pipes and outlives it
(`Plan.held`; `sh -c 'sleep 100000 & exec sleep 100000'`) keeps the readers from end of file and the
writer from `EPIPE`. The theorems above quantify over `plan.held`; what a holder can delay is a join.
`stepMain` joins on the success path only; `stepMainEJ` joins on the error path too, results thrown
away. -/

theorem wait_loop_ignores_holders (cfg : Cfg) (s : State) (h' : Held) (hw : s.pc.inWait = true) :
    stepMain cfg { s with held := h' } = (stepMain cfg s).map (fun t => { t with held := h' }) :=
  stepMain_inWait_indep_of cfg s (fun t => { t with held := h' }) hw (fun _ _ _ => rfl) rfl rfl rfl rfl

/-- From `Pc.kill e` (the overflow flag found set, or the deadline passed), whatever else happens
(`ls'`: child, readers, writer, holders, clock), the main thread executes at most two more statements
(`child.kill()`, `child.wait()` + return), each enabled, and the result is `e` with the child reaped. -/
theorem error_path_terminates (cfg : Cfg) (plan : Plan) (ls : List Label) (s : State) (e : Err)
    (hr : run cfg plan (init cfg plan) ls = some s) (hpc : s.pc = .kill e)
    (ls' : List Label) (s' : State) (hr' : run cfg plan s ls' = some s') :
    mains ls' ≤ 2 ∧
    (mains ls' < 2 → (step cfg plan s' .main).isSome = true) ∧
    (mains ls' = 2 → s'.result = some (.error e) ∧ s'.child.isReaped = true) ∧
    (e = .timeout ∨ ∃ x, e = .ole x) := by
  have hreach : run cfg plan (init cfg plan) (ls ++ ls') = some s' := by
    rw [run_append, hr]; exact hr'
  obtain ⟨hle, hleft⟩ := run_errLeft (e := e) (k := 2) (by simp [hpc, Pc.errLeft]) hr'
  refine ⟨hle, fun hlt => ?_, fun heq => ?_, ?_⟩
  · obtain ⟨k, hk⟩ : ∃ k, 2 - mains ls' = k + 1 := ⟨1 - mains ls', by omega⟩
    rw [hk] at hleft
    have hw : s'.pc.inWait = true := by
      rcases Pc.errLeft_pos hleft with h | h <;> simp [h, Pc.inWait]
    rcases wait_loop_never_blocks cfg plan (ls ++ ls') s' hreach hw with h | ⟨w, hsl, _⟩
    · exact h
    · rcases Pc.errLeft_pos hleft with h | h <;> rw [h] at hsl <;> cases hsl
  · rw [heq] at hleft
    have hdone := Pc.errLeft_zero hleft
    have hres : s'.result = some (.error e) := (result_iff s' _).mpr hdone
    exact ⟨hres, (terminal_sound cfg plan (ls ++ ls') s' _ hreach hres).2.1⟩
  · have hp := ((inv_reachable cfg plan ls s hr).pcInv.row hpc).2
    cases e with
    | timeout => exact Or.inl rfl
    | ole x => exact Or.inr ⟨x, rfl⟩
    | _ => exact hp.elim

/-- A child that writes "hi" and hangs, leaving a grandchild that holds all three pipes for ever;
configuration as `slowCfg`. -/
def ejCfg : Cfg := slowCfg
def ejPlan : Plan :=
  { out := b!"hi", err := [], ending := .never, sigpipeDies := false, held := { out := true, err := true, inp := true } }

def ejLabels : List Label :=
  [.childWrite .out 2, .rdRead .out, .rdCheck .out, .wrWrite 2,
   .main, .main, .main, .tick, .main, .main, .main, .main, .main]

/-- Under `stepMain` the next statement returns `Timeout`, with both readers still in `read` and the
writer in `write`. -/
example : (run ejCfg ejPlan (init ejCfg ejPlan) (ejLabels ++ [.main])).map
    (fun s => (s.result, s.child, s.o.rd, s.e.rd, s.i.wr, s.held))
    = some (some (.error .timeout), .reaped none .killed, .idle, .idle, .busy, ⟨true, true, true⟩) := by decide +kernel
example : prompt (stepMain ejCfg) (step ejCfg ejPlan) (init ejCfg ejPlan) (ejLabels ++ [.main]) = true := by decide +kernel

/-- Under `stepMainEJ` the main thread goes on to `join_writer`: no `EPIPE` and no end of file while
the grandchild holds on. When it lets go, after five more ticks, the threads end and `Timeout` is
reported six ticks into a run with a timeout of one. -/
def ejLateLabels : List Label :=
  ejLabels ++ [.main, .tick, .tick, .tick, .tick, .tick, .holderCloseIn, .wrEpipe, .main,
    .holderClose .out, .rdEof .out, .main, .holderClose .err, .rdEof .err, .main]

example : (runEJ ejCfg ejPlan (init ejCfg ejPlan) ejLateLabels).map (fun s => (s.result, s.now))
    = some (some (.error .timeout), 6) := by decide +kernel
example : prompt (stepMainEJ ejCfg) (stepEJ ejCfg ejPlan) (init ejCfg ejPlan) ejLateLabels = true := by decide +kernel

/-- D-21 (join on the error path): with a foreign holder of a pipe a reachable state has the child
reaped and the error decided, and the runner waits, in a join whose result it will throw away, for a
process that is not its child. -/
theorem c16_error_path_join_is_wrong : ¬ c16_progress stepMainEJ runEJ init :=
  not_progress_of_stuck (cfg := ejCfg) (plan := ejPlan) (ls := ejLabels ++ [.main]) (by decide +kernel)
    (by decide +kernel)

/-- On the success path `stepMain` does wait for a holder: the child exits at once, leaving a
grandchild with the stdout pipe; `join_capture(stdout)` waits (`waitsForHolder`); the holder lets go,
end of file, complete output. -/
def heldOkPlan : Plan :=
  { out := b!"hi", err := [], ending := .code 0, sigpipeDies := false, held := { out := true } }
def heldOkLabels : List Label :=
  [.childWrite .out 2, .childEnd, .rdRead .out, .rdCheck .out, .rdEof .err, .main, .main, .main]

example :
    (run closeCfg heldOkPlan (init closeCfg heldOkPlan) heldOkLabels).map
      (fun s => (s.result, s.pc, s.waitsForHolder, (step closeCfg heldOkPlan s .main).isSome,
        (step closeCfg heldOkPlan s (.rdEof .out)).isSome))
    = some (none, .joinOut (some 0), true, false, false) := by decide +kernel

example :
    (run closeCfg heldOkPlan (init closeCfg heldOkPlan)
      (heldOkLabels ++ [.tick, .tick, .holderClose .out, .rdEof .out, .main, .main, .main, .main])).map State.result
    = some (some (.ok (some 0) (some (b!"hi")) (some []))) := by decide +kernel

/-- Non-vacuity of `outliving_child_times_out` with held pipes (`endAfter` is irrelevant for a hanging
child, hence a sleeping one). -/
def ejSleepPlan : Plan := { ejPlan with ending := .code 0, endAfter := 5 }

example : (run ejCfg ejSleepPlan (init ejCfg ejSleepPlan) (ejLabels ++ [.main])).map
    (fun s => (s.result, s.child)) = some (some (.error .timeout), .reaped none .killed) := by decide +kernel
example : prompt (stepMain ejCfg) (step ejCfg ejSleepPlan) (init ejCfg ejSleepPlan) (ejLabels ++ [.main]) = true := by decide +kernel
example : ejCfg.timeout + max ejCfg.poll 1 ≤ ejSleepPlan.endAfter := by decide +kernel
/-- `ejLabels.take 12` ends in `Pc.kill .timeout`, the hypothesis of `error_path_terminates`; the two
remaining statements follow, with a holder letting go in between. -/
example : (run ejCfg ejPlan (init ejCfg ejPlan) (ejLabels.take 12)).map State.pc = some (.kill .timeout) := by decide +kernel
example : ((run ejCfg ejPlan (init ejCfg ejPlan) (ejLabels.take 12)).bind
    (fun s => run ejCfg ejPlan s [.main, .holderClose .err, .tick, .main])).map State.result
    = some (some (.error .timeout)) := by decide +kernel

/-- Output of exactly `cap` bytes, delivered in two writes, and a stderr that is not captured but written to: the
complete output and `none` for stderr. -/
example :
    (run { d16Cfg with cap := 5, polErr := .null } { out := b!"hello", err := b!"x", ending := .code 3, sigpipeDies := false }
      (init { d16Cfg with cap := 5, polErr := .null } { out := b!"hello", err := b!"x", ending := .code 3, sigpipeDies := false })
      [.childWrite .out 2, .rdRead .out, .main, .childWrite .err 1, .childWrite .out 3, .rdCheck .out,
       .main, .main, .tick, .rdRead .out, .childEnd, .main, .main, .rdCheck .out, .rdEof .out, .main,
       .main, .main, .main, .main]).map State.result
    = some (some (.ok (some 3) (some (b!"hello")) none)) := by decide +kernel

/-- One byte over the cap, child exits before the waiter looks again: the post-exit re-check of the
flag in `join_capture` turns it into the error. -/
example :
    (run d16Cfg { out := b!"hello", err := [], ending := .code 0, sigpipeDies := false }
      (init d16Cfg { out := b!"hello", err := [], ending := .code 0, sigpipeDies := false })
      [.main, .childWrite .out 5, .childEnd, .main, .rdRead .out, .rdCheck .out, .main, .main, .main]).map State.result
    = some (some (.error (.ole .out))) := by decide +kernel

/-- A child that hangs and writes nothing, `timeout := 2`: after the second tick the deadline test fails, the
child is killed and reaped, the result is the timeout. -/
example :
    (run { d16Cfg with timeout := 2 } { out := [], err := [], ending := .never, sigpipeDies := false }
      (init { d16Cfg with timeout := 2 } { out := [], err := [], ending := .never, sigpipeDies := false })
      [.main, .main, .main, .tick, .main, .main, .main, .main, .tick, .main, .main, .main, .main,
       .main, .main]).map (fun s => (s.result, s.child))
    = some (some (.error .timeout), .reaped none .killed) := by decide +kernel

end NaijaVerif.Capture
