import NaijaVerif.Lemmas.EvalFuel
import NaijaVerif.Lemmas.EvalToy
/-
C01 (evaluator part) — the laws of the documented semantics, each for all sub-terms, states, configurations
and fuel, over the abstract number type: evaluation order (`binary_order`, `evalSel_cons`), short circuit of
`and` / `or`, `null` is falsy, `jasi` unrolling (`loop_unroll`), calls (`call_law`), string `add` and
interpolation with the Display form, and `run_fuel_mono`: a result other than `fuelOut` is the result for
every larger fuel, so the fuel is not part of the semantics.
-/
namespace NaijaVerif.Props.C01Eval
open NaijaVerif NaijaVerif.Eval

variable {N : Type} [NumOps N]

/-- `Eval.evalExpr_arith` under C01's name, the arguments in the order of the other laws.  `hop`: every operator
that is not `and` / `or`. -/
theorem binary_order (cfg : RunCfg) (f : Nat) (op : BinOp) (aop : ArithOp) (l r : Expr) (sp : Span)
    (st : State N) (hop : ArithOp.ofBin op = some aop) :
    evalExpr cfg (f + 1) (.binary op l r sp) st =
      (evalExpr cfg f l st).bind fun lv st1 =>
        (evalExpr cfg f r st1).bind fun rv st2 => Res.ofExcept cfg (arith aop lv rv sp) sp st2 :=
  evalExpr_arith cfg f hop l r sp st

/-- Arguments and array elements. -/
theorem evalSel_cons (cfg : RunCfg) (f : Nat) (e : Expr) (rest : List (Except (PanicSite × Span) Expr)) (st : State N) :
    evalSel cfg (f + 1) (.ok e :: rest) st =
      (evalExpr cfg f e st).bind fun v st1 =>
        (evalSel cfg f rest st1).bind fun vs st2 => .ok (v :: vs) st2 := by
  simp only [evalSel]

omit [NumOps N] in
theorem andStops_iff (v : Value N) : andStops v = true ↔ v = .bool false ∨ v = .null := by
  cases v with
  | bool b => cases b <;> simp [andStops]
  | null => simp [andStops]
  | _ => simp [andStops]

omit [NumOps N] in
theorem orStops_iff (v : Value N) : orStops v = true ↔ v = .bool true := by
  cases v with
  | bool b => cases b <;> simp [orStops]
  | _ => simp [orStops]

/-- The right operand is not evaluated: the state is the one after the left operand. -/
theorem and_short_circuit (cfg : RunCfg) (f : Nat) (l r : Expr) (sp : Span) (st st1 : State N) (lv : Value N)
    (hl : evalExpr cfg f l st = .ok lv st1) (hstop : lv = .bool false ∨ lv = .null) :
    evalExpr cfg (f + 1) (.binary .and l r sp) st = .ok (.bool false) st1 := by
  simp only [evalExpr, hl, Res.bind, (andStops_iff lv).2 hstop, if_true]

theorem and_continue (cfg : RunCfg) (f : Nat) (l r : Expr) (sp : Span) (st st1 : State N) (lv : Value N)
    (hl : evalExpr cfg f l st = .ok lv st1) (hgo : ¬ (lv = .bool false ∨ lv = .null)) :
    evalExpr cfg (f + 1) (.binary .and l r sp) st =
      (evalExpr cfg f r st1).bind fun rv st2 => Res.ofExcept cfg (logicRhs .andRhs rv) r.span st2 := by
  have : andStops lv = false := Bool.eq_false_iff.2 fun h => hgo ((andStops_iff lv).1 h)
  simp only [evalExpr, hl, Res.bind, this]
  rfl

theorem or_short_circuit (cfg : RunCfg) (f : Nat) (l r : Expr) (sp : Span) (st st1 : State N)
    (hl : evalExpr cfg f l st = .ok (.bool true) st1) :
    evalExpr cfg (f + 1) (.binary .or l r sp) st = .ok (.bool true) st1 := by
  simp only [evalExpr, hl, Res.bind, orStops, if_true]

theorem or_continue (cfg : RunCfg) (f : Nat) (l r : Expr) (sp : Span) (st st1 : State N) (lv : Value N)
    (hl : evalExpr cfg f l st = .ok lv st1) (hgo : lv ≠ .bool true) :
    evalExpr cfg (f + 1) (.binary .or l r sp) st =
      (evalExpr cfg f r st1).bind fun rv st2 => Res.ofExcept cfg (logicRhs .orRhs rv) r.span st2 := by
  have : orStops lv = false := Bool.eq_false_iff.2 fun h => hgo ((orStops_iff lv).1 h)
  simp only [evalExpr, hl, Res.bind, this]
  rfl

theorem logicRhs_bool (site : PanicSite) (b : Bool) : logicRhs (N := N) site (.bool b) = .ok (.bool b) := rfl
theorem logicRhs_null (site : PanicSite) : logicRhs (N := N) site .null = .ok (.bool false) := rfl

theorem not_null : unary (N := N) .not .null = .ok (.bool true) := rfl

theorem truthy_null (site : PanicSite) : truthy (N := N) site .null = .ok false := rfl

theorem if_null (cfg : RunCfg) (f : Nat) (c : Expr) (t : Block) (e : Option Block) (sid : Option Nat)
    (sp : Span) (st st1 : State N) (hc : evalExpr cfg f c st = .ok .null st1) :
    execStmt cfg (f + 1) (.ifS c t e sid sp) st =
      (match e with | some eb => execBlock cfg f eb st1 | none => .ok .cont st1) := by
  simp only [execStmt, hc, Res.bind, truthy, Res.ofExcept]
  rfl

theorem loop_null (cfg : RunCfg) (f : Nat) (c : Expr) (b : Block) (sp : Span) (st st1 : State N)
    (v : Value N) (hc : evalExpr cfg f c st = .ok v st1) (hv : v = .null ∨ v = .bool false) :
    loopW cfg (f + 1) c b sp st = .ok .cont st1 := by
  change (evalExpr cfg f c st).bind _ = _
  rw [hc]
  rcases hv with rfl | rfl <;> rfl

/-- One turn of `jasi`: `comot` ends the loop normally, `return v` leaves it, normal completion and `next` run
the loop again from the new state. -/
theorem loop_unroll (cfg : RunCfg) (f : Nat) (c : Expr) (b : Block) (sid : Option Nat) (sp : Span)
    (st st1 : State N) (hc : evalExpr cfg f c st = .ok (.bool true) st1) :
    execStmt cfg (f + 2) (.loop c b sid sp) st =
      (execBlock cfg f b st1).bind fun flow st2 =>
        match flow with
        | .brk => .ok .cont st2
        | .ret v => .ok (.ret v) st2
        | .cont => execStmt cfg (f + 1) (.loop c b sid sp) st2
        | .next => execStmt cfg (f + 1) (.loop c b sid sp) st2 := by
  change (evalExpr cfg f c st).bind _ = _
  rw [hc]
  change (execBlock cfg f b st1).bind _ = _
  congr; funext flow st2; cases flow <;> rfl

theorem loop_stmt (cfg : RunCfg) (f : Nat) (c : Expr) (b : Block) (sid : Option Nat) (sp : Span) (st : State N) :
    execStmt cfg (f + 1) (.loop c b sid sp) st = loopW cfg f c b c.span st := by
  simp only [execStmt]

/-- A call of a user function: the callee is looked up by the resolver's id, else by name; the parameter scope
sits on the callee's static chain; the value is `null` when the body ends without `return`. -/
theorem call_law (cfg : RunCfg) (f : Nat) (name : Bytes) (b0 : Option Nat) (s0 : Span) (args : List Expr)
    (fnAnn : Option Nat) (sp : Span) (st : State N) (fd : FnEntry) (ids : List (Option Nat))
    (hname : GlobalB.ofName name = none) (hfd : lookupFn cfg st fnAnn name = some fd)
    (hids : paramIds fd = some ids) :
    evalExpr cfg (f + 1) (.call (.var name b0 s0) args fnAnn sp) st =
      (evalSel cfg f (args.map .ok) st).bind fun vs st1 =>
        if vs.length ≠ fd.params.length then trap cfg .callArity sp st1
        else
          (execBlock cfg f fd.body
              (pushScope st1 (.params fd.id) fd.chain (paramSlots fd.params ids vs)
                (ids.filterMap id))).bind fun flow st3 =>
            match flow with
            | .cont => .ok .null (popScope st3 st1.chain)
            | .ret v => .ok v (popScope st3 st1.chain)
            | .brk => trap cfg .flowEscape sp (popScope st3 st1.chain)
            | .next => trap cfg .flowEscape sp (popScope st3 st1.chain) := by
  simp only [evalExpr, hname, hfd, hids]
  rfl

/-- A call binds every parameter: past the arity check of `call_law` (and with `paramIds` giving one id per
parameter) the callee's scope starts with one slot per parameter. -/
theorem paramSlots_length (params : List Param) (ids : List (Option Nat)) (vs : List (Value N))
    (h1 : ids.length = params.length) (h2 : vs.length = params.length) :
    (paramSlots params ids vs).length = params.length := by
  simp [paramSlots, h1, h2]

theorem shout_law (cfg : RunCfg) (v : Value N) (sp : Span) (st : State N) :
    globalCall cfg .shout v sp st = .ok .null { st with out := st.out ++ [v] } := rfl

theorem add_str_str (a b : Bytes) (sp : Span) : arith (N := N) .add (.str a) (.str b) sp = .ok (.str (a ++ b)) := rfl

theorem add_str_num (a : Bytes) (n : N) (sp : Span) :
    arith .add (.str a) (.num n) sp = .ok (.str (a ++ NumOps.fmt n)) := rfl

theorem add_num_str (n : N) (b : Bytes) (sp : Span) :
    arith .add (.num n) (.str b) sp = .ok (.str (NumOps.fmt n ++ b)) := rfl

theorem interp_lit (cfg : RunCfg) (st : State N) (s : Bytes) (rest : List Seg) (acc : Bytes) :
    interp cfg st (.lit s :: rest) acc = interp cfg st rest (acc ++ s) := rfl

theorem interp_var (cfg : RunCfg) (st : State N) (name : Bytes) (bind : Option Nat) (rest : List Seg)
    (acc : Bytes) (v : Value N) (hv : lookupVal cfg st bind name = some v) :
    interp cfg st (.var name bind :: rest) acc = interp cfg st rest (acc ++ v.display) := by
  simp only [interp, hv]

/-- Display does not quote a string on its own … -/
theorem display_str (s : Bytes) : (Value.str s : Value N).display = s := by simp [Value.display]

/-- … and quotes it inside an array. -/
theorem display_arr_str (s : Bytes) :
    (Value.arr [.str s] : Value N).display = b!"[" ++ (b!"\"" ++ s ++ b!"\"") ++ b!"]" := by
  simp [Value.display, Value.displayItems]

theorem div_by_zero (a b : N) (sp : Span) (hz : NumOps.isZero b = true) :
    arith .divide (.num a) (.num b) sp = .error (.rt .divisionByZero sp) ∧
    arith .mod (.num a) (.num b) sp = .error (.rt .divisionByZero sp) := by
  constructor <;> exact if_pos hz

theorem run_fuel_mono (cfg : RunCfg) (f g : Nat) (hfg : f ≤ g) (prog : Block) (r : Outcome N)
    (h : run cfg f prog = r) (hne : r ≠ .fuelOut) : run cfg g prog = r :=
  run_mono cfg hfg prog r h hne

theorem run_fuel_succ (cfg : RunCfg) (f : Nat) (prog : Block) (r : Outcome N)
    (h : run cfg f prog = r) (hne : r ≠ .fuelOut) : run cfg (f + 1) prog = r :=
  run_mono cfg (Nat.le_succ f) prog r h hne

/-! Non-vacuity (toy numbers):
`do say(x) start shout(x) return true end  shout(false and say(1))  shout(null or say(2))
 make i get 0  jasi (i small pass 5) start i get i add 1  if to say (i na 2) start next end
 if to say (i na 4) start comot end  shout("i={i}") end  shout("s" add 1 add 2)`
prints `false` (say(1) not called), `2`, `true`, `i=1`, `i=3`, `s12`. -/
def lawsProg : Block := (.mk [(.fnDef [115, 97, 121] ⟨0, 9⟩ [{ name := [120], span := ⟨7, 8⟩, bind := (some 0) }] (.mk [(.expr (.call (.var [115, 104, 111, 117, 116] none ⟨16, 21⟩) [(.var [120] (some 0) ⟨22, 23⟩)] none ⟨16, 31⟩) (some 1) ⟨16, 31⟩), (.ret (some (.bool true ⟨32, 36⟩)) (some 2) ⟨25, 40⟩)] ⟨16, 40⟩) (some 1) (some 0) ⟨0, 46⟩), (.expr (.call (.var [115, 104, 111, 117, 116] none ⟨41, 46⟩) [(.binary .and (.bool false ⟨47, 52⟩) (.call (.var [115, 97, 121] none ⟨57, 60⟩) [(.num [49] ⟨61, 62⟩)] (some 1) ⟨57, 64⟩) ⟨47, 64⟩)] none ⟨41, 70⟩) (some 3) ⟨41, 70⟩), (.expr (.call (.var [115, 104, 111, 117, 116] none ⟨65, 70⟩) [(.binary .or (.null ⟨71, 75⟩) (.call (.var [115, 97, 121] none ⟨79, 82⟩) [(.num [50] ⟨83, 84⟩)] (some 1) ⟨79, 86⟩) ⟨71, 86⟩)] none ⟨65, 91⟩) (some 4) ⟨65, 91⟩), (.assign [105] ⟨92, 93⟩ (.num [48] ⟨98, 99⟩) (some 1) (some 5) ⟨87, 104⟩), (.loop (.binary .lt (.var [105] (some 1) ⟨106, 107⟩) (.num [53] ⟨119, 120⟩) ⟨106, 121⟩) (.mk [(.assignExisting [105] ⟨128, 129⟩ (.binary .add (.var [105] (some 1) ⟨134, 135⟩) (.num [49] ⟨140, 141⟩) ⟨134, 151⟩) (some 1) (some 7) ⟨128, 151⟩), (.ifS (.binary .eq (.var [105] (some 1) ⟨153, 154⟩) (.num [50] ⟨158, 159⟩) ⟨153, 160⟩) (.mk [(.cont (some 9) ⟨167, 175⟩)] ⟨167, 175⟩) none (some 8) ⟨142, 185⟩), (.ifS (.binary .eq (.var [105] (some 1) ⟨187, 188⟩) (.num [52] ⟨192, 193⟩) ⟨187, 194⟩) (.mk [(.brk (some 11) ⟨201, 210⟩)] ⟨201, 210⟩) none (some 10) ⟨176, 216⟩), (.expr (.call (.var [115, 104, 111, 117, 116] none ⟨211, 216⟩) [(.str (.interp [.lit [105, 61], .var [105] (some 1)]) ⟨217, 224⟩)] none ⟨211, 229⟩) (some 12) ⟨211, 229⟩)] ⟨128, 229⟩) (some 6) ⟨100, 235⟩), (.expr (.call (.var [115, 104, 111, 117, 116] none ⟨230, 235⟩) [(.binary .add (.binary .add (.str (.static [115]) ⟨236, 239⟩) (.num [49] ⟨244, 245⟩) ⟨236, 249⟩) (.num [50] ⟨250, 251⟩) ⟨236, 252⟩)] none ⟨230, 252⟩) (some 13) ⟨230, 252⟩)] ⟨0, 252⟩)

example : Toy.summary (run Toy.cfg 40 lawsProg) =
    ([b!"false", b!"2", b!"true", b!"i=1", b!"i=3", b!"s12"], 0) := by decide +kernel

example : Toy.summary (run Toy.cfg 3 lawsProg) = ([], 3) := by decide +kernel

end NaijaVerif.Props.C01Eval
