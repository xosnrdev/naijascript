/-
C12 for the 20-class `PoolSet` over one arena: a buffer is at least as large as the request
(`PoolSet.alloc_len`), a release with the requested size returns the slot to its class
(`PoolSet.dealloc_pooled`), a fallback buffer is never recycled (`PoolSet.dealloc_fallback`), the
ownership test is exact (`PoolSet.contains_iff`), buffers of different classes are disjoint
(`PoolSet.classes_disjoint`).  That nothing wraps the address space is a hypothesis
(`PoolSet.WF.noWrap`).
-/
import NaijaVerif.Props.C12
import NaijaVerif.Lemmas.Bump

namespace NaijaVerif.Pool

/-- The pool set rounds as the bump arena does. -/
theorem alignUp_ge (off a : Nat) (ha : 0 < a) : off ≤ alignUp off a :=
  (rfl : alignUp = Bump.alignUp) ▸ Bump.le_alignUp off a ha

theorem newAux_layout (n c off : Nat) :
    off ≤ PoolSet.offAfter n c off ∧
    (∀ k p, (PoolSet.newAux n c off)[k]? = some p →
        off ≤ p.base ∧ p.base + p.total ≤ PoolSet.offAfter n c off ∧
        p.slotSize = slotSizeOf (c + k) ∧ p.slotCount = slotCountOf (c + k) ∧ p.Inv) ∧
    (∀ (j k : Nat) (p q : Pool), j < k → (PoolSet.newAux n c off)[j]? = some p →
        (PoolSet.newAux n c off)[k]? = some q → p.base + p.total ≤ q.base) := by
  induction n generalizing c off with
  | zero => exact ⟨Nat.le_refl _, fun _ _ h => (nomatch h), fun _ _ _ _ _ h => (nomatch h)⟩
  | succ n ih =>
    simp only [PoolSet.newAux, PoolSet.offAfter]
    obtain ⟨ih1, ih2, ih3⟩ :=
      ih (c + 1) (alignUp (alignUp off 8 + slotSizeOf c * slotCountOf c) 4 + 4 * slotCountOf c)
    have hend : alignUp off 8 + slotSizeOf c * slotCountOf c ≤
        alignUp (alignUp off 8 + slotSizeOf c * slotCountOf c) 4 + 4 * slotCountOf c :=
      Nat.le_trans (alignUp_ge _ 4 (by decide)) (Nat.le_add_right _ _)
    have h8 := alignUp_ge off 8 (by decide)
    have hoff := Nat.le_trans h8 (Nat.le_trans (Nat.le_add_right _ _) hend)
    refine ⟨Nat.le_trans hoff ih1, ?_, ?_⟩
    · intro k p hk
      cases k with
      | zero =>
        cases hk
        exact ⟨h8, Nat.le_trans hend ih1, rfl, rfl, Pool.inv_new _ _ _⟩
      | succ k =>
        obtain ⟨a, b, d, e, f⟩ := ih2 k p hk
        rw [Nat.add_assoc, Nat.add_comm 1 k] at d e
        exact ⟨Nat.le_trans hoff a, b, d, e, f⟩
    · intro j k p q hjk hj hk
      cases k with
      | zero => exact absurd hjk (Nat.not_lt_zero _)
      | succ k =>
        cases j with
        | zero =>
          cases hj
          exact Nat.le_trans hend (ih2 k q hk).1
        | succ j => exact ih3 j k p q (Nat.lt_of_succ_lt_succ hjk) hj hk

theorem newAux_length (n c off : Nat) : (PoolSet.newAux n c off).length = n := by
  induction n generalizing c off with
  | zero => rfl
  | succ n ih => simp [PoolSet.newAux, ih]

/-- `arenaOff` is where fallback allocations start; every block ends at or below it. -/
structure PoolSet.WF (s : PoolSet) : Prop where
  len      : s.pools.length = classCount
  geom     : ∀ (c : Nat) (p : Pool), s.pools[c]? = some p →
               p.slotSize = slotSizeOf c ∧ p.slotCount = slotCountOf c ∧ p.Inv
  ordered  : ∀ (j k : Nat) (p q : Pool), j < k → s.pools[j]? = some p → s.pools[k]? = some q →
               p.base + p.total ≤ q.base
  below    : ∀ (c : Nat) (p : Pool), s.pools[c]? = some p → p.base + p.total ≤ s.arenaOff
  noWrap   : s.arenaOff ≤ 2 ^ 64

theorem PoolSet.wf_new (off0 : Nat) (h : PoolSet.offAfter classCount 0 off0 ≤ 2 ^ 64) :
    (PoolSet.new off0).WF := by
  obtain ⟨_, h2, h3⟩ := newAux_layout classCount 0 off0
  refine ⟨newAux_length _ _ _, ?_, h3, ?_, h⟩
  · intro c p hc
    obtain ⟨_, _, d, e, f⟩ := h2 c p hc
    simp only [Nat.zero_add] at d e
    exact ⟨d, e, f⟩
  · intro c p hc
    exact (h2 c p hc).2.1

/-- The real layout (fresh arena, offset 0) fits: 3 776 512 bytes, about 3.6 MiB. -/
example : PoolSet.offAfter classCount 0 0 ≤ 2 ^ 64 := by decide +kernel

theorem PoolSet.alloc_cases (s : PoolSet) (size : Nat) :
    (∃ c p i p', sizeClass size = some c ∧ s.pools[c]? = some p ∧ p.alloc = some (i, p') ∧
        s.alloc size = (.pool c i (p.slotAddr i) p.slotSize, { s with pools := s.pools.set c p' })) ∨
    (s.alloc size = (.arena s.arenaOff size, { s with arenaOff := s.arenaOff + size })) := by
  unfold PoolSet.alloc
  split
  · next c hc =>
    split
    · next p hp =>
      split
      · next i p' ha => exact Or.inl ⟨c, p, i, p', hc, hp, ha, rfl⟩
      · exact Or.inr rfl
    · exact Or.inr rfl
  · exact Or.inr rfl

theorem PoolSet.alloc_len (s : PoolSet) (size : Nat) (h : s.WF) : size ≤ (s.alloc size).1.len := by
  rcases PoolSet.alloc_cases s size with ⟨c, p, i, p', hc, hp, _, he⟩ | he
  · rw [he]; simp only [Buf.len]
    rw [(h.geom c p hp).1]; exact sizeClass_fits size c hc
  · rw [he]; simp [Buf.len]

theorem PoolSet.alloc_fallback_iff (s : PoolSet) (size : Nat) (h : s.WF) :
    (∃ a l, (s.alloc size).1 = .arena a l) ↔
      (256 < size ∨ ∃ (c : Nat) (p : Pool), sizeClass size = some c ∧ s.pools[c]? = some p ∧ p.liveCount = p.slotCount) := by
  constructor
  · rintro ⟨a, l, he⟩
    by_cases hs : 256 < size
    · exact Or.inl hs
    · right
      have hc : ∃ c, sizeClass size = some c := by
        cases hsc : sizeClass size with
        | none => exact absurd ((sizeClass_none_iff size).mp hsc) hs
        | some c => exact ⟨c, rfl⟩
      obtain ⟨c, hc⟩ := hc
      have hlt := sizeClass_lt size c hc
      have hp : ∃ p, s.pools[c]? = some p := by
        have : c < s.pools.length := by rw [h.len]; exact hlt
        exact ⟨s.pools[c], List.getElem?_eq_getElem this⟩
      obtain ⟨p, hp⟩ := hp
      refine ⟨c, p, hc, hp, ?_⟩
      apply (Pool.alloc_none_iff p (h.geom c p hp).2.2).mp
      unfold PoolSet.alloc at he
      rw [hc] at he; simp only [hp] at he
      cases ha : p.alloc with
      | none => rfl
      | some ip => rw [ha] at he; simp at he
  · rintro (hs | ⟨c, p, hc, hp, hfull⟩)
    · have := (sizeClass_none_iff size).mpr hs
      unfold PoolSet.alloc; rw [this]; exact ⟨_, _, rfl⟩
    · have := (Pool.alloc_none_iff p (h.geom c p hp).2.2).mpr hfull
      unfold PoolSet.alloc; rw [hc]; simp only [hp, this]; exact ⟨_, _, rfl⟩

theorem getElem?_set_cases {α} (l : List α) (c k : Nat) (x y : α) (h : (l.set c x)[k]? = some y) :
    (k = c ∧ y = x) ∨ (k ≠ c ∧ l[k]? = some y) := by
  rw [List.getElem?_set] at h
  by_cases hk : c = k
  · rw [if_pos hk] at h
    split at h
    · exact Or.inl ⟨hk.symm, (Option.some.inj h).symm⟩
    · cases h
  · rw [if_neg hk] at h
    exact Or.inr ⟨Ne.symm hk, h⟩

theorem PoolSet.alloc_wf (s : PoolSet) (size : Nat) (h : s.WF) (hfit : s.arenaOff + size ≤ 2 ^ 64) :
    (s.alloc size).2.WF := by
  rcases PoolSet.alloc_cases s size with ⟨c, p, i, p', hc, hp, ha, he⟩ | he
  · rw [he]
    obtain ⟨hinv', _, _, _, hb, hs, hn⟩ := Pool.alloc_spec p p' i (h.geom c p hp).2.2 ha
    have htot : p'.total = p.total := by unfold Pool.total; rw [hs, hn]
    have key : ∀ (k : Nat) (q : Pool), (s.pools.set c p')[k]? = some q →
        ∃ q0 : Pool, s.pools[k]? = some q0 ∧ q.base = q0.base ∧ q.total = q0.total ∧
          q.slotSize = q0.slotSize ∧ q.slotCount = q0.slotCount ∧ q.Inv := by
      intro k q hk
      rcases getElem?_set_cases _ _ _ _ _ hk with ⟨rfl, rfl⟩ | ⟨_, hk'⟩
      · exact ⟨p, hp, hb, htot, hs, hn, hinv'⟩
      · exact ⟨q, hk', rfl, rfl, rfl, rfl, (h.geom k q hk').2.2⟩
    refine ⟨by simp [h.len], ?_, ?_, ?_, h.noWrap⟩
    · intro k q hk
      obtain ⟨q0, h0, _, _, e1, e2, e3⟩ := key k q hk
      exact ⟨e1 ▸ (h.geom k q0 h0).1, e2 ▸ (h.geom k q0 h0).2.1, e3⟩
    · intro j k q r hjk hj hk
      obtain ⟨q0, hq0, eb, et, _⟩ := key j q hj
      obtain ⟨r0, hr0, eb', _, _⟩ := key k r hk
      rw [eb, et, eb']; exact h.ordered j k q0 r0 hjk hq0 hr0
    · intro k q hk
      obtain ⟨q0, hq0, eb, et, _⟩ := key k q hk
      rw [eb, et]; exact h.below k q0 hq0
  · rw [he]
    exact ⟨h.len, h.geom, h.ordered, fun c p hp => Nat.le_trans (h.below c p hp) (Nat.le_add_right _ _), hfit⟩

theorem PoolSet.contains_iff (s : PoolSet) (a : Nat) (h : s.WF) (ha : a < 2 ^ 64) :
    s.contains a = true ↔ ∃ (c : Nat) (p : Pool), s.pools[c]? = some p ∧ p.base ≤ a ∧ a < p.base + p.total := by
  unfold PoolSet.contains
  rw [List.any_eq_true]
  constructor
  · rintro ⟨p, hp, hc⟩
    obtain ⟨c, hlt, rfl⟩ := List.getElem_of_mem hp
    have hget : s.pools[c]? = some s.pools[c] := List.getElem?_eq_getElem hlt
    have hb := h.below c _ hget
    have := (containsWrap_iff _ _ a ha (Nat.le_trans hb h.noWrap)).mp hc
    exact ⟨c, _, hget, this⟩
  · rintro ⟨c, p, hp, h1, h2⟩
    refine ⟨p, List.mem_of_getElem? hp, ?_⟩
    have hb := h.below c p hp
    exact (containsWrap_iff _ _ a ha (Nat.le_trans hb h.noWrap)).mpr ⟨h1, h2⟩

/-- `hab` holds for a fallback buffer: it lies at or above `arenaOff` at hand-out time, hence above
every block (`PoolSet.WF.below`). -/
theorem PoolSet.fallback_not_contained (s : PoolSet) (a : Nat) (h : s.WF) (ha : a < 2 ^ 64)
    (hab : ∀ (c : Nat) (p : Pool), s.pools[c]? = some p → p.base + p.total ≤ a) : s.contains a = false := by
  cases hc : s.contains a with
  | false => rfl
  | true =>
    obtain ⟨c, p, hp, _, h2⟩ := (PoolSet.contains_iff s a h ha).mp hc
    exact absurd h2 (Nat.not_lt.2 (hab c p hp))

theorem PoolSet.dealloc_fallback (s : PoolSet) (a size : Nat) (h : s.WF) (ha : a < 2 ^ 64)
    (hab : ∀ (c : Nat) (p : Pool), s.pools[c]? = some p → p.base + p.total ≤ a) : s.dealloc a size = s := by
  unfold PoolSet.dealloc
  split
  · next c _ =>
    split
    · next p hp =>
      have hb := h.below c p hp
      have : p.contains a = false := by
        cases hc : p.contains a with
        | false => rfl
        | true =>
          have := (containsWrap_iff _ _ a ha (Nat.le_trans hb h.noWrap)).mp hc
          exact absurd this.2 (Nat.not_lt.2 (hab c p hp))
      simp [this]
    · rfl
  · rfl

theorem PoolSet.dealloc_pooled (s : PoolSet) (size c i : Nat) (p : Pool) (h : s.WF)
    (hc : sizeClass size = some c) (hp : s.pools[c]? = some p) (hi : i < p.slotCount) :
    s.dealloc (p.slotAddr i) size = { s with pools := s.pools.set c (p.dealloc i) } := by
  have hg := h.geom c p hp
  have hsz : 0 < p.slotSize := by rw [hg.1]; exact slotSizeOf_pos c
  have hfit : p.base + p.total ≤ 2 ^ 64 := Nat.le_trans (h.below c p hp) h.noWrap
  obtain ⟨h1, h2⟩ := Pool.indexOf_slotAddr p i hi hsz hfit
  unfold PoolSet.dealloc
  rw [hc]; simp only [hp, h1, h2, if_true]

theorem PoolSet.classes_disjoint (s : PoolSet) (h : s.WF) (c d i j : Nat) (p q : Pool) (hcd : c < d)
    (hp : s.pools[c]? = some p) (hq : s.pools[d]? = some q) (hi : i < p.slotCount) :
    p.slotAddr i + p.slotSize ≤ q.slotAddr j := by
  -- slot `i` ends inside the block of `p`, which ends at or below the block of `q`
  have ho := h.ordered c d p q hcd hp hq
  have hin := p.slot_within hi
  unfold Pool.slotAddr
  omega

example : ((PoolSet.new 0).alloc 200).1 = .pool 18 0 3526656 224 := by decide +kernel

example : ((PoolSet.new 0).alloc 300).1 = .arena (PoolSet.offAfter classCount 0 0) 300 := by
  decide +kernel

end NaijaVerif.Pool
