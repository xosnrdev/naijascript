/-
C15 — child processes get exactly the configured argv, env, cwd and stdin (`run_spawned_exact`);
invalid, over-limit or denied commands are refused before anything is spawned (`run_spawns_iff`,
`validate_ok_iff`).  About `Model/Proc.lean` with the reference notions of `Spec/Proc.lean`;
`Gen/ProcCaps.lean` (dumped from the compiled crate) supplies `ProcessCaps::defaults()` and the two
default host policies.
-/
import NaijaVerif.Lemmas.Proc
import NaijaVerif.Gen.ProcCaps

namespace NaijaVerif.Proc

/-! The two reference notions of `Spec/Proc.lean`, `lastOf` and `lastWrite`, said with library functions. -/

theorem lastOf_eq_findSome?_reverse {α : Type} (f : Op → Option α) (ops : List Op) :
    lastOf f ops = ops.reverse.findSome? f := by
  induction ops with
  | nil => rfl
  | cons op rest ih =>
    simp only [lastOf, List.reverse_cons, List.findSome?_append, ← ih]
    cases lastOf f rest with
    | some a => simp
    | none => simp [List.findSome?]; cases f op <;> rfl

theorem lastWrite_eq_find?_reverse (ws : List (Bytes × Bytes)) (k : Bytes) :
    lastWrite ws k = (ws.reverse.find? (fun p => p.1 = k)).map Prod.snd := by
  induction ws with
  | nil => rfl
  | cons p rest ih =>
    obtain ⟨k', v'⟩ := p
    simp only [lastWrite, List.reverse_cons, List.find?_append, ih]
    cases h : List.find? (fun p => decide (p.1 = k)) rest.reverse with
    | some q => simp
    | none =>
      by_cases hk : k' = k <;> simp [List.find?, hk]

theorem build_program (p : Bytes) (ops : List Op) : (build p ops).program = p := by
  simp [build, foldl_program, Cmd.new]

/-- C15, argv: the texts passed to `arg`, in call order — nothing is split, joined, trimmed or expanded. -/
theorem build_args (p : Bytes) (ops : List Op) : (build p ops).args = argTexts ops := by
  simp [build, foldl_args, Cmd.new]

theorem build_args_count (p : Bytes) (ops : List Op) :
    (build p ops).args.length = (ops.filter (fun o => (Op.argText o).isSome)).length := by
  rw [build_args, argTexts]
  induction ops with
  | nil => rfl
  | cons op rest ih =>
    rw [List.filterMap_cons, List.filter_cons]
    cases Op.argText op <;> simp [ih]

theorem build_cwd (p : Bytes) (ops : List Op) : (build p ops).cwd = lastOf Op.cwdText ops :=
  foldl_last_some (·.cwd) Op.cwdText (by intro c op; cases op <;> rfl) ops _ rfl

theorem build_stdin (p : Bytes) (ops : List Op) :
    (build p ops).stdin = (lastOf Op.stdinSet ops).getD .inherit :=
  foldl_last (·.stdin) Op.stdinSet (by intro c op; cases op <;> rfl) ops _

theorem build_stdout (p : Bytes) (ops : List Op) :
    (build p ops).stdout = (lastOf Op.stdoutSet ops).getD .inherit :=
  foldl_last (·.stdout) Op.stdoutSet (by intro c op; cases op <;> rfl) ops _

theorem build_stderr (p : Bytes) (ops : List Op) :
    (build p ops).stderr = (lastOf Op.stderrSet ops).getD .inherit :=
  foldl_last (·.stderr) Op.stderrSet (by intro c op; cases op <;> rfl) ops _

theorem build_timeout (p : Bytes) (ops : List Op) :
    (build p ops).timeout = lastOf Op.timeoutSet ops :=
  foldl_last_some (·.timeout) Op.timeoutSet (by intro c op; cases op <;> rfl) ops _ rfl

theorem build_env_keys_nodup (p : Bytes) (ops : List Op) :
    ((build p ops).env.map Prod.fst).Nodup := (build_envInv p ops).nodup

theorem build_env_keys_order (p : Bytes) (ops : List Op) :
    (build p ops).env.map Prod.fst = dedup ((envWrites ops).map Prod.fst) := (build_envInv p ops).keys

/-- C15, env: last write per key wins. -/
theorem build_env_last_write_wins (p : Bytes) (ops : List Op) (k v : Bytes) :
    (k, v) ∈ (build p ops).env ↔ lastWrite (envWrites ops) k = some v := (build_envInv p ops).mem_iff k v

theorem build_env_count (p : Bytes) (ops : List Op) :
    (build p ops).env.length = (dedup ((envWrites ops).map Prod.fst)).length := by
  rw [← build_env_keys_order, List.length_map]

/-- C15, validation: accepted iff every limit is respected, each comparison with its exact boundary;
the spec is then the command itself.  `caps.IsU32`: the limits are `u32` fields. -/
theorem validate_ok_iff (c : Cmd) (caps : Caps) (hu : caps.IsU32) (s : Spec) :
    validate c caps = .ok s ↔ Valid c caps ∧ s = specOf c caps := by
  have h := validate_holds c caps hu
  refine ⟨h.ok, fun ⟨hv, hs⟩ => ?_⟩
  cases hr : validate c caps with
  | error e => exact ((h.error hr).not_valid hv).elim
  | ok s' => rw [hs, (h.ok hr).2]

theorem validate_accepts_iff (c : Cmd) (caps : Caps) (hu : caps.IsU32) :
    (∃ s, validate c caps = .ok s) ↔ Valid c caps :=
  ⟨fun ⟨_, h⟩ => ((validate_holds c caps hu).ok h).1,
   fun h => ⟨_, (validate_ok_iff c caps hu _).mpr ⟨h, rfl⟩⟩⟩

theorem validate_refuses_iff (c : Cmd) (caps : Caps) (hu : caps.IsU32) :
    (∃ e, validate c caps = .error e) ↔ ¬ Valid c caps := by
  rw [← validate_accepts_iff c caps hu]
  cases h : validate c caps <;> simp

theorem validate_error_sound (c : Cmd) (caps : Caps) (hu : caps.IsU32) (e : Err)
    (h : validate c caps = .error e) : Violates e c caps :=
  (validate_holds c caps hu).error h

theorem validate_program_first (c : Cmd) (caps : Caps) (hu : caps.IsU32) :
    validate c caps = .error .program ↔ ¬ TextOk c.program caps.maxProgram false false := by
  constructor
  · intro h; exact validate_error_sound c caps hu _ h
  · intro hb
    unfold validate
    rw [andThen_error_iff]
    exact Or.inl ((validateText_error_iff _ _ _ _ _ _ hu.1).mpr ⟨hb, rfl⟩)

/-- Order of the checks: both counts before any argument or environment text. -/
theorem validate_counts_before_texts (c : Cmd) (caps : Caps) (hu : caps.IsU32)
    (hp : TextOk c.program caps.maxProgram false false) :
    (caps.maxArgs < c.args.length → validate c caps = .error .argCount) ∧
    (c.args.length ≤ caps.maxArgs → caps.maxEnvPairs < c.env.length →
      validate c caps = .error .envCount) := by
  obtain ⟨hProgram, _, hArgs, _, _, hEnvPairs, _⟩ := hu
  have hprog := (validateText_ok_iff .program c.program _ false false _ hProgram).mpr ⟨hp, rfl⟩
  constructor
  · intro hlt
    unfold validate
    rw [hprog]
    simp only [andThen, (validateCount_error_iff _ _ _ _ hArgs).mpr ⟨hlt, rfl⟩]
  · intro hle hlt
    unfold validate
    rw [hprog]
    simp only [andThen, (validateCount_ok_iff _ _ _ () hArgs).mpr hle,
      (validateCount_error_iff _ _ _ _ hEnvPairs).mpr ⟨hlt, rfl⟩]

theorem run_denied (pol : Policy) (c : Cmd) (w : World) (h : pol.allow = false) :
    run pol c w = (.denied, w) := by
  simp [run, h]

theorem run_invalid (pol : Policy) (c : Cmd) (w : World) (e : Err) (ha : pol.allow = true)
    (h : validate c pol.caps = .error e) : run pol c w = (.invalid e, w) := by
  simp [run, ha, h]

/-- C15, refusal before spawn: the spawn counter moves iff the policy allows processes and the command
is valid; the command handed to the OS is the one built from the spec. -/
theorem run_spawns_iff (pol : Policy) (c : Cmd) (w : World) (hu : pol.caps.IsU32) :
    ((run pol c w).2.spawns.length = w.spawns.length + 1 ↔ pol.allow = true ∧ Valid c pol.caps) ∧
    ((run pol c w).2 = w ∨ (run pol c w).2.spawns = w.spawns ++ [commandOf (specOf c pol.caps)]) := by
  unfold run
  by_cases ha : pol.allow = false
  · simp [ha]
  · simp only [ha]
    cases hv : validate c pol.caps with
    | error e =>
      have : ¬ Valid c pol.caps := (validate_refuses_iff c pol.caps hu).mp ⟨e, hv⟩
      simp [this]
    | ok s =>
      obtain ⟨hval, rfl⟩ := (validate_ok_iff c pol.caps hu s).mp hv
      simp [hval]

theorem run_no_spawn (pol : Policy) (c : Cmd) (w : World)
    (h : ∀ cmd, (run pol c w).1 ≠ .spawned cmd) : (run pol c w).2 = w := by
  unfold run at h ⊢
  by_cases ha : pol.allow = false
  · simp [ha]
  · simp only [ha] at h ⊢
    cases hv : validate c pol.caps with
    | error e => simp
    | ok s => simp [hv] at h

/-- C15 end to end, for the command built by any call sequence: argv is the program followed by the
`arg` texts, cwd the last `cwd`, every override the last `env` write, stdin the last stdin setting,
and exactly this one command was added to the world. -/
theorem run_spawned_exact (pol : Policy) (p : Bytes) (ops : List Op) (w w' : World) (cmd : Command)
    (hu : pol.caps.IsU32) (h : run pol (build p ops) w = (.spawned cmd, w')) :
    cmd.argv = p :: argTexts ops ∧
    cmd.cwd = lastOf Op.cwdText ops ∧
    (∀ k, cmd.override k = lastWrite (envWrites ops) k) ∧
    (cmd.stdinData = match (lastOf Op.stdinSet ops).getD .inherit with
                     | .text t => some t | _ => none) ∧
    (cmd.stdin = match (lastOf Op.stdinSet ops).getD .inherit with
                 | .text _ => .piped | .null => .null | .inherit => .inherit) ∧
    cmd.stdout = outStdio ((lastOf Op.stdoutSet ops).getD .inherit) ∧
    cmd.stderr = outStdio ((lastOf Op.stderrSet ops).getD .inherit) ∧
    w'.spawns = w.spawns ++ [cmd] ∧ pol.allow = true ∧ Valid (build p ops) pol.caps := by
  unfold run at h
  by_cases ha : pol.allow = false
  · simp [ha] at h
  · simp only [ha] at h
    cases hv : validate (build p ops) pol.caps with
    | error e => simp [hv] at h
    | ok s =>
      simp only [hv] at h
      injection h with h1 h2
      injection h1 with h1
      obtain ⟨rfl, rfl⟩ := And.intro h1 h2
      obtain ⟨hval, rfl⟩ := (validate_ok_iff _ pol.caps hu s).mp hv
      refine ⟨?_, ?_, ?_, ?_, ?_, ?_, ?_, rfl, by simpa using ha, hval⟩
      · simp [Command.argv, commandOf, specOf, build_program, build_args]
      · simp [commandOf, specOf, build_cwd]
      · exact (build_envInv p ops).vals
      · simp only [commandOf, specOf, build_stdin]
        cases (lastOf Op.stdinSet ops).getD .inherit <;> rfl
      · simp only [commandOf, specOf, build_stdin]
        cases (lastOf Op.stdinSet ops).getD .inherit <;> rfl
      · simp [commandOf, specOf, build_stdout]
      · simp [commandOf, specOf, build_stderr]

/-- `timeout_ms(n)` in a script, `n` a positive whole number: the builder receives `n` itself as
long as it fits a `u32`, and `u32::MAX` (which only a limit setting of `u32::MAX` accepts) beyond. -/
theorem timeoutOfWhole_spec (n t : Nat) (h : timeoutOfWhole n = some t) :
    0 < n ∧ 0 < t ∧ t < u32Lim ∧ (n < u32Lim → t = n) ∧ (u32Lim ≤ n → t = u32Lim - 1) := by
  unfold timeoutOfWhole at h
  split at h
  · cases h
  · simp only [Option.some.injEq] at h
    subst h
    unfold u32Lim
    split <;> omega

/-- `ProcessCaps::defaults()`. -/
def genCaps : Caps :=
  { maxProgram := Gen.ProcCaps.maxProgramBytes, maxCwd := Gen.ProcCaps.maxCwdBytes,
    maxArgs := Gen.ProcCaps.maxArgs, maxArg := Gen.ProcCaps.maxArgBytes,
    maxTotalArg := Gen.ProcCaps.maxTotalArgBytes, maxEnvPairs := Gen.ProcCaps.maxEnvPairs,
    maxEnvKey := Gen.ProcCaps.maxEnvKeyBytes, maxEnvValue := Gen.ProcCaps.maxEnvValueBytes,
    maxTotalEnv := Gen.ProcCaps.maxTotalEnvBytes, maxStdin := Gen.ProcCaps.maxStdinBytes,
    maxCapture := Gen.ProcCaps.maxCaptureBytesPerStream,
    defaultTimeout := Gen.ProcCaps.defaultTimeoutMs, maxTimeout := Gen.ProcCaps.maxTimeoutMs,
    waitPoll := Gen.ProcCaps.waitPollMs }

theorem gen_caps_are_u32 : genCaps.IsU32 := by decide +kernel

theorem gen_default_timeout_accepted :
    0 < genCaps.defaultTimeout ∧ genCaps.defaultTimeout ≤ genCaps.maxTimeout := by decide +kernel

/-- `HostPolicy::native_default()` allows processes, `HostPolicy::wasm_default()` forbids them. -/
theorem gen_default_policies :
    Gen.ProcCaps.nativeAllowProcess = true ∧ Gen.ProcCaps.wasmAllowProcess = false := by decide +kernel

theorem wasm_default_never_spawns (c : Cmd) (w : World) :
    run { allow := Gen.ProcCaps.wasmAllowProcess, caps := genCaps } c w = (.denied, w) :=
  run_denied _ c w gen_default_policies.2

/-! Non-vacuity: a command exactly at every limit is accepted; one byte (item, millisecond) over any
single limit is refused with that limit's name. -/

/-- `none` = accepted, `some e` = refused with `e`. -/
def verdict (c : Cmd) (caps : Caps) : Option Err :=
  match validate c caps with
  | .ok _ => none
  | .error e => some e

def tiny : Caps :=
  { maxProgram := 3, maxCwd := 3, maxArgs := 2, maxArg := 3, maxTotalArg := 5, maxEnvPairs := 2,
    maxEnvKey := 2, maxEnvValue := 3, maxTotalEnv := 8, maxStdin := 4, maxCapture := 10,
    defaultTimeout := 5, maxTimeout := 9, waitPoll := 1 }

/-- Program 3 bytes; 2 args of 3 + 2 = 5 bytes; cwd 3 bytes; 2 pairs with a 2-byte key and a
3-byte value, 5 + 3 = 8 bytes; 4 bytes of stdin; timeout 9: every limit of `tiny` met exactly. -/
def atCap : List Op :=
  [.arg (b!"a b"), .env (b!"K1") (b!"old"), .arg (b!"*$"), .cwd (b!"/xy"), .env (b!"cd") (b!"e"), .env (b!"K1") (b!"new"),
   .stdinText (b!"in;\n"), .timeout 9, .stdoutCapture]

example : tiny.IsU32 := by decide +kernel
example : verdict (build (b!"prg") atCap) tiny = none := by decide +kernel
example : Valid (build (b!"prg") atCap) tiny := by
  have h : verdict (build (b!"prg") atCap) tiny = none := by decide +kernel
  unfold verdict at h
  split at h
  · next s hs => exact (validate_accepts_iff _ _ (by decide)).mp ⟨s, hs⟩
  · cases h
example : (build (b!"prg") atCap).args = [(b!"a b"), (b!"*$")] := by decide +kernel
example : (build (b!"prg") atCap).env = [((b!"K1"), (b!"new")), ((b!"cd"), (b!"e"))] := by decide +kernel
example :
    (run { allow := true, caps := tiny } (build (b!"prg") atCap) { spawns := [] }).2.spawns.map Command.argv
      = [[(b!"prg"), (b!"a b"), (b!"*$")]] := by decide +kernel
example : (run { allow := false, caps := tiny } (build (b!"prg") atCap) { spawns := [] })
      = (.denied, { spawns := [] }) := by decide +kernel
example : verdict (build (b!"prog") atCap) tiny = some .program := by decide +kernel
example : verdict (build (b!"prg") (atCap ++ [.arg (b!"")])) tiny = some .argCount := by decide +kernel
example : verdict (build (b!"prg") (atCap ++ [.env (b!"x") (b!"")])) tiny = some .envCount := by decide +kernel
example : verdict (build (b!"prg") [.arg (b!"abcd")]) tiny = some .argument := by decide +kernel
example : verdict (build (b!"prg") [.arg (b!"abc"), .arg (b!"abc")]) tiny = some .argBytes := by decide +kernel
example : verdict (build (b!"prg") [.cwd (b!"/xyz")]) tiny = some .cwd := by decide +kernel
example : verdict (build (b!"prg") [.env (b!"abc") (b!"")]) tiny = some .envKey := by decide +kernel
example : verdict (build (b!"prg") [.env (b!"ab") (b!"abcd")]) tiny = some .envValue := by decide +kernel
example : verdict (build (b!"prg") [.env (b!"ab") (b!"abc"), .env (b!"cd") (b!"ef")]) tiny = some .envBytes := by
  decide +kernel
example : verdict (build (b!"prg") [.stdinText (b!"abcde")]) tiny = some .stdinText := by decide +kernel
example : verdict (build (b!"prg") [.timeout 10]) tiny = some .timeoutLimit := by decide +kernel
example : verdict (build (b!"prg") [.timeout 0]) tiny = some .timeoutZero := by decide +kernel
-- invalid contents
example : verdict (build [] []) tiny = some .program := by decide +kernel
example : verdict (build [97, 0] []) tiny = some .program := by decide +kernel
example : verdict (build (b!"prg") [.arg [0]]) tiny = some .argument := by decide +kernel
example : verdict (build (b!"prg") [.cwd []]) tiny = some .cwd := by decide +kernel
example : verdict (build (b!"prg") [.env [] (b!"v")]) tiny = some .envKey := by decide +kernel
example : verdict (build (b!"prg") [.env (b!"=") (b!"v")]) tiny = some .envKey := by decide +kernel
example : verdict (build (b!"prg") [.env (b!"k") [0]]) tiny = some .envValue := by decide +kernel
example : verdict (build (b!"prg") [.stdinText [0]]) tiny = some .stdinText := by decide +kernel
-- empty argument, value and stdin text are fine; so is `=` in a value
example : verdict (build (b!"prg") [.arg [], .env (b!"k") [], .stdinText [], .env (b!"j") (b!"=")]) tiny = none := by
  decide +kernel
-- a later call repairs an earlier one (last write wins), and the first failing check decides
example : verdict (build (b!"prg") [.cwd [], .cwd (b!"/")]) tiny = none := by decide +kernel
example : verdict (build (b!"prg") [.env (b!"k") [0], .env (b!"k") (b!"ok")]) tiny = none := by decide +kernel
example : verdict (build [] [.arg [0], .timeout 0]) tiny = some .program := by decide +kernel
example : verdict (build (b!"prg") [.arg [0], .arg [], .arg []]) tiny = some .argCount := by decide +kernel
-- the shipped limits accept an ordinary command
example : verdict (build (b!"/bin/echo") [.arg (b!"hello world"), .env (b!"LANG") (b!"C"), .stdinNull]) genCaps
    = none := by decide +kernel

end NaijaVerif.Proc
