import NaijaVerif.Lemmas.EvalScopeStep
import NaijaVerif.Lemmas.EvalToy
import NaijaVerif.Props.C04Static
/-
C04 (dynamic half) — every variable reference, assignment target and `{name}` placeholder denotes the variable
of the nearest enclosing declaration in the activation the running code belongs to; a call reaches the function
of the innermost enclosing block that defines it.  `c04_dynamic`: the run with the lookup of `src/runtime.rs`
(`lookup := dynamic`: a `LocalId` is searched in the most recent scope instance whose tag is its declaring
scope, a `FunctionId` in the whole stack) equals the run with lexical lookup (only the scopes on the static
chain are searched), for every well-scoped program.  `WellScoped` is decidable; `Props/C04Bridge.lean`
(`c04_bridge`, `c04_accepted`) proves it of the resolver model's output, and `./check C04` evaluates it on the
real resolver's annotated AST.  `c04_old_lookup_wrong` documents D-04 (whole-stack search by `LocalId`).
-/
namespace NaijaVerif.Props.C04
open NaijaVerif NaijaVerif.Eval

variable {N : Type}

/-- Two configurations, since they play different parts: `MR` reads the plan of `cfg`, the initial state the input of
`cfg'`.  `c04_dynamic` takes `cfg` for both (`State.init` is the same for `cfg.dyn` and `cfg.lex`). -/
theorem mr_initial (cfg cfg' : RunCfg) : MR (N := N) cfg [Binder.root] (State.init cfg') :=
  MR.init cfg cfg'

/-- For every state satisfying `MR cfg Γ` and every well-scoped piece of code the eight evaluator functions
return the same result in both lookup modes, and a successful result satisfies `MR cfg Γ` again with the static
chain and the skeleton of the stack restored (a callee changes only values below its own scopes). -/
theorem mr_preserved [NumOps N] (cfg : RunCfg) (f : Nat) : AgAll (N := N) cfg f := ag_all cfg f

theorem mr_block_entry (cfg : RunCfg) (Γ : List Binder) (st : State N) (h : MR cfg Γ st) (b : Block)
    (hws : wsBlock Γ b = true) :
    MR cfg (.ofStmts b.stmts :: Γ)
      (hoist cfg b.stmts (pushScope st (.block b.span) st.chain [] (declIds b.stmts))) := by
  cases b with
  | mk ss sp =>
    simp only [wsBlock, Bool.and_eq_true] at hws
    exact (h.enterBlock (.block sp) ss hws.1 hws.2).1

/-- The callee's chain is the caller's chain cut at the scope that defines the callee. -/
theorem mr_call_entry (cfg : RunCfg) (Γ : List Binder) (st : State N) (h : MR cfg Γ st)
    (a : Option Nat) (name : Bytes) (fd : FnEntry) (hf : lookupFn cfg.lex st a name = some fd)
    (ids : List (Option Nat)) (hids : paramIds fd = some ids) (vs : List (Value N)) :
    ∃ j, fd.chain = st.chain.drop j ∧
      MR cfg (.ofParams fd.params :: Γ.drop j)
        (pushScope st (.params fd.id) fd.chain (paramSlots fd.params ids vs) (ids.filterMap id)) ∧
      wsBlock (.ofParams fd.params :: Γ.drop j) fd.body = true :=
  h.enterCall hf hids vs

/-- The same slot position serves reads, assignments, index assignments and mutating methods. -/
theorem slot_lookup_dynamic_eq_lexical (cfg : RunCfg) (Γ : List Binder) (st : State N) (h : MR cfg Γ st)
    (b : Option Nat) (hb : boundIn Γ b = true) (name : Bytes) :
    slotOf cfg.dyn st b name = slotOf cfg.lex st b name ∧
    lookupVal cfg.dyn st b name = lookupVal cfg.lex st b name ∧
    (∀ v, assign cfg.dyn st b name v = assign cfg.lex st b name v) :=
  ⟨slotOf_agree h hb name, lookupVal_agree h hb name, fun v => assign_agree h hb name v⟩

theorem interp_dynamic_eq_lexical [NumOps N] (cfg : RunCfg) (Γ : List Binder) (st : State N) (h : MR cfg Γ st)
    (segs : List Seg) (hws : segs.all (wsSeg Γ) = true) (acc : Bytes) :
    interp cfg.dyn st segs acc = interp cfg.lex st segs acc :=
  interp_agree h segs acc hws

theorem fn_lookup_dynamic_eq_lexical (cfg : RunCfg) (Γ : List Binder) (st : State N) (h : MR cfg Γ st)
    (a : Option Nat) (ha : fnBoundIn Γ a = true) (name : Bytes) :
    lookupFn cfg.dyn st a name = lookupFn cfg.lex st a name :=
  lookupFn_agree h ha name

/-- The scope in which the code finds a bound variable is on the static chain of the running code: never a
scope of the caller or of another activation of the same function. -/
theorem bound_reference_stays_on_static_chain (cfg : RunCfg) (Γ : List Binder) (st : State N)
    (h : MR cfg Γ st) (l : Nat) (hl : declared Γ l = true) (name : Bytes) (pos : Nat × Nat)
    (hpos : slotOf cfg.dyn st (some l) name = some pos) :
    ∃ S, st.env[pos.1]? = some S ∧ S.uid ∈ st.chain := by
  rw [slotOf_agree h (b := some l) hl name] at hpos
  change findPos (visible cfg.lex st.chain) _ st.env = some pos at hpos
  rw [visible_lex_fun] at hpos
  obtain ⟨S, h1, h2⟩ := findPos_some_vis hpos
  exact ⟨S, h1, by simpa using h2⟩

theorem c04_dynamic [NumOps N] (cfg : RunCfg) (fuel : Nat) (p : Block) (hp : WellScoped p) :
    (run { cfg with lookup := .dynamic } fuel p : Outcome N) = run { cfg with lookup := .lexical } fuel p := by
  have h := (ag_all (N := N) cfg fuel).block [Binder.root] p (State.init cfg) (MR.init cfg cfg) hp
  show run cfg.dyn fuel p = run cfg.lex fuel p
  unfold run
  have hi1 : (State.init cfg.dyn : State N) = State.init cfg := rfl
  have hi2 : (State.init cfg.lex : State N) = State.init cfg := rfl
  rw [hi1, hi2, h.1]

/-- The statement for the whole-stack search by `LocalId` (D-04).  At the toy numbers `Int` on purpose: it is there to
be refuted by a run (`c04_old_lookup_wrong`), and the negation of the statement for every number type would say less. -/
def c04_old_full : Prop :=
  ∀ (cfg : RunCfg) (fuel : Nat) (p : Block), WellScoped p →
    (run { cfg with lookup := .dynamicWholeStack } fuel p : Outcome Int) =
      run { cfg with lookup := .lexical } fuel p

/-- `corpus/run/20_d04_recursive.ns`, annotated by the real resolver:
```
do g(n) start
  if to say (n na 0) start f() end
  make x get n
  if to say (n pass 0) start g(n minus 1) end
  do f() start shout(x) end
end
g(1)
shout("done")
``` -/
def d04Recursive : Block := (.mk [(.fnDef [103] ⟨0, 7⟩ [{ name := [110], span := ⟨5, 6⟩, bind := (some 0) }] (.mk [(.ifS (.binary .eq (.var [110] (some 0) ⟨27, 28⟩) (.num [48] ⟨32, 33⟩) ⟨27, 34⟩) (.mk [(.expr (.call (.var [102] none ⟨41, 42⟩) [] (some 2) ⟨41, 48⟩) (some 2) ⟨41, 48⟩)] ⟨41, 48⟩) none (some 1) ⟨16, 55⟩), (.assign [120] ⟨56, 57⟩ (.var [110] (some 0) ⟨62, 63⟩) (some 1) (some 3) ⟨51, 75⟩), (.ifS (.binary .gt (.var [110] (some 0) ⟨77, 78⟩) (.num [48] ⟨84, 85⟩) ⟨77, 86⟩) (.mk [(.expr (.call (.var [103] none ⟨93, 94⟩) [(.binary .minus (.var [110] (some 0) ⟨95, 96⟩) (.num [49] ⟨103, 104⟩) ⟨95, 105⟩)] (some 1) ⟨93, 109⟩) (some 5) ⟨93, 109⟩)] ⟨93, 109⟩) none (some 4) ⟨66, 114⟩), (.fnDef [102] ⟨112, 118⟩ [] (.mk [(.expr (.call (.var [115, 104, 111, 117, 116] none ⟨125, 130⟩) [(.var [120] (some 1) ⟨131, 132⟩)] none ⟨125, 137⟩) (some 7) ⟨125, 137⟩)] ⟨125, 137⟩) (some 2) (some 6) ⟨112, 141⟩)] ⟨16, 141⟩) (some 1) (some 0) ⟨0, 143⟩), (.expr (.call (.var [103] none ⟨142, 143⟩) [(.num [49] ⟨144, 145⟩)] (some 1) ⟨142, 152⟩) (some 8) ⟨142, 152⟩), (.expr (.call (.var [115, 104, 111, 117, 116] none ⟨147, 152⟩) [(.str (.static [100, 111, 110, 101]) ⟨153, 159⟩)] none ⟨147, 160⟩) (some 9) ⟨147, 160⟩)] ⟨0, 160⟩)

/-- The whole-stack search reads the outer activation's `x` and prints `1`, `done`; lexical scoping and
`lookup := dynamic` print nothing and end with a runtime error — for `dynamic` checked to be the undefined variable. -/
theorem d04_recursive_runs :
    WellScoped d04Recursive ∧
    Toy.summary (run { Toy.cfg with lookup := .dynamicWholeStack } 40 d04Recursive) = ([b!"1", b!"done"], 0) ∧
    Toy.summary (run { Toy.cfg with lookup := .lexical } 40 d04Recursive) = ([], 1) ∧
    Toy.summary (run { Toy.cfg with lookup := .dynamic } 40 d04Recursive) = ([], 1) ∧
    Toy.rtKind (run { Toy.cfg with lookup := .dynamic } 40 d04Recursive) = some .undefinedVariable := by
  decide +kernel

theorem c04_old_lookup_wrong : ¬ c04_old_full := by
  intro h
  have h0 := d04_recursive_runs
  have h1 := h Toy.cfg 40 d04Recursive h0.1
  have h2 := h0.2.1
  rw [h1, h0.2.2.1] at h2
  exact absurd h2 (by decide)

/-- Nested functions capturing and assigning outer variables, recursion with a captured local per activation
(three live activations of `walk`), a loop, interpolation:
```
make t get 0
do fact(n) start make r get 1 jasi (n pass 0) start r get r times n  n get n minus 1 end return r end
do walk(d) start
  make x get d
  do show() start t get t add x  shout("d {x} t {t}") end
  if to say (d pass 0) start walk(d minus 1) end
  show()
end
walk(2)
shout(fact(4))
``` -/
def walkProg : Block := (.mk [(.assign [116] ⟨5, 6⟩ (.num [48] ⟨11, 12⟩) (some 0) (some 0) ⟨0, 15⟩), (.fnDef [102, 97, 99, 116] ⟨13, 23⟩ [{ name := [110], span := ⟨21, 22⟩, bind := (some 1) }] (.mk [(.assign [114] ⟨37, 38⟩ (.num [49] ⟨43, 44⟩) (some 2) (some 2) ⟨32, 51⟩), (.loop (.binary .gt (.var [110] (some 1) ⟨53, 54⟩) (.num [48] ⟨60, 61⟩) ⟨53, 62⟩) (.mk [(.assignExisting [114] ⟨73, 74⟩ (.binary .times (.var [114] (some 2) ⟨79, 80⟩) (.var [110] (some 1) ⟨87, 88⟩) ⟨79, 94⟩) (some 2) (some 4) ⟨73, 94⟩), (.assignExisting [110] ⟨93, 94⟩ (.binary .minus (.var [110] (some 1) ⟨99, 100⟩) (.num [49] ⟨107, 108⟩) ⟨99, 114⟩) (some 1) (some 5) ⟨93, 114⟩)] ⟨73, 114⟩) (some 3) ⟨47, 123⟩), (.ret (some (.var [114] (some 2) ⟨124, 125⟩)) (some 6) ⟨117, 129⟩)] ⟨32, 129⟩) (some 1) (some 1) ⟨13, 132⟩), (.fnDef [119, 97, 108, 107] ⟨130, 140⟩ [{ name := [100], span := ⟨138, 139⟩, bind := (some 3) }] (.mk [(.assign [120] ⟨154, 155⟩ (.var [100] (some 3) ⟨160, 161⟩) (some 4) (some 8) ⟨149, 166⟩), (.fnDef [115, 104, 111, 119] ⟨164, 173⟩ [] (.mk [(.assignExisting [116] ⟨184, 185⟩ (.binary .add (.var [116] (some 0) ⟨190, 191⟩) (.var [120] (some 4) ⟨196, 197⟩) ⟨190, 207⟩) (some 0) (some 10) ⟨184, 207⟩), (.expr (.call (.var [115, 104, 111, 117, 116] none ⟨202, 207⟩) [(.str (.interp [(.lit [100, 32]), (.var [120] (some 4)), (.lit [32, 116, 32]), (.var [116] (some 0))]) ⟨208, 221⟩)] none ⟨202, 228⟩) (some 11) ⟨202, 228⟩)] ⟨184, 228⟩) (some 3) (some 9) ⟨164, 240⟩), (.ifS (.binary .gt (.var [100] (some 3) ⟨242, 243⟩) (.num [48] ⟨249, 250⟩) ⟨242, 251⟩) (.mk [(.expr (.call (.var [119, 97, 108, 107] none ⟨258, 262⟩) [(.binary .minus (.var [100] (some 3) ⟨263, 264⟩) (.num [49] ⟨271, 272⟩) ⟨263, 273⟩)] (some 2) ⟨258, 277⟩) (some 13) ⟨258, 277⟩)] ⟨258, 277⟩) none (some 12) ⟨231, 284⟩), (.expr (.call (.var [115, 104, 111, 119] none ⟨280, 284⟩) [] (some 3) ⟨280, 290⟩) (some 14) ⟨280, 290⟩)] ⟨149, 290⟩) (some 2) (some 7) ⟨130, 295⟩), (.expr (.call (.var [119, 97, 108, 107] none ⟨291, 295⟩) [(.num [50] ⟨296, 297⟩)] (some 2) ⟨291, 304⟩) (some 15) ⟨291, 304⟩), (.expr (.call (.var [115, 104, 111, 117, 116] none ⟨299, 304⟩) [(.call (.var [102, 97, 99, 116] none ⟨305, 309⟩) [(.num [52] ⟨310, 311⟩)] (some 1) ⟨305, 313⟩)] none ⟨299, 313⟩) (some 16) ⟨299, 313⟩)] ⟨0, 313⟩)

/-- Non-vacuity: each activation of `walk` prints its `x` (0, 1, 2 — innermost first) and the shared `t`. -/
example : WellScoped walkProg ∧
    Toy.summary (run { Toy.cfg with lookup := .dynamic } 60 walkProg) =
      ([b!"d 0 t 0", b!"d 1 t 1", b!"d 2 t 3", b!"24"], 0) ∧
    Toy.summary (run { Toy.cfg with lookup := .lexical } 60 walkProg) =
      ([b!"d 0 t 0", b!"d 1 t 1", b!"d 2 t 3", b!"24"], 0) := by
  decide +kernel

example : (run { Toy.cfg with lookup := .dynamic } 60 walkProg : Outcome Int) =
    run { Toy.cfg with lookup := .lexical } 60 walkProg :=
  c04_dynamic Toy.cfg 60 walkProg (by decide +kernel)

/-- `shout(x)` bound to a local that only another function's block declares. -/
example : ¬ WellScoped (.mk [(.fnDef [102] ⟨0, 0⟩ [] (.mk [(.assign [120] ⟨0, 0⟩ (.num [49] ⟨0, 0⟩) (some 0) none ⟨0, 0⟩)] ⟨0, 0⟩) (some 1) none ⟨0, 0⟩),
      (.expr (.call (.var [115, 104, 111, 117, 116] none ⟨0, 0⟩) [(.var [120] (some 0) ⟨0, 0⟩)] none ⟨0, 0⟩) none ⟨0, 0⟩)] ⟨0, 0⟩) := by
  decide +kernel

/-- Both halves on a resolved program; `h` is decidable and `C04Bridge.c04_bridge` discharges it for accepted programs. -/
theorem c04_resolved_program [NumOps N] (cfg : RunCfg) (fuel : Nat) (q : Block)
    (h : WellScoped (Resolve.resolve q).root) :
    Resolve.lexBlock [] (Resolve.resolve q).root = true ∧
    (run { cfg with lookup := .dynamic } fuel (Resolve.resolve q).root : Outcome N) =
      run { cfg with lookup := .lexical } fuel (Resolve.resolve q).root :=
  ⟨C04Static.variables_bind_to_nearest_declaration q, c04_dynamic cfg fuel _ h⟩

/-- ONE resolved program is well scoped — the static half's shadowing example: parameter shadowed by a body local,
inner-block local, same-block re-declaration.  That every program the resolver accepts is: `C04Bridge.c04_bridge`. -/
theorem resolved_programs_are_wellScoped :
    WellScoped (Resolve.resolve C04Static.shadowing).root := by
  decide +kernel

end NaijaVerif.Props.C04
