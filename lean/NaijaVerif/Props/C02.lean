/-
C02 — memory reclamation is invisible: no value is read after its storage is recycled.  The theorems are about
`Model/Mem.lean`, the abstract evaluator of the memory discipline of `src/runtime.rs` over the annotated AST,
with every data-dependent decision taken from universally quantified oracle streams.  `Cfg.fixed` is the
discipline of the source; `Cfg.pinned` is the discipline that D-02 is about and is provably unsafe
(`c02_pinned_is_unsafe`).
-/
import NaijaVerif.Lemmas.MemEval

namespace NaijaVerif.Mem
open NaijaVerif NaijaVerif.Pool

theorem Res.flags_of_benign {r : Res α} (h : ∀ o, r.stopped = some o → o.benign) :
    r.poisonedRead = false ∧ r.illegalFree = false := by
  unfold Res.poisonedRead Res.illegalFree
  cases hs : r.stopped with
  | none => exact ⟨rfl, rfl⟩
  | some o =>
    have := h o hs
    cases o with
    | poisoned _ => exact this.elim
    | badFree => exact this.elim
    | _ => exact ⟨rfl, rfl⟩

/-- C02 T1.  `ctl` is the control oracle (branches, loop tests, short circuits, indices, split sizes, which
runtime error ends the run where), `lay` the layout oracle (string sizes, hence pool classes and fallbacks;
mark labels).  The evaluator never reads a handle whose storage has been reset, freed or handed to another
allocation. -/
theorem c02_no_read_after_recycle (fuel : Nat) (prog : Block) (ctl : List CTok) (lay : List Nat) :
    (run Cfg.fixed fuel prog ctl lay).poisonedRead = false :=
  (Res.flags_of_benign (run_benign fuel prog ctl lay)).1

/-- C02 T2.  The evaluator only ever releases a slot that is live — in its own table and in the ghost `live`
list of the C12 pool model (`Model/Pool.lean`), whose invariant `Pool.Inv` is part of `Safe` — and holds the
cid of the handle being released.  This is the hypothesis under which C12 is stated. -/
theorem c02_pool_use_legal (fuel : Nat) (prog : Block) (ctl : List CTok) (lay : List Nat) :
    (run Cfg.fixed fuel prog ctl lay).illegalFree = false :=
  (Res.flags_of_benign (run_benign fuel prog ctl lay)).2

/-- T1 and T2 together: the safety half of C02. The erasure (T3) is `c02_erasure`. -/
def C02Holds (cfg : Cfg) : Prop :=
  ∀ (fuel : Nat) (prog : Block) (ctl : List CTok) (lay : List Nat),
    (run cfg fuel prog ctl lay).poisonedRead = false ∧ (run cfg fuel prog ctl lay).illegalFree = false

/-- What DESIGN §5 calls the full strength of C02 is this together with `c02_erasure`. -/
theorem c02_full : C02Holds Cfg.fixed :=
  fun fuel prog ctl lay =>
    ⟨c02_no_read_after_recycle fuel prog ctl lay, c02_pool_use_legal fuel prog ctl lay⟩

/-- C02 T3 (erasure): the run with reclamation (`Cfg.fixed`: frame resets, pool slot recycling, promotion,
return-value relocation) against the run without (`Cfg.noReclaim`: one arena, nothing ever reset, freed or
reused), same control oracle, any two layout oracles.  `obs` is the sequence of content ids the program's own
reads observe; a content id names the bytes written when a string was computed and is inherited by every copy
the discipline makes.  The combinations not constrained are runs in which one side stops for a reason outside
the language's semantics: fuel; an oracle that does not fit the program (for the reclaiming side this includes a
layout oracle that runs out, `stuck 1`); the reclaiming side's own check in `popCleanChecked` (`stuck 30`), which no
theorem shows unreachable; a poisoned read / illegal free, excluded by T1/T2 for the reclaiming side and by no
theorem for the other. -/
theorem c02_erasure (fuel : Nat) (prog : Block) (ctl : List CTok) (lay₁ lay₂ : List Nat) :
    match run Cfg.fixed fuel prog ctl lay₁, run Cfg.noReclaim fuel prog ctl lay₂ with
    | .ok fl₁ t₁, .ok fl₂ t₂ => fl₁ = fl₂ ∧ t₁.obs = t₂.obs ∧ VRelL t₁.out t₂.out
    | .stop o₁ t₁, .stop o₂ t₂ =>
        o₁ = .rtError → o₂ = .rtError → t₁.obs = t₂.obs ∧ VRelL t₁.out t₂.out
    | .stop o₁ _, .ok _ _ => o₁ ≠ .rtError
    | .ok _ _, .stop o₂ _ => o₂ ≠ .rtError := by
  have := (run_both fuel prog).rel (St.init ctl lay₁) (St.init ctl lay₂) (rel_init ctl lay₁ lay₂)
  unfold run
  revert this
  cases (do let fl ← execBlock Cfg.fixed fuel prog; popScope; pure fl : M Flow) (St.init ctl lay₁) <;>
    cases (do let fl ← execBlock Cfg.noReclaim fuel prog; popScope; pure fl : M Flow) (St.init ctl lay₂) <;>
    simp only
  · intro h; exact ⟨h.2, h.1.obs, h.1.out⟩
  · exact fun h => h
  · exact fun h => h
  · exact fun h => h

theorem c02_same_output (fuel : Nat) (prog : Block) (ctl : List CTok) (lay₁ lay₂ : List Nat)
    (fl₁ fl₂ : Flow) (t₁ t₂ : St)
    (h₁ : run Cfg.fixed fuel prog ctl lay₁ = .ok fl₁ t₁)
    (h₂ : run Cfg.noReclaim fuel prog ctl lay₂ = .ok fl₂ t₂) :
    cts (MVal.handlesL t₁.out) = cts (MVal.handlesL t₂.out) ∧ t₁.obs = t₂.obs := by
  have := c02_erasure fuel prog ctl lay₁ lay₂
  rw [h₁, h₂] at this
  exact ⟨this.2.2.cts, this.2.1⟩

namespace Witness
def sp0 : Span := ⟨0, 0⟩
def sLit (s : Bytes) : Expr := .str (.static s) sp0
def cat (a b : Expr) : Expr := .binary .add a b sp0
def v (n : Bytes) (id : Nat) : Expr := .var n (some id) sp0
def callF (n : Bytes) (fid : Nat) (args : List Expr) : Expr := .call (.var n none sp0) args (some fid) sp0
def shout (e : Expr) : Stmt := .expr (.call (.var (b!"shout") none sp0) [e] none sp0) none sp0

/-- D-02b: `make s get "ab" add "c"   s get s`. -/
def selfAssign : Block := .mk [
  .assign (b!"s") sp0 (cat (sLit (b!"ab")) (sLit (b!"c"))) (some 0) none sp0,
  .assignExisting (b!"s") sp0 (v (b!"s") 0) (some 0) none sp0] sp0

/-- D-02a: `make x get "aaaa" add "b"  do f() start x get "zzzz" add "y" return "!" end
shout(x add f())`. -/
def readThenCall : Block := .mk [
  .assign (b!"x") sp0 (cat (sLit (b!"aaaa")) (sLit (b!"b"))) (some 0) none sp0,
  .fnDef (b!"f") sp0 [] (.mk [
     .assignExisting (b!"x") sp0 (cat (sLit (b!"zzzz")) (sLit (b!"y"))) (some 0) none sp0,
     .ret (some (sLit (b!"!"))) none sp0] sp0) (some 0) none sp0,
  shout (cat (v (b!"x") 0) (callF (b!"f") 0 []))] sp0

/-- D-02d: `do mk() start make c get command("echo") return c end  make k get mk()`. -/
def hostReturn : Block := .mk [
  .fnDef (b!"mk") sp0 [] (.mk [
     .assign (b!"c") sp0 (.call (.var (b!"command") none sp0) [sLit (b!"echo")] none sp0) (some 0) none sp0,
     .ret (some (v (b!"c") 0)) none sp0] sp0) (some 0) none sp0,
  .assign (b!"k") sp0 (callF (b!"mk") 0 []) (some 1) none sp0] sp0

/-- D-02e: `do id(p) start return p end  shout(id("ab" add "cd"))`. -/
def returnParam : Block := .mk [
  .fnDef (b!"id") sp0 [⟨b!"p", sp0, some 0⟩] (.mk [.ret (some (v (b!"p") 0)) none sp0] sp0)
    (some 0) none sp0,
  shout (callF (b!"id") 0 [cat (sLit (b!"ab")) (sLit (b!"cd"))])] sp0

/-- `do f() start make s get "a" add "b" return s end  shout(f())`. -/
def returnLocal : Block := .mk [
  .fnDef (b!"f") sp0 [] (.mk [
     .assign (b!"s") sp0 (cat (sLit (b!"a")) (sLit (b!"b"))) (some 0) none sp0,
     .ret (some (v (b!"s") 0)) none sp0] sp0) (some 0) none sp0,
  shout (callF (b!"f") 0 [])] sp0
end Witness

open Witness in
/-- D-02b: `s get s` reads the slot it has just freed. -/
theorem c02_pinned_self_assign :
    (run Cfg.pinned 20 selfAssign [] [3, 3]).poisonedRead = true := by decide +kernel

open Witness in
/-- D-02a: `x add f()` reads `x`'s old slot after `f` recycled it. -/
theorem c02_pinned_read_then_call :
    (run Cfg.pinned 20 readThenCall [.call] [5, 100, 5, 6]).poisonedRead = true := by decide +kernel

open Witness in
/-- D-02d: the returned process command is a frame handle that `relocate` leaves where it is. -/
theorem c02_pinned_host_return :
    (run Cfg.pinned 20 hostReturn [.call] [100, 4, 4]).poisonedRead = true := by decide +kernel

open Witness in
/-- D-02e: the returned parameter is an unpromoted frame string, borrowed, which `relocate` does not stage. -/
theorem c02_pinned_return_param :
    (run Cfg.pinned 20 returnParam [.call] [100, 4, 4]).poisonedRead = true := by decide +kernel

open Witness in
/-- A returned local is an alias of the pool slot that `popScope` has just released. -/
theorem c02_pinned_return_local :
    (run Cfg.pinned 20 returnLocal [.call] [100, 2, 2]).poisonedRead = true := by decide +kernel

/-- D-02: the safety half, `C02Holds`, is false of `Cfg.pinned`. -/
theorem c02_pinned_is_unsafe : ¬ C02Holds Cfg.pinned := by
  intro h
  have := (h 20 Witness.readThenCall [.call] [5, 100, 5, 6]).1
  rw [c02_pinned_read_then_call] at this
  cases this

theorem c02_alias_on_read_alone_unsafe :
    (run { Cfg.fixed with aliasOnRead := true } 20 Witness.readThenCall [.call] [5, 100, 5, 6]).poisonedRead
      = true := by decide +kernel

theorem c02_no_host_relocation_alone_unsafe :
    (run { Cfg.fixed with relocateAll := false } 20 Witness.hostReturn [.call] [100, 4, 4]).poisonedRead
      = true := by decide +kernel

open Witness in
/-- Non-vacuity: the D-02a witness completes under `Cfg.fixed`, having reset the frame and reused the pool slot
that the callee freed. -/
example :
    let r := run Cfg.fixed 20 readThenCall [.call] [5, 100, 5, 6]
    r.stopped = none ∧ Ev.reset 100 3 ∈ r.state.events ∧ Ev.pfree 0 0 ∈ r.state.events ∧
      (r.state.events.filter (· == Ev.palloc 0 0)).length = 2 := by decide +kernel

open Witness in
/-- `obs` is newest first: the printed concatenation `3`, the static "!" `0`, the left operand "aaaab" `1`, the
static operands of the three concatenations. -/
example :
    (run Cfg.fixed 20 readThenCall [.call] [5, 100, 5, 6]).state.obs = [3, 0, 1, 0, 0, 0, 0] ∧
    (run Cfg.noReclaim 20 readThenCall [.call] []).state.obs = [3, 0, 1, 0, 0, 0, 0] ∧
    (run Cfg.noReclaim 20 readThenCall [.call] []).stopped = none := by decide +kernel

/- Non-vacuity for the four other witnesses: they too complete under `Cfg.fixed`. The last two are given one layout
entry more than their `Cfg.pinned` runs above; it is spare, the runs complete on the shorter oracles as well. -/
open Witness in
example : (run Cfg.fixed 20 selfAssign [] [3, 3]).stopped = none := by decide +kernel
open Witness in
example : (run Cfg.fixed 20 hostReturn [.call] [100, 4, 4]).stopped = none := by decide +kernel
open Witness in
example : (run Cfg.fixed 20 returnParam [.call] [100, 4, 4, 4]).stopped = none := by decide +kernel
open Witness in
example : (run Cfg.fixed 20 returnLocal [.call] [100, 2, 2, 2]).stopped = none := by decide +kernel

end NaijaVerif.Mem
