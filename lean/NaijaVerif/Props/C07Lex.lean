import NaijaVerif.Lemmas.LexInv
import NaijaVerif.Gen.Lexical
/-
C07, lexer part: the lexer is total and every position it produces is safe to slice the text with.
The theorems are about `Lex.lex` (`Model/Lex.lean`, the model of `scanner.rs`) and hold for every valid UTF-8
text (a Rust `&str`) of any length.  The `gen_*` theorems tie the model's tables to the ones extracted from
the source (`Gen/Lexical.lean`).  The examples at the end are the D-07 witnesses.
-/
namespace NaijaVerif.Props.C07Lex
open NaijaVerif NaijaVerif.Lex NaijaVerif.Utf8
open NaijaVerif.Bytes (isBoundary)

theorem gen_keywords : Gen.Lexical.keywords = kwTable := by decide
theorem gen_multiWord : Gen.Lexical.multiWord = multiWord := by decide
/-- each multi-word block saves the cursor once and restores it once, after *all* alternatives:
the model's `tryAlts` does not reset between alternatives -/
theorem gen_multiWord_rollback :
    Gen.Lexical.multiWordSaves = multiWord.map (fun _ => 1) ∧
    Gen.Lexical.multiWordRollbacks = multiWord.map (fun _ => 1) := by decide
theorem gen_punct : Gen.Lexical.punct = punctTable := by decide
theorem gen_escapes : Gen.Lexical.escapes = escTable ∧ Gen.Lexical.escapeChar = 92 := by decide
theorem gen_quoteChars : Gen.Lexical.quoteChars = quoteChars := by decide
theorem gen_comment :
    Gen.Lexical.commentChar = commentChar ∧
    Gen.Lexical.commentEnds = (List.range 256).filter (fun b => !notNl b) ∧
    Gen.Lexical.stringLineEnds = (List.range 256).filter (fun b => !notNl b) := by decide +kernel
theorem gen_whitespace :
    Gen.Lexical.whitespace = (List.range 256).filter isWs ∧ Gen.Lexical.whitespace = wsBytes := by decide +kernel
theorem gen_alpha : Gen.Lexical.alpha = (List.range 256).filter isAlpha := by decide +kernel
theorem gen_digits :
    Gen.Lexical.digits = (List.range 256).filter isDigit ∧ Gen.Lexical.decimalPoint = 46 := by decide +kernel
/-- `charLen` is `char::len_utf8` for every byte that can start a character -/
theorem gen_charLen :
    Gen.Lexical.lenUtf8ByLead.length = 256 ∧
    (List.range 256).all (fun b => Gen.Lexical.lenUtf8ByLead[b]! == 0 || Gen.Lexical.lenUtf8ByLead[b]! == charLen b) = true := by
  -- one pass over the table paired with its indices, not a look-up per byte
  have hl : Gen.Lexical.lenUtf8ByLead.length = 256 := by decide +kernel
  have H : ∀ x ∈ Gen.Lexical.lenUtf8ByLead.zipIdx, (x.1 == 0 || x.1 == charLen x.2) = true := by decide +kernel
  refine ⟨hl, List.all_eq_true.mpr fun b hb => ?_⟩
  have hb : b < Gen.Lexical.lenUtf8ByLead.length := hl ▸ List.mem_range.mp hb
  rw [getElem!_pos _ b hb]
  exact H (_, b) (List.mem_zipIdx_iff_getElem?.mpr (List.getElem?_eq_getElem hb))
/-- the order of the tests in `next_token` is the order of the model's `step`; EOF is never yielded -/
theorem gen_dispatch :
    Gen.Lexical.dispatchOrder = [b!"comment", b!"string", b!"punct", b!"number", b!"word", b!"nonascii"] ∧
    Gen.Lexical.eofYieldsNone = 1 := by decide

/-- The loop of `next_token`, run with the fuel `lex` gives it, reaches end of input. -/
theorem c07_lex_fuel_adequate (src : Bytes) (h : ValidUtf8 src) :
    (lexGo (src.length + 1) ⟨0, src⟩).2.2 = false :=
  (lexGo_fuel _ _ (ok_start h) (Nat.lt_succ_self _)).1

theorem c07_lex_fuel_irrelevant (src : Bytes) (h : ValidUtf8 src) (k : Nat) :
    lexGo (src.length + 1 + k) ⟨0, src⟩ = lexGo (src.length + 1) ⟨0, src⟩ :=
  lexGo_fuel_any _ (ok_start h) _ k (Nat.lt_succ_self _)

/-- The inner loop of `scan_string`; for every text, valid or not. -/
theorem c07_scanString_fuel (start quote : Nat) (c : Cur) (k : Nat) :
    scanStrLoop start quote (c.rest.length + 1 + k) c [] false [] = scanString start quote c := by
  induction k with
  | zero => rfl
  | succ k ih => rw [← Nat.add_assoc, scanStrLoop_fuel_stable _ _ _ _ _ _ _ (Nat.lt_add_right k (Nat.lt_succ_self _)), ih]

/-- cursors the loop of `next_token` can be in at the top of an iteration -/
inductive Reach (src : Bytes) : Cur → Prop
  | start : Reach src ⟨0, src⟩
  | skip {c c' : Cur} {ds : List Diag} : Reach src c → step c = .skip c' ds → Reach src c'
  | tok {c c' : Cur} {t : SpTok} {ds : List Diag} : Reach src c → step c = .tok t c' ds → Reach src c'

theorem reach_kept {src : Bytes} {I : Cur → Prop} (hI : Kept I) (h0 : I ⟨0, src⟩) {c : Cur} (hr : Reach src c) : I c := by
  induction hr with
  | start => exact h0
  | skip _ he ih | tok _ he ih => have := hI _ ih; rw [he] at this; exact this

theorem reach_ok {src : Bytes} (h : ValidUtf8 src) {c : Cur} (hr : Reach src c) : c.Ok src :=
  reach_kept (kept_ok src) (ok_start h) hr

theorem c07_lex_cursor (src : Bytes) (h : ValidUtf8 src) (c : Cur) (hr : Reach src c) :
    c.pos ≤ src.length ∧ isBoundary src c.pos = true ∧ c.rest = src.drop c.pos :=
  let hc := reach_ok h hr
  ⟨hc.bnd.1, hc.bnd.isBoundary, hc.1⟩

/-- no hang -/
theorem c07_lex_progress (src : Bytes) (h : ValidUtf8 src) (c : Cur) (hr : Reach src c) :
    match step c with
    | .eof _ => True
    | .skip c' _ => c.pos < c'.pos
    | .tok _ c' _ => c.pos < c'.pos := by
  have := step_ok (reach_ok h hr)
  cases hs : step c <;> rw [hs] at this
  · trivial
  · exact this.2.1
  · exact this.2.1

/-- a span the renderer may slice the text with: `Lex.SpanOk` with its condition "what follows is valid UTF-8" put as
`isBoundary`, the renderer's own test (`SpanOk.safe`) -/
def SafeSpan (src : Bytes) (s : Span) : Prop :=
  s.lo ≤ s.hi ∧ s.hi ≤ src.length ∧ isBoundary src s.lo = true ∧ isBoundary src s.hi = true

theorem SpanOk.safe {src : Bytes} {s : Span} (h : SpanOk src s) : SafeSpan src s :=
  ⟨h.1, h.2.2.1, h.2.1.isBoundary, h.2.2.isBoundary⟩

/-- where the parser's EOF goes -/
def endPos : Nat → List SpTok → Nat
  | p, [] => p
  | _, t :: r => endPos t.span.hi r

theorem eofTok_eq : ∀ (ts : List SpTok) (p : Nat),
    (match ts.getLast? with | some t => t.span.hi | none => p) = endPos p ts := by
  intro ts
  induction ts with
  | nil => intro p; rfl
  | cons t r ih =>
    intro p
    cases r with
    | nil => rfl
    | cons t' r' =>
      have := ih t.span.hi
      rw [List.getLast?_cons_cons]
      cases hgl : (t' :: r').getLast? with
      | none => simp at hgl
      | some x => rw [hgl] at this; simpa [endPos] using this

theorem eofTok_span (ts : List SpTok) : eofTok ts = ⟨.eof, ⟨endPos 0 ts, endPos 0 ts⟩⟩ := by
  rw [← eofTok_eq ts 0, eofTok]
  cases ts.getLast? <;> rfl

theorem chain_snoc : ∀ (ts : List SpTok) (p : Nat), Chain p ts →
    Chain p (ts ++ [⟨.eof, ⟨endPos p ts, endPos p ts⟩⟩]) := by
  intro ts
  induction ts with
  | nil => intro p _; simp [Chain, endPos]
  | cons t r ih => intro p h; exact ⟨h.1, h.2.1, ih _ h.2.2⟩

theorem chain_pairwise : ∀ (ts : List SpTok) (p : Nat), Chain p ts →
    (∀ t ∈ ts, p ≤ t.span.lo) ∧ ts.Pairwise (fun a b => a.span.hi ≤ b.span.lo) := by
  intro ts
  induction ts with
  | nil => intro p _; simp
  | cons t r ih =>
    intro p h
    have := ih _ h.2.2
    refine ⟨?_, List.pairwise_cons.mpr ⟨this.1, this.2⟩⟩
    intro t' ht'
    rcases List.mem_cons.mp ht' with rfl | ht'
    · exact h.1
    · have := this.1 t' ht'; have := h.2.1; have := h.1; omega

theorem endPos_bnd {src : Bytes} : ∀ (ts : List SpTok) (p : Nat), Bnd src p → (∀ t ∈ ts, SpanOk src t.span) →
    Bnd src (endPos p ts) := by
  intro ts
  induction ts with
  | nil => intro p h _; exact h
  | cons t r ih => intro p _ h; exact ih _ (h t List.mem_cons_self).2.2 (fun t' ht' => h t' (by simp [ht']))

/-- The made-up EOF of the parser included. -/
theorem c07_lex_token_spans (src : Bytes) (h : ValidUtf8 src) :
    ∀ t ∈ (lex src).1, SafeSpan src t.span := by
  have hg := lexGo_ok (src := src) (src.length + 1) ⟨0, src⟩ (ok_start h)
  intro t ht
  simp only [lex, lexIter, List.mem_append, List.mem_singleton] at ht
  rcases ht with ht | rfl
  · exact SpanOk.safe (hg.1 t ht).1
  · rw [eofTok_span]
    have hb : Bnd src (endPos 0 (lexGo (src.length + 1) ⟨0, src⟩).1) :=
      endPos_bnd _ 0 (ok_start h).bnd (fun t ht => (hg.1 t ht).1)
    exact SpanOk.safe ⟨Nat.le_refl _, hb, hb⟩

theorem c07_lex_tokens_ordered (src : Bytes) (h : ValidUtf8 src) :
    (lex src).1.Pairwise (fun a b => a.span.hi ≤ b.span.lo) := by
  simp only [lex, lexIter]
  rw [eofTok_span]
  exact (chain_pairwise _ 0 (chain_snoc _ 0 (lexGo_chain (src := src) _ ⟨0, src⟩ (ok_start h)))).2

theorem c07_lex_diag_spans (src : Bytes) (h : ValidUtf8 src) :
    ∀ d ∈ (lex src).2, SafeSpan src d.span ∧ ∀ l ∈ d.labels, SafeSpan src l := by
  have hg := lexGo_ok (src := src) (src.length + 1) ⟨0, src⟩ (ok_start h)
  intro d hd
  have := hg.2 d (by simpa [lex, lexIter] using hd)
  exact ⟨SpanOk.safe this.1, fun l hl => SpanOk.safe (this.2 l hl)⟩

/-- The Rust code builds the contents with `from_utf8_unchecked` / pushes into a `String`. -/
theorem c07_lex_string_contents (src : Bytes) (h : ValidUtf8 src) :
    ∀ t ∈ (lex src).1, ∀ content esc, t.tok = .str content esc → ValidUtf8 content := by
  have hg := lexGo_ok (src := src) (src.length + 1) ⟨0, src⟩ (ok_start h)
  intro t ht content esc he
  simp only [lex, lexIter, List.mem_append, List.mem_singleton] at ht
  rcases ht with ht | rfl
  · have := (hg.1 t ht).2
    rw [he] at this; exact this
  · rw [eofTok_span] at he; cases he

/-- the stream is what `Iterator::next` yields, followed by the one EOF the parser makes up -/
theorem c07_lex_eof_last (src : Bytes) :
    ∃ ts e, (lex src).1 = ts ++ [e] ∧ e.tok = .eof ∧ e = eofTok ts ∧ ts = (lexIter src).1 :=
  ⟨_, _, rfl, eofTok_tok _, rfl, rfl⟩

example : ValidUtf8 (b!"make x get 1.é") := by decide
example : (lex (b!"make x get \"hi\"")).1.map (·.tok) =
    [.make, .ident (b!"x"), .get, .str (b!"hi") false, .eof] := by decide
/-- D-07a: after `1.` the cursor skips the whole `é` -/
example : lex (b!"1.é") = ([⟨.eof, ⟨0, 0⟩⟩], [mkDiag .invalidNumber 0 2]) := by decide
/-- D-07b: the escape diagnostic covers the whole `€`, the content keeps it intact -/
example : lex (b!"\"a\\€b\"") =
    ([⟨.str (b!"a€b") true, ⟨0, 8⟩⟩, ⟨.eof, ⟨8, 8⟩⟩], [mkDiag .invalidStringEscape 2 6]) := by decide
/-- D-07c: invalid numbers in a row are handled by the loop -/
example : (lex (b!"1.a1.a1.a")).2.length = 3 := by decide
/-- the cursor is not reset between the alternatives of `if …` -/
example : (lex (b!"if to not so")).1.map (·.tok) = [.ifNotSo, .eof] := by decide

end NaijaVerif.Props.C07Lex
