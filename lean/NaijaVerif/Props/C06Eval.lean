import NaijaVerif.Model.Resolve
import NaijaVerif.Lemmas.EvalRepair
import NaijaVerif.Lemmas.EvalToy
import NaijaVerif.Gen.PanicSites
import NaijaVerif.Gen.TypeRules
/-
C06 (evaluator part) — an accepted program never crashes the interpreter.  The model has one `PanicSite`
constructor per place of runtime.rs / builtins an accepted program could reach: `site.fixed = true` is the
runtime error `site.fallback` in the source (D-06 / D-04), a residual site (`site.fixed = false`) is a panic
in the source that no accepted program reaches for a static reason.  `cfg.panics = false` is the source as it
is, `true` the tree with the fixed sites as panics.  `Gen/PanicSites.lean` lists the panic sites by regex over
the source.  `c06_full` and `ResidualUnreachable` are false as stated here (their doc strings say why), so the two
implications between them below are between false statements; the statement for what the pipeline runs is
`C06Accepted.c06_pipeline` / `c06_source` / `c06_accepted`.
`Tag` … `d09d` are about the static type rules (D-09d): which operand TYPES make the pure steps panic
(`*_panics_iff`), and that `Gen/TypeRules.lean` accepts none of them for literal-typed operands.
-/
namespace NaijaVerif.Props.C06Eval
open NaijaVerif NaijaVerif.Eval

/-- Sites no AST can reach, with the reason. -/
def unreachableByConstruction : List (Bytes × String) := [
  (b!"runtime.exec_block_with_flow.expect.0",
    "inside #[cfg(test)]: the skipped-statement counter only exists in the crate's own tests"),
  (b!"runtime.register_function.expect.0",
    "FunctionInfo.params of a function found by function_by_body is Some: push_function stores Some(params); only the root function has None and the root block is no FunctionDef body"),
  (b!"runtime.register_function.expect.1",
    "hoist_block_functions runs right after push_scope_with_capacity in exec_block_with_flow, so function_scopes is non-empty"),
  (b!"runtime.eval_expr.unreachable.0",
    "number/number arm: And/Or are matched by the two earlier arms of `match op`, the remaining eight operators all have a case"),
  (b!"runtime.eval_expr.unwrap.0", "fmt::Write into LenWriter never fails"),
  (b!"runtime.eval_expr.unwrap.1", "fmt::Write into ArenaString never fails (allocation failure aborts)"),
  (b!"runtime.eval_expr.unwrap.2", "fmt::Write into LenWriter never fails"),
  (b!"runtime.eval_expr.unwrap.3", "fmt::Write into ArenaString never fails (allocation failure aborts)"),
  (b!"runtime.eval_function_call.unreachable.0",
    "eval_function_call is only called from the Expr::Call arm of eval_expr"),
  (b!"runtime.eval_function_call.expect.0",
    "env.last_mut() directly after push_scope_with_capacity"),
  (b!"runtime.eval_builtin_call.args.0", "arg_values[0] after assert_eq!(arg_values.len(), 1): every GlobalBuiltin has arity 1"),
  (b!"runtime.eval_builtin_call.args.1", "arg_values[0] after assert_eq!(arg_values.len(), 1)"),
  (b!"runtime.eval_builtin_call.args.2", "arg_values[0] after assert_eq!(arg_values.len(), 1)"),
  (b!"runtime.eval_builtin_call.args.3", "arg_values[0] after assert_eq!(arg_values.len(), 1)"),
  (b!"runtime.eval_builtin_call.args.4", "arg_values[0] after assert_eq!(arg_values.len(), 1)"),
  (b!"runtime.eval_array_member_call_mut.unreachable.0",
    "called only when requires_mut_receiver() holds, which excludes Len and Join (MutM.ofName)"),
  (b!"runtime.eval_process_command_call_mut.unreachable.0",
    "called only when requires_mut_receiver() holds, which excludes Run (MutM.ofName)"),
  (b!"runtime.eval_array_member_call.expect.0", "the caller matched ArrayBuiltin::from_name(field) = Some"),
  (b!"runtime.eval_array_member_call.unreachable.0",
    "push/pop/reverse were dispatched by name in eval_member_call before the receiver was evaluated"),
  (b!"runtime.eval_process_command_call.unreachable.0",
    "every ProcessCommandBuiltin except Run was dispatched by name in eval_member_call"),
  (b!"runtime.eval_string_member_call.expect.0", "the caller matched StringBuiltin::from_name(field) = Some"),
  (b!"runtime.eval_number_member_call.expect.0", "the caller matched NumberBuiltin::from_name(field) = Some"),
  (b!"runtime.eval_string_expr.expect.0", "a segment index fits u32: a string literal has fewer than 2^32 segments"),
  (b!"runtime.eval_string_expr.unwrap.0", "fmt::Write into ArenaString never fails"),
  (b!"runtime.relocate_return_value.unreachable.0",
    "memory layer (C02): the `let … else` re-matches the pattern that set is_frame_string"),
  (b!"runtime.bound_param_ids.expect.0", "a parameter count fits u32"),
  (b!"array.join.unwrap.0", "fmt::Write into ArenaString never fails"),
  (b!"tw.maximal_suffix.index.0",
    "x[i + k - 1]: in range on every path — proved for the model of tw.rs in Props/C13 (maximalSuffix_total); i + k ≤ j + k - 1"),
  (b!"tw.maximal_suffix.index.1",
    "x[j + k - 1]: in range — Props/C13 maximalSuffix_total (the loop guard is j + k ≤ n); the model keeps the constructor twMaximalSuffix for the pre-fix tree (StrOps.pinnedD13)")
]

def modelLabels : List Bytes := PanicSite.all.filterMap PanicSite.srcLabel

/-- `55`: the number of constructors of `PanicSite`.  When a site is added this is what fails first; then the bound in
`all_complete`, and the lists and counts that follow (nine of the 55 have `fixed = false`). -/
theorem all_enum : PanicSite.all = (List.range 55).map PanicSite.ofNat := by decide +kernel

theorem all_complete : ∀ s : PanicSite, s ∈ PanicSite.all := by
  intro s
  have h : s.ctorIdx < 55 := by cases s <;> decide
  rw [all_enum]
  exact List.mem_map.2 ⟨_, List.mem_range.2 h, PanicSite.ofNat_ctorIdx s⟩

theorem labels_nodup : modelLabels.Nodup := by decide +kernel

/-- `Gen.PanicSites.labels`, `modelLabels` and the labels of `unreachableByConstruction` are all in source order, so that
one of them lies within another is one linear check. -/
theorem sub_of_isSublist {a b : List Bytes} (h : a.isSublist b = true) : ∀ l ∈ a, l ∈ b :=
  fun _ hl => (List.isSublist_iff_sublist.1 h).subset hl

/-- Every panic site of the source is the label of a residual `PanicSite` or is in `unreachableByConstruction`. -/
theorem sites_accounted :
    ∀ l ∈ Gen.PanicSites.labels, l ∈ modelLabels ∨ l ∈ unreachableByConstruction.map (·.1) := by
  intro l hl
  by_cases hm : l ∈ modelLabels
  · exact .inl hm
  · exact .inr (sub_of_isSublist (a := Gen.PanicSites.labels.filter (!modelLabels.contains ·))
      (by decide +kernel) l (List.mem_filter.2 ⟨hl, by simpa using hm⟩))

/-- Every residual site exists in the source; the fixed ones have no label: they are no panic sites. -/
theorem model_sites_exist : ∀ l ∈ modelLabels, l ∈ Gen.PanicSites.labels :=
  sub_of_isSublist (by decide +kernel)

theorem residual_iff_label : ∀ s ∈ PanicSite.all, (s.fixed = false ↔ s.srcLabel.isSome = true) := by
  decide +kernel

/-- No site is claimed both reachable and unreachable, except `tw.maximal_suffix.index.1`: unreachable in the source
(`Props/C13`), while the model keeps its constructor `twMaximalSuffix`, residual, for the string search of the pinned
tree (`StrOps.pinnedD13`). -/
theorem accounting_disjoint :
    ∀ l ∈ modelLabels, l ∈ unreachableByConstruction.map (·.1) → l = b!"tw.maximal_suffix.index.1" := by
  decide +kernel

/-- `cfg.repaired` against `cfg` (any setting): same run, except that a panic at a fixed site is the runtime
error `site.fallback` with the same output. -/
theorem repaired_simulates {N : Type} [NumOps N] (cfg : RunCfg) (fuel : Nat) (p : Block) :
    match (run cfg fuel p : Outcome N) with
    | .panic site out =>
        (site.fixed = true → ∃ sp, (run cfg.repaired fuel p : Outcome N) = .rt site.fallback sp out) ∧
        (site.fixed = false → (run cfg.repaired fuel p : Outcome N) = .panic site out)
    | r => (run cfg.repaired fuel p : Outcome N) = r := by
  unfold run
  have h : Sim _ _ := ((sim_all (N := N) cfg fuel).block () p (State.init cfg) trivial trivial).1
  have hi : (State.init cfg.repaired : State N) = State.init cfg := rfl
  rw [hi]
  cases hr : execBlock cfg fuel p (State.init cfg : State N) with
  | ok | err | fuel => rw [hr] at h; simp only [Sim] at h; rw [h]
  | panic s st =>
    rw [hr] at h
    obtain ⟨h1, h2⟩ := h
    refine ⟨fun hf => ?_, fun hf => ?_⟩
    · obtain ⟨sp, h⟩ := h1 hf; rw [h]; exact ⟨sp, rfl⟩
    · rw [h2 hf]

/-- For every program, accepted or not. -/
theorem current_panics_only_residual {N : Type} [NumOps N] (cfg : RunCfg) (fuel : Nat) (p : Block)
    (site : PanicSite) (out : List (Value N)) (h : run cfg.repaired fuel p = .panic site out) :
    site.fixed = false := by
  have hs := repaired_simulates (N := N) cfg.repaired fuel p
  have hrr : cfg.repaired.repaired = cfg.repaired := rfl
  rw [hrr, h] at hs
  cases hf : site.fixed with
  | false => rfl
  | true => obtain ⟨sp, hc⟩ := hs.1 hf; cases hc

theorem panic_becomes_error {N : Type} [NumOps N] (cfg : RunCfg) (fuel : Nat) (p : Block) (site : PanicSite)
    (out : List (Value N)) (h : run cfg fuel p = .panic site out) (hf : site.fixed = true) :
    ∃ sp, (run cfg.repaired fuel p : Outcome N) = .rt site.fallback sp out := by
  have := repaired_simulates (N := N) cfg fuel p
  rw [h] at this; exact this.1 hf

/-- The resolver model reports no diagnostic (all its diagnostics are errors).  The program that runs is
the resolver's annotated copy. -/
def Accepted (p : Block) : Prop := (Resolve.resolve p).diags = []

instance (p : Block) : Decidable (Accepted p) := by unfold Accepted; exact inferInstance

/-- FALSE as stated here (`C06Accepted.c06_full_is_false_for_arbitrary_plans`): C06 for the evaluator, over arbitrary
plans, number instances and annotated blocks, from the resolver's acceptance alone.  A plan may prune a function that is
called; and with no plan at all an accepted tree may hold what scanner and parser exclude
(`C06Accepted.resolver_accepts_any_lexeme`, `resolver_accepts_index_assignment_without_index`). -/
def c06_full : Prop :=
  ∀ (N : Type) [NumOps N] (cfg : RunCfg), cfg.panics = false → ∀ p : Block, Accepted p →
    ∀ fuel : Nat, (run cfg fuel (Resolve.resolve p).root : Outcome N).isPanic = false

/-- FALSE as stated here, for arbitrary plans (`C06Accepted.residualUnreachable_is_false_for_arbitrary_plans`).  What
it says: an accepted program does not reach one of the nine residual sites (`PanicSite.fixed = false`): a number
lexeme that does not parse, a user or global call with the wrong argument count, a callee that is not
hoisted, `comot`/`next` leaving a function body, a parameter id outside the local range, an index assignment
without an index, an out-of-range read in `maximal_suffix`.  Each is a guarantee of scanner / parser /
resolver (C07, C09, C13); none involves run-time types. -/
def ResidualUnreachable : Prop :=
  ∀ (N : Type) [NumOps N] (cfg : RunCfg), cfg.panics = false → ∀ p : Block, Accepted p →
    ∀ (fuel : Nat) (site : PanicSite) (out : List (Value N)),
      run cfg fuel (Resolve.resolve p).root = .panic site out → site.fixed = true

theorem c06_of_static_guarantees (h : ResidualUnreachable) : c06_full := by
  intro N _ cfg hp p hacc fuel
  cases hr : (run cfg fuel (Resolve.resolve p).root : Outcome N) with
  | panic site out =>
    exfalso
    have hfix := h N cfg hp p hacc fuel site out hr
    have hc : cfg.repaired = cfg := by
      cases cfg; simp only [RunCfg.repaired] at *; subst hp; rfl
    have := current_panics_only_residual (N := N) cfg fuel _ site out (by rw [hc]; exact hr)
    rw [hfix] at this; cases this
  | _ => rfl

theorem static_guarantees_of_c06 (h : c06_full) : ResidualUnreachable := by
  intro N _ cfg hp p hacc fuel site out hr
  have := h N cfg hp p hacc fuel
  rw [hr] at this; simp [Outcome.isPanic] at this

/-- `do id(x) start return x end shout(true and id(5))` — right operand of `and`, number, through a
parameter (D-06). -/
def witnessAnd : Block := (.mk [(.fnDef [105, 100] ⟨0, 8⟩ [{ name := [120], span := ⟨6, 7⟩, bind := none }] (.mk [(.ret (some (.var [120] none ⟨22, 23⟩)) none ⟨15, 27⟩)] ⟨15, 27⟩) none none ⟨0, 33⟩), (.expr (.call (.var [115, 104, 111, 117, 116] none ⟨28, 33⟩) [(.binary .and (.bool true ⟨34, 38⟩) (.call (.var [105, 100] none ⟨43, 45⟩) [(.num [53] ⟨46, 47⟩)] none ⟨43, 49⟩) ⟨34, 49⟩)] none ⟨28, 49⟩) none ⟨28, 49⟩)] ⟨0, 49⟩)
/-- `do f(a) start return a[0] end f(1)` — index base, number, parameter (D-06). -/
def witnessIndexBase : Block := (.mk [(.fnDef [102] ⟨0, 7⟩ [{ name := [97], span := ⟨5, 6⟩, bind := none }] (.mk [(.ret (some (.index (.var [97] none ⟨21, 22⟩) (.num [48] ⟨23, 24⟩) ⟨22, 25⟩ ⟨21, 25⟩)) none ⟨14, 29⟩)] ⟨14, 29⟩) none none ⟨0, 31⟩), (.expr (.call (.var [102] none ⟨30, 31⟩) [(.num [49] ⟨32, 33⟩)] none ⟨30, 34⟩) none ⟨30, 34⟩)] ⟨0, 34⟩)
/-- `make x get 1 x get "s" shout(x minus 1)` — `minus`, string, variable reassigned at another
type (D-06). -/
def witnessReassigned : Block := (.mk [(.assign [120] ⟨5, 6⟩ (.num [49] ⟨11, 12⟩) none none ⟨0, 14⟩), (.assignExisting [120] ⟨13, 14⟩ (.str (.static [115]) ⟨19, 22⟩) none none ⟨13, 28⟩), (.expr (.call (.var [115, 104, 111, 117, 116] none ⟨23, 28⟩) [(.binary .minus (.var [120] none ⟨29, 30⟩) (.num [49] ⟨37, 38⟩) ⟨29, 39⟩)] none ⟨23, 39⟩) none ⟨23, 39⟩)] ⟨0, 39⟩)
/-- `shout("a" add true)` — LITERAL operand types, no dynamic typing involved: the checker of the pinned tree accepted
it (D-09d); the resolver model rejects it. -/
def witnessLiteral : Block := (.mk [(.expr (.call (.var [115, 104, 111, 117, 116] none ⟨0, 5⟩) [(.binary .add (.str (.static [97]) ⟨6, 9⟩) (.bool true ⟨14, 18⟩) ⟨6, 19⟩)] none ⟨0, 19⟩) none ⟨0, 19⟩)] ⟨0, 19⟩)
/-- `f() make x get 1 do f() start shout(x) end` — call before the captured variable's `make` (D-04). -/
def witnessCallBeforeDecl : Block := (.mk [(.expr (.call (.var [102] none ⟨0, 1⟩) [] none ⟨0, 8⟩) none ⟨0, 8⟩), (.assign [120] ⟨9, 10⟩ (.num [49] ⟨15, 16⟩) none none ⟨4, 19⟩), (.fnDef [102] ⟨17, 23⟩ [] (.mk [(.expr (.call (.var [115, 104, 111, 117, 116] none ⟨30, 35⟩) [(.var [120] none ⟨36, 37⟩)] none ⟨30, 42⟩) none ⟨30, 42⟩)] ⟨30, 42⟩) none none ⟨17, 42⟩)] ⟨0, 42⟩)
/-- `do g(b) start return b.len() end g(true)` — boolean receiver, `unimplemented!` (D-06). -/
def witnessBoolReceiver : Block := (.mk [(.fnDef [103] ⟨0, 7⟩ [{ name := [98], span := ⟨5, 6⟩, bind := none }] (.mk [(.ret (some (.call (.member (.var [98] none ⟨21, 22⟩) [108, 101, 110] ⟨23, 26⟩ ⟨21, 27⟩) [] none ⟨21, 32⟩)) none ⟨14, 32⟩)] ⟨14, 32⟩) none none ⟨0, 34⟩), (.expr (.call (.var [103] none ⟨33, 34⟩) [(.bool true ⟨35, 39⟩)] none ⟨33, 40⟩) none ⟨33, 40⟩)] ⟨0, 40⟩)
/-- `make x get "s" shout(x.len)` — bare member expression (D-09c). -/
def witnessBareMember : Block := (.mk [(.assign [120] ⟨5, 6⟩ (.str (.static [115]) ⟨11, 14⟩) none none ⟨0, 20⟩), (.expr (.call (.var [115, 104, 111, 117, 116] none ⟨15, 20⟩) [(.member (.var [120] none ⟨21, 22⟩) [108, 101, 110] ⟨23, 26⟩ ⟨21, 27⟩)] none ⟨15, 27⟩) none ⟨15, 27⟩)] ⟨0, 27⟩)

/-- The two statically decidable shapes, `witnessLiteral` (D-09d) and `witnessBareMember` (D-09c), are not in this
list: the resolver model rejects both.  The runs of their annotated trees below are runs all the same. -/
theorem witnesses_accepted :
    Accepted witnessAnd ∧ Accepted witnessIndexBase ∧ Accepted witnessReassigned ∧
    Accepted witnessCallBeforeDecl ∧ Accepted witnessBoolReceiver := by
  decide +kernel

/-- The tree with the fixed sites as panics.  Its full name is `Props.C06Eval.Toy.pinned`, not `Eval.Toy.pinned`. -/
def Toy.pinned : RunCfg := { Toy.cfg with panics := true }

theorem witnesses_panic_pinned :
    Toy.panicSite (run Toy.pinned 30 (Resolve.resolve witnessAnd).root) = some .andRhs ∧
    Toy.panicSite (run Toy.pinned 30 (Resolve.resolve witnessIndexBase).root) = some .indexBase ∧
    Toy.panicSite (run Toy.pinned 30 (Resolve.resolve witnessReassigned).root) = some .strNumOp ∧
    Toy.panicSite (run Toy.pinned 30 (Resolve.resolve witnessLiteral).root) = some .mismatchOp ∧
    Toy.panicSite (run Toy.pinned 30 (Resolve.resolve witnessCallBeforeDecl).root) = some .varLookup ∧
    Toy.panicSite (run Toy.pinned 30 (Resolve.resolve witnessBoolReceiver).root) = some .boolReceiver ∧
    Toy.panicSite (run Toy.pinned 30 (Resolve.resolve witnessBareMember).root) = some .bareMember := by
  decide +kernel

theorem witnesses_fixed :
    Toy.rtKind (run Toy.cfg 30 (Resolve.resolve witnessAnd).root) = some .typeMismatch ∧
    Toy.rtKind (run Toy.cfg 30 (Resolve.resolve witnessIndexBase).root) = some .invalidIndex ∧
    Toy.rtKind (run Toy.cfg 30 (Resolve.resolve witnessReassigned).root) = some .typeMismatch ∧
    Toy.rtKind (run Toy.cfg 30 (Resolve.resolve witnessLiteral).root) = some .typeMismatch ∧
    Toy.rtKind (run Toy.cfg 30 (Resolve.resolve witnessCallBeforeDecl).root) = some .undefinedVariable ∧
    Toy.rtKind (run Toy.cfg 30 (Resolve.resolve witnessBoolReceiver).root) = some .typeMismatch ∧
    Toy.rtKind (run Toy.cfg 30 (Resolve.resolve witnessBareMember).root) = some .typeMismatch := by
  decide +kernel

/-- Runtime type tag of a value (`typeof`). -/
inductive Tag where
  | number | string | bool | array | command | result | null
deriving DecidableEq, Repr

def tagOf {N : Type} : Value N → Tag
  | .num _ => .number | .str _ => .string | .bool _ => .bool | .arr _ => .array
  | .host (.command _) => .command | .host (.result _) => .result | .null => .null

def isPanicFault {α : Type} : Except Fault α → Bool
  | .error (.panic _) => true
  | _ => false

/-- The type combinations for which the operator dispatch of `eval_expr` has NO case. -/
def arithBad (op : ArithOp) (l r : Tag) : Bool :=
  match l, r with
  | .number, .number => false
  | .string, .string => !(op == .add || op == .eq || op == .gt || op == .lt)
  | .string, .number => !(op == .add)
  | .number, .string => !(op == .add)
  | .bool, .bool => !(op == .eq || op == .gt || op == .lt)
  | .null, _ => !(op == .eq || op == .gt || op == .lt)
  | _, .null => !(op == .eq || op == .gt || op == .lt)
  | _, _ => true

theorem cmp_only {N : Type} (op : ArithOp) (a b c : Value N) (s : PanicSite) :
    isPanicFault (match op with
      | .eq => (.ok a : Except Fault (Value N)) | .gt => .ok b | .lt => .ok c | _ => .error (.panic s)) =
      !(op == .eq || op == .gt || op == .lt) := by
  cases op <;> rfl

theorem arith_panics_iff {N : Type} [NumOps N] (op : ArithOp) (l r : Value N) (sp : Span) :
    isPanicFault (arith op l r sp) = arithBad op (tagOf l) (tagOf r) := by
  -- Per pair of operand types: the dispatch has no arm (neither side looks at `op`: `rfl`); an arm for the
  -- comparisons only (two booleans, `null` on either side: `cmp_only`); an arm of its own (numbers and strings among
  -- themselves: by cases of `op`, with a split for the division by zero).
  rcases l with a | a | a | a | (a | a) | _ <;> rcases r with b | b | b | b | (b | b) | _ <;>
    first | rfl | exact cmp_only op _ _ _ _ | cases op <;> first | rfl | (dsimp only [arith]; split <;> rfl)

theorem unary_panics_iff {N : Type} [NumOps N] (op : UnOp) (v : Value N) :
    isPanicFault (unary op v) =
      !((op == .not && ((tagOf v) == .bool || (tagOf v) == .null)) || (op == .neg && (tagOf v) == .number)) := by
  cases v with
  | host h => cases h <;> cases op <;> rfl
  | _ => cases op <;> rfl

theorem truthy_panics_iff {N : Type} (site : PanicSite) (v : Value N) :
    isPanicFault (truthy site v) = !((tagOf v) == .bool || (tagOf v) == .null) := by
  cases v with
  | host h => cases h <;> rfl
  | _ => rfl

theorem logicRhs_panics_iff {N : Type} (site : PanicSite) (v : Value N) :
    isPanicFault (logicRhs site v) = !((tagOf v) == .bool || (tagOf v) == .null) := by
  cases v with
  | host h => cases h <;> rfl
  | _ => rfl

/-- A bad index is a runtime error, not a panic. -/
theorem indexRead_panics_iff {N : Type} [NumOps N] (base idx : Value N) (isp : Span) :
    isPanicFault (indexRead base idx isp) = !((tagOf base) == .array) := by
  cases base with
  | arr xs =>
    simp only [indexRead, tagOf]
    cases idx with
    | num n =>
      simp only
      split
      · rfl
      · split
        · rfl
        · split <;> rfl
    | _ => rfl
  | host h => cases h <;> rfl
  | _ => rfl

/-- Representative runtime values of a literal static type (by `arith_panics_iff` & co. only the
type tag matters, except for the left operand of `and` / `or`, where both booleans are tried). -/
def reprs : VType → List (Value Int)
  | .number => [.num 0, .num 1]
  | .string => [.str []]
  | .bool => [.bool true, .bool false]
  | .array => [.arr []]
  | .processCommand => [.host (.command (Proc.Cmd.new []))]
  | .processResult => [.host (.result default)]
  | .null => [.null]
  | .dynamic => []

def binPanics (op : BinOp) (l r : Value Int) : Bool :=
  match op with
  | .and => !andStops l && isPanicFault (logicRhs .andRhs r)
  | .or => !orStops l && isPanicFault (logicRhs .orRhs r)
  | _ =>
    match ArithOp.ofBin op with
    | some a => isPanicFault (arith a l r ⟨0, 0⟩)
    | none => false

/-- The (operator, τ₁, τ₂) the real checker accepts for literal-typed operands (`Gen/TypeRules.lean`, probed
each run) although the runtime's dispatch has no case for them. -/
def d09dOffenders : List (BinOp × VType × VType) :=
  (Gen.TypeRules.binary.filter (fun q =>
      q.2.2.2.1 && (reprs q.2.1).any fun a => (reprs q.2.2.1).any fun b => binPanics q.1 a b)).map
    (fun q => (q.1, q.2.1, q.2.2.1))

def d09d_full : Prop := d09dOffenders = []

/-- D-09d: the type rules of the real checker (`Gen/TypeRules.lean`) accept no literal-typed operand pair whose
representative values (`reprs`) make the runtime's dispatch panic.  (A checker that does not make `add` and
`and`/`or` reject operand types without a run-time meaning has offenders: `string add` anything that is neither
string nor number, both ways, and `null or` a non-boolean.) -/
theorem d09d : d09d_full := by
  unfold d09d_full
  decide +kernel

end NaijaVerif.Props.C06Eval
