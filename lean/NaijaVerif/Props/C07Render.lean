/-
C07, renderer part: the whole set of diagnostics can be rendered to the terminal format without failure.
The theorems are about `Render.renderAnsi` (the model of `Diagnostics::render_ansi` in `src/diagnostics.rs`, in
which every `&src[a..b]`, every `usize - 1` and every vector index is checked and a failed check is `none` =
the Rust code panics).  They hold for every valid UTF-8 text, every file name and every list of diagnostics
whose spans and label spans are `SafeSpan`s — what `Props/C07Lex.lean`, `Props/C07Parse.lean` and
`Props/C07.lean` deliver for the lexer, the parser and the resolver.  The `gen_*` theorems tie the model's
constants and conventions to the extracted `Gen/Render.lean`.
-/
import NaijaVerif.Lemmas.RenderTotal
import NaijaVerif.Lemmas.RenderSpec
import NaijaVerif.Gen.Render
import NaijaVerif.Props.C07Lex
namespace NaijaVerif.Props.C07Render
open NaijaVerif NaijaVerif.Render NaijaVerif.Utf8
open NaijaVerif.Bytes (isBoundary)
open NaijaVerif.Props.C07Lex (SafeSpan)

theorem gen_constants :
    Gen.Render.bold = bold ∧ Gen.Render.reset = reset ∧ Gen.Render.tabWidth = tabWidth ∧
    Gen.Render.colors = [color .error, color .warning, color .note] ∧
    Gen.Render.sevLabels = [sevLabel .error, sevLabel .warning, sevLabel .note] := by decide +kernel

/-- the rule of `lineStartsFrom` is the extracted one of `compute_line_starts` -/
theorem gen_lineStartRule :
    Gen.Render.lineBreakNeedles = [cr, nl] ∧ Gen.Render.lineStartRule = [cr, nl, 2, 1, 1] ∧
    lineStartsFrom 0 [cr, nl] = [Gen.Render.lineStartRule[2]!] ∧
    lineStartsFrom 0 [cr] = [Gen.Render.lineStartRule[3]!] ∧
    lineStartsFrom 0 [nl] = [Gen.Render.lineStartRule[4]!] := by decide +kernel

/-- the `+ 1` / `- 1` / `.max(1)` conventions the model hard-codes; the seven `src[..]` slice expressions (one in
`line_col_from_span`, six in `render_diagnostic`) are the seven `slice?` of the model -/
theorem gen_conventions :
    Gen.Render.searchMissMinus = 1 ∧ Gen.Render.lineEndMinus = 1 ∧ Gen.Render.colPlus = 1 ∧
    Gen.Render.linePlus = 1 ∧ Gen.Render.caretMin = 1 ∧ Gen.Render.labelColPlus = 1 ∧
    Gen.Render.dashMins = [1, 1] ∧ Gen.Render.caretIndentMinus = 1 ∧ Gen.Render.labelIndentMinus = 1 ∧
    Gen.Render.maxLineInit = 1 ∧ Gen.Render.tabStopSites = 2 ∧ Gen.Render.sliceSites = 7 := by decide +kernel

theorem gen_chars :
    Gen.Render.caretChar = 94 ∧ Gen.Render.dashChar = 45 ∧ Gen.Render.caretIndentChar = space ∧
    Gen.Render.labelIndentChar = space ∧
    renderCaretLine 2 2 [] [] = some ([Gen.Render.caretIndentChar] ++ bold ++ [Gen.Render.caretChar, Gen.Render.caretChar] ++ reset) ∧
    renderLabelLine 2 2 [] [] [] = some ([Gen.Render.labelIndentChar] ++ bold ++ [Gen.Render.dashChar, Gen.Render.dashChar] ++ reset ++ [space] ++ bold ++ reset) := by
  decide +kernel

theorem gen_formats :
    Gen.Render.headerFmt = b!"{BOLD}{color}{}[{code}]{RESET}: {BOLD}{message}{RESET}" ∧
    Gen.Render.locationFmt = b!" {BOLD}{color}-->{RESET} {filename}:{line}:{col}" ∧
    Gen.Render.gutterFmt = b!"{BOLD}{color}{line:>width$} |{RESET} " ∧
    Gen.Render.plainGutterFmt = b!"{BOLD}{color}{:>width$} |{RESET} " ∧
    Gen.Render.caretLinePushes = [b!"plain_gutter", b!"' '", b!"BOLD", b!"color", b!"'^'", b!"RESET"] ∧
    Gen.Render.labelLinePushes = [b!"plain_gutter", b!"' '", b!"BOLD", b!"color", b!"'-'", b!"RESET",
      b!"' '", b!"BOLD", b!"message", b!"RESET"] ∧
    Gen.Render.writeOrder = [b!"&header", b!"&location", b!"&plain_gutter", b!"line_display",
      b!"label_underline", b!"&plain_gutter", b!"&format!(\"{gutter}{src_line}\")", b!"&caret_line", b!"l"] := by
  decide +kernel

/-- what the compiled renderer printed when probed: the column after a tab, `BOLD ++ color` in front of a
header, `RESET` at its end -/
theorem gen_probes :
    (lineColFromSpan (b!"\tx") 1).map (·.col) = some Gen.Render.probeColAfterTab ∧
    (lineColFromSpan (b!"a\tx") 2).map (·.col) = some Gen.Render.probeColAfterATab ∧
    Gen.Render.probeHeaderPrefix = [bold ++ color .error, bold ++ color .warning, bold ++ color .note] ∧
    Gen.Render.probeHeaderTail = [reset, reset, reset] := by decide +kernel

def DiagSafe (src : Bytes) (d : RDiag) : Prop :=
  SafeSpan src d.span ∧ ∀ l ∈ d.labels, SafeSpan src l.span

/-- `SafeSpan` is stated where the front end delivers it (`Props/C07Lex`), `Render.Safe` below the renderer lemmas,
which do not import the front end; the two have the same body, so this is an unfolding. -/
theorem DiagSafe.safe {src : Bytes} {d : RDiag} (h : DiagSafe src d) : d.Safe src := h

/-- C07 (renderer): `render_ansi` returns — no slice is out of range, reversed or off a character boundary, no
`- 1` underflows (`col ≥ 1`, the binary search never misses below index 0), no index is out of bounds. -/
theorem c07_render_total (src file : Bytes) (ds : List RDiag) (h : ValidUtf8 src)
    (hd : ∀ d ∈ ds, DiagSafe src d) : renderAnsi src file ds ≠ none := by
  obtain ⟨out, hout, _⟩ := renderAnsi_some h file (fun d hdm => (hd d hdm).safe)
  simp [hout]

/-- a front-end diagnostic (`Model/Diag.lean`) as the renderer sees it, with arbitrary texts -/
def ofDiag (code msg : Diag → Bytes) (labelMsg : Diag → Nat → Bytes) (d : Diag) : RDiag :=
  { sev := d.sev, code := code d, msg := msg d, span := d.span,
    labels := d.labels.zipIdx.map fun p => ⟨labelMsg d p.2, p.1⟩ }

theorem c07_render_front_end (src file : Bytes) (ds : List Diag) (code msg : Diag → Bytes)
    (labelMsg : Diag → Nat → Bytes) (h : ValidUtf8 src)
    (hd : ∀ d ∈ ds, SafeSpan src d.span ∧ ∀ l ∈ d.labels, SafeSpan src l) :
    renderAnsi src file (ds.map (ofDiag code msg labelMsg)) ≠ none := by
  refine c07_render_total src file _ h fun rd hrd => ?_
  obtain ⟨d, hdm, rfl⟩ := List.mem_map.mp hrd
  refine ⟨(hd d hdm).1, fun l hl => ?_⟩
  obtain ⟨p, hp, rfl⟩ := List.mem_map.mp hl
  exact (hd d hdm).2 p.1 (List.fst_mem_of_mem_zipIdx hp)

theorem c07_render_diagnostic_total (src file : Bytes) (width : Nat) (d : RDiag) (h : ValidUtf8 src)
    (hd : DiagSafe src d) : renderDiagnostic src file width d ≠ none := by
  obtain ⟨out, hout, _⟩ := renderDiagnostic_some h file width hd.safe
  simp [hout]

/-- `isLineStart`: position `0` and every position right after a line terminator, where `"\r\n"` is one
terminator (the position between its two bytes is not a line start). -/
theorem c07_render_line_starts_exact (src : Bytes) :
    computeLineStarts src = (List.range (src.length + 1)).filter (isLineStart src) :=
  computeLineStarts_eq src

theorem c07_render_line_starts (src : Bytes) (h : ValidUtf8 src) :
    (computeLineStarts src).Pairwise (· < ·) ∧
    ∀ p ∈ computeLineStarts src, p ≤ src.length ∧ isBoundary src p = true ∧
      (p = 0 ∨ src[p - 1]? = some nl ∨ src[p - 1]? = some cr) := by
  rw [c07_render_line_starts_exact]
  refine ⟨List.Pairwise.filter _ List.pairwise_lt_range, fun p hp => ?_⟩
  have hls := (List.mem_filter.mp hp).2
  refine ⟨isLineStart_le hls, isLineStart_boundary h hls, ?_⟩
  cases p with
  | zero => exact Or.inl rfl
  | succ k => exact Or.inr (isLineStart_byte hls)

/-- `col ≥ 1` is what keeps `col - 1` from underflowing. (`hs` is implied by `hb`, `Utf8.isBoundary_le_length`,
and the proof does not use it.) -/
theorem c07_render_line_bounds (src : Bytes) (start : Nat) (h : ValidUtf8 src) (hs : start ≤ src.length)
    (hb : isBoundary src start = true) :
    ∃ lc, lineColFromSpan src start = some lc ∧ 1 ≤ lc.line ∧ 1 ≤ lc.col ∧
      lc.lineStart ≤ start ∧ start ≤ lc.lineEnd ∧ lc.lineEnd ≤ src.length ∧
      isBoundary src lc.lineStart = true ∧ isBoundary src lc.lineEnd = true := by
  obtain ⟨lc, hlc, ok⟩ := lineColFromSpan_ok h hb
  exact ⟨lc, hlc, ok.line_pos, ok.col_pos, ok.ls_le, ok.le_ge, ok.le_len, ok.ls_bnd, ok.le_bnd⟩

/-- `hf` and `ht` hold in the source because file name, codes and messages are `&str`s. -/
theorem c07_render_utf8 (src file : Bytes) (ds : List RDiag) (h : ValidUtf8 src)
    (hd : ∀ d ∈ ds, DiagSafe src d) (hf : ValidUtf8 file) (ht : ∀ d ∈ ds, d.TextValid) :
    ∃ out, renderAnsi src file ds = some out ∧ ValidUtf8 out := by
  obtain ⟨out, hout, hv⟩ := renderAnsi_some h file (fun d hdm => (hd d hdm).safe)
  exact ⟨out, hout, hv hf ht⟩

/-- `line` is the number of line starts at or before `start`; the reported line begins at the last line start
`≤ start` and ends right in front of the last byte of the terminator that makes the next line start, or at the
end of the text; `col` is 1 + the visual width (tabs to the next multiple of `TAB_WIDTH`) of the text between
the line start and `start`. (`hs` is implied by `hb`, as in `c07_render_line_bounds`.) -/
theorem c07_render_line_col_correct (src : Bytes) (start : Nat) (h : ValidUtf8 src) (hs : start ≤ src.length)
    (hb : isBoundary src start = true) :
    ∃ lc, lineColFromSpan src start = some lc ∧
      lc.line = ((List.range (start + 1)).filter (isLineStart src)).length ∧
      isLineStart src lc.lineStart = true ∧ lc.lineStart ≤ start ∧
      (∀ p, lc.lineStart < p → p ≤ start → isLineStart src p = false) ∧
      (∀ p, start < p → p ≤ lc.lineEnd → isLineStart src p = false) ∧
      (isLineStart src (lc.lineEnd + 1) = true ∨
        (lc.lineEnd = src.length ∧ ∀ p, start < p → isLineStart src p = false)) ∧
      lc.col = 1 + visualCol ((src.drop lc.lineStart).take (start - lc.lineStart)) := by
  obtain ⟨lc, hlc, ok⟩ := lineColFromSpan_ok h hb
  refine ⟨lc, hlc, ?_, (isLineStart_iff src _).mpr ok.ls_mem, ok.ls_le, ok.no_start_before,
    ok.no_start_after, ok.line_end, ?_⟩
  · rw [ok.line_eq]; exact cntLE_lineStarts src start
  · rw [ok.col_eq]; omega

/-- the caret lands under the right character of the displayed line -/
theorem c07_render_caret_column (t : Bytes) : charCount (expandTabs t) = visualCol t :=
  charCount_expandTabs t

theorem c07_render_slice_none_iff (src : Bytes) (a b : Nat) :
    slice? src a b = none ↔
      ¬ (a ≤ b ∧ b ≤ src.length ∧ isBoundary src a = true ∧ isBoundary src b = true) := by
  unfold slice?
  split
  · next h => exact ⟨fun e => (nomatch e), fun hn => absurd h hn⟩
  · next h => exact ⟨fun _ => h, fun _ => rfl⟩

example : ValidUtf8 (b!"a\nbé\t c d\r\ne") := by decide +kernel
example : DiagSafe (b!"a\nbé\t c d\r\ne") ⟨.error, b!"syntax", b!"m", ⟨3, 5⟩, [⟨b!"x", ⟨8, 9⟩⟩, ⟨b!"y", ⟨0, 1⟩⟩]⟩ := by
  simp only [DiagSafe, SafeSpan]; decide
/-- a diagnostic on line 2 with a same-line label and a cross-line label -/
example : (renderAnsi (b!"a\nbé\t c d\r\ne") (b!"f.ns")
    [⟨.error, b!"syntax", b!"m", ⟨3, 5⟩, [⟨b!"x", ⟨8, 9⟩⟩, ⟨b!"y", ⟨0, 1⟩⟩]⟩]).isSome = true := by decide +kernel
-- in this order: positions at `'\n'`, between `'\r'` and `'\n'`, right after CRLF, after a trailing newline, in
-- the empty text, after a lone `'\r'`
example : (lineColFromSpan (b!"ab\ncd") 2) = some ⟨1, 3, 0, 2⟩ := by decide +kernel
example : (lineColFromSpan (b!"ab\r\ncd") 3) = some ⟨1, 4, 0, 3⟩ := by decide +kernel
example : (lineColFromSpan (b!"ab\r\ncd") 4) = some ⟨2, 1, 4, 6⟩ := by decide +kernel
example : (lineColFromSpan (b!"ab\n") 3) = some ⟨2, 1, 3, 3⟩ := by decide +kernel
example : (lineColFromSpan [] 0) = some ⟨1, 1, 0, 0⟩ := by decide +kernel
example : (lineColFromSpan (b!"a\rb") 2) = some ⟨2, 1, 2, 3⟩ := by decide +kernel
-- the unit tests of `diagnostics.rs` (the next three)
example : (lineColFromSpan (b!"áé你😆") 7).map (·.col) = some 4 := by decide +kernel
example : (lineColFromSpan (b!"foó\nbár") 6).map (fun lc => (lc.line, lc.col)) = some (2, 2) := by decide +kernel
example : expandTabs (b!"a\tb\tc") = b!"a   b   c" ∧ visualCol (b!"a\tb\tc") = 9 := by decide +kernel
/-- D-07b: on `"a\€b"` the span 2..4 ends inside the euro sign and the renderer panics -/
example : renderAnsi (b!"\"a\\€b\"") (b!"f.ns") [⟨.error, b!"lexical", b!"Invalid string escape", ⟨2, 4⟩, []⟩] = none := by
  decide +kernel
/-- with the span the lexer model reports it does not -/
example : (renderAnsi (b!"\"a\\€b\"") (b!"f.ns") [⟨.error, b!"lexical", b!"Invalid string escape", ⟨2, 6⟩, []⟩]).isSome = true := by
  decide +kernel
-- in this order: a reversed span panics; an end beyond the text does not (it is clipped by `.min(line_end)`); a
-- start beyond the text does
example : renderAnsi (b!"ab") [] [⟨.error, [], [], ⟨2, 1⟩, []⟩] = none := by decide +kernel
example : (renderAnsi (b!"ab") [] [⟨.error, [], [], ⟨0, 9⟩, []⟩]).isSome = true := by decide +kernel
example : renderAnsi (b!"ab") [] [⟨.error, [], [], ⟨3, 3⟩, []⟩] = none := by decide +kernel
/-- a label span inside a character panics too -/
example : renderAnsi (b!"é\nx") [] [⟨.error, [], [], ⟨3, 4⟩, [⟨[], ⟨1, 2⟩⟩]⟩] = none := by decide +kernel

end NaijaVerif.Props.C07Render
