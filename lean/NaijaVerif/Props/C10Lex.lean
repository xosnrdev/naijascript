import NaijaVerif.Lemmas.LexLayout
/-
C10, lexer part: layout is insignificant for the lexer.  The vocabulary (`Sep`, `Trail`, `Lexeme`, `FollowOK`, `Valid`) is
that of `Lemmas/LexLayout.lean`.  No bound on the length of sequences or layouts.
-/
namespace NaijaVerif.Props.C10Lex
open NaijaVerif NaijaVerif.Lex

theorem c10_lex_sep_skipped {s : Bytes} (hs : Sep s) (X : Bytes) (f pos : Nat) (hf : (s ++ X).length < f) :
    ∃ f' pos', X.length < f' ∧ lexGo f ⟨pos, s ++ X⟩ = lexGo f' ⟨pos', X⟩ :=
  lexGo_sep hs X f pos hf

theorem c10_lex_one_token {t : Tok} {text : Bytes} (hl : Lexeme t text) (pos : Nat) (rest : Bytes)
    (hf : FollowOK t rest) :
    ∃ lo hi pos', step ⟨pos, text ++ rest⟩ = .tok ⟨t, ⟨lo, hi⟩⟩ ⟨pos', rest⟩ [] :=
  (step_lexeme hl pos rest hf).1

theorem c10_lex_roundtrip {lead tr : Bytes} (hlead : Sep lead) (htr : Trail tr) (l : Layout) (hv : Valid tr l) :
    (lex (lead ++ render tr l)).1.map (·.tok) = l.toks ++ [.eof] ∧ (lex (lead ++ render tr l)).2 = [] :=
  lex_layout hlead htr l hv

/-- C10 (lexer): two valid layouts of the same token sequence — different separators, comments, line ends,
spellings of the multi-word keywords — give the parser the same tokens. -/
theorem c10_lex_layout_insensitive {lead₁ tr₁ lead₂ tr₂ : Bytes} (l₁ l₂ : Layout)
    (h₁ : Sep lead₁) (t₁ : Trail tr₁) (v₁ : Valid tr₁ l₁) (h₂ : Sep lead₂) (t₂ : Trail tr₂) (v₂ : Valid tr₂ l₂)
    (same : l₁.toks = l₂.toks) :
    (lex (lead₁ ++ render tr₁ l₁)).1.map (·.tok) = (lex (lead₂ ++ render tr₂ l₂)).1.map (·.tok) ∧
    (lex (lead₁ ++ render tr₁ l₁)).2 = [] ∧ (lex (lead₂ ++ render tr₂ l₂)).2 = [] := by
  have a := lex_layout h₁ t₁ l₁ v₁
  have b := lex_layout h₂ t₂ l₂ v₂
  exact ⟨by rw [a.1, b.1, same], a.2, b.2⟩

/-- a sufficient, constructive form of "some text produces `ts` without a lexer diagnostic" -/
def Canonical (ts : List Tok) : Prop := ∃ lead tr l, Sep lead ∧ Trail tr ∧ Valid tr l ∧ l.toks = ts

theorem c10_canonical_sound {ts : List Tok} (h : Canonical ts) :
    ∃ src, (lex src).1.map (·.tok) = ts ++ [.eof] ∧ (lex src).2 = [] := by
  obtain ⟨lead, tr, l, h1, h2, h3, rfl⟩ := h
  exact ⟨_, lex_layout h1 h2 l h3⟩

/-- Sufficient for the requirement `FollowOK` puts on the identifiers `if` / `small`: a separator that starts
with `#` stops the multi-word look-ahead. -/
theorem c10_ident_follow_comment (w : Bytes) (X : Bytes) :
    FollowOK (.ident w) (35 :: X) := by
  refine ⟨firstNot_cons (by decide), ?_⟩
  intro alts hl p
  have hm := lookup_mem hl
  have hmiss : ∀ (wd : Bytes) (c : Cur), c.rest = 35 :: X → wd.isPrefixOf (35 :: X) = false → tryWord wd c = none := by
    intro wd c hc hp
    have hs : skipWs c = c := by
      cases c with
      | mk pos rest => simp only [] at hc; subst hc; exact skipWs_stop pos _ (firstNot_cons (by decide))
    simp [tryWord, hs, hc, hp]
  simp [multiWord] at hm
  rcases hm with ⟨_, rfl⟩ | ⟨_, rfl⟩
  · simp [tryAlts, tryWords, hmiss (b!"to") ⟨p, 35 :: X⟩ rfl rfl,
      hmiss (b!"not") ⟨p, 35 :: X⟩ rfl rfl]
  · simp [tryAlts, tryWords, hmiss (b!"pass") ⟨p, 35 :: X⟩ rfl rfl]

/-- `make x get 1.5` with a blank, a line end, a CR-terminated comment, no separator before the final
unfinished comment -/
example :
    let l : Layout := [((.make, b!"make"), b!" "), ((.ident (b!"x"), b!"x"), b!"\n"),
      ((.get, b!"get"), b!"# c\r"), ((.num (b!"1.5"), b!"1.5"), [])]
    Valid (b!"# end") l ∧ (lex (render (b!"# end") l)).1.map (·.tok) = [.make, .ident (b!"x"), .get, .num (b!"1.5"), .eof] := by
  -- per token: its `Lexeme`, its `Sep`, its `FollowOK` (a test of the byte that comes next)
  refine ⟨⟨Lexeme.kw _ _ (by decide), Sep.ws 32 [] (by decide) Sep.nil, firstNot_cons (by decide),
    Lexeme.ident _ (by decide) (by decide), Sep.ws 10 [] (by decide) Sep.nil, ⟨firstNot_cons (by decide), ?_⟩,
    Lexeme.kw _ _ (by decide), Sep.comment (b!" c") 13 [] (by decide) (by decide) Sep.nil, firstNot_cons (by decide),
    Lexeme.numFrac (b!"1") (b!"5") (by decide) (by decide) (by decide) (by decide), Sep.nil,
    ⟨firstNot_cons (by decide), firstNot_cons (by decide), Or.inl (by decide)⟩, trivial⟩, by decide⟩
  -- `x` starts no multi-word keyword
  intro alts h
  have hn : multiWord.lookup (b!"x") = none := by decide
  rw [hn] at h; cases h

/-- why `Valid` must constrain the identifier `if`: the same three words are one keyword when only
whitespace separates them and three identifiers when a comment does -/
example : (lex (b!"if to say")).1.map (·.tok) = [.ifToSay, .eof] := by decide
example : (lex (b!"if # c\n to say")).1.map (·.tok) = [.ident (b!"if"), .ident (b!"to"), .ident (b!"say"), .eof] := by
  decide
/-- a digit ends the last word of a multi-word keyword -/
example : (lex (b!"if to say2")).1.map (·.tok) = [.ifToSay, .num (b!"2"), .eof] := by decide
/-- CR alone ends a comment; CRLF, FF and TAB are whitespace between the words of `small pass` -/
example : (lex (b!"#c\rsmall\r\n\x0c\tpass")).1.map (·.tok) = [.smallPass, .eof] := by decide

end NaijaVerif.Props.C10Lex
