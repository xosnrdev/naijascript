/-
C18, run part — tripping an analysis limit never changes the run.

`Runtime::run_with_analysis` with no plan (what the resolver hands over after a limit tripped) behaves
exactly like a run with a plan that prunes nothing (`Model/Eval.lean`); composed with the decision of
`Model/Limits.lean` and with C03 (the plan the passes build below the limits does not change the
outcome), the outcome of a run does not depend on the caps.  For the shipped pipeline
(`Model/Pipeline.lean`) C03 enters as `c03_pipeline`, under its side conditions `PipelineSide` on the
front end's result (annotated program and facts only, which do not depend on the caps).
-/
import NaijaVerif.Lemmas.LimitsRun
import NaijaVerif.Props.C18
import NaijaVerif.Props.C03

namespace NaijaVerif.Limits
open NaijaVerif NaijaVerif.Eval

variable {N : Type} [NumOps N]

theorem run_noprune (cfg : RunCfg) (p1 p2 : Option Eval.Plan)
    (h1 : NoPrune { cfg with plan := p1 }) (h2 : NoPrune { cfg with plan := p2 }) (fuel : Nat)
    (prog : Block) :
    Eval.run (N := N) { cfg with plan := p1 } fuel prog = Eval.run { cfg with plan := p2 } fuel prog := by
  unfold Eval.run
  -- two plans that prune alike give equal runs (`eq_all`, for the relation `Eq`); the logic behind `EvalRel` has the trivial
  -- context `()`, invariant and condition on the block (`trivial trivial`), and `.1` of its judgement is the relation itself
  rw [((eq_all (N := N) (cfg := cfg) (fun sid => (h1.1 sid).trans (h2.1 sid).symm)
    (fun fid => (h1.2 fid).trans (h2.2 fid).symm) fuel).block () prog _ trivial trivial).1]
  rfl

theorem run_plan_none_eq_empty (cfg : RunCfg) (fuel : Nat) (prog : Block) :
    Eval.run (N := N) { cfg with plan := none } fuel prog =
      Eval.run { cfg with plan := some {} } fuel prog :=
  run_noprune cfg none (some {}) (noPrune_none cfg) (noPrune_empty cfg) fuel prog

/-- C18 (run part): `hSound` is C03 for the plan `p` the passes build. -/
theorem run_same_across_limits_eval (cfg : RunCfg) (fuel : Nat) (prog : Block) (p : Eval.Plan)
    (hSound : Eval.run (N := N) { cfg with plan := some p } fuel prog =
      Eval.run { cfg with plan := some {} } fuel prog)
    (caps caps' : Caps) (c : Counts) (sp : Span) (ws : List Diag) :
    Eval.run (N := N) { cfg with plan := (emitAnalysis caps c sp p ws).plan } fuel prog =
      Eval.run { cfg with plan := (emitAnalysis caps' c sp p ws).plan } fuel prog :=
  run_same_across_limits (fun plan pr => Eval.run (N := N) { cfg with plan := plan } fuel pr) {} prog p
    (run_plan_none_eq_empty cfg fuel prog) hSound caps caps' c sp ws

theorem run_tripped (cfg : RunCfg) (fuel : Nat) (prog : Block) (p : Eval.Plan) (caps : Caps)
    (c : Counts) (sp : Span) (ws : List Diag) (h : firstExceeded caps c ≠ none) :
    Eval.run (N := N) { cfg with plan := (emitAnalysis caps c sp p ws).plan } fuel prog =
      Eval.run { cfg with plan := some {} } fuel prog := by
  rw [(emitAnalysis_tripped caps c sp p ws h).1]
  exact run_plan_none_eq_empty cfg fuel prog

/-- `AEval.run`: the evaluator fragment `c03_partial` is proved on. -/
theorem aeval_run_plan_none_eq_empty {V : Type} (P : AEval.Prims V) (fuel : Nat) (root : Block) :
    AEval.run P none fuel root = AEval.run P (some Analysis.Plan.empty) fuel root := rfl

/-- `hSound` is what `c03_partial` proves for every plan made of unreachable statements. -/
theorem aeval_run_same_across_limits {V : Type} (P : AEval.Prims V) (fuel : Nat) (root : Block)
    (p : Analysis.Plan) (hSound : AEval.run P (some p) fuel root = AEval.run P none fuel root)
    (caps caps' : Caps) (c : Counts) (sp : Span) (ws : List Diag) :
    AEval.run P (emitAnalysis caps c sp p ws).plan fuel root =
      AEval.run P (emitAnalysis caps' c sp p ws).plan fuel root :=
  run_same_across_limits (fun plan r => AEval.run P plan fuel r) Analysis.Plan.empty root p
    (aeval_run_plan_none_eq_empty P fuel root)
    (hSound.trans (aeval_run_plan_none_eq_empty P fuel root)) caps caps' c sp ws

section pipeline
open NaijaVerif.Props.C06Accepted (NumLitsParse parsed)
open NaijaVerif.Bridge (isNumLexeme)
open NaijaVerif.PipelinePrune
open NaijaVerif.C03 (PipelineSide evalObs rtCode)

theorem c18_pipeline_front (caps caps' : Caps) (src : Bytes) :
    (∀ e, Pipeline.frontEnd caps src = .error e → Pipeline.frontEnd caps' src = .error e) ∧
    (∀ a, Pipeline.frontEnd caps src = .ok a →
      ∃ a', Pipeline.frontEnd caps' src = .ok a' ∧ a'.root = a.root ∧ a'.facts = a.facts) := by
  refine ⟨fun e he => ?_, fun a ha => ?_⟩
  · rcases Pipeline.frontEnd_cases src rfl rfl with h | h | h
    · exact (h caps').trans ((h caps).symm.trans he)
    · exact (h caps').trans ((h caps).symm.trans he)
    · cases (h caps).symm.trans he
  · obtain ⟨h1, h2, h3, rfl⟩ := Pipeline.frontEnd_ok_iff.1 ha
    exact ⟨_, Pipeline.frontEnd_ok_iff.2 ⟨h1, h2, h3, rfl⟩, rfl, rfl⟩

theorem c18_pipeline_warnings (caps caps' : Caps) (src : Bytes) (a a' : Pipeline.Accepted)
    (ha : Pipeline.frontEnd caps src = .ok a) (ha' : Pipeline.frontEnd caps' src = .ok a') :
    (tripped caps src = true → a.plan = none ∧ a.warnings = [limitWarning (parsed src).span]) ∧
    (tripped caps src = false → a.plan = some (passPlan a.root a.facts) ∧
      a.warnings = passWarnings a.root a.facts ∧ ∀ d ∈ a.warnings, d.kind ≠ .analysisLimit) ∧
    (tripped caps src = tripped caps' src → a'.plan = a.plan ∧ a'.warnings = a.warnings) := by
  obtain ⟨h1, h2, _, hp, hw⟩ := frontEnd_shape ha
  obtain ⟨h1', h2', _, hp', hw'⟩ := frontEnd_shape ha'
  refine ⟨fun ht => ?_, fun ht => ?_, fun heq => ?_⟩
  · rw [hp, hw, ht]; exact ⟨rfl, rfl⟩
  · rw [hp, hw, ht]
    refine ⟨rfl, rfl, fun d hd => ?_⟩
    obtain ⟨w, _, rfl⟩ := List.mem_map.1 hd
    cases hk : w.kind <;> simp [Pipeline.warnDiag, hk, Analysis.WKind.diag]
  · rw [hp', hw', hp, hw, h1', h2', h1, h2, heq]; exact ⟨rfl, rfl⟩

/-- C18 for the shipped pipeline: exceeding an analysis budget disables the optimisation and nothing else.
If the run of the accepted program WITHOUT a plan ends within its fuel with the observation `o` (printed
values; normal ending or a runtime error other than `Undefined variable`), then under any two cap settings
the pipeline runs the text to `o`, for all sufficiently large fuel.  `hside` is decidable. -/
theorem c18_pipeline (hnum : NumLitsParse N isNumLexeme) (caps caps' : Caps) (cfg : RunCfg)
    (hl : cfg.lookup = .dynamic) (hp : cfg.panics = false) (hin : cfg.input = []) (src : Bytes)
    (a : Pipeline.Accepted) (ha : Pipeline.frontEnd caps src = .ok a) (hside : PipelineSide a)
    (f : Nat) (o : List (Value N) × Nat)
    (hrun : evalObs (Eval.run (N := N) { cfg with plan := none } f a.root) = some o)
    (hund : o.2 ≠ 10 + rtCode .undefinedVariable) :
    ∃ f', ∀ g, f' ≤ g →
      ranObs (Pipeline.runSource (N := N) caps cfg g src) = some o ∧
      ranObs (Pipeline.runSource (N := N) caps' cfg g src) = some o := by
  obtain ⟨a', ha', hr, hf⟩ := (c18_pipeline_front caps caps' src).2 a ha
  obtain ⟨f', h⟩ := C03.c03_eval_either hnum cfg hl hp hin a.root a.facts hside.1 hside.2 f o hrun hund
    (evalObs_ne_panic (C03.pipeline_plain_no_panic hnum caps cfg hl hp src a ha f) hrun)
  have hplan' := Props.C06Accepted.frontEnd_plan ha'
  rw [hr, hf] at hplan'
  refine ⟨f', fun g hg => ⟨?_, ?_⟩⟩
  · rw [runSource_ok cfg g ha]; exact h g hg _ (Props.C06Accepted.frontEnd_plan ha)
  · rw [runSource_ok cfg g ha', hr]; exact h g hg _ hplan'

theorem c18_pipeline_tripped (hnum : NumLitsParse N isNumLexeme) (caps caps' : Caps) (cfg : RunCfg)
    (hl : cfg.lookup = .dynamic) (hp : cfg.panics = false) (hin : cfg.input = []) (src : Bytes)
    (a : Pipeline.Accepted) (ha : Pipeline.frontEnd caps src = .ok a) (hside : PipelineSide a)
    (ht : tripped caps src = true) (f : Nat) (o : List (Value N) × Nat)
    (hrun : ranObs (Pipeline.runSource (N := N) caps cfg f src) = some o)
    (hund : o.2 ≠ 10 + rtCode .undefinedVariable) :
    ∃ f', ∀ g, f' ≤ g → ranObs (Pipeline.runSource (N := N) caps' cfg g src) = some o := by
  have hplan := ((c18_pipeline_warnings caps caps src a a ha ha).1 ht).1
  rw [runSource_ok cfg f ha, hplan] at hrun
  obtain ⟨f', h⟩ := c18_pipeline hnum caps caps' cfg hl hp hin src a ha hside f o hrun hund
  exact ⟨f', fun g hg => (h g hg).2⟩

/-- `hrest`: the part of C03's `structOkB` not proved of the resolver model. -/
theorem c18_pipeline_rest (hnum : NumLitsParse N isNumLexeme) (caps caps' : Caps) (cfg : RunCfg)
    (hl : cfg.lookup = .dynamic) (hp : cfg.panics = false) (hin : cfg.input = []) (src : Bytes)
    (a : Pipeline.Accepted) (ha : Pipeline.frontEnd caps src = .ok a)
    (hrest : ResolveStruct.structRest2B a.root a.facts = true)
    (f : Nat) (o : List (Value N) × Nat)
    (hrun : evalObs (Eval.run (N := N) { cfg with plan := none } f a.root) = some o)
    (hund : o.2 ≠ 10 + rtCode .undefinedVariable) :
    ∃ f', ∀ g, f' ≤ g →
      ranObs (Pipeline.runSource (N := N) caps cfg g src) = some o ∧
      ranObs (Pipeline.runSource (N := N) caps' cfg g src) = some o :=
  c18_pipeline hnum caps caps' cfg hl hp hin src a ha (C03.pipelineSide_of_rest ha hrest) f o hrun hund

end pipeline

-- `NoPrune` is a real restriction
example : Plan.prunesStmt (some { stmts := [3] }) (some 3) = true := by decide
example : Plan.prunesFn (some { fns := [1] }) (some 1) = true := by decide
example (cfg : RunCfg) : NoPrune { cfg with plan := none } ∧ NoPrune { cfg with plan := some {} } :=
  ⟨noPrune_none cfg, noPrune_empty cfg⟩

section pipeline_examples
open NaijaVerif.Props.C06Accepted (parsed trivialNum ranSummary)
open NaijaVerif.PipelinePrune
open NaijaVerif.C03 (PipelineSide evalObs rtCode)

/-- `make x get 1  x get 2  x get 3  shout(x)` under caps nothing trips on and under caps with
`maxStatements = 3`. -/
example :
    (Pipeline.frontEnd roomyCaps prunedText).toOption.map (fun a => (a.plan.map (·.stmts), decide (PipelineSide a))) =
      some (some [1], true) ∧
    (Pipeline.frontEnd roomyCaps prunedText).toOption.map (fun a => a.warnings.map (·.kind)) =
      some [DiagKind.unusedAssignment, DiagKind.unusedAssignment] ∧
    (Pipeline.frontEnd tightCaps prunedText).toOption.map (fun a => (a.plan.map (·.stmts), decide (PipelineSide a))) =
      some (none, true) ∧
    (Pipeline.frontEnd tightCaps prunedText).toOption.map (fun a => a.warnings.map (·.kind)) =
      some [DiagKind.analysisLimit] ∧
    tripped roomyCaps prunedText = false ∧ tripped tightCaps prunedText = true ∧
    ranSummary (Pipeline.runSource roomyCaps Toy.cfg 30 prunedText) = some (2, [b!"3"], 0) ∧
    ranSummary (Pipeline.runSource tightCaps Toy.cfg 30 prunedText) = some (1, [b!"3"], 0) :=
  C03.prunedText_checks.1

-- `trivialNum`: a number type for which `NumLitsParse` holds
example : ∃ o f', ∀ g, f' ≤ g →
    ranObs (@Pipeline.runSource Unit trivialNum roomyCaps Toy.cfg g prunedText) = some o ∧
    ranObs (@Pipeline.runSource Unit trivialNum tightCaps Toy.cfg g prunedText) = some o := by
  obtain ⟨a, o, h, _, hside, ho, ho2⟩ := C03.prunedText_hyps
  obtain ⟨f', hf'⟩ := @c18_pipeline Unit trivialNum (fun _ _ => rfl) roomyCaps tightCaps Toy.cfg rfl rfl rfl
    prunedText a h hside 30 o ho (by rw [ho2]; decide)
  exact ⟨o, f', hf'⟩

end pipeline_examples

end NaijaVerif.Limits
