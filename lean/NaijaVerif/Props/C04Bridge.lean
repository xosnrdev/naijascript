import NaijaVerif.Lemmas.BridgeWS
import NaijaVerif.Props.C04
/-
C04 — the bridge between the static and the dynamic half.

`C04.c04_dynamic` (run with the lookup the code performs = run with lexical lookup) has the decidable
hypothesis `Eval.WellScoped`, which the `run` driver evaluates on the real resolver's output.  Here it
is proved of the resolver model (`c04_bridge`: no error ⇒ the annotated output is well scoped), so
`c04_dynamic` applies to every accepted program (`c04_accepted`).  The proof
(`Lemmas/BridgeFacts, BridgeRange, BridgeWalk, BridgeWS`) rests on: `LocalId`s are allocated as
`facts.locals.length`, which only grows, so the ids a nested block declares are fresh for its lexical
context; `predeclare` allocates a block's `FunctionId`s before its statements are checked; a reference
without an `undeclared…` diagnostic carries the id of the scope entry the lookup found.
-/
namespace NaijaVerif.Props.C04Bridge
open NaijaVerif NaijaVerif.Eval

/-- All diagnostics of the resolver model are errors: "no error" is "no diagnostic". -/
theorem no_errors_iff (q : Block) :
    hasErrors (Resolve.resolve q).diags = false ↔ (Resolve.resolve q).rdiags = [] := by
  have hd : (Resolve.resolve q).diags = (Resolve.resolve q).rdiags.map Resolve.RDiag.toDiag := rfl
  rw [hd]
  cases (Resolve.resolve q).rdiags with
  | nil => simp [hasErrors]
  | cons d ds => simp [hasErrors, Resolve.RDiag.toDiag]

theorem c04_bridge (q : Block) (h : hasErrors (Resolve.resolve q).diags = false) :
    WellScoped (Resolve.resolve q).root :=
  Resolve.resolve_wellScoped true q ((no_errors_iff q).1 h)

/-- `c04_bridge` with the hypothesis as the driver's `if` has it. -/
theorem c04_bridge_prop (q : Block) (h : ¬ hasErrors (Resolve.resolve q).diags = true) :
    WellScoped (Resolve.resolve q).root :=
  c04_bridge q (by simpa using h)

/-- C04 for every accepted program: the resolver annotates every occurrence of a VARIABLE (in expressions, `{name}`
segments, assignment targets) with the nearest enclosing declaration of the program text (static half; `lexBlock` does not
look at the function a call is bound to: `Resolve.isNameExpr`), and the run of the annotated program with the lookup the
code performs (`dynamic`: most recent instance of the declaring scope) is the run with lexical lookup — same output, same
ending, same error position. -/
theorem c04_accepted {N : Type} [NumOps N] (cfg : RunCfg) (fuel : Nat) (q : Block)
    (h : hasErrors (Resolve.resolve q).diags = false) :
    Resolve.lexBlock [] (Resolve.resolve q).root = true ∧
    (run { cfg with lookup := .dynamic } fuel (Resolve.resolve q).root : Outcome N) =
      run { cfg with lookup := .lexical } fuel (Resolve.resolve q).root :=
  C04.c04_resolved_program cfg fuel q (c04_bridge q h)

/-- The invariant of C04's dynamic theorem at the entry of the root block of an accepted program (an instance of
`C04.mr_block_entry`, recorded; `c04_accepted` does not need it). -/
theorem mr_root_entry {N : Type} (cfg : RunCfg) (q : Block) (h : hasErrors (Resolve.resolve q).diags = false) :
    MR (N := N) cfg (.ofStmts (Resolve.resolve q).root.stmts :: [Binder.root])
      (hoist cfg (Resolve.resolve q).root.stmts
        (pushScope (State.init cfg) (.block (Resolve.resolve q).root.span) (State.init cfg : State N).chain []
          (declIds (Resolve.resolve q).root.stmts))) :=
  C04.mr_block_entry cfg [Binder.root] (State.init cfg) (C04.mr_initial cfg cfg) _ (c04_bridge q h)

private def sp : Span := ⟨0, 0⟩

/-- An un-annotated program (what the parser hands to the resolver) with a capture, recursion, a
forward call, a re-declaration and an inner block:
```
make t get 0
walk(2)
do walk(d) start
  make x get d
  do show() start t get t add x  shout("{x} {t}") end
  if to say (d pass 0) start walk(d minus 1) end
  show()
  make x get 9
end
start make t get 5 shout(t) end
shout(t)
``` -/
def source : Block :=
  .mk [.assign (b!"t") sp (.num (b!"0") sp) none none sp,
       .expr (.call (.var (b!"walk") none sp) [.num (b!"2") sp] none sp) none sp,
       .fnDef (b!"walk") sp [⟨b!"d", sp, none⟩]
         (.mk [.assign (b!"x") sp (.var (b!"d") none sp) none none sp,
               .fnDef (b!"show") sp []
                 (.mk [.assignExisting (b!"t") sp (.binary .add (.var (b!"t") none sp) (.var (b!"x") none sp) sp) none none sp,
                       .expr (.call (.var (b!"shout") none sp)
                         [.str (.interp [.var (b!"x") none, .lit (b!" "), .var (b!"t") none]) sp] none sp) none sp] sp)
                 none none sp,
               .ifS (.binary .gt (.var (b!"d") none sp) (.num (b!"0") sp) sp)
                 (.mk [.expr (.call (.var (b!"walk") none sp)
                   [.binary .minus (.var (b!"d") none sp) (.num (b!"1") sp) sp] none sp) none sp] sp) none none sp,
               .expr (.call (.var (b!"show") none sp) [] none sp) none sp,
               .assign (b!"x") sp (.num (b!"9") sp) none none sp] sp) none none sp,
       .block (.mk [.assign (b!"t") sp (.num (b!"5") sp) none none sp,
                    .expr (.call (.var (b!"shout") none sp) [.var (b!"t") none sp] none sp) none sp] sp) none sp,
       .expr (.call (.var (b!"shout") none sp) [.var (b!"t") none sp] none sp) none sp] sp

/-- Everything that is evaluated about `source`, as ONE evaluation: the kernel then resolves the tree once. -/
theorem source_checks : (hasErrors (Resolve.resolve source).diags = false ∧
    decide (WellScoped (Resolve.resolve source).root) = true) ∧
    Toy.summary (run { Toy.cfg with lookup := .dynamic } 60 (Resolve.resolve source).root) =
      ([b!"0 0", b!"1 1", b!"2 3", b!"5", b!"3"], 0) := by decide +kernel

example : hasErrors (Resolve.resolve source).diags = false ∧
    decide (WellScoped (Resolve.resolve source).root) = true := source_checks.1

/-- Each activation of `walk` prints its own `x` (0, 1, 2 — innermost first) and the shared `t`; the
inner block prints its own `t`. -/
example : Toy.summary (run { Toy.cfg with lookup := .dynamic } 60 (Resolve.resolve source).root) =
    ([b!"0 0", b!"1 1", b!"2 3", b!"5", b!"3"], 0) := source_checks.2

example : (run { Toy.cfg with lookup := .dynamic } 60 (Resolve.resolve source).root : Outcome Int) =
    run { Toy.cfg with lookup := .lexical } 60 (Resolve.resolve source).root :=
  (c04_accepted Toy.cfg 60 source source_checks.1.1).2

/-- Acceptance matters: the output for a REJECTED program (`shout(x)`, `x` undeclared) is not well
scoped — the reference carries no binding. -/
example : hasErrors (Resolve.resolve (.mk [.expr (.call (.var (b!"shout") none sp) [.var (b!"x") none sp] none sp) none sp] sp)).diags = true ∧
    ¬ WellScoped (Resolve.resolve (.mk [.expr (.call (.var (b!"shout") none sp) [.var (b!"x") none sp] none sp) none sp] sp)).root := by
  decide +kernel

end NaijaVerif.Props.C04Bridge
