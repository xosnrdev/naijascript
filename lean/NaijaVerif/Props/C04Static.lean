/-
C04 (static half) — variables resolve lexically; a call is reported as undeclared exactly when no enclosing block defines
the name (which function a call is annotated with is not stated here, see `variables_bind_to_nearest_declaration`).

Stated on `(Resolve.resolve p).root`: the program annotated with the bindings the real resolver
records in `ProgramFacts::{expr_locals, stmt_locals, string_segment_locals}` (trusted: the `resolve`
driver compares model and real resolver on every run).  `nearestDecl` (`Lemmas/ResolveLex.lean`) is
defined from the program text: the innermost enclosing binder group — the `make` statements of an
enclosing block that textually precede the occurrence's statement, or the parameter list of an
enclosing function — that declares the name.
-/
import NaijaVerif.Lemmas.ResolveLex
import NaijaVerif.Lemmas.ResolveScope

namespace NaijaVerif.C04Static
open NaijaVerif NaijaVerif.Resolve NaijaVerif.Spec

/-- Every variable occurrence of the resolved program — in an expression, as the target of `x get e`, as a `{name}`
placeholder of an interpolated string — carries the ANNOTATION that the nearest enclosing declaration of its name in the
program text carries, and `none` when no declaration is visible; a `make` always carries a local, and a second `make` of the
same name in the same block carries the same local as the first.  (The body of a rejected duplicate function definition is
not analysed.)  What `lexBlock` (`Lemmas/ResolveLex.lean`) does not say: that different declarations carry different locals
(an id is the length of `facts.locals` at the declaration; for parameters: `declareParams_alloc`,
`Lemmas/BridgeRange.lean`), that a parameter is annotated (same lemma), and which function a CALL is annotated with — the
callee annotation is compared with the real resolver's by the `resolve` stream only. -/
theorem variables_bind_to_nearest_declaration (p : Block) : lexBlock [] (resolve p).root = true :=
  resolve_lexical true p

/-- The scope-stack invariant behind it: `CtxRel` says the resolver's variable scopes hold exactly
the visible declarations. -/
theorem block_lexical_of_invariant (env : Env) (parent : Option Nat) (ctx : List Binder)
    (h : CtxRel env.vars ctx) (b : Block) (f : Facts) :
    lexBlock ctx (checkBlock env parent b f).val = true :=
  checkBlock_lex env parent ctx h b f

/-- A variable occurrence at span `s` is reported as undeclared exactly when no enclosing block
declares the name before it and no enclosing function has it as a parameter. -/
theorem variable_unbound_iff_undeclared (p : Block) (s : Span) :
    (∃ d ∈ (resolve p).rdiags, d.rule = .undeclaredVar ∧ d.span = s) ↔
      (Rule.undeclaredVar, s) ∈ scopeViolations p := by
  rw [← resolve_scope true p]
  exact mem_scopeDs rfl _ s

/-- Functions are visible throughout their block and nowhere else: a call of a non-builtin name at
span `s` is reported as undeclared exactly when no enclosing block defines a function of that name,
before or after the call (`Spec.fnArity` over `Spec.blockFns`, the hoisted definitions of each
enclosing block, innermost first).  This and `variable_unbound_iff_undeclared` are one statement at two rules: membership in
`resolve_scope`, which `C09.c09_rule_iff` (`Props/C09.lean`) states for every scoping rule. -/
theorem call_unbound_iff_no_enclosing_definition (p : Block) (s : Span) :
    (∃ d ∈ (resolve p).rdiags, d.rule = .undeclaredFn ∧ d.span = s) ↔
      (Rule.undeclaredFn, s) ∈ scopeViolations p := by
  rw [← resolve_scope true p]
  exact mem_scopeDs rfl _ s

/-- For a block checked in ANY environment, the scoping diagnostics are the specification's violations in the context
`absCtx env`.  It is here for what `absCtx` does with the function scopes: they become the
hoisted definitions of the enclosing blocks (names and arities), innermost first, so an inner definition shadows an outer
one and is visible before and after its text. -/
theorem function_scopes_are_hoisted_definitions (env : Env) (parent : Option Nat) (b : Block) (f : Facts) :
    scopeDs (checkBlock env parent b f).ds = blockV (absCtx env) b :=
  checkBlock_scope env parent b f

private def sp : Span := ⟨0, 0⟩

/-- `make x get 1  do f(x) start shout(x) make x get 2 shout(x) end  start make x get 3 shout(x) end  shout(x)  make x get 4` -/
def shadowing : Block :=
  .mk [.assign (b!"x") sp (.num (b!"1") sp) none none sp,
       .fnDef (b!"f") sp [⟨b!"x", sp, none⟩]
         (.mk [.expr (.call (.var (b!"shout") none sp) [.var (b!"x") none sp] none sp) none sp,
               .assign (b!"x") sp (.num (b!"2") sp) none none sp,
               .expr (.call (.var (b!"shout") none sp) [.var (b!"x") none sp] none sp) none sp] sp) none none sp,
       .block (.mk [.assign (b!"x") sp (.num (b!"3") sp) none none sp,
                    .expr (.call (.var (b!"shout") none sp) [.var (b!"x") none sp] none sp) none sp] sp) none sp,
       .expr (.call (.var (b!"shout") none sp) [.var (b!"x") none sp] none sp) none sp,
       .assign (b!"x") sp (.num (b!"4") sp) none none sp] sp

def varBinds : Expr → List (Option Nat)
  | .var _ b _ => [b]
  | .call _ [a] _ _ => varBinds a
  | _ => []

def stmtBinds : Stmt → List (Option Nat)
  | .expr e _ _ => varBinds e
  | .assign _ _ _ b _ _ => [b]
  | _ => []

/-- The uses of `x` are bound to: the parameter (1), the body's own local (2), the inner block's
local (3), the top-level local (0); the re-declaration at the end re-uses local 0. -/
example : (match (resolve shadowing).root with
    | .mk [s0, .fnDef _ _ _ (.mk body _) _ _ _, .block (.mk inner _) _ _, s3, s4] _ =>
        (stmtBinds s0, body.flatMap stmtBinds, inner.flatMap stmtBinds, stmtBinds s3, stmtBinds s4)
    | _ => ([], [], [], [], [])) =
    ([some 0], [some 1, some 2, some 2], [some 3, some 3], [some 0], [some 0]) := by
  decide +kernel

end NaijaVerif.C04Static
