import NaijaVerif.Lemmas.ParseSpans
/-
C07, parser part: every span in the AST and in every syntax diagnostic / label is `0..0` or has
`lo ≤ hi ≤ n` with both ends token boundaries, for every token list whose spans are ordered (what
`c07_lex_token_spans` / `c07_lex_tokens_ordered` provide: `Props/C07.lean` puts the two parts together, through
`tokensOrdered_of_pairwise`); and the parser model (`Model/Parse.lean`, of
`src/syntax/parser.rs`) is total: `fuelFor` fuel always suffices and more fuel changes nothing.
-/
namespace NaijaVerif.C07Parse
open NaijaVerif NaijaVerif.Parse

/-- `Parse.Chain` without a start position and without the predicate on the ends; `parse_spans_sane` builds the `Chain`
for `Boundary toks` from it. -/
def TokensOrdered : List SpTok → Prop
  | [] => True
  | [t] => t.span.lo ≤ t.span.hi
  | t :: u :: ts => t.span.lo ≤ t.span.hi ∧ t.span.hi ≤ u.span.lo ∧ TokensOrdered (u :: ts)

/-- `0` is for the default span `0..0` of recovery nodes. -/
def Boundary (toks : List SpTok) (x : Nat) : Prop :=
  x = 0 ∨ ∃ t ∈ toks, x = t.span.lo ∨ x = t.span.hi

/-- The shape of `Parse.OkSpan`, at the boundaries of `toks` and with the bound `n` on the text in the place of the end of a
look-ahead token: `parse_spans_sane` gets `n` from the predicate `fun x => Boundary toks x ∧ x ≤ n`, not from `OkSpan`'s
bound. -/
def SpanSane (toks : List SpTok) (n : Nat) (s : Span) : Prop :=
  s.lo ≤ s.hi ∧ s.hi ≤ n ∧ Boundary toks s.lo ∧ Boundary toks s.hi

theorem tokensOrdered_of_pairwise : ∀ (toks : List SpTok),
    (∀ t ∈ toks, t.span.lo ≤ t.span.hi) → toks.Pairwise (fun a b => a.span.hi ≤ b.span.lo) →
    TokensOrdered toks
  | [], _, _ => trivial
  | [t], h, _ => h t List.mem_cons_self
  | t :: u :: ts, h, hp => by
    rw [List.pairwise_cons] at hp
    exact ⟨h t List.mem_cons_self, hp.1 u List.mem_cons_self,
      tokensOrdered_of_pairwise (u :: ts) (fun x hx => h x (List.mem_cons_of_mem _ hx)) hp.2⟩

/-- C07 (parser): every span of the AST and of every syntax diagnostic and label is `0..0` or lies within the text with both
ends on token boundaries, for every token list with ordered spans; no bound on the list. -/
theorem parse_spans_sane (toks : List SpTok) (n : Nat) (hord : TokensOrdered toks)
    (hn : ∀ t ∈ toks, t.span.hi ≤ n) :
    (∀ s ∈ blockSpans (parseProgram toks).1, SpanSane toks n s) ∧
      (∀ d ∈ (parseProgram toks).2, ∀ s ∈ diagSpans d, SpanSane toks n s) := by
  have hchain : ∀ (ts : List SpTok) (h : Nat), TokensOrdered ts → (∀ t ∈ ts, t ∈ toks) →
      (∀ t ∈ ts.head?, h ≤ t.span.lo) →
      Chain (fun x => Boundary toks x ∧ x ≤ n) h ts := by
    intro ts
    induction ts with
    | nil => intros; trivial
    | cons t ts ih =>
      intro h ho hsub hh
      have htm := hsub t (by simp)
      have hhi := hn t htm
      have hle : t.span.lo ≤ t.span.hi := by
        cases ts with
        | nil => exact ho
        | cons u us => exact ho.1
      refine ⟨hh t (by simp), hle, ⟨Or.inr ⟨t, htm, Or.inl rfl⟩, by omega⟩,
        ⟨Or.inr ⟨t, htm, Or.inr rfl⟩, hhi⟩, ?_⟩
      cases ts with
      | nil => trivial
      | cons u us =>
        exact ih t.span.hi ho.2.2 (fun x hx => hsub x (List.mem_cons_of_mem _ hx))
          (by intro x hx; simp at hx; subst hx; exact ho.2.1)
  have hP0 : (fun x => Boundary toks x ∧ x ≤ n) 0 := ⟨Or.inl rfl, Nat.zero_le _⟩
  obtain ⟨h1, h2⟩ := parseProgram_spans (P := fun x => Boundary toks x ∧ x ≤ n) hP0 toks
    (hchain toks 0 hord (fun _ h => h) (fun _ _ => Nat.zero_le _))
  constructor
  · intro s hs
    obtain ⟨a, ⟨b1, _⟩, ⟨c1, c2⟩⟩ := h1 s hs
    exact ⟨a, c2, b1, c1⟩
  · intro d hd s hs
    obtain ⟨a, ⟨b1, _⟩, ⟨c1, c2⟩⟩ := h2 d hd s hs
    exact ⟨a, c2, b1, c1⟩

theorem parser_total (toks : List SpTok) :
    ∃ r, parseProgramFuel (fuelFor toks) toks = some r :=
  parseProgramFuel_adequate toks

theorem parser_fuel_independent (toks : List SpTok) (f : Nat) (h : fuelFor toks ≤ f) :
    parseProgramFuel f toks = some (parseProgram toks) :=
  parseProgramFuel_stable toks f h

/-- The loop-exit sets extracted from the source (`Gen.Pratt.syncSet`, `blockStop`, `stmtStart`; the model's `isSync`,
    `isBlockStop`, `isStmtStart` are membership in them, `Model/Parse.lean`) treat end of input as the code's
    termination argument needs: `synchronize` and `parse_block_body` stop at `EOF` (the model's
    `syncGo` is structural and would hide a `synchronize` that spins at `EOF`), and
    `parse_program_body` does not start a statement at `EOF`.  The proof of `parseProgramFuel_adequate` rests on the same
    three evaluations under names of their own: `Parse.blockStop_ne_eof`, `Parse.stmtStart_ne_eof`, and `Parse.isSync_eof`
    in `Parse.sync_induct`, which reads `syncGo` as the loop of the source. -/
theorem loops_stop_at_eof :
    isSync .eof = true ∧ isBlockStop .eof = true ∧ isStmtStart .eof = false := by decide

/-- `make x get 1` -/
def exToks : List SpTok :=
  [⟨.make, ⟨0, 4⟩⟩, ⟨.ident [120], ⟨5, 6⟩⟩, ⟨.get, ⟨7, 10⟩⟩, ⟨.num [49], ⟨11, 12⟩⟩]

/-- `do f(a 1` : a function header that is never closed (three recovery paths). -/
def exBad : List SpTok :=
  [⟨.do, ⟨0, 2⟩⟩, ⟨.ident [102], ⟨3, 4⟩⟩, ⟨.lparen, ⟨4, 5⟩⟩, ⟨.ident [97], ⟨5, 6⟩⟩,
   ⟨.num [49], ⟨7, 8⟩⟩]

example : TokensOrdered exToks := by simp [TokensOrdered, exToks]
example : ∀ t ∈ exToks, t.span.hi ≤ 12 := by decide
example : TokensOrdered exBad := by simp [TokensOrdered, exBad]
example : ∀ t ∈ exBad, t.span.hi ≤ 8 := by decide

-- AST spans reaching over the look-ahead token, diagnostics with labels, the `0..0` spans of a recovery node
example : blockSpans (parseProgram exToks).1 = [⟨0, 12⟩, ⟨5, 6⟩, ⟨0, 12⟩, ⟨11, 12⟩] := by
  decide +kernel
example : (parseProgram exToks).2 = [] := by decide +kernel
example : blockSpans (parseProgram exBad).1 =
    [⟨0, 8⟩, ⟨0, 8⟩, ⟨0, 8⟩, ⟨5, 6⟩, ⟨7, 8⟩, ⟨0, 0⟩, ⟨0, 0⟩] := by decide +kernel
example : (parseProgram exBad).2.map diagSpans =
    [[⟨0, 6⟩, ⟨0, 6⟩], [⟨0, 8⟩, ⟨0, 8⟩], [⟨7, 8⟩, ⟨7, 8⟩], [⟨0, 8⟩, ⟨0, 8⟩]] := by decide +kernel

example : ∀ s ∈ blockSpans (parseProgram exToks).1, SpanSane exToks 12 s :=
  (parse_spans_sane exToks 12 (by simp [TokensOrdered, exToks]) (by decide)).1

-- a span ending inside a token
example : ¬ SpanSane exToks 12 ⟨0, 3⟩ := by
  unfold SpanSane Boundary; decide

end NaijaVerif.C07Parse
