/-
C08 — running out of depth is reported, not a native crash (partial).  The theorems carry *guard coverage*:
on which call paths the native stack is probed against `STACK_BUDGET`.  Frame sizes are symbolic
(`c : Fn → Nat`); the check measures them on the real binaries.  The `gen_*` theorems tie the hand-annotated
graph of `Model/Depth.lean` to the tables extracted into `Gen/Stack.lean`, so a new recursive helper, a new
edge, a moved or removed `check_stack`, or a changed budget breaks an obligation.  `c08_front_end` and
`c08_partial` are what holds; `c08_full_is_false` and the `*_unbounded_without_*` theorems document D-08.
-/
import NaijaVerif.Lemmas.Depth
import NaijaVerif.Gen.Stack

namespace NaijaVerif.Depth
open NaijaVerif

/-- The stack is probed in exactly two functions: `eval_expr`, where the probe is the first statement,
and `exec_stmt` (in its `Block` arm, see `gen_exec_stmt_arms`). -/
theorem gen_guard_sites : Gen.Stack.guardSites = [(b!"eval_expr", true), (b!"exec_stmt", false)] := by decide +kernel

theorem gen_guard_sites_modelled : Gen.Stack.guardSites.map (·.1) = probeSites := by decide +kernel

theorem gen_guard_fn : Gen.Stack.guardFns = [b!"check_stack"] := by decide +kernel

/-- The budget, the overshoot past the budget line (measured by the check on the real binaries and required
to stay within `overshootAllowance`), an ARG_MAX-scale environment block at the top of the main-thread
stack, and the headroom fit into the default 8 MiB; `dataAllowance` covers one traversal of a maximally
nested value by the unprobed value helpers.  The parser and the resolver use the same budget one after the
other from the same caller, so the same inequality covers them. -/
theorem budget_fits_main_stack :
    Gen.Stack.stackBudget + overshootAllowance + dataAllowance + envAllowance + headroom ≤ mainStack := by
  decide +kernel

theorem budget_not_tiny : 1024 * 1024 ≤ Gen.Stack.stackBudget := by decide +kernel

/-- Every function on a call cycle of runtime.rs (and every recursive builtin) is a frame of the model. -/
theorem gen_recursive_fns_modelled :
    Gen.Stack.recursiveFns.all (fun n => (Fn.all.map Fn.rust).contains n) = true := by decide +kernel

def projectedEdges : List (Bytes × Bytes) := runtimeEdges.map (fun e => (e.1.rust, e.2.rust))

/-- Every extracted call edge is an edge of the model, or the self-recursion of a folded frame. -/
theorem gen_edges_modelled :
    (flatten Gen.Stack.runtimeCalls).all
      (fun e => projectedEdges.contains e || foldedLoops.contains e) = true := by decide +kernel

/-- `If`, `Loop` (condition first) and `Block` (`check_stack` first) descend into a block only after a probe;
no other arm descends. -/
theorem gen_exec_stmt_arms :
    (Gen.Stack.execStmtArms.filter (fun a => a.2.1 && a.2.2)).map (·.1) = [b!"If", b!"Loop", b!"Block"] ∧
    (Gen.Stack.execStmtArms.filter (fun a => a.2.1 && !a.2.2)).map (·.1) = [] := by decide +kernel

/-- The `If`/`Loop` arm of `exec_stmt` has no probe of its own; it is covered because evaluating the condition
enters `eval_expr`.  This makes that dependency an obligation: each descending arm calls a probe on its
straight-line prefix (`Block` calls `check_stack` itself; `If` and `Loop` call `eval_expr`, whose own prefix is
the probe), so no path reaches the body of a nested statement without one.  A helper that returns a condition
without entering `eval_expr` on some path makes this false. -/
theorem exec_stmt_descents_probed_on_every_path :
    Gen.Stack.execStmtDescents = [armName (b!"If"), armName (b!"Loop"), armName (b!"Block")] ∧
    Gen.Stack.execStmtDescents.all (mustProbe Gen.Stack.straightCalls Gen.Stack.guardFns 4) = true := by decide +kernel

/-- A frame of `exec_stmt` is annotated as guarded iff the arm it stands for is certain to have probed; the
frames with an edge to `exec_block` are exactly the descending arms. -/
theorem exec_stmt_guard_annotation_justified :
    ([b!"If", b!"Loop", b!"Block"].all fun k =>
      (stmtKindFrame k).map runtimeGuarded ==
        some (mustProbe Gen.Stack.straightCalls Gen.Stack.guardFns 4 (armName k))) = true ∧
    (Gen.Stack.execStmtArms.all fun a =>
      match stmtKindFrame a.1 with
      | some f => runtimeEdges.contains (f, Fn.exec_block) == a.2.1
      | none => false) = true := by decide +kernel

/-- The scan really saw runtime.rs (guards against an extractor that silently finds nothing). -/
theorem gen_scan_sane : 40 ≤ Gen.Stack.runtimeFnCount ∧ 15 ≤ Gen.Stack.recursiveFns.length := by decide +kernel

/-- In the (folded) evaluator graph every cycle passes through a guarded frame. -/
theorem runtime_guard_free_acyclic : rankOK runtimeGraph runtimeRank = true := by decide +kernel

/-- `c` are the per-function frame costs, `d` bounds the nesting of values; a folded value-helper frame
costs `(d+1)·c`. -/
theorem runtime_depth_bound (c : Fn → Nat) (d : Nat) (s : List Fn)
    (h : Exec runtimeGraph (costFolded c d) Gen.Stack.stackBudget .run_inner s) :
    depth (costFolded c d) s ≤
      Gen.Stack.stackBudget + gap runtimeGraph (costFolded c d) runtimeRank .run_inner :=
  reachable_depth_le _ _ _ _ _ runtime_guard_free_acyclic (exec_reachable _ _ _ _ h)

theorem pot_mono_cost (g : Graph Fn) (c c' : Fn → Nat) (hc : ∀ f, c f ≤ c' f) :
    ∀ (n : Nat) (f : Fn), pot g c n f ≤ pot g c' n f :=
  fun _ => pot_mono g hc (Nat.le_refl _)

/-- The cost that `runtime_depth_bound_proviso` bounds with: `H` whatever the nesting of the data. -/

def costCapped (c : Fn → Nat) (H : Nat) (f : Fn) : Nat :=
  if f.isData then H else c f

/-- The proviso `hdata` (the value-recursive helpers fit into `H` for the data nesting at hand) is what
D-08 (data nesting) is about; `gen_array_nesting_bound` is where the code enforces it. -/
theorem runtime_depth_bound_proviso (c : Fn → Nat) (d H : Nat) (s : List Fn)
    (hdata : ∀ f : Fn, f.isData = true → (d + 1) * c f ≤ H)
    (h : Exec runtimeGraph (costFolded c d) Gen.Stack.stackBudget .run_inner s) :
    depth (costFolded c d) s ≤
      Gen.Stack.stackBudget + gap runtimeGraph (costCapped c H) runtimeRank .run_inner := by
  refine Nat.le_trans (runtime_depth_bound c d s h)
    (Nat.add_le_add_left (gap_mono_cost _ _ _ _ _ fun f => ?_) _)
  unfold costFolded costCapped
  split
  · exact hdata f ‹_›
  · exact Nat.le_refl _

/-- The longest guard-free chain of the evaluator, e.g. `eval_expr → eval_function_call → eval_member_call →
eval_array_member_call_mut → get_mutable_array → eval_index_value → eval_expr`. -/
theorem runtime_gap_in_frames :
    gap runtimeGraph (costFolded (fun _ => 1) 0) runtimeRank .run_inner = 7 := by decide +kernel

/-- Non-vacuity of `Exec`. -/
example : Exec runtimeGraph (costFolded (fun _ => 1) 0) Gen.Stack.stackBudget .run_inner
    [.eval_function_call, .eval_expr, .exec_stmt_leaf, .exec_block, .run_inner] := by
  have e0 : Exec runtimeGraph (costFolded (fun _ => 1) 0) Gen.Stack.stackBudget .run_inner [.run_inner] := .start
  have e1 := Exec.step e0 (Step.push (h := .exec_block) (by decide +kernel) (by decide +kernel))
  have e2 := Exec.step e1 (Step.push (h := .exec_stmt_leaf) (by decide +kernel) (by decide +kernel))
  have e3 := Exec.step e2 (Step.push (h := .eval_expr) (by decide +kernel) (by decide +kernel))
  have e4 := Exec.step e3 (Step.push (h := .eval_function_call) (by decide) (by intro _; decide))
  have e5 := Exec.step e4 (Step.push (h := .exec_block) (by decide +kernel) (by decide +kernel))
  exact Exec.step e5 Step.pop

/-- Above the budget an `eval_expr` frame cannot call anything (it is the `Stack overflow` leaf): the instance
of `Depth.guarded_blocks_calls` at that frame; `block_guard_blocks_descent` is the one at `exec_stmt_block`. -/
theorem guard_blocks_calls (c : Fn → Nat) (budget : Nat) (s : List Fn) (h : Fn)
    (hover : budget < depth c s) : ¬ Step runtimeGraph c budget (.eval_expr :: s) (h :: .eval_expr :: s) :=
  guarded_blocks_calls rfl hover

/-- `MAX_ARRAY_NESTING`, enforced by `check_nesting` at the three places where nesting is created — array
literals (`eval_expr`), `push` (`eval_array_member_call_mut`) and index assignment (`assign_index`).  That
no other place creates nesting is read off the code and tested by the data shapes of the check, not proved. -/
theorem gen_array_nesting_bound :
    Gen.Stack.maxArrayNesting = some 512 ∧
    Gen.Stack.nestingCheckSites =
      [b!"assign_index", b!"eval_array_member_call_mut", b!"eval_expr"] := by decide +kernel

/-- `runtime_depth_bound` at `d = 512`, the `MAX_ARRAY_NESTING` of `gen_array_nesting_bound`. -/
theorem runtime_depth_bound_max_nesting (c : Fn → Nat) (s : List Fn)
    (h : Exec runtimeGraph (costFolded c 512) Gen.Stack.stackBudget .run_inner s) :
    depth (costFolded c 512) s ≤
      Gen.Stack.stackBudget + gap runtimeGraph (costFolded c 512) runtimeRank .run_inner :=
  runtime_depth_bound c 512 s h

def Bounded {α : Type} [DecidableEq α] (g : Graph α) (root : α) : Prop :=
  ∀ (c : α → Nat) (budget : Nat), ∃ B, ∀ s, Reachable g c budget root s → depth c s ≤ B

/-- Positive costs only (a cycle of frames that cost nothing piles up nothing), where `Bounded` asks for a bound
under every cost: so `Unbounded` at the cost `1` refutes `Bounded` (`not_bounded_of_unbounded`). -/
def Unbounded {α : Type} [DecidableEq α] (g : Graph α) (root : α) : Prop :=
  ∀ (c : α → Nat), (∀ f, 0 < c f) → ∀ (budget B : Nat), ∃ s, Reachable g c budget root s ∧ B < depth c s

theorem unbounded_of_free_cycle {α : Type} [DecidableEq α] (g : Graph α) (root f : α) (init pre : List α)
    (hpre : freeWalk g root (pre ++ [f]) = true) (hcyc : freeWalk g f (init ++ [f]) = true) :
    Unbounded g root := fun c hc budget B =>
  let ⟨s, hs, hd⟩ := free_cycle_pumps g root f init pre hpre hcyc c (hc f) budget B
  ⟨f :: s, hs, hd⟩

theorem bounded_of_rank {α : Type} [DecidableEq α] (g : Graph α) (r : α → Nat) (root : α)
    (hr : rankOK g r = true) : Bounded g root := by
  intro c budget
  exact ⟨budget + gap g c r root, fun s hs => reachable_depth_le g c r budget root hr hs⟩

theorem not_bounded_of_unbounded {α : Type} [DecidableEq α] (g : Graph α) (root : α)
    (h : Unbounded g root) : ¬ Bounded g root := by
  intro hb
  obtain ⟨B, hB⟩ := hb (fun _ => 1) 0
  obtain ⟨s, hs, hd⟩ := h (fun _ => 1) (fun _ => Nat.one_pos) 0 B
  exact Nat.lt_irrefl _ (Nat.lt_of_lt_of_le hd (hB s hs))

theorem not_rankOK_of_free_cycle {α : Type} [DecidableEq α] (g : Graph α) (f : α) (init : List α)
    (hcyc : freeWalk g f (init ++ [f]) = true) (r : α → Nat) : rankOK g r = false :=
  Bool.eq_false_iff.mpr fun hr =>
    not_bounded_of_unbounded g f (unbounded_of_free_cycle g f f init init hcyc hcyc) (bounded_of_rank g r f hr)

def lexerGraph := frontGraph Gen.Stack.lexerCalls Gen.Stack.lexerGuardSites
def parserGraph := frontGraph Gen.Stack.parserCalls Gen.Stack.parserGuardSites
def resolverGraph := frontGraph Gen.Stack.resolverCalls Gen.Stack.resolverGuardSites
def cfgGraph := frontGraph Gen.Stack.cfgCalls Gen.Stack.cfgGuardSites

/-- No function of scanner.rs lies on a call cycle (D-07c: the invalid-number path re-entering
`next_token` would be one), so the lexer's native depth is constant. -/
theorem lexer_is_iterative : Gen.Stack.lexerCalls = [] := by decide +kernel

theorem lexer_bounded : Bounded lexerGraph (b!"next_token") := by
  intro c budget
  refine ⟨c (b!"next_token"), ?_⟩
  intro s hs
  have hnil : lexerGraph.edges = [] := by decide +kernel
  cases hs with
  | root => simp [depth]
  | call _ he _ => rw [hnil] at he; cases he

theorem gen_front_end_guard_sites :
    Gen.Stack.parserGuardSites = [b!"parse_expression", b!"parse_statement"] ∧
    Gen.Stack.resolverGuardSites =
      [b!"check_block", b!"check_expr", b!"classify_expr", b!"collect_return_types",
       b!"infer_expr_type", b!"literal_expr_type"] := by decide +kernel

theorem parser_guard_free_acyclic : rankOK parserGraph parserRank = true := by decide +kernel

theorem resolver_guard_free_acyclic : rankOK resolverGraph resolverRank = true := by decide +kernel

theorem parser_depth_bound (c : Bytes → Nat) (s : List Bytes)
    (h : Exec parserGraph c Gen.Stack.stackBudget (b!"parse_statement") s) :
    depth c s ≤ Gen.Stack.stackBudget + gap parserGraph c parserRank (b!"parse_statement") :=
  reachable_depth_le _ _ _ _ _ parser_guard_free_acyclic (exec_reachable _ _ _ _ h)

theorem resolver_depth_bound (c : Bytes → Nat) (s : List Bytes)
    (h : Exec resolverGraph c Gen.Stack.stackBudget (b!"check_block") s) :
    depth c s ≤ Gen.Stack.stackBudget + gap resolverGraph c resolverRank (b!"check_block") :=
  reachable_depth_le _ _ _ _ _ resolver_guard_free_acyclic (exec_reachable _ _ _ _ h)

theorem front_end_gap_in_frames :
    gap parserGraph (fun _ => 1) parserRank (b!"parse_statement") = 4 ∧
    gap resolverGraph (fun _ => 1) resolverRank (b!"check_block") = 4 := by decide +kernel

theorem parser_bounded : Bounded parserGraph (b!"parse_statement") :=
  bounded_of_rank _ _ _ parser_guard_free_acyclic

theorem resolver_bounded : Bounded resolverGraph (b!"check_block") :=
  bounded_of_rank _ _ _ resolver_guard_free_acyclic

/-- D-08 (analyses): the counting and the lowering pass of the CFG builder recurse on statement nesting
without a probe. -/
theorem cfg_has_no_probe_of_its_own :
    Gen.Stack.cfgGuardSites = [] ∧ Unbounded cfgGraph (b!"count_block") ∧
    Unbounded cfgGraph (b!"lower_block") :=
  ⟨by decide,
   unbounded_of_free_cycle cfgGraph _ (b!"count_stmt") [b!"count_block"] [] (by decide +kernel) (by decide +kernel),
   unbounded_of_free_cycle cfgGraph _ (b!"lower_stmt") [b!"lower_block"] [] (by decide +kernel) (by decide +kernel)⟩

/-- `resolve` runs the analyses only when its own block walk (`check_block`, at the same nesting) used at
most `STACK_BUDGET / 4` of native stack. -/
theorem gen_analysis_stack_rule : Gen.Stack.analysisStackDivisor = some 4 := by decide +kernel

/-- `n` is the statement nesting, `cWalk` the resolver's cost per nesting level, `cCfg` the analyses' cost
per level.  `hk` is a proviso about compiled frame sizes; the check runs nests right below the rule's
threshold in both profiles. -/
theorem cfg_depth_bound_proviso (n cWalk cCfg k : Nat)
    (hrule : n * cWalk ≤ Gen.Stack.stackBudget / 4) (hk : cCfg ≤ k * cWalk) :
    n * cCfg ≤ k * (Gen.Stack.stackBudget / 4) := by
  calc n * cCfg ≤ n * (k * cWalk) := Nat.mul_le_mul_left _ hk
    _ = k * (n * cWalk) := by rw [Nat.mul_left_comm]
    _ ≤ k * (Gen.Stack.stackBudget / 4) := Nat.mul_le_mul_left _ hrule

/-- D-08 (front end): the parser and resolver graphs with the probes taken out. -/
def parserGraphUnguarded := frontGraph Gen.Stack.parserCalls []
def resolverGraphUnguarded := frontGraph Gen.Stack.resolverCalls []

/-! Six probe-free cycles of the front end, one per theorem, named in its proof. The two parser theorems state
one proposition and the four resolver theorems another (`Unbounded` says only that some cycle pumps): the
content is the list of recursions that D-08 found without a probe.  Parser: `parse_expression` re-entering
itself; `parse_block_body → parse_statement → parse_block_body`.  Resolver, from `check_block` through
`check_stmt`: `check_expr`, `infer_expr_type` and `classify_expr` each re-entering itself;
`check_block → check_stmt → check_block`. -/

/-- Parentheses, `not`, unary `minus`, array literals, call arguments, index expressions all re-enter
`parse_expression`. -/
theorem parser_expression_unbounded_without_probe : Unbounded parserGraphUnguarded (b!"parse_statement") :=
  unbounded_of_free_cycle _ _ (b!"parse_expression") [] [] (by decide +kernel) (by decide +kernel)

theorem parser_statement_unbounded_without_probe : Unbounded parserGraphUnguarded (b!"parse_statement") :=
  unbounded_of_free_cycle _ _ (b!"parse_block_body") [b!"parse_statement"] [] (by decide +kernel) (by decide +kernel)

theorem resolver_expression_unbounded_without_probe : Unbounded resolverGraphUnguarded (b!"check_block") :=
  unbounded_of_free_cycle _ _ (b!"check_expr") [] [b!"check_stmt"] (by decide +kernel) (by decide +kernel)

theorem resolver_infer_unbounded_without_probe : Unbounded resolverGraphUnguarded (b!"check_block") :=
  unbounded_of_free_cycle _ _ (b!"infer_expr_type") [] [b!"check_stmt"] (by decide +kernel) (by decide +kernel)

theorem resolver_classify_unbounded_without_probe : Unbounded resolverGraphUnguarded (b!"check_block") :=
  unbounded_of_free_cycle _ _ (b!"classify_expr") [] [b!"check_stmt"] (by decide +kernel) (by decide +kernel)

theorem resolver_statement_unbounded_without_probe : Unbounded resolverGraphUnguarded (b!"check_block") :=
  unbounded_of_free_cycle _ _ (b!"check_block") [b!"check_stmt"] [b!"check_stmt"] (by decide +kernel) (by decide +kernel)

/-- The evaluator with the self-recursion of value helpers put back as edges (`clone_into`, `promote`, `fmt`,
`join` and the drop glue; that of `nesting` is left out: one unguarded cycle is all the theorems below need):
without the nesting bound the helpers recurse for as long as the data nests (D-08, data nesting). -/
def runtimeGraphRaw : Graph Fn :=
  { edges := runtimeEdges ++
      [(.clone_into, .clone_into), (.promote, .promote), (.fmt, .fmt), (.join, .join),
       (.drop_glue, .drop_glue)],
    guarded := runtimeGuarded }

theorem runtime_raw_not_acyclic (r : Fn → Nat) : rankOK runtimeGraphRaw r = false :=
  not_rankOK_of_free_cycle _ .drop_glue [] (by decide) r

theorem runtime_data_nesting_unbounded_without_bound :
    ∀ (c : Fn → Nat), (∀ f, 0 < c f) → ∀ (budget B : Nat),
      ∃ s, Reachable runtimeGraphRaw c budget .run_inner (.fmt :: s) ∧ B < depth c (.fmt :: s) :=
  fun c hc => free_cycle_pumps runtimeGraphRaw .run_inner .fmt [] [] (by decide +kernel) (by decide +kernel) c (hc _)

/-- `guard_blocks_calls` for the frame `exec_stmt_block` (`Stmt::Block`, which calls `check_stack` itself). -/
theorem block_guard_blocks_descent (c : Fn → Nat) (budget : Nat) (s : List Fn) (h : Fn)
    (hover : budget < depth c s) :
    ¬ Step runtimeGraph c budget (.exec_stmt_block :: s) (h :: .exec_stmt_block :: s) :=
  guarded_blocks_calls rfl hover

/-- What `exec_stmt_descents_probed_on_every_path` excludes: with the frame `exec_stmt_cond` unguarded, the
cycle `exec_block_with_flow → exec_stmt → exec_block_with_flow` is probe-free; only the height of the tower of
nested statements the parser accepts limits the depth then, and that tower may start right below the budget line. -/
theorem cond_arm_probe_is_necessary : Unbounded runtimeGraphCondUnprobed .run_inner :=
  unbounded_of_free_cycle _ _ .exec_block [.exec_stmt_cond] [] (by decide +kernel) (by decide +kernel)

theorem cond_arm_unprobed_not_acyclic (r : Fn → Nat) : rankOK runtimeGraphCondUnprobed r = false :=
  not_rankOK_of_free_cycle _ .exec_block [.exec_stmt_cond] (by decide) r

/-- C08 at full strength in the call-graph reading: every stage keeps its native depth bounded *by probes
of its own*, whatever the program and whatever the frame sizes. -/
def c08_full : Prop :=
  Bounded lexerGraph (b!"next_token") ∧ Bounded parserGraph (b!"parse_statement") ∧
  Bounded resolverGraph (b!"check_block") ∧ Bounded cfgGraph (b!"count_block") ∧
  Bounded runtimeGraphRaw .run_inner

/-- False in that reading (D-08), and only for the two stages that are bounded indirectly: the analyses
(through the resolver's stack rule, `cfg_depth_bound_proviso`) and the value helpers (through the nesting
bound at construction, `gen_array_nesting_bound`). -/
theorem c08_full_is_false : ¬ c08_full := by
  intro h
  exact not_bounded_of_unbounded _ _ cfg_has_no_probe_of_its_own.2.1 h.2.2.2.1

/-- Lexer, parser and resolver are bounded by their own probes. -/
theorem c08_front_end :
    Bounded lexerGraph (b!"next_token") ∧ Bounded parserGraph (b!"parse_statement") ∧
    Bounded resolverGraph (b!"check_block") :=
  ⟨lexer_bounded, parser_bounded, resolver_bounded⟩

/-- The evaluator is bounded by its probes together with the nesting bound `d`: `runtime_depth_bound`, under
the name the property goes by. -/
theorem c08_partial (c : Fn → Nat) (d : Nat) :
    ∀ s, Exec runtimeGraph (costFolded c d) Gen.Stack.stackBudget .run_inner s →
      depth (costFolded c d) s ≤
        Gen.Stack.stackBudget + gap runtimeGraph (costFolded c d) runtimeRank .run_inner :=
  fun s h => runtime_depth_bound c d s h

end NaijaVerif.Depth
