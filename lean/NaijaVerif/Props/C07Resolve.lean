/-
C07 (resolver part) — the spans of the resolver's diagnostics come from the AST.

The resolver builds no span of its own, so the span safety of the AST carries over to its diagnostics
(`Props/C07.lean`).  The real resolver's diagnostic spans are compared with the model's by the `resolve`
correspondence stream; label spans are not part of that stream's canonical form: they are `*span` /
`*var_span` / `*name_span` / `*param_span` / `*index_span` copies in `resolver.rs`, modelled one for one in
`Model/Resolve.lean`.
-/
import NaijaVerif.Lemmas.ResolveSpans

namespace NaijaVerif.C07Resolve
open NaijaVerif NaijaVerif.Resolve

/-- Every span of a diagnostic of the resolver model, labels included, is a span of the program it was given — whichever
way `locals_len` is computed (`spanLen`, `Model/Resolve.lean`: the count of the pinned tree or the span of the D-18 fix). -/
theorem resolveWith_diag_spans_from_ast (spanLen : Bool) (p : Block) :
    ∀ d ∈ (resolveWith spanLen p).diags, ∀ s ∈ Parse.diagSpans d, s ∈ Parse.blockSpans p := by
  intro d hd s hs
  simp only [resolveWith, List.mem_map] at hd
  obtain ⟨r, hr, rfl⟩ := hd
  apply checkBlock_spans (rootEnv spanLen) none p rootFacts s
  simp only [spansOf, List.mem_flatMap]
  exact ⟨r, hr, by simpa [Parse.diagSpans, RDiag.toDiag] using hs⟩

theorem resolve_diag_spans_from_ast (p : Block) :
    ∀ d ∈ (resolve p).diags, ∀ s ∈ Parse.diagSpans d, s ∈ Parse.blockSpans p :=
  resolveWith_diag_spans_from_ast true p

-- a duplicate definition is reported at the second name span, with labels at the first name span and at the second again
example :
    let p : Block := .mk [.fnDef (b!"f") ⟨3, 4⟩ [] (.mk [] ⟨8, 17⟩) none none ⟨0, 17⟩,
                          .fnDef (b!"f") ⟨21, 22⟩ [] (.mk [] ⟨26, 35⟩) none none ⟨18, 35⟩] ⟨0, 35⟩
    (resolve p).diags.map Parse.diagSpans = [[⟨21, 22⟩, ⟨3, 4⟩, ⟨21, 22⟩]] := by
  decide +kernel

end NaijaVerif.C07Resolve
