import NaijaVerif.Lemmas.EvalPath
import NaijaVerif.Lemmas.EvalLogic
import NaijaVerif.Lemmas.EvalToy
/-
C05 — arrays are values: no mutation is ever visible through another name.  In the model values are pure, so
sharing cannot happen by construction; the theorems are about the l-value discipline of `runtime.rs`
(`assign_index`, `get_mutable_array`, `get_mutable_process_command`, the clone in `Expr::Var`, the
`mem::replace` in `Expr::Index`): a write changes one cell of one slot (`assignIndex_frame`, `applyMut_frame`: "frame"
as in a frame rule, what a write leaves alone — not C04's relation `Eval.Frame` between states),
reads do not disturb (`callFree_preserves_state`), copies are independent (`copy_independent`).  The content
of the property for the code (deep copy on read, promotion on store) is carried by the correspondence stream
`run`, not by these theorems.
-/
namespace NaijaVerif.Props.C05
open NaijaVerif NaijaVerif.Eval

variable {N : Type} [NumOps N]

omit [NumOps N] in
/-- `assign_index`: one cell of one slot changes; output, input and ghost fields are untouched. -/
theorem assignIndex_frame (cfg : RunCfg) (st st' : State N) (name : Bytes) (bind : Option Nat)
    (path : List (Nat × Span)) (v : Value N) (span : Span)
    (h : assignIndex cfg st name bind path v span = .ok () st') :
    ∃ pos root c, slotOf cfg st bind name = some pos ∧ getAt st.env pos = some root ∧
      getPath root (path.map (·.1)) = some c ∧
      st'.env = updateAt st.env pos (fun r => setPath r (path.map (·.1)) v) ∧
      st'.out = st.out ∧ st'.chain = st.chain ∧ st'.next = st.next ∧ st'.input = st.input := by
  revert h
  fun_cases assignIndex cfg st name bind path v span <;> intro h
  · exact absurd h (trap_ne_ok _ _ _ _ _ _)
  · exact absurd h (trap_ne_ok _ _ _ _ _ _)
  · exact absurd h (Res.ofFault_ne_ok _ _ _ _ _ _)
  · next pos hpos root hroot hw =>
    cases h
    obtain ⟨c, hc⟩ := walkAssign_getPath span root path hw
    exact ⟨pos, root, c, hpos, hroot, hc, rfl, rfl, rfl, rfl, rfl⟩

omit [NumOps N] in
/-- `push` / `pop` / `reverse` / a command setter through a variable or an index chain. -/
theorem applyMut_frame (cfg : RunCfg) (st st' : State N) (name : Bytes) (bind : Option Nat)
    (path : List (Nat × Span)) (op : MutOp N) (span : Span) (result : Value N)
    (h : applyMut cfg st name bind path op span = .ok result st') :
    ∃ pos root cell cell', slotOf cfg st bind name = some pos ∧ getAt st.env pos = some root ∧
      getPath root (path.map (·.1)) = some cell ∧ op.apply cell span = .ok (cell', result) ∧
      st'.env = updateAt st.env pos (fun r => setPath r (path.map (·.1)) cell') ∧
      st'.out = st.out ∧ st'.chain = st.chain ∧ st'.next = st.next ∧ st'.input = st.input := by
  revert h
  fun_cases applyMut cfg st name bind path op span <;> intro h
  · exact absurd h (trap_ne_ok _ _ _ _ _ _)
  · exact absurd h (trap_ne_ok _ _ _ _ _ _)
  · exact absurd h (Res.ofFault_ne_ok _ _ _ _ _ _)
  · exact absurd h (Res.ofFault_ne_ok _ _ _ _ _ _)
  · next pos hpos root hroot cell hw cell' res ha =>
    cases h
    exact ⟨pos, root, cell, cell', hpos, hroot, walkMut_getPath root path cell hw, ha, rfl, rfl, rfl, rfl, rfl⟩

theorem mutOp_push (xs : List (Value N)) (v : Value N) (sp : Span) :
    (MutOp.push v).apply (.arr xs) sp = .ok (.arr (xs ++ [v]), .null) := rfl

theorem mutOp_pop (xs : List (Value N)) (sp : Span) :
    (MutOp.pop : MutOp N).apply (.arr xs) sp = .ok (.arr xs.dropLast, (xs.getLast?).getD .null) := rfl

theorem mutOp_reverse (xs : List (Value N)) (sp : Span) :
    (MutOp.reverse : MutOp N).apply (.arr xs) sp = .ok (.arr xs.reverse, .null) := rfl

/-- Reading the written cell back yields `w`.  `hroot`, `hc` only say that the path exists (`assignIndex_frame` gives them);
`written`, `other_slot`, `other_path` together are what a write through `pos`, `p` does to every read. -/
theorem written (env : List (Scope N)) (pos : Nat × Nat) (p : List Nat) (w root c : Value N)
    (hroot : getAt env pos = some root) (hc : getPath root p = some c) :
    (getAt (updateAt env pos (fun r => setPath r p w)) pos).bind (getPath · p) = some w := by
  rw [getAt_updateAt_same, hroot]
  simp only [Option.map_some, Option.bind_some, setPath]
  exact getPath_updatePath_same root p _ c hc

theorem other_slot (env : List (Scope N)) (pos pos' : Nat × Nat) (g : Value N → Value N)
    (hne : pos' ≠ pos) : getAt (updateAt env pos g) pos' = getAt env pos' :=
  getAt_updateAt_ne env pos pos' g hne

/-- In the written slot, a path that neither extends nor is extended by the written one reads as before. -/
theorem other_path (env : List (Scope N)) (pos : Nat × Nat) (p q : List Nat) (w : Value N)
    (hd : Diverge p q) :
    (getAt (updateAt env pos (fun r => setPath r p w)) pos).bind (getPath · q) =
      (getAt env pos).bind (getPath · q) := by
  rw [getAt_updateAt_same]
  cases getAt env pos with
  | none => rfl
  | some root =>
    simp only [Option.map_some, Option.bind_some, setPath]
    exact getPath_updatePath_diverge root p q _ hd

omit [NumOps N] in
theorem assignIndex_other_slot (cfg : RunCfg) (st st' : State N) (name : Bytes) (bind : Option Nat)
    (path : List (Nat × Span)) (v : Value N) (span : Span)
    (h : assignIndex cfg st name bind path v span = .ok () st') (pos' : Nat × Nat)
    (hne : some pos' ≠ slotOf cfg st bind name) : getAt st'.env pos' = getAt st.env pos' := by
  obtain ⟨pos, _, _, hpos, _, _, henv, _⟩ := assignIndex_frame cfg st st' name bind path v span h
  rw [henv]
  apply getAt_updateAt_ne
  intro he; apply hne; rw [hpos, he]

omit [NumOps N] in
theorem applyMut_other_slot (cfg : RunCfg) (st st' : State N) (name : Bytes) (bind : Option Nat)
    (path : List (Nat × Span)) (op : MutOp N) (span : Span) (result : Value N)
    (h : applyMut cfg st name bind path op span = .ok result st') (pos' : Nat × Nat)
    (hne : some pos' ≠ slotOf cfg st bind name) : getAt st'.env pos' = getAt st.env pos' := by
  obtain ⟨pos, _, _, _, hpos, _, _, _, henv, _⟩ := applyMut_frame cfg st st' name bind path op span result h
  rw [henv]
  apply getAt_updateAt_ne
  intro he; apply hne; rw [hpos, he]

/-- About two slot positions: `hdiff` says the two references denote different slots, as after `make b get a` (not
proved here; at the level of programs: the example on `copyProg` below). -/
theorem copy_independent (cfg : RunCfg) (st st' : State N) (aName bName : Bytes) (aBind bBind : Option Nat)
    (path : List (Nat × Span)) (v : Value N) (span : Span)
    (hdiff : slotOf cfg st aBind aName ≠ slotOf cfg st bBind bName)
    (h : assignIndex cfg st bName bBind path v span = .ok () st') :
    (slotOf cfg st aBind aName).bind (getAt st'.env) = (slotOf cfg st aBind aName).bind (getAt st.env) := by
  cases ha : slotOf cfg st aBind aName with
  | none => rfl
  | some pa =>
    simp only [Option.bind_some]
    exact assignIndex_other_slot cfg st st' bName bBind path v span h pa (by rw [← ha]; exact hdiff)

theorem copy_independent_mut (cfg : RunCfg) (st st' : State N) (aName bName : Bytes) (aBind bBind : Option Nat)
    (path : List (Nat × Span)) (op : MutOp N) (span : Span) (result : Value N)
    (hdiff : slotOf cfg st aBind aName ≠ slotOf cfg st bBind bName)
    (h : applyMut cfg st bName bBind path op span = .ok result st') :
    (slotOf cfg st aBind aName).bind (getAt st'.env) = (slotOf cfg st aBind aName).bind (getAt st.env) := by
  cases ha : slotOf cfg st aBind aName with
  | none => rfl
  | some pa =>
    simp only [Option.bind_some]
    exact applyMut_other_slot cfg st st' bName bBind path op span result h pa (by rw [← ha]; exact hdiff)

/- No call anywhere in the expression.  A bare member asks it of its object, which is more than the walk needs: the
evaluator traps there without running the object (`Expr.kids` of a member is empty). -/
mutual
  def callFree : Expr → Bool
    | .index a i _ _ => callFree a && callFree i
    | .str _ _ => true
    | .num _ _ => true
    | .var _ _ _ => true
    | .binary _ l r _ => callFree l && callFree r
    | .call _ _ _ _ => false
    | .array es _ => callFreeList es
    | .unary _ e _ => callFree e
    | .bool _ _ => true
    | .member o _ _ _ => callFree o
    | .null _ => true
  def callFreeList : List Expr → Bool
    | [] => true
    | e :: es => callFree e && callFreeList es
end

theorem callFreeList_mem : ∀ {es : List Expr}, callFreeList es = true → ∀ e ∈ es, callFree e = true
  | [], _, _, h => nomatch h
  | e :: es, hcf, e', h => by
    simp only [callFreeList, Bool.and_eq_true] at hcf
    rcases List.mem_cons.1 h with rfl | h
    · exact hcf.1
    · exact callFreeList_mem hcf.2 e' h

theorem callFree_kids {e : Expr} (h : callFree e = true) : ∀ e' ∈ e.kids, callFree e' = true := by
  cases e with
  | binary op l r sp | index l r isp sp =>
    simp only [callFree, Bool.and_eq_true] at h
    exact List.forall_mem_cons.2 ⟨h.1, List.forall_mem_cons.2 ⟨h.2, nofun⟩⟩
  | unary op x sp => exact List.forall_mem_cons.2 ⟨by simpa only [callFree] using h, nofun⟩
  | array es sp => exact callFreeList_mem (es := es) (by simpa only [callFree] using h)
  | call c args fn sp => simp [callFree] at h
  | _ => exact nofun

/-- The instance of the walk (`Lemmas/EvalLogic.lean`) for one run beside itself; no statement meets its side
condition. -/
def keepsLogic (cfg : RunCfg) : Logic N cfg cfg Unit where
  R := fun _ _ => True
  T := fun _ => True
  Inv := fun _ _ => True
  Fr := fun st st' => st' = st
  E := fun _ e => callFree e = true
  S := fun _ _ => False
  Ss := fun _ _ => False
  B := fun _ _ => False
  V := fun _ _ => True

theorem keepsLogic_laws (cfg : RunCfg) : (keepsLogic (N := N) cfg).Laws :=
  have noCall : ∀ {c : Expr} {args : List Expr} {fn : Option Nat} {sp : Span}, callFree (.call c args fn sp) = true → False :=
    fun h => by simp [callFree] at h
  { toSiteLaws := .ofT fun _ => trivial
    ok := fun _ _ => trivial
    err := fun _ _ _ => trivial
    trap := fun _ _ _ => trivial
    fixedT := fun _ => trivial
    bind := fun _ _ => trivial
    kids := callFree_kids
    seg := fun _ _ => ⟨default, by simp only [keepsLogic, callFree]⟩
    exprs := fun h => h.elim
    blocks := fun h => h.elim
    target := fun h => h.elim
    loop := fun h => h.elim
    cons := fun h => h.elim
    plain := fun _ => trivial
    jumpBrk := fun _ => trivial
    jumpNext := fun _ => trivial
    refl := fun _ => rfl
    trans := fun h1 h2 => h2.trans h1
    host := fun _ _ _ => rfl
    std := rfl
    prune := fun _ => rfl
    slot := fun _ _ => rfl
    define := fun _ h => h.elim
    mutE := fun _ h => (noCall h).elim
    mutS := fun _ h => h.elim
    io := fun _ h => (noCall h).elim
    enterBlock := fun _ h => h.elim
    callFn := fun _ h => (noCall h).elim }

theorem keeps_all (cfg : RunCfg) : ∀ f, (keepsLogic (N := N) cfg).All f f :=
  Logic.all (keepsLogic_laws cfg) trivial

theorem callFree_preserves (cfg : RunCfg) : ∀ f : Nat,
    (∀ (e : Expr) (st st' : State N) (v : Value N), callFree e = true →
        evalExpr cfg f e st = .ok v st' → st' = st) ∧
    (∀ (es : List Expr) (st st' : State N) (vs : List (Value N)), callFreeList es = true →
        evalSel cfg f (es.map .ok) st = .ok vs st' → st' = st) :=
  fun f => ⟨fun e st st' v hcf h => (((keeps_all cfg f).expr () e st trivial hcf).2 v st' h).2.1,
    fun _ st st' vs hcf h =>
      (((keeps_all cfg f).sel () _ st trivial (Logic.Sel.map_ok (callFreeList_mem hcf))).2 vs st' h).2.1⟩

/-- In particular the `mem::replace(slot, Null)` of the `Index` arm acts on the clone. -/
theorem callFree_preserves_state (cfg : RunCfg) (f : Nat) (e : Expr) (st st' : State N) (v : Value N)
    (hcf : callFree e = true) (h : evalExpr cfg f e st = .ok v st') : st' = st :=
  (callFree_preserves cfg f).1 e st st' v hcf h

/-- The array an `Index` read takes its element from is a clone, so the state after the read is the state after
evaluating the two operands. -/
theorem index_read (cfg : RunCfg) (f : Nat) (a i : Expr) (isp sp : Span) (st st' : State N) (v : Value N)
    (h : evalExpr cfg (f + 1) (.index a i isp sp) st = .ok v st') :
    ∃ av iv st1, evalExpr cfg f a st = .ok av st1 ∧ evalExpr cfg f i st1 = .ok iv st' ∧
      indexRead av iv isp = .ok v := by
  simp only [evalExpr] at h
  obtain ⟨av, st1, h1, h2⟩ := Res.bind_eq_ok h
  obtain ⟨iv, st2, h3, h4⟩ := Res.bind_eq_ok h2
  obtain ⟨h5, h6⟩ := Res.ofExcept_eq_ok h4
  subst h6
  exact ⟨av, iv, st1, h1, h3, h5⟩

/-- `make a get [1, [2, "s"]] make b get a b[1][0] get 9 b[1].push(7) shout(a) shout(b)` -/
def copyProg : Block := (.mk [(.assign [97] ⟨5, 6⟩ (.array [(.num [49] ⟨12, 13⟩), (.array [(.num [50] ⟨16, 17⟩), (.str (.static [115]) ⟨19, 22⟩)] ⟨15, 23⟩)] ⟨11, 24⟩) (some 0) (some 0) ⟨0, 29⟩), (.assign [98] ⟨30, 31⟩ (.var [97] (some 0) ⟨36, 37⟩) (some 1) (some 1) ⟨25, 39⟩), (.assignIndex (.index (.index (.var [98] (some 1) ⟨38, 39⟩) (.num [49] ⟨40, 41⟩) ⟨39, 42⟩ ⟨38, 42⟩) (.num [48] ⟨43, 44⟩) ⟨42, 45⟩ ⟨38, 45⟩) (.num [57] ⟨50, 51⟩) (some 2) ⟨38, 53⟩), (.expr (.call (.member (.index (.var [98] (some 1) ⟨52, 53⟩) (.num [49] ⟨54, 55⟩) ⟨53, 56⟩ ⟨52, 56⟩) [112, 117, 115, 104] ⟨57, 61⟩ ⟨52, 62⟩) [(.num [55] ⟨62, 63⟩)] none ⟨52, 70⟩) (some 3) ⟨52, 70⟩), (.expr (.call (.var [115, 104, 111, 117, 116] none ⟨65, 70⟩) [(.var [97] (some 0) ⟨71, 72⟩)] none ⟨65, 79⟩) (some 4) ⟨65, 79⟩), (.expr (.call (.var [115, 104, 111, 117, 116] none ⟨74, 79⟩) [(.var [98] (some 1) ⟨80, 81⟩)] none ⟨74, 82⟩) (some 5) ⟨74, 82⟩)] ⟨0, 82⟩)

example : Toy.summary (run Toy.cfg 30 copyProg) =
    ([b!"[1, [2, \"s\"]]", b!"[1, [9, \"s\", 7]]"], 0) := by decide +kernel

/-- `make a get [[1, 2], [3]] do f(p) start p[0][1] get "w" p.push(0) p[1].reverse() return p end
make c get f(a) shout(a) shout(c)` — mutation of a parameter inside the callee. -/
def paramProg : Block := (.mk [(.assign [97] ⟨5, 6⟩ (.array [(.array [(.num [49] ⟨13, 14⟩), (.num [50] ⟨16, 17⟩)] ⟨12, 18⟩), (.array [(.num [51] ⟨21, 22⟩)] ⟨20, 23⟩)] ⟨11, 24⟩) (some 0) (some 0) ⟨0, 27⟩), (.fnDef [102] ⟨25, 32⟩ [{ name := [112], span := ⟨30, 31⟩, bind := (some 1) }] (.mk [(.assignIndex (.index (.index (.var [112] (some 1) ⟨39, 40⟩) (.num [48] ⟨41, 42⟩) ⟨40, 43⟩ ⟨39, 43⟩) (.num [49] ⟨44, 45⟩) ⟨43, 46⟩ ⟨39, 46⟩) (.str (.static [119]) ⟨51, 54⟩) (some 2) ⟨39, 56⟩), (.expr (.call (.member (.var [112] (some 1) ⟨55, 56⟩) [112, 117, 115, 104] ⟨57, 61⟩ ⟨55, 62⟩) [(.num [48] ⟨62, 63⟩)] none ⟨55, 66⟩) (some 3) ⟨55, 66⟩), (.expr (.call (.member (.index (.var [112] (some 1) ⟨65, 66⟩) (.num [49] ⟨67, 68⟩) ⟨66, 69⟩ ⟨65, 69⟩) [114, 101, 118, 101, 114, 115, 101] ⟨70, 77⟩ ⟨65, 78⟩) [] none ⟨65, 86⟩) (some 4) ⟨65, 86⟩), (.ret (some (.var [112] (some 1) ⟨87, 88⟩)) (some 5) ⟨80, 92⟩)] ⟨39, 92⟩) (some 1) (some 1) ⟨25, 97⟩), (.assign [99] ⟨98, 99⟩ (.call (.var [102] none ⟨104, 105⟩) [(.var [97] (some 0) ⟨106, 107⟩)] (some 1) ⟨104, 114⟩) (some 2) (some 6) ⟨93, 114⟩), (.expr (.call (.var [115, 104, 111, 117, 116] none ⟨109, 114⟩) [(.var [97] (some 0) ⟨115, 116⟩)] none ⟨109, 123⟩) (some 7) ⟨109, 123⟩), (.expr (.call (.var [115, 104, 111, 117, 116] none ⟨118, 123⟩) [(.var [99] (some 2) ⟨124, 125⟩)] none ⟨118, 126⟩) (some 8) ⟨118, 126⟩)] ⟨0, 126⟩)

example : Toy.summary (run Toy.cfg 30 paramProg) =
    ([b!"[[1, 2], [3]]", b!"[[1, \"w\"], [3], 0]"], 0) := by decide +kernel

end NaijaVerif.Props.C05
