/-
C14 — the shipped pipeline (CLI / playground: parser, checker and runtime stacked on the two
process-global scratch arenas) keeps the regions of its three kinds of data apart
(`safe_path_keeps_regions`), cannot trip the debug borrow-order assertions
(`debug_assertions_cannot_fire`) and leaves both arenas as it found them (`safe_path_restores`,
`runs_leave_nothing`); `shipped_runs_are_safe` for the two wirings.  Exit status: `exit_code_zero_iff`.
Wirings, exit ladder, globals and call sites are extracted from the Rust source (`extract/gen_cli.py`).
Left out: "prints the same as the library pipeline" (the model does not read addresses) rests on
`checks/c14.py`; other process-global state is excluded by a source scan (`globals_accounted`).
-/
import NaijaVerif.Lemmas.Scratch
import NaijaVerif.Gen.Protocol

namespace NaijaVerif.Scratch

/-- `scratch_arena(Some(&a))` never hands out the arena backing `a`. -/
theorem scratchIndex_avoids_conflict (i : Ix) : scratchIndex (some (.scratch i)) ≠ i := by
  cases i <;> decide

theorem scratchIndex_default : scratchIndex none = .s0 ∧ scratchIndex (some .owned) = .s0 := by
  decide +kernel

theorem borrow_avoids_conflict (st st' : St) (v w : Nat) (bw : Borrow)
    (hw : st.env.lookup w = some bw) (h : st.doBorrow v (some w) = .ok st') :
    ∃ bv, st'.env.lookup v = some bv ∧ bv.ix ≠ bw.ix := by
  unfold St.doBorrow at h
  cases hv : st.env.lookup v with
  | some _ => simp [hv] at h
  | none =>
    simp only [hv, hw, Except.ok.injEq] at h
    subst h
    exact ⟨{ ix := scratchIndex (some (.scratch bw.ix)),
             saved := (st.sc.get (scratchIndex (some (.scratch bw.ix)))).offset,
             no := (st.sc.get (scratchIndex (some (.scratch bw.ix)))).borrows + 1 },
           by simp, scratchIndex_avoids_conflict bw.ix⟩

theorem pathSafe_spec {p : List ProtoOp} (h : pathSafe p = true) : absRun [] p = some [] := by
  unfold pathSafe at h
  split at h
  · next heq => exact heq
  · cases h

/-- The region of a guard: from its base to the arena's offset or the base of the next newer guard
of the same arena.  Word for word the clause `Inv.blocks` of the invariant (`Lemmas/Scratch.lean`). -/
def BlockInRegion (st : St) (blk : Block) : Prop :=
  ∃ b, (blk.owner, b) ∈ st.env ∧ b.ix = blk.ix ∧ b.saved ≤ blk.beg ∧ blk.beg ≤ blk.fin ∧
    blk.fin ≤ (st.sc.get blk.ix).offset ∧
    ∀ e ∈ st.env, e.2.ix = blk.ix → b.no < e.2.no → blk.fin ≤ e.2.saved

/-- C14 (i).  Along every path the shape check accepts — unfinished ones too, i.e. at every moment of
a run — and for every content of its phases: no reset or release gives back a block allocated
through another guard (`lost` stays empty), live blocks are disjoint, each in its guard's region. -/
theorem safe_path_keeps_regions (sc : Scratch) (fs : List FOp) (hok : ∀ f ∈ fs, f.ok = true)
    (sh : Shape) (ha : absRun [] (fs.map FOp.erase) = some sh) :
    Outcome (fun st => st.lost = [] ∧
        st.blocks.Pairwise (fun x y => x.ix = y.ix → y.fin ≤ x.beg) ∧
        ∀ blk ∈ st.blocks, BlockInRegion st blk)
      (run true (St.start sc) (flatOps fs)) := by
  have := path_good fs _ (St.start sc) (inv_start sc) hok sh ha
  exact Outcome.mono (fun st hp => ⟨hp.1.lost, hp.1.disj, hp.1.blocks⟩) _ this

/-- C14 (ii).  `stale` / `dropOrder` are the debug assertions in `delegate_target` and
`Drop for debug::Arena`; `unbound` / `rebound` are not assertions of the code but the model's own
faults (a variable that holds no guard, or one already), excluded as well. -/
theorem debug_assertions_cannot_fire (sc : Scratch) (fs : List FOp) (hok : ∀ f ∈ fs, f.ok = true)
    (sh : Shape) (ha : absRun [] (fs.map FOp.erase) = some sh) :
    run true (St.start sc) (flatOps fs) ≠ .error .stale ∧
    run true (St.start sc) (flatOps fs) ≠ .error .dropOrder ∧
    run true (St.start sc) (flatOps fs) ≠ .error .unbound ∧
    run true (St.start sc) (flatOps fs) ≠ .error .rebound := by
  have := safe_path_keeps_regions sc fs hok sh ha
  cases hr : run true (St.start sc) (flatOps fs) with
  | ok st => simp
  | error e =>
    rw [hr] at this
    have he : e = .badMark := this
    subst he
    simp

/-- C14 (iii).  After a complete safe path no guard, block or readable offset is left; counters and
offsets are those at the start — offsets 0 if the path begins with `arena::init`. -/
theorem safe_path_restores (sc : Scratch) (fs : List FOp) (hok : ∀ f ∈ fs, f.ok = true)
    (hs : pathSafe (fs.map FOp.erase) = true) :
    Outcome (fun st => st = St.start st.sc ∧
        (∀ i, (st.sc.get i).borrows = (sc.get i).borrows) ∧
        ((∀ f ∈ fs, f.erase ≠ .init) → ∀ i, (st.sc.get i).offset = (sc.get i).offset) ∧
        (fs.head?.map FOp.erase = some .init → ∀ i, (st.sc.get i).offset = 0))
      (run true (St.start sc) (flatOps fs)) := by
  have := path_good fs _ (St.start sc) (inv_start sc) hok [] (pathSafe_spec hs)
  refine Outcome.mono ?_ _ this
  intro st ⟨hinv, hsh⟩
  have he : st.env = [] := shape_nil (by rw [hsh]; rfl)
  obtain ⟨h1, h2⟩ := hinv.at_rest he
  refine ⟨h1, fun i => ?_, fun hno i => ?_, fun hh i => ?_⟩
  · rw [(h2 i).2, origin_fold]
  · rw [(h2 i).1, origin_fold, if_neg fun ⟨f, hf, he⟩ => hno f hf he]
  · rw [(h2 i).1, origin_fold, if_pos]
    cases fs with
    | nil => simp at hh
    | cons f fs' => exact ⟨f, List.mem_cons_self, by simpa using hh⟩

theorem init_resets_both (sc : Scratch) : ∀ i, (sc.init.get i).offset = 0 := init_offset sc

theorem init_at_rest (sc : Scratch) : (St.start sc).doInit = St.start sc.init := rfl

def SafeRun (r : List FOp) : Prop := (∀ f ∈ r, f.ok = true) ∧ pathSafe (r.map FOp.erase) = true

/-- C14 (iii) for sequences of runs in one process (the playground).  With `init_resets_both` and
`init_at_rest`: every run whose wiring begins with `arena::init` starts from the same arena state. -/
theorem runs_leave_nothing : ∀ (runs : List (List FOp)) (sc : Scratch), (∀ r ∈ runs, SafeRun r) →
    Outcome (fun st => st = St.start st.sc ∧ ∀ i, (st.sc.get i).borrows = (sc.get i).borrows)
      (run true (St.start sc) (flatOps runs.flatten))
  | [], sc, _ => ⟨rfl, fun _ => rfl⟩
  | r :: rs, sc, h => by
    have hr := h r (by simp)
    simp only [List.flatten_cons, flatOps, List.flatMap_append]
    refine (safe_path_restores sc r hr.1 hr.2).append fun st1 ⟨hst, hb, _, _⟩ => ?_
    rw [hst]
    exact Outcome.mono (fun st ⟨ha, hbb⟩ => ⟨ha, fun i => (hbb i).trans (hb i)⟩) _
      (runs_leave_nothing rs st1.sc fun r' hr' => h r' (by simp [hr']))

/-- What any run finds after the safe runs `pre`: a state at rest in which `arena::init` gives offsets 0
and the counters of the start.  (`r` and `post` only name the run that starts there and what follows;
the proof uses `h` on `pre` alone.) -/
theorem every_run_starts_same (pre : List (List FOp)) (r : List FOp) (post : List (List FOp))
    (sc : Scratch) (h : ∀ x ∈ pre ++ r :: post, SafeRun x) :
    Outcome (fun st => ∃ sc', st = St.start sc' ∧ (St.start sc').doInit = St.start sc'.init ∧
        ∀ i, (sc'.init.get i).offset = 0 ∧ (sc'.init.get i).borrows = (sc.get i).borrows)
      (run true (St.start sc) (flatOps pre.flatten)) := by
  have := runs_leave_nothing pre sc (fun x hx => h x (by simp [hx]))
  refine Outcome.mono ?_ _ this
  intro st ⟨h1, h2⟩
  exact ⟨st.sc, h1, rfl, fun i => ⟨init_offset _ i, by rw [init_borrows, h2 i]⟩⟩

theorem protocolSafe_paths (src : List SrcOp) (h : protocolSafe src = true) :
    ∀ p ∈ paths src, pathSafe p = true := by
  unfold protocolSafe at h
  exact fun p hp => List.all_eq_true.mp h p hp

/-- `main.rs::main` + `cmd.rs::run_source`. -/
theorem cli_protocol_safe : protocolSafe Gen.Protocol.cliProtocol = true := by decide +kernel

/-- `wasm/src/lib.rs::run_source`. -/
theorem wasm_protocol_safe : protocolSafe Gen.Protocol.wasmProtocol = true := by decide +kernel

theorem protocols_start_with_init :
    (paths Gen.Protocol.cliProtocol ++ paths Gen.Protocol.wasmProtocol).all
      (fun p => p.head? == some .init) = true := by decide +kernel

/-- C14 for the shipped wirings, whichever `return` a run takes and whatever its phases do. -/
theorem shipped_runs_are_safe (fs : List FOp) (hok : ∀ f ∈ fs, f.ok = true)
    (hp : fs.map FOp.erase ∈ paths Gen.Protocol.cliProtocol ++ paths Gen.Protocol.wasmProtocol)
    (sc : Scratch) :
    Outcome (fun st => st.lost = [] ∧ st = St.start st.sc ∧
        (∀ i, (st.sc.get i).borrows = (sc.get i).borrows) ∧ ∀ i, (st.sc.get i).offset = 0)
      (run true (St.start sc) (flatOps fs)) := by
  have hsafe : pathSafe (fs.map FOp.erase) = true := by
    rcases List.mem_append.mp hp with h | h
    · exact protocolSafe_paths _ cli_protocol_safe _ h
    · exact protocolSafe_paths _ wasm_protocol_safe _ h
  have hinit : (fs.map FOp.erase).head? = some .init := by
    have := List.all_eq_true.mp protocols_start_with_init _ hp
    simpa using this
  rw [List.head?_map] at hinit
  exact Outcome.mono (fun st ⟨⟨a, b, _, d⟩, h2⟩ => ⟨h2.1, a, b, d hinit⟩) _
    ((safe_path_restores sc fs hok hsafe).and (safe_path_keeps_regions sc fs hok [] (pathSafe_spec hsafe)))

/-- `let frame = scratch_arena(None);` instead of `Some(arena)`. -/
def wrongFrameProtocol : List SrcOp :=
  Gen.Protocol.cliProtocol.map (fun op => if op = .letScratch 2 (some 0) then .letScratch 2 none else op)

/-- The resolver's arena is allocated from after the frame guard exists. -/
def resolverAfterFrameProtocol : List SrcOp :=
  Gen.Protocol.cliProtocol.flatMap
    (fun op => if op = .letScratch 2 (some 0) then [op, .work [1]] else [op])

theorem wrong_frame_is_unsafe : protocolSafe wrongFrameProtocol = false := by decide +kernel

theorem resolver_after_frame_is_unsafe : protocolSafe resolverAfterFrameProtocol = false := by decide +kernel

/-- `arena::init` while a guard is alive. -/
theorem init_under_guard_is_unsafe : protocolSafe [.letScratch 0 none, .work [0], .init] = false := by decide +kernel

/-- A guard that conflicts with nothing although another guard of the first arena is in use. -/
theorem missing_conflict_is_unsafe :
    protocolSafe [.init, .letScratch 0 none, .letScratch 1 none, .work [0, 1]] = false := by decide +kernel

example : wrongFrameProtocol ≠ Gen.Protocol.cliProtocol := by decide +kernel
example : resolverAfterFrameProtocol ≠ Gen.Protocol.cliProtocol := by decide +kernel

/-- The wiring the comment in `cmd.rs` describes (resolver guard dropped *before* the frame guard is
taken) would be accepted as well. -/
example : protocolSafe
    [.init, .letScratch 0 none, .work [0], .open, .letScratch 1 (some 0), .work [0, 1], .exit, .close,
     .letScratch 2 (some 0), .work [0, 2], .exit] = true := by decide +kernel

/-- Non-vacuity for `safe_path_keeps_regions` / `safe_path_restores`: the borrow/release skeleton of
the CLI wiring with ONE phase per guard set.  It passes `pathSafe` (second disjunct of the example
below) but is NOT one of `paths Gen.Protocol.cliProtocol` (the first disjunct is false: the extracted
success path has 28 operations, several phases per guard set and the drops of the captured objects
between the releases), so it is no instance of `shipped_runs_are_safe`.  The runtime phase reads the
frame offset, resets the frame twice, stages a return value on the persistent arena and reclaims it. -/
def demoRun : List FOp :=
  [.init, .borrow 0 none, .work [0] [.alloc 0 100 8, .alloc 0 24 16],
   .borrow 1 (some 0), .work [0, 1] [.alloc 1 4000 8, .alloc 0 64 8, .alloc 1 10 1],
   .borrow 2 (some 0),
   .work [0, 2] [.alloc 0 70000 8, .mark 2, .alloc 2 48 8, .alloc 0 16 8, .reset 2 0, .alloc 2 48 8,
                 .reset 2 0, .mark 0, .alloc 0 5 1, .reset 0 1],
   .release 2, .release 1, .release 0]

example : (demoRun.map FOp.erase) ∈ paths Gen.Protocol.cliProtocol ∨ pathSafe (demoRun.map FOp.erase) = true := by
  right; decide +kernel

example : demoRun.all FOp.ok = true := by decide +kernel

example : (match run true (St.start Scratch.empty) (flatOps demoRun) with
    | .ok st => st.lost.isEmpty && st.env.isEmpty && st.blocks.isEmpty
                && st.sc.s0.offset == 0 && st.sc.s1.offset == 0
                && st.sc.s0.borrows == 0 && st.sc.s1.borrows == 0
    | .error _ => false) = true := by decide +kernel

example : (match run true (St.start Scratch.empty) (flatOps (demoRun.take 7)) with
    | .ok st => st.blocks.length == 7 && st.lost.isEmpty
                && st.sc.s0.offset == 70216 && st.sc.s1.offset == 4010
                && st.sc.s1.borrows == 2
    | .error _ => false) = true := by decide +kernel

example : (match run true (St.start Scratch.empty) (flatOps (demoRun ++ demoRun)) with
    | .ok st => st.lost.isEmpty && st.env.isEmpty && st.sc.s0.offset == 0 && st.sc.s1.offset == 0
    | .error _ => false) = true := by decide +kernel

/-- `wrongFrameProtocol` at run time.  Debug build: the first persistent allocation of the runtime
trips the assertion.  Release build (no assertion): the frame reset gives back a persistent block. -/
def wrongFrameRun : List Op :=
  [.init, .borrow 0 none, .alloc 0 100 8, .borrow 1 (some 0), .alloc 1 40 8, .borrow 2 none,
   .mark 2, .alloc 0 16 8, .alloc 2 48 8, .reset 2 0]

example : (match run true (St.start Scratch.empty) wrongFrameRun with
    | .error .stale => true
    | _ => false) = true := by decide +kernel

example : (match run false (St.start Scratch.empty) wrongFrameRun with
    | .ok st => st.lost.map (fun x => (x.1, x.2.owner, x.2.beg, x.2.fin)) == [(2, 0, 104, 120)]
    | .error _ => false) = true := by decide +kernel

/-- Dropping guards of one arena out of order is what the `Drop` assertion catches. -/
example : (match run true (St.start Scratch.empty) [.init, .borrow 0 none, .borrow 1 none, .release 0] with
    | .error .dropOrder => true
    | _ => false) = true := by decide +kernel

/-- The ladder in `cmd.rs::run_source` is the documented one. -/
theorem gen_exit_rules :
    Gen.Protocol.cliExitRules = docExitRules ∧ Gen.Protocol.cliExitDefault = 0 := by decide +kernel

def exitCode (x : RunResult) : Nat := exitCodeBy Gen.Protocol.cliExitRules Gen.Protocol.cliExitDefault x

theorem exitCode_eq (x : RunResult) :
    exitCode x = if (x.parseDiags != 0 || x.resolveErrors != 0 || x.runErrors != 0) = true then 1 else 0 := by
  unfold exitCode
  rw [gen_exit_rules.1, gen_exit_rules.2]
  simp only [exitCodeBy, docExitRules, List.find?_cons, ExitRule.fires, List.find?_nil]
  cases (x.parseDiags != 0) <;> cases (x.resolveErrors != 0) <;> cases (x.runErrors != 0) <;> rfl

/-- Warnings of the checker and of the runtime do not matter; any parser diagnostic does. -/
theorem exit_code_zero_iff (x : RunResult) :
    exitCode x = 0 ↔ x.parseDiags = 0 ∧ x.resolveErrors = 0 ∧ x.runErrors = 0 := by
  rw [exitCode_eq]
  split
  · rename_i h
    simp only [Bool.or_eq_true, bne_iff_ne, ne_eq] at h
    exact ⟨fun h1 => absurd h1 (by decide), fun ⟨a, b, c⟩ => (h.elim (·.elim (· a) (· b)) (· c)).elim⟩
  · rename_i h
    simp only [Bool.or_eq_true, bne_iff_ne, ne_eq, not_or, Decidable.not_not] at h
    exact ⟨fun _ => ⟨h.1.1, h.1.2, h.2⟩, fun _ => rfl⟩

/-- `ExitCode::FAILURE`. -/
theorem exit_code_nonzero (x : RunResult) (h : exitCode x ≠ 0) : exitCode x = 1 := by
  rw [exitCode_eq] at h ⊢
  split
  · rfl
  · rename_i hn; rw [if_neg hn] at h; exact absurd rfl h

example : exitCode ⟨0, 0, 2, 0, 0, 0⟩ = 0 := by decide +kernel   -- warnings only
example : exitCode ⟨0, 0, 1, 1, 0, 0⟩ = 1 := by decide +kernel   -- a checker error
example : exitCode ⟨0, 0, 0, 0, 1, 1⟩ = 1 := by decide +kernel   -- a runtime error
example : exitCode ⟨1, 0, 0, 0, 0, 0⟩ = 1 := by decide +kernel   -- any parser diagnostic

/-- Every process-global item found in the source is one the model accounts for. -/
theorem globals_accounted : Gen.Protocol.processGlobals = accountedGlobals := by decide +kernel

/-- The scratch arenas are borrowed and initialised only in the three entry-point functions. -/
theorem call_sites_accounted : Gen.Protocol.scratchCallSites = accountedCallSites := by decide +kernel

end NaijaVerif.Scratch
