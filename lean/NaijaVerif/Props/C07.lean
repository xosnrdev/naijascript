/-
C07 — the front end is total: any text yields diagnostics or a program, not a crash.

For every valid UTF-8 text, lexing followed by parsing terminates (both models are total functions whose
internal fuel is proved adequate) and every span that reaches a later stage is `SafeSpan`: ordered, inside
the text, on character boundaries — which is exactly what the renderer (`Props/C07Render.lean`) needs.
Behind the parser no new span arises: the resolver copies every span, the statement table of the analyses
holds statement / name spans, the evaluator reports a runtime error at a span of the syntax it evaluates
or of a hoisted function body — so everything one pipeline run hands to the renderer renders.
-/
import NaijaVerif.Props.C07Lex
import NaijaVerif.Props.C07Parse
import NaijaVerif.Props.C07Render
import NaijaVerif.Props.C07Resolve
import NaijaVerif.Lemmas.PipelineEq
import NaijaVerif.Lemmas.SpanSafeResolve
import NaijaVerif.Lemmas.SpanSafeAnalysis
import NaijaVerif.Lemmas.SpanSafeEval
import NaijaVerif.Lemmas.EvalToy

namespace NaijaVerif.C07
open NaijaVerif NaijaVerif.Lex NaijaVerif.Parse NaijaVerif.Utf8 NaijaVerif.Props.C07Lex NaijaVerif.C07Parse

/-- Lexer and parser: the parse, and the diagnostics merged lexical first, then syntax, as `Parser::parse_program` merges
them.  The first two stages of `Pipeline.frontEnd` (`pipeline_frontEnd_shape`). -/
def frontEnd (src : Bytes) : Block × List Diag :=
  let l := lex src
  let p := parseProgram l.1
  (p.1, l.2 ++ p.2)

theorem boundary_is_char_boundary (src : Bytes) (h : ValidUtf8 src) (x : Nat)
    (hb : Boundary (lex src).1 x) : x ≤ src.length ∧ Bytes.isBoundary src x = true := by
  rcases hb with rfl | ⟨t, ht, rfl | rfl⟩
  · exact ⟨Nat.zero_le _, rfl⟩
  · have hs := c07_lex_token_spans src h t ht
    exact ⟨Nat.le_trans hs.1 hs.2.1, hs.2.2.1⟩
  · have := c07_lex_token_spans src h t ht
    exact ⟨this.2.1, this.2.2.2⟩

theorem spanSane_safe (src : Bytes) (h : ValidUtf8 src) (s : Span)
    (hs : SpanSane (lex src).1 src.length s) : SafeSpan src s :=
  ⟨hs.1, hs.2.1, (boundary_is_char_boundary src h _ hs.2.2.1).2,
    (boundary_is_char_boundary src h _ hs.2.2.2).2⟩

/-- C07 (lexer + parser): every span of the parsed program, and every span and label span of a lexical or syntax
diagnostic, is ordered, inside the text and on character boundaries. -/
theorem front_end_spans_safe (src : Bytes) (h : ValidUtf8 src) :
    (∀ s ∈ blockSpans (frontEnd src).1, SafeSpan src s) ∧
      (∀ d ∈ (frontEnd src).2, ∀ s ∈ diagSpans d, SafeSpan src s) := by
  have htok := c07_lex_token_spans src h
  have hord : TokensOrdered (lex src).1 :=
    tokensOrdered_of_pairwise _ (fun t ht => (htok t ht).1) (c07_lex_tokens_ordered src h)
  have hn : ∀ t ∈ (lex src).1, t.span.hi ≤ src.length := fun t ht => (htok t ht).2.1
  obtain ⟨hast, hdiag⟩ := parse_spans_sane (lex src).1 src.length hord hn
  refine ⟨fun s hs => spanSane_safe src h s (hast s hs), ?_⟩
  intro d hd s hs
  simp only [frontEnd, List.mem_append] at hd
  rcases hd with hd | hd
  · have := c07_lex_diag_spans src h d hd
    simp only [diagSpans, List.mem_cons] at hs
    rcases hs with rfl | hs
    · exact this.1
    · exact this.2 s hs
  · exact spanSane_safe src h s (hdiag d hd s hs)

open NaijaVerif.Props.C07Render (ofDiag c07_render_total)

/-- A way of handing a model diagnostic to the renderer that invents no span (whatever the code, message
and label texts are). -/
def NoNewSpan (toR : Diag → Render.RDiag) : Prop :=
  ∀ d, (toR d).span = d.span ∧ ∀ l ∈ (toR d).labels, l.span ∈ diagSpans d

theorem ofDiag_noNewSpan (code msg : Diag → Bytes) (labelMsg : Diag → Nat → Bytes) :
    NoNewSpan (ofDiag code msg labelMsg) := by
  intro d
  refine ⟨rfl, ?_⟩
  intro l hl
  simp only [ofDiag, List.mem_map] at hl
  obtain ⟨p, hp, rfl⟩ := hl
  simp only [diagSpans, List.mem_cons]
  exact Or.inr (List.fst_mem_of_mem_zipIdx hp)

theorem render_of_safe (src file : Bytes) (h : ValidUtf8 src) (toR : Diag → Render.RDiag) (hR : NoNewSpan toR)
    (ds : List Diag) (hs : ∀ d ∈ ds, ∀ s ∈ diagSpans d, SafeSpan src s) :
    Render.renderAnsi src file (ds.map toR) ≠ none := by
  apply c07_render_total src file _ h
  intro rd hrd
  obtain ⟨d, hd, rfl⟩ := List.mem_map.mp hrd
  refine ⟨?_, fun lb hlb => hs d hd lb.span ((hR d).2 lb hlb)⟩
  rw [(hR d).1]
  exact hs d hd d.span (by simp [diagSpans])

/-- C07 (lexer + parser + renderer): on the diagnostics of the front end `render_ansi` never slices out
of range or off a character boundary, nor underflows a column. -/
theorem front_end_diagnostics_render (src file : Bytes) (h : ValidUtf8 src) (code msg : Diag → Bytes)
    (labelMsg : Diag → Nat → Bytes) :
    Render.renderAnsi src file ((frontEnd src).2.map (NaijaVerif.Props.C07Render.ofDiag code msg labelMsg)) ≠ none :=
  render_of_safe src file h _ (ofDiag_noNewSpan code msg labelMsg) _ (front_end_spans_safe src h).2

/-- C07 (static checker): every diagnostic and label span the checker reports is a span of the AST. -/
theorem checker_diagnostic_spans_safe (src : Bytes) (h : ValidUtf8 src) :
    ∀ d ∈ (Resolve.resolve (frontEnd src).1).diags, ∀ s ∈ diagSpans d, SafeSpan src s := by
  intro d hd s hs
  exact (front_end_spans_safe src h).1 s
    (NaijaVerif.C07Resolve.resolve_diag_spans_from_ast (frontEnd src).1 d hd s hs)

theorem checker_diagnostics_render (src file : Bytes) (h : ValidUtf8 src) (code msg : Diag → Bytes)
    (labelMsg : Diag → Nat → Bytes) :
    Render.renderAnsi src file ((Resolve.resolve (frontEnd src).1).diags.map
      (NaijaVerif.Props.C07Render.ofDiag code msg labelMsg)) ≠ none :=
  render_of_safe src file h _ (ofDiag_noNewSpan code msg labelMsg) _ (checker_diagnostic_spans_safe src h)

/-- `cmd.rs` stops on any parser diagnostic. -/
def accepted (src : Bytes) : Bool := (frontEnd src).2.isEmpty

theorem accepted_iff_no_diagnostics (src : Bytes) :
    accepted src = true ↔ (lex src).2 = [] ∧ (parseProgram (lex src).1).2 = [] := by
  simp [accepted, frontEnd, List.isEmpty_iff]

-- a D-07 witness: valid UTF-8, with diagnostics
example : ValidUtf8 (b!"make x get 1.é") := by decide +kernel
example : (frontEnd (b!"make x get 1.é")).2 ≠ [] := by decide +kernel

section pipeline
open NaijaVerif.SpanSafe

theorem zero_span_safe (src : Bytes) : SafeSpan src ⟨0, 0⟩ :=
  ⟨Nat.le_refl _, Nat.zero_le _, rfl, rfl⟩

/-- The three outcomes of `Pipeline.frontEnd` in the terms of this file's `frontEnd`, and for an accepted text where each
warning comes from. `PipelinePrune.frontEnd_shape` is about an accepted text only and says which plan it is run with. -/
theorem pipeline_frontEnd_shape (caps : Limits.Caps) (src : Bytes) :
    Pipeline.frontEnd caps src = .error (true, (frontEnd src).2) ∨
    Pipeline.frontEnd caps src = .error (false, (Resolve.resolve (frontEnd src).1).diags) ∨
    ∃ a, Pipeline.frontEnd caps src = .ok a ∧ a.root = (Resolve.resolve (frontEnd src).1).root ∧
      ∀ d ∈ a.warnings, d ∈ (Resolve.resolve (frontEnd src).1).diags ∨
        (∃ w ∈ (Analysis.analyse (Resolve.resolve (frontEnd src).1).root
            (Resolve.resolve (frontEnd src).1).facts).warns, d = Pipeline.warnDiag w) ∨
        d = Limits.limitWarning (frontEnd src).1.span := by
  rw [show frontEnd src = ((parseProgram (lex src).1).1, (lex src).2 ++ (parseProgram (lex src).1).2) from rfl]
  refine (Pipeline.frontEnd_cases src rfl rfl).imp (· caps) (Or.imp (· caps) fun h => ⟨_, h caps, rfl, fun d hd => ?_⟩)
  rcases Pipeline.handOver_cases caps (parseProgram (lex src).1).1 with ⟨_, _, hw⟩ | ⟨_, _, hw⟩
  all_goals rw [hw, List.mem_append] at hd
  · exact hd.imp_right fun hd => Or.inl (by simpa only [List.mem_map, eq_comm] using hd)
  · exact hd.imp_right fun hd => Or.inr (List.mem_singleton.1 hd)

theorem resolved_spans_safe (src : Bytes) (h : ValidUtf8 src) :
    ∀ s ∈ blockSpans (Resolve.resolve (frontEnd src).1).root, SafeSpan src s := by
  intro s hs
  rw [resolve_blockSpans] at hs
  exact (front_end_spans_safe src h).1 s hs

/-- C07 (analysis warnings): every span of every warning an accepted text is run with is safe.  The checker's own
warnings sit at spans of the parsed program, those of the analysis passes at spans of the annotated program or at `0..0`
(in the model: a statement span, the `var_span` of an assignment or the `name_span` of a definition, which no theorem
states), the resource-limit warning at the span of the root block. -/
theorem analysis_warning_spans_safe (caps : Limits.Caps) (src : Bytes) (h : ValidUtf8 src)
    (a : Pipeline.Accepted) (ha : Pipeline.frontEnd caps src = .ok a) :
    ∀ d ∈ a.warnings, ∀ s ∈ diagSpans d, SafeSpan src s := by
  rcases pipeline_frontEnd_shape caps src with he | he | ⟨a', ha', _, hw⟩
  · rw [he] at ha; cases ha
  · rw [he] at ha; cases ha
  · rw [ha'] at ha
    cases ha
    intro d hd s hs
    rcases hw d hd with hr | ⟨w, hwm, rfl⟩ | rfl
    · exact checker_diagnostic_spans_safe src h d hr s hs
    · simp only [diagSpans, Pipeline.warnDiag, List.mem_cons, List.not_mem_nil, or_false] at hs
      subst hs
      rcases analyse_warn_spans _ _ w hwm with hin | hz
      · exact resolved_spans_safe src h _ hin
      · rw [hz]; exact zero_span_safe src
    · have hroot : (frontEnd src).1.span ∈ blockSpans (frontEnd src).1 := by
        cases (frontEnd src).1 with
        | mk ss sp => simp [blockSpans, Block.span]
      simp only [diagSpans, Limits.limitWarning, List.mem_cons, List.not_mem_nil, or_false, or_self] at hs
      subst hs
      exact (front_end_spans_safe src h).1 _ hroot

variable {N : Type} [NumOps N]

/-- C07 (every span of a pipeline run): the evaluator builds no span of its own, a runtime error is
reported at a span of the annotated program. -/
theorem pipeline_spans_safe (caps : Limits.Caps) (cfg : Eval.RunCfg) (fuel : Nat) (src : Bytes)
    (h : ValidUtf8 src) :
    match (Pipeline.runSource caps cfg fuel src : Pipeline.Result N) with
    | .syntax ds => ∀ d ∈ ds, ∀ s ∈ diagSpans d, SafeSpan src s
    | .semantic ds => ∀ d ∈ ds, ∀ s ∈ diagSpans d, SafeSpan src s
    | .ran ws o => (∀ d ∈ ws, ∀ s ∈ diagSpans d, SafeSpan src s) ∧
        ∀ k sp out, o = .rt k sp out → SafeSpan src sp := by
  unfold Pipeline.runSource
  rcases pipeline_frontEnd_shape caps src with he | he | ⟨a, ha, hroot, _⟩
  · rw [he]; exact (front_end_spans_safe src h).2
  · rw [he]; exact checker_diagnostic_spans_safe src h
  · rw [ha]
    refine ⟨analysis_warning_spans_safe caps src h a ha, fun k sp out ho => ?_⟩
    have hin : sp ∈ blockSpans a.root :=
      run_rt_span (S := fun s => s ∈ blockSpans a.root) _ fuel a.root (fun s hs => hs) ho
    rw [hroot] at hin
    exact resolved_spans_safe src h sp hin

/-- C07 (runtime error): the span a run of the shipped pipeline reports a runtime error at is safe for the text. -/
theorem runtime_error_span_safe (caps : Limits.Caps) (cfg : Eval.RunCfg) (fuel : Nat) (src : Bytes)
    (h : ValidUtf8 src) (w : List Diag) (kind : Eval.RtKind) (sp : Span) (out : List (Eval.Value N))
    (hrun : (Pipeline.runSource caps cfg fuel src : Pipeline.Result N) = .ran w (.rt kind sp out)) :
    SafeSpan src sp := by
  have hs := pipeline_spans_safe (N := N) caps cfg fuel src h
  rw [hrun] at hs
  exact hs.2 kind sp out rfl

/-- A warning as `Resolver::emit_warning` emits it for the analysis passes: ONE label, at the warning's
own span. -/
def ownLabel (code msg labelMsg : Diag → Bytes) (d : Diag) : Render.RDiag :=
  { sev := d.sev, code := code d, msg := msg d, span := d.span, labels := [⟨labelMsg d, d.span⟩] }

theorem ownLabel_noNewSpan (code msg labelMsg : Diag → Bytes) : NoNewSpan (ownLabel code msg labelMsg) := by
  intro d
  refine ⟨rfl, ?_⟩
  intro l hl
  simp only [ownLabel, List.mem_singleton] at hl
  subst hl
  simp [diagSpans]

/-- The diagnostic `Runtime::run_inner` emits for a runtime error: an error at the error's span with
one label at the same span (texts: any function of the kind). -/
def rtDiag (text : Eval.RtKind → Bytes × Bytes × Bytes) (k : Eval.RtKind) (sp : Span) : Render.RDiag :=
  { sev := .error, code := (text k).1, msg := (text k).2.1, span := sp, labels := [⟨(text k).2.2, sp⟩] }

/-- Everything `cmd.rs::run_source` hands to `render_ansi` in one pipeline run, call by call: the
merged lexical / syntax diagnostics of a rejected text; the checker's diagnostics of a rejected text;
for an accepted text the warnings (before the run) and, after the run, the runtime error if the run
ended with one. -/
def renderCalls (toR : Diag → Render.RDiag) (text : Eval.RtKind → Bytes × Bytes × Bytes) :
    Pipeline.Result N → List (List Render.RDiag)
  | .syntax ds => [ds.map toR]
  | .semantic ds => [ds.map toR]
  | .ran ws (.rt k sp _) => [ws.map toR, [rtDiag text k sp]]
  | .ran ws _ => [ws.map toR]

/-- C07 (the complete diagnostic output renders): every call of `render_ansi` a pipeline run makes returns
— no slice out of range, reversed or off a character boundary, no column underflow — whatever the codes,
messages and label texts are, as long as no span is invented (`NoNewSpan`: `ofDiag`, `ownLabel`). -/
theorem pipeline_diagnostics_render (src file : Bytes) (h : ValidUtf8 src) (caps : Limits.Caps)
    (cfg : Eval.RunCfg) (fuel : Nat) (toR : Diag → Render.RDiag) (hR : NoNewSpan toR)
    (text : Eval.RtKind → Bytes × Bytes × Bytes) :
    ∀ ds ∈ renderCalls toR text (Pipeline.runSource caps cfg fuel src : Pipeline.Result N),
      Render.renderAnsi src file ds ≠ none := by
  have hmap := render_of_safe src file h toR hR
  have hs := pipeline_spans_safe (N := N) caps cfg fuel src h
  intro ds hds
  cases hr : (Pipeline.runSource caps cfg fuel src : Pipeline.Result N) with
  | «syntax» l | semantic l =>
    rw [hr] at hs hds
    simp only [renderCalls, List.mem_singleton] at hds
    subst hds
    exact hmap l hs
  | ran ws o =>
    rw [hr] at hs hds
    dsimp only at hs
    cases o with
    | rt k sp out =>
      simp only [renderCalls, List.mem_cons, List.not_mem_nil, or_false] at hds
      rcases hds with rfl | rfl
      · exact hmap ws hs.1
      · apply c07_render_total src file _ h
        intro rd hrd
        simp only [List.mem_singleton] at hrd
        subst hrd
        have hsp := hs.2 k sp out rfl
        refine ⟨hsp, ?_⟩
        intro lb hlb
        simp only [rtDiag, List.mem_singleton] at hlb
        subst hlb
        exact hsp
    | _ =>
      simp only [renderCalls, List.mem_singleton] at hds
      subst hds
      exact hmap ws hs.1

end pipeline

section pipeline_examples
open NaijaVerif.Eval (Toy.cfg)

/- An evaluated fact that a later proof rewrites with is a theorem; the `example` after it, with the same statement,
audits that it is stated in exactly that form. -/

/-- The values of `DEFAULT_CAPS`, written out: the same eleven numbers as `Doc.caps` (`Spec/DocCaps.lean`), which
`Limits.gen_caps_eq_doc` (`Props/C18.lean`) ties to the extracted `Gen.Caps.defaults`; this file imports neither. -/
def exampleCaps : Limits.Caps :=
  { maxFunctions := 16384, maxLocals := 131072, maxScopes := 131072, maxStatements := 262144,
    maxTotalOps := 262144, maxOpsPerFunction := 262144, maxTotalBlocks := 524288,
    maxBlocksPerFunction := 65536, maxDirectUserCalls := 262144, maxSummaryEvents := 16777216,
    maxLivenessEvents := 33554432 }

/-- A runtime error inside an expression AFTER a multi-byte string literal: `é` is two bytes, so the
division `1 divide 0` starts at byte 16 (column 16 counts characters: 15 before it) and ends at byte 26.  The span it is
reported at is 16..27, with the `)` behind it: the parser closes the span of a construct at the end of the token it is
looking at when the construct is complete, which is the token AFTER it (`st.cur.span.hi` in `Model/Parse.lean`,
`self.cur.span.end` in `parser.rs`). -/
def rtText : Bytes := b!"shout(\"né\" add 1 divide 0)"

/-- An analysis warning on a line that holds multi-byte characters (`€` is three bytes, `é` two). -/
def warnText : Bytes := b!"make y get \"€€\" add \"é\"\nshout(1)"

def spansShown : Pipeline.Result Int → List (DiagKind × Span) × Option (Eval.RtKind × Span)
  | .syntax ds => (ds.map fun d => (d.kind, d.span), none)
  | .semantic ds => (ds.map fun d => (d.kind, d.span), none)
  | .ran ws (.rt k sp _) => (ws.map fun d => (d.kind, d.span), some (k, sp))
  | .ran ws _ => (ws.map fun d => (d.kind, d.span), none)

theorem renderCalls_lengths (toR : Diag → Render.RDiag) (text : Eval.RtKind → Bytes × Bytes × Bytes)
    (r : Pipeline.Result Int) :
    (renderCalls toR text r).map List.length =
      (spansShown r).1.length :: (spansShown r).2.toList.map fun _ => 1 := by
  cases r with
  | ran ws o => cases o <;> simp [renderCalls, spansShown]
  | _ => simp [renderCalls, spansShown]

theorem texts_utf8 : ValidUtf8 rtText ∧ ValidUtf8 warnText := by decide +kernel

example : ValidUtf8 rtText ∧ ValidUtf8 warnText := texts_utf8

/-- the run of `rtText` ends in `Division by zero` at bytes 16..27, the division and the `)` after it (the real
binary: `a.ns:1:16`, eleven carets, under `1 divide 0)`), with no warning -/
theorem rtText_run : spansShown (Pipeline.runSource exampleCaps Toy.cfg 20 rtText) =
    ([], some (.divisionByZero, ⟨16, 27⟩)) := by decide +kernel

example : spansShown (Pipeline.runSource exampleCaps Toy.cfg 20 rtText) =
    ([], some (.divisionByZero, ⟨16, 27⟩)) := rtText_run

/-- ONE evaluation, so that the kernel lexes, parses and resolves the text once; with `maxStatements = 1` the analyses
give up. -/
theorem warnText_checks :
    spansShown (Pipeline.runSource exampleCaps Toy.cfg 20 warnText) =
      ([(.unusedAssignment, ⟨0, 34⟩), (.unusedVariable, ⟨5, 6⟩)], none) ∧
    spansShown (Pipeline.runSource { exampleCaps with maxStatements := 1 } Toy.cfg 20 warnText) =
      ([(.analysisLimit, ⟨0, 37⟩)], none) := by decide +kernel

/-- `warnText` is run with two warnings on line 1: unused assignment at the statement's span 0..34 — the statement is
bytes 0..28, its span runs on through the next token `shout` (29..34), see `rtText` —, unused variable at the name 5..6
(the real binary: `c.ns:1:1` with 23 carets, the 23 characters of line 1, where the renderer cuts the span; `c.ns:1:6`) -/
theorem warnText_run : spansShown (Pipeline.runSource exampleCaps Toy.cfg 20 warnText) =
    ([(.unusedAssignment, ⟨0, 34⟩), (.unusedVariable, ⟨5, 6⟩)], none) := warnText_checks.1

example : spansShown (Pipeline.runSource exampleCaps Toy.cfg 20 warnText) =
    ([(.unusedAssignment, ⟨0, 34⟩), (.unusedVariable, ⟨5, 6⟩)], none) := warnText_run
example : spansShown (Pipeline.runSource { exampleCaps with maxStatements := 1 } Toy.cfg 20 warnText) =
    ([(.analysisLimit, ⟨0, 37⟩)], none) := warnText_checks.2

example : (renderCalls (ownLabel (fun _ => b!"semantic") (fun _ => b!"m") (fun _ => b!"l"))
      (fun _ => (b!"runtime", b!"Division by zero", b!"Zero no fit be divisor"))
      (Pipeline.runSource exampleCaps Toy.cfg 20 rtText : Pipeline.Result Int)).map List.length = [0, 1] ∧
    (renderCalls (ownLabel (fun _ => b!"semantic") (fun _ => b!"m") (fun _ => b!"l"))
      (fun _ => (b!"runtime", b!"Division by zero", b!"Zero no fit be divisor"))
      (Pipeline.runSource exampleCaps Toy.cfg 20 warnText : Pipeline.Result Int)).map List.length = [2] := by
  rw [renderCalls_lengths, renderCalls_lengths, rtText_run, warnText_run]
  exact ⟨rfl, rfl⟩

example (file : Bytes) :
    ∀ ds ∈ renderCalls (ownLabel (fun _ => b!"semantic") (fun _ => b!"m") (fun _ => b!"l"))
      (fun _ => (b!"runtime", b!"Division by zero", b!"Zero no fit be divisor"))
      (Pipeline.runSource exampleCaps Toy.cfg 20 rtText : Pipeline.Result Int),
      Render.renderAnsi rtText file ds ≠ none :=
  pipeline_diagnostics_render rtText file texts_utf8.1 exampleCaps Toy.cfg 20 _ (ownLabel_noNewSpan _ _ _) _

/-- the renderer is not indifferent to these spans: a span that starts at byte 9, in the middle of the
two-byte `é` (bytes 8..10), makes it fail -/
example : Render.renderAnsi rtText (b!"a.ns") [⟨.error, b!"runtime", b!"m", ⟨9, 10⟩, []⟩] = none := by
  decide +kernel

end pipeline_examples

end NaijaVerif.C07
