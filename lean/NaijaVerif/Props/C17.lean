/-
C17 — `read_line` delivers successive input lines, whatever the chunking.  About `Model/ReadLine.lean`.
`readLine`/`readLines` are the code with the D-17 fix (`proposed-fixes/D-17.diff`: the bytes read behind
the newline are kept in a process-wide buffer); `c17` is the statement for it, for every text,
chunking, number of calls and line length.  `readLinesOld` is the unfixed code, which keeps nothing
between calls: `c17_old_is_false` refutes the same statement from the witness `["one\ntwo\n"]`
(`corpus/C17/d17-two-lines-one-chunk.txt`, replayed on the implementation by every check run);
`c17_old_partial`: it is right when every read delivers exactly one line.
The code strips exactly one `"\n"`; a `"\r"` before it stays in the line (`crlf_kept`).
-/
import NaijaVerif.Model.ReadLine
import NaijaVerif.Model.Bytes
import NaijaVerif.Lemmas.ReadLine
import NaijaVerif.Gen.ReadLine

namespace NaijaVerif.ReadLine

theorem gen_initialCap : Gen.ReadLine.initialCap = initialCap := by decide +kernel

theorem gen_terminator : Gen.ReadLine.terminator = newline := by decide +kernel

/-- Extracted from `src/sys/unix.rs`: the only byte the function treats specially is the terminator
(no `\r` handling). -/
theorem gen_byteLiterals : Gen.ReadLine.byteLiterals = [newline] := by decide +kernel

theorem initialCap_pos : 0 < initialCap := by decide +kernel

theorem splitLine_exact (t : List Nat) :
    newline ∉ (splitLine t).1 ∧
      (t = (splitLine t).1 ++ newline :: (splitLine t).2 ∨
        (t = (splitLine t).1 ∧ (splitLine t).2 = [])) := by
  induction t with
  | nil => simp [splitLine]
  | cons b bs ih =>
      unfold splitLine
      by_cases hb : b = newline
      · simp [hb]
      · simp only [hb, if_false, List.mem_cons, not_or, List.cons_append, List.cons.injEq, true_and]
        exact ⟨⟨fun e => hb e.symm, ih.1⟩, ih.2⟩

theorem takeLines_nil (k : Nat) : takeLines k [] = List.replicate k [] := by
  induction k with
  | zero => rfl
  | succ k ih => simp [takeLines, splitLine, ih, List.replicate_succ]

example : takeLines 4 (b!"one\ntwo\nthr") = [b!"one", b!"two", b!"thr", []] := by decide +kernel
example : takeLines 3 (b!"a\n\nb\n") = [b!"a", [], b!"b"] := by decide +kernel

theorem crlf_kept (l r : List Nat) (h : newline ∉ l) :
    splitLine (l ++ 13 :: newline :: r) = (l ++ [13], r) := by
  have h' : newline ∉ l ++ [13] := by
    intro hm
    rcases List.mem_append.mp hm with hm | hm
    · exact h hm
    · simp [newline] at hm
  simpa using splitLine_append_newline (l ++ [13]) r h'

def St.Inv (s : St) : Prop := s.pending.length ≤ s.cap

theorem St.inv_init (chunks : List (List Nat)) : (St.init chunks).Inv := by
  simp [St.init, St.Inv]

/-- One call returns the first line of the text still to come (pending bytes, then the chunks) and
leaves the text behind that line for the next call.  `some` says that the loop never runs out of fuel
and never takes `read`'s answer for a buffer without room (`count = 0`) for the end of input. -/
theorem readLine_spec (c0 : Nat) (hc0 : 0 < c0) (s : St) (hs : s.Inv) :
    ∃ l s', readLine c0 s = some (l, s') ∧ l = (splitLine s.text).1 ∧
      s'.text = (splitLine s.text).2 ∧ s'.Inv := by
  obtain ⟨e, s₁, hrun, hpost⟩ :=
    readLoop_spec c0 hc0 (fuelFor s) 0 s (by simp [fuelFor]) (Nat.zero_le _) (by simp) hs
  refine ⟨_, _, by simp only [readLine, hrun]; rfl, ?_, ?_, ?_⟩
  · rw [← hpost.text, hpost.split]
  · rw [← hpost.text, hpost.split]
    simp only [St.text, Nat.min_comm _ (e + 1), ← List.drop_eq_drop_min]
  · have := hpost.fits
    simp only [St.Inv, List.length_drop]
    omega

theorem readLine_total (c0 : Nat) (hc0 : 0 < c0) (s : St) (hs : s.Inv) :
    (readLine c0 s).isSome = true := by
  obtain ⟨l, s', h, _⟩ := readLine_spec c0 hc0 s hs
  simp [h]

theorem readLinesFrom_spec (c0 : Nat) (hc0 : 0 < c0) (k : Nat) (s : St) (hs : s.Inv) :
    readLinesFrom c0 k s = some (takeLines k s.text) := by
  induction k generalizing s with
  | zero => rfl
  | succ k ih =>
      obtain ⟨l, s', hrun, hl, htext, hinv⟩ := readLine_spec c0 hc0 s hs
      simp only [readLinesFrom, hrun, ih s' hinv, takeLines, hl, htext]

/-- The C17 statement as a predicate of an implementation `f k chunks`. -/
def C17Statement (f : Nat → List (List Nat) → Option (List (List Nat))) : Prop :=
  ∀ (chunks : List (List Nat)) (k : Nat), f k chunks = some (takeLines k chunks.flatten)

/-- C17: for every text, every chunking of it (empty chunks included) and every `k`, `k` successive
calls return the first `k` lines: terminator `"\n"` removed, a final partial line once, then empty
strings. -/
theorem c17 : C17Statement readLines := by
  intro chunks k
  simpa [readLines, St.text, St.init] using
    readLinesFrom_spec initialCap initialCap_pos k (St.init chunks) (St.inv_init chunks)

theorem c17_chunking_irrelevant (c₁ c₂ : List (List Nat)) (k : Nat)
    (h : c₁.flatten = c₂.flatten) : readLines k c₁ = readLines k c₂ := by
  rw [c17 c₁ k, c17 c₂ k, h]

theorem takeLines_add (j k : Nat) (t : List Nat) :
    ∃ rest, takeLines (j + k) t = takeLines j t ++ takeLines k rest := by
  induction j generalizing t with
  | zero => exact ⟨t, by simp [takeLines]⟩
  | succ j ih =>
      obtain ⟨rest, h⟩ := ih (splitLine t).2
      exact ⟨rest, by rw [Nat.succ_add]; simp [takeLines, h]⟩

-- non-vacuity: two lines in one chunk, a newline at a chunk edge, a multi-byte character cut in
-- two, a missing final newline, calls past the end
example : readLines 3 [b!"one\ntwo\n"] = some [b!"one", b!"two", []] := by decide +kernel
example : readLines 4 [b!"a", b!"b\n", b!"\nc"] = some [b!"ab", [], b!"c", []] := by decide +kernel
example : readLines 2 [[0xE2, 0x82], [0xAC, 10, 0xC3], [0xA9]] =
    some [[0xE2, 0x82, 0xAC], [0xC3, 0xA9]] := by decide +kernel
-- a line longer than the buffer: with initial capacity 2 a 9-byte line needs three doublings
example : readLinesFrom 2 2 (St.init [b!"abcdefghi\nxy"]) = some [b!"abcdefghi", b!"xy"] := by
  decide +kernel
example : (readLine 2 (St.init [b!"abcdefghi\nxy"])).map (·.2.cap) = some 16 := by decide +kernel

/-- C17 for a line of any length `n`, in particular above the initial 8 KiB. -/
theorem c17_long_line (n : Nat) (x : Nat) (hx : x ≠ newline) (tail : List Nat)
    (chunks : List (List Nat)) (h : chunks.flatten = List.replicate n x ++ newline :: tail) :
    readLines 2 chunks = some [List.replicate n x, (splitLine tail).1] := by
  rw [c17 chunks 2, h]
  have hn : newline ∉ List.replicate n x := by
    intro hm; exact hx (List.eq_of_mem_replicate hm).symm
  simp [takeLines, splitLine_append_newline _ _ hn]

/-- The buffer is only ever doubled (capacity 0: nothing had to be read yet). -/
def CapOk (c0 cap : Nat) : Prop := cap = 0 ∨ ∃ j, cap = c0 * 2 ^ j

theorem grow_capOk (c0 len cap : Nat) (h : CapOk c0 cap) : CapOk c0 (grow c0 len cap) := by
  unfold grow
  split
  · rcases h with h | ⟨j, h⟩
    · right; exact ⟨0, by simp [h]⟩
    · right
      refine ⟨j + 1, ?_⟩
      have h1 : 1 ≤ 2 ^ j := Nat.one_le_two_pow
      have h2 : c0 ≤ c0 * 2 ^ j := Nat.le_mul_of_pos_right _ h1
      rw [h, Nat.max_eq_left h2, Nat.pow_succ, ← Nat.mul_assoc]
      omega
  · exact h

theorem readLoop_capOk (c0 : Nat) : ∀ (fuel scanned : Nat) (s : St) (e : Nat) (s' : St),
    readLoop c0 fuel scanned s = some (e, s') → CapOk c0 s.cap → CapOk c0 s'.cap := by
  intro fuel
  induction fuel with
  | zero => intro scanned s e s' h; simp [readLoop] at h
  | succ fuel ih =>
      intro scanned s e s' h hc
      unfold readLoop at h
      simp only at h
      split at h
      · cases h; exact hc
      · split at h
        · cases h; exact grow_capOk _ _ _ hc
        · exact ih _ _ _ _ h (grow_capOk _ _ _ hc)

theorem readLine_capOk (c0 : Nat) (s : St) (l : List Nat) (s' : St)
    (h : readLine c0 s = some (l, s')) (hc : CapOk c0 s.cap) : CapOk c0 s'.cap := by
  unfold readLine at h
  split at h
  · cases h
  · next e s₁ hrun =>
    cases h
    have := readLoop_capOk c0 _ _ _ _ _ hrun hc
    exact this

/-- C17: no multi-byte character is split between two results, wherever chunk and buffer edges fall. -/
theorem takeLines_validUtf8 (k : Nat) (t : List Nat) (h : validUtf8 t = true) :
    ∀ l ∈ takeLines k t, validUtf8 l = true := by
  induction k generalizing t with
  | zero => intro l hl; simp [takeLines] at hl
  | succ k ih =>
      intro l hl
      simp only [takeLines, List.mem_cons] at hl
      have hsplit : validUtf8 (splitLine t).1 = true ∧ validUtf8 (splitLine t).2 = true := by
        rcases (splitLine_exact t).2 with hc | ⟨h1, h2⟩
        · rw [hc] at h
          exact validUtf8_split _ _ newline (by decide) h
        · rw [← h1, h2]; exact ⟨h, by decide⟩
      rcases hl with rfl | hl
      · exact hsplit.1
      · exact ih _ hsplit.2 l hl

theorem c17_utf8 (chunks : List (List Nat)) (k : Nat) (h : validUtf8 chunks.flatten = true) :
    ∃ ls, readLines k chunks = some ls ∧ ∀ l ∈ ls, validUtf8 l = true :=
  ⟨_, c17 chunks k, takeLines_validUtf8 k _ h⟩

example : validUtf8 (b!"naïve €uro 😀\n") = true := by decide +kernel
example : validUtf8 [0xE2, 0x82] = false := by decide +kernel
example : validUtf8 [0xC0, 0x80] = false := by decide          -- overlong
example : validUtf8 [0xED, 0xA0, 0x80] = false := by decide    -- surrogate

/-- D-17: the unfixed `read_line` reads `"one\ntwo\n"` in one piece, returns `"one"` and forgets the
rest; the second call sees the end of the input. -/
theorem c17_old_witness :
    readLinesOld 2 [b!"one\ntwo\n"] = some [b!"one", []] ∧
      takeLines 2 [b!"one\ntwo\n"].flatten = [b!"one", b!"two"] := by
  decide +kernel

theorem c17_old_is_false : ¬ C17Statement readLinesOld := by
  intro h
  have := h [b!"one\ntwo\n"] 2
  revert this
  decide +kernel

/-- Fed one whole line with its newline per read, none longer than the buffer (as a terminal in
canonical mode delivers them), the unfixed code is right: interactive use does not show D-17. -/
theorem c17_old_partial (c0 : Nat) (hc0 : 0 < c0) (chunks : List (List Nat))
    (h : lineWise c0 chunks = true) (k : Nat) :
    readLinesOldFrom c0 k chunks = some (takeLines k chunks.flatten) := by
  induction chunks generalizing k with
  | nil => exact readLinesOldFrom_nil c0 k
  | cons c cs ih =>
      simp only [lineWise, List.all_cons, Bool.and_eq_true, decide_eq_true_eq, beq_iff_eq,
        Bool.not_eq_true', List.contains_eq_mem, decide_eq_false_iff_not] at h
      obtain ⟨⟨⟨hlen, hlast⟩, hno⟩, hcs⟩ := h
      have hc : c.dropLast ++ [newline] = c := dropLast_append_of_getLast? c newline hlast
      cases k with
      | zero => rfl
      | succ k =>
          have hcs' : lineWise c0 cs = true := by simpa [lineWise] using hcs
          have hline := readLineOld_line c0 hc0 c.dropLast cs hno (by rw [hc]; exact hlen)
          rw [hc] at hline
          simp only [readLinesOldFrom, hline, ih hcs' k, takeLines, List.flatten_cons]
          have : c ++ cs.flatten = c.dropLast ++ newline :: cs.flatten := by
            conv => lhs; rw [← hc]
            simp
          rw [this, splitLine_append_newline _ _ hno]

-- the hypothesis is satisfiable
example : lineWise initialCap [b!"one\n", b!"two\n"] = true := by decide +kernel

example : readLinesOld 3 [b!"one\n", b!"two\n"] = some [b!"one", b!"two", []] := by decide +kernel

end NaijaVerif.ReadLine
