import NaijaVerif.Lemmas.ParseRoundTrip
import NaijaVerif.Lemmas.ParseRoundTripStmt
import NaijaVerif.Lemmas.ParseImage
import NaijaVerif.Spec.DocGrammar
/-
C01, parser part: operator precedence and associativity.

The binding-power table extracted from `parser.rs` (`Gen/Pratt.lean`) implements the documented order
(`Spec/DocGrammar.lean`), decided over the whole table; and for every expression `e` in the image of the
parser (`WF`: spans erased, no binding annotations, string parts that scan back) and every choice `p` of
redundant parentheses, the real `parseExpr` on `printAt p ctx e ++ rest` gives exactly `(e, rest)` with no
diagnostics, for all sufficiently large fuel.  Postfix forms bind tighter than the prefix operators by
construction of the printer (`postfixLevel` = the largest prefix operand power + 1).  The statements are about parser
states: `rest` is a state `st` with `st.cur.span = zspan`, since a node's span is built from the end of the look-ahead
and the expressions of the round trip have their spans erased.
-/
namespace NaijaVerif.C01Parse
open NaijaVerif NaijaVerif.Parse

/-- C01: `times/divide/mod` > `add/minus` > `na/pass/small pass` > `and` > `or`, all left-associative,
prefix `not`/`minus` tighter than every binary operator. -/
theorem gen_matches_doc :
    Spec.DocGrammar.docOrder Gen.Pratt.binTable Gen.Pratt.unaryTable = true := by decide +kernel

/-- What `Parse.tableOk` checks, and the round trip uses most of.  For every binary operator: the row found by its token is
its row, `l_bp < r_bp < postfixLevel`, its token starts no postfix form, `l_bp` is below every prefix operand power.  For
the two prefix operators: the row found by the token is the operator's, the operand power is below `postfixLevel`, the
token is no closer, no postfix start and no atom.  No closer, `,`, postfix start or `EOF` is a binary operator, no
bracket or `,` a prefix operator.  (That no operator has a second row is `Parse.binTable_binRow`.) -/
theorem table_wellformed : tableOk = true := table_ok

/-- The Pratt loop never continues at `t`: not `.`, `(`, `[`, and not a binary operator.  (`C10Parse.NotContinuation`
is the same definition; the two modules do not import each other.) -/
def NotContinuation (t : Tok) : Prop := isPostfixStart t = false ∧ binInfo t = none

theorem NotContinuation.stops {t : Tok} (h : NotContinuation t) : StopsAt 0 t :=
  stops_none 0 (fun _ => h.1) h.2

theorem stopsAt_zero_iff (t : Tok) : StopsAt 0 t ↔ NotContinuation t :=
  ⟨fun h => ⟨h.1 (Nat.zero_le _), Option.eq_none_iff_forall_ne_some.2 fun ⟨op, l, r⟩ hb =>
    Nat.not_lt_zero _ (h.2 op l r hb)⟩, NotContinuation.stops⟩

theorem round_trip (p : Expr → Nat) (e : Expr) (hwf : WF e) (ctx : Nat) (st : PState)
    (hctx : ctx ≤ postfixLevel) (hstop : StopsAt ctx st.cur.tok) (hsp : st.cur.span = zspan) :
    ∃ f0, ∀ f, f0 ≤ f → parseExpr f ctx (pushToks (printAt p ctx e) st) = some (e, st) :=
  printAt_round_trip p e hwf ctx st hctx hstop hsp

theorem round_trip_min (e : Expr) (hwf : WF e) (st : PState)
    (hstop : NotContinuation st.cur.tok) (hsp : st.cur.span = zspan) :
    ∃ f0, ∀ f, f0 ≤ f → parseExpr f 0 (pushToks (printMin e) st) = some (e, st) :=
  round_trip _ e hwf 0 st (Nat.zero_le _) hstop.stops hsp

theorem round_trip_full (e : Expr) (hwf : WF e) (st : PState)
    (hstop : NotContinuation st.cur.tok) (hsp : st.cur.span = zspan) :
    ∃ f0, ∀ f, f0 ≤ f → parseExpr f 0 (pushToks (printFull e) st) = some (e, st) :=
  round_trip _ e hwf 0 st (Nat.zero_le _) hstop.stops hsp

/-- The "redundant parentheses" half of C10. -/
theorem parenthesisation_irrelevant (p q : Expr → Nat) (e : Expr) (hwf : WF e) (st : PState)
    (hstop : NotContinuation st.cur.tok) (hsp : st.cur.span = zspan) :
    ∃ f0, ∀ f, f0 ≤ f →
      parseExpr f 0 (pushToks (printAt p 0 e) st) = parseExpr f 0 (pushToks (printAt q 0 e) st) := by
  obtain ⟨f0, h⟩ := printAt_round_trip_pair p q e hwf st hstop.stops hsp
  exact ⟨f0, fun f hf => by rw [(h f hf).1, (h f hf).2]⟩

/-- The round trip covers the image of the parser (any input, recovery included), provided the string
templates scan back from their rendering: `StrsOk`, a decidable condition on the string literals only,
evaluated by the driver's `rt` self-check. -/
theorem parsed_is_wellformed (f bp : Nat) (st st' : PState) (e : Expr)
    (h : parseExpr f bp st = some (e, st')) (hs : StrsOk e) : WF (eraseExpr e) :=
  (wf_eraseExpr e).2 ⟨(expr_noAnn f).1 bp st e st' h, hs⟩

theorem reparse_of_parsed (p : Expr → Nat) (f bp : Nat) (st st' : PState) (e : Expr)
    (h : parseExpr f bp st = some (e, st')) (hs : StrsOk e) (st1 : PState)
    (hstop : NotContinuation st1.cur.tok) (hsp : st1.cur.span = zspan) :
    ∃ f0, ∀ g, f0 ≤ g →
      parseExpr g 0 (pushToks (printAt p 0 (eraseExpr e)) st1) = some (eraseExpr e, st1) :=
  round_trip p (eraseExpr e) (parsed_is_wellformed f bp st st' e h hs) 0 st1 (Nat.zero_le _)
    hstop.stops hsp

/-- `CanonBlock p b`: spans erased, no annotations, well-formed expressions, a bare `return` only last in
its block, expression statements and index targets starting with their identifier AS PRINTED BY `p` — so for a `p` that
wraps that identifier (the `fun _ => 1` of `printFull`) only programs without such statements are canonical. -/
theorem program_round_trip (p : Expr → Nat) (b : Block) (hc : CanonBlock p b) :
    parseProgram (programToks p b) = (b, []) :=
  Parse.program_round_trip p b hc

theorem program_round_trip_fuel (p : Expr → Nat) (b : Block) (hc : CanonBlock p b) :
    ∃ f0, ∀ f, f0 ≤ f → parseProgramFuel f (programToks p b) = some (b, []) :=
  Parse.program_round_trip_fuel p b hc

/-- `do f(a) start if to say (a pass 1) start return a end x[0] get f(1) add 2 return end` -/
def exProg : Block :=
  .mk [.fnDef [102] zspan [{ name := [97], span := zspan }]
        (.mk [.ifS (.binary .gt (.var [97] none zspan) (.num [49] zspan) zspan)
                (.mk [.ret (some (.var [97] none zspan)) none zspan] zspan) none none zspan,
              .assignIndex (.index (.var [120] none zspan) (.num [48] zspan) zspan zspan)
                (.binary .add (.call (.var [102] none zspan) [.num [49] zspan] none zspan) (.num [50] zspan) zspan)
                none zspan,
              .ret none none zspan] zspan)
        none none zspan] zspan

example : (programToks (fun _ => 0) exProg).map (·.tok) =
    [.do, .ident [102], .lparen, .ident [97], .rparen, .start,
     .ifToSay, .lparen, .ident [97], .pass, .num [49], .rparen, .start, .ret, .ident [97], .end,
     .ident [120], .lbracket, .num [48], .rbracket, .get, .ident [102], .lparen, .num [49], .rparen, .add, .num [50],
     .ret, .end, .eof] := rfl

theorem exProg_canon : CanonBlock (fun _ => 0) exProg := by
  simp only [exProg, CanonBlock, CanonStmts, CanonStmt, CanonParam, WF, WFs, isIndex, isBareRet,
    List.mem_singleton, forall_eq, and_self, true_and, and_true]
  exact ⟨[120], [.lbracket, .num [48], .rbracket], by decide⟩

example : parseProgram (programToks (fun _ => 0) exProg) = (exProg, []) :=
  program_round_trip _ _ exProg_canon

private def n (k : Nat) : Expr := .num [48 + k] zspan
-- `Parse.endState`, spelt out
private def endSt : PState := ⟨⟨.eof, zspan⟩, [], []⟩

-- `1 add 2 times 3` is `1 add (2 times 3)`
example : printMin (.binary .add (n 1) (.binary .times (n 2) (n 3) zspan) zspan)
    = [.num [49], .add, .num [50], .times, .num [51]] := rfl
example : printMin (.binary .times (.binary .add (n 1) (n 2) zspan) (n 3) zspan)
    = [.lparen, .num [49], .add, .num [50], .rparen, .times, .num [51]] := rfl
-- `1 minus 2 minus 3` is `(1 minus 2) minus 3`
example : printMin (.binary .minus (.binary .minus (n 1) (n 2) zspan) (n 3) zspan)
    = [.num [49], .minus, .num [50], .minus, .num [51]] := rfl
example : printMin (.binary .minus (n 1) (.binary .minus (n 2) (n 3) zspan) zspan)
    = [.num [49], .minus, .lparen, .num [50], .minus, .num [51], .rparen] := rfl
-- `(minus x).abs()` needs its parentheses, `minus x.abs()` is `minus (x.abs())`
example : printMin (.call (.member (.unary .neg (.var [120] none zspan) zspan) [97] zspan zspan) [] none zspan)
    = [.lparen, .minus, .ident [120], .rparen, .dot, .ident [97], .lparen, .rparen] := rfl
example : printMin (.unary .neg (.call (.member (.var [120] none zspan) [97] zspan zspan) [] none zspan) zspan)
    = [.minus, .ident [120], .dot, .ident [97], .lparen, .rparen] := rfl
example : NotContinuation endSt.cur.tok := ⟨by decide, by decide⟩
example : WF (.binary .add (n 1) (.binary .times (n 2) (n 3) zspan) zspan) := by simp [WF, n]
example : (parseExpr 20 0 (pushToks [.num [49], .add, .num [50], .times, .num [51]] endSt)).map (·.1)
    = some (.binary .add (n 1) (.binary .times (n 2) (n 3) zspan) zspan) := by rfl

end NaijaVerif.C01Parse
