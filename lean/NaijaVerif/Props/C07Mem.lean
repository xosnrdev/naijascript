import NaijaVerif.Lemmas.LexMemFam
import NaijaVerif.Props.C07Lex
/-
C07, memory part of the lexer (D-19): what `scan_string` makes the arena hand out is linear in the source.
`Model/LexMem.lean` follows the buffer of `scan_string` (`reserve_exact` at the first escape, `Vec`'s amortised
growth at every `push_str` / `push`); `lexCaps src` lists `buffer.capacity()` of every `ArenaCow::Owned` string
token, and the field `caps=` of the `lex` family compares it with the real lexer.  `lexCaps_sum_le` is the
bound; `lexCapsPinned_*` document D-19 (`reserve_exact(bytes.len())` has no linear bound).
In `lexCaps_sum_le` the proof pays `2·|src|` for doubling plus one more `|src|` for a token that runs into the
end of input and reserves the rest of the file while later tokens are scanned again from the middle of it.
-/
namespace NaijaVerif.Props.C07Mem
open NaijaVerif NaijaVerif.Lex NaijaVerif.Utf8

/-- `strAtEof`: `scan_string` returned through an end-of-input exit, not at the closing quote or a line end.
The factor 2 is sharp (`"\"\"aaaa…a\n"`: the run of `m` bytes arrives in one `push_str` that fills the buffer
exactly, the next byte doubles it: capacity `2m+4`, extent `m+8`). -/
theorem strCap_le (src : Bytes) (h : ValidUtf8 src) :
    ∀ t ∈ (lex src).1, isOwnedStr t = true →
      t.span.lo < t.span.hi ∧ t.span.hi ≤ src.length ∧
      (strAtEof src t.span.lo = false → strCap src t.span.lo ≤ 2 * (t.span.hi - t.span.lo)) ∧
      (strAtEof src t.span.lo = true → strCap src t.span.lo ≤ 2 * (src.length - t.span.lo)) := by
  intro t ht ho
  have := lex_tokCap h t ht ho
  exact ⟨this.span.1, this.span.2, this.normal, fun he => (this.eof he).1⟩

/-- A token that ran into the end of input has used up its quote character. -/
theorem strAtEof_quote_gone (src : Bytes) (h : ValidUtf8 src) :
    ∀ t ∈ (lex src).1, isOwnedStr t = true → strAtEof src t.span.lo = true →
      ∃ q, (q = 34 ∨ q = 39) ∧ src[t.span.lo]? = some q ∧ q ∉ src.drop t.span.hi := by
  intro t ht ho he
  have := lex_tokCap h t ht ho
  obtain ⟨q, hq, hs⟩ := this.quote
  exact ⟨q, hq, hs, (this.eof he).2 q hs⟩

theorem strCap_le_of_quote_later (src : Bytes) (h : ValidUtf8 src) :
    ∀ t ∈ (lex src).1, isOwnedStr t = true → ∀ q, src[t.span.lo]? = some q → q ∈ src.drop t.span.hi →
      strCap src t.span.lo ≤ 2 * (t.span.hi - t.span.lo) := by
  intro t ht ho q hq hmem
  have := lex_tokCap h t ht ho
  cases he : strAtEof src t.span.lo with
  | false => exact this.normal he
  | true => exact absurd hmem ((this.eof he).2 q hq)

/-- At most one token per quote character runs into the end of input, at most two in a file. -/
theorem strAtEof_distinct_quotes (src : Bytes) (h : ValidUtf8 src) :
    ∀ a ∈ (lex src).1, ∀ b ∈ (lex src).1, isOwnedStr a = true → isOwnedStr b = true →
      strAtEof src a.span.lo = true → a.span.hi ≤ b.span.lo → src[a.span.lo]? ≠ src[b.span.lo]? := by
  intro a ha b hb hoa hob hea hab heq
  have hA := lex_tokCap h a ha hoa
  obtain ⟨q, _, hq⟩ := hA.quote
  exact (hA.eof hea).2 q hq (mem_drop_of_getElem? (heq ▸ hq) hab)

/-- `buffer.len()` of the buffer model is the length of the content the lexer model (`Model/Lex.lean`) gives
the token. -/
theorem strBuf_holds_content (src : Bytes) (h : ValidUtf8 src) :
    ∀ t ∈ (lex src).1, isOwnedStr t = true →
      ∃ content, t.tok = .str content true ∧ (strBuf hintFixed src t.span.lo).len = content.length ∧
        content.length ≤ strCap src t.span.lo :=
  lex_strBuf_holds_content h

/-- C07 (D-19): the buffers of all owned string tokens of a source together have capacity at most `3·|src|`. -/
theorem lexCaps_sum_le (src : Bytes) (h : ValidUtf8 src) : (lexCaps src).sum ≤ 3 * src.length := by
  have := (lexGo_caps (src := src) (src.length + 1) ⟨0, src⟩ (ok_start h)).1
  rw [lexCaps, capsOf_lex]
  exact Nat.le_trans this (pot_le src)

theorem lexCaps_sum_le_one_quote (src : Bytes) (h : ValidUtf8 src) (hq : 34 ∉ src ∨ 39 ∉ src) :
    (lexCaps src).sum ≤ 2 * src.length := by
  have : (capsOf strCap src (lexGo (src.length + 1) ⟨0, src⟩).1).sum ≤ pot src :=
    (lexGo_caps (src := src) (src.length + 1) ⟨0, src⟩ (ok_start h)).1
  rw [lexCaps, capsOf_lex]
  have hp := pot_one_quote hq
  omega

/-- The invariant behind `lexCaps_sum_le`, which is its case `c = ⟨0, src⟩`, `f = src.length + 1`, read through
`capsOf_lex` (the parser's EOF, which `lex` appends, owns nothing). -/
theorem lexCaps_from_cursor (src : Bytes) (h : ValidUtf8 src) (c : Cur) (hr : C07Lex.Reach src c) (f : Nat) :
    (capsOf strCap src (lexGo f c).1).sum ≤ 3 * (src.length - c.pos) := by
  have hc := C07Lex.reach_ok h hr
  have := (lexGo_caps (src := src) f c hc).1
  have hl := hc.len
  have := pot_le c.rest
  omega

/-- D-19: on `n` copies of `"\n"` (a source of `4n` bytes) `reserve_exact(bytes.len())` (`hintPinned`) sums to
`n·(2n+1)`, the reservation of the source to `2n`. -/
theorem lexCapsPinned_quadratic (n : Nat) :
    (escFamily n).length = 4 * n ∧ ValidUtf8 (escFamily n) ∧
    (lexCapsPinned (escFamily n)).sum = n * (2 * n + 1) ∧ (lexCaps (escFamily n)).sum = 2 * n :=
  ⟨escFamily_length n, escFamily_valid n, lexCapsPinned_fam n, lexCaps_fam n⟩

theorem lexCapsPinned_not_linear (K K' : Nat) :
    ∃ src, ValidUtf8 src ∧ K * src.length + K' < (lexCapsPinned src).sum := by
  refine ⟨escFamily (2 * K + K' + 1), escFamily_valid _, ?_⟩
  rw [lexCapsPinned_fam, escFamily_length]
  generalize hn : 2 * K + K' + 1 = n
  -- `K·4n = 2K·2n ≤ n·2n` since `2K ≤ n`, and `K' < n`
  have e : K * (4 * n) = 2 * K * (2 * n) := by
    rw [Nat.mul_left_comm K 4 n, Nat.mul_assoc 2 K, Nat.mul_left_comm K 2 n]; omega
  have h : 2 * K * (2 * n) ≤ n * (2 * n) := Nat.mul_le_mul_right _ (by omega)
  rw [Nat.mul_succ, e]; omega

example : ValidUtf8 (b!"shout(\"a\\nb\", 'c\\'d')") := by decide
/-- escape in the middle: the reservation is the text up to the closing quote -/
example : lexCaps (b!"\"a\\nb\"") = [4] := by decide +kernel
/-- escaped quotes: the reservation stops at the first of them (3), the buffer grows to 8 -/
example : lexCaps (b!"\"\\\"\\\"\\\"\\\"x\"") = [8] := by decide +kernel
/-- growth past the hint, the sharp case of the factor 2: capacity `2·20+4`, extent `28` -/
example : lexCaps (b!"\"\\\"\\\"aaaaaaaaaaaaaaaaaaaa\\n\"") = [44] ∧
    (lex (b!"\"\\\"\\\"aaaaaaaaaaaaaaaaaaaa\\n\"")).1.map (·.span) = [⟨0, 28⟩, ⟨28, 28⟩] := by decide +kernel
/-- several strings on a line, both quote characters, an invalid multi-byte escape, a borrowed one -/
example : lexCaps (b!"shout(\"a\\nb\", 'c\\'d', \"e\", \"\\€\")") = [4, 4, 4] := by decide +kernel
/-- backslash + line end: the hint stops at the line end (1), the string goes on -/
example : lexCaps (b!"\"\\\n\\n\"") = [8] := by decide +kernel
/-- end of input: the first token reserves the rest of the file (10 bytes) for an extent of 3, and the
text behind its escape is lexed again — `strAtEof` -/
example : lexCaps (b!"\"\\n abc def") = [10] ∧ strAtEof (b!"\"\\n abc def") 0 = true ∧
    (lex (b!"\"\\n abc def")).1.map (·.span) = [⟨0, 3⟩, ⟨4, 7⟩, ⟨8, 11⟩, ⟨11, 11⟩] := by decide +kernel
/-- a backslash as the last byte: two tokens (one per quote character) reserve up to the end -/
example : lexCaps (b!"\"x 'y \\") = [6, 3] ∧ strAtEof (b!"\"x 'y \\") 0 = true ∧ strAtEof (b!"\"x 'y \\") 3 = true := by
  decide +kernel
/-- such a token may exceed twice its extent (56 > 2·19): the run before the last backslash is pushed -/
example : lexCaps (b!"\"\\\"\\\"aaaaaaaaaaaa\\nbbbbbbbbbbbbbbbbbbbbbbbbbbbbbb\\") = [56] ∧
    (lex (b!"\"\\\"\\\"aaaaaaaaaaaa\\nbbbbbbbbbbbbbbbbbbbbbbbbbbbbbb\\")).1.map (·.span) = [⟨0, 19⟩, ⟨19, 49⟩, ⟨49, 49⟩] := by
  decide +kernel
/-- no escape, no reservation -/
example : lexCaps (b!"\"abc\" 'def' \"abc") = [] := by decide +kernel
/-- the constant of `lexCaps_sum_le` cannot be lowered to 12/5: 510 bytes for a source of 210 (`5 · 510 > 12 · 210`) -/
example :
    let src := b!"\"\\\"\\\"" ++ List.replicate 100 97 ++ b!"\\n'" ++ List.replicate 101 98 ++ [92]
    src.length = 210 ∧ lexCaps src = [408, 102] := by decide +kernel
/-- D-19 in numbers: 30 strings, 120 bytes of source -/
example : (lexCapsPinned (escFamily 30)).sum = 1830 ∧ (lexCaps (escFamily 30)).sum = 60 ∧
    10 * (escFamily 30).length < (lexCapsPinned (escFamily 30)).sum := by
  rw [lexCapsPinned_fam, lexCaps_fam, escFamily_length]; decide
/-- the D-19 witness shape `shout("a\nb")` × 3 -/
example : lexCapsPinned (b!"shout(\"a\\nb\")\nshout(\"a\\nb\")\nshout(\"a\\nb\")\n") = [35, 21, 7] ∧
    lexCaps (b!"shout(\"a\\nb\")\nshout(\"a\\nb\")\nshout(\"a\\nb\")\n") = [4, 4, 4] := by decide +kernel

end NaijaVerif.Props.C07Mem
