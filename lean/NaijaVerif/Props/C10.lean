/-
C10 — layout is insignificant: whitespace and comments never change meaning.

`c10_pipeline`: two texts that are valid layouts of one token sequence have the same observation
`obs` of `Pipeline.runSource` — stage reached, diagnostics / warnings without positions, printed
values, class of the ending, runtime-error kind — for every limit configuration, run configuration
and fuel; `c10_redundant_parentheses_run` is the same for two parenthesisations of one program.
The idea: the lexer gives the same tokens (`Props/C10Lex.lean`), the parser reads no span
(`Props/C10Parse.lean`), and everything behind the parser commutes with span erasure
(`Lemmas/SpanErase*.lean`): a span is only ever copied into a diagnostic, a warning or a runtime error.
-/
import NaijaVerif.Props.C10Lex
import NaijaVerif.Props.C10Parse
import NaijaVerif.Props.C01Parse
import NaijaVerif.Lemmas.SpanErasePipeline
import NaijaVerif.Lemmas.EvalToy

namespace NaijaVerif.C10
open NaijaVerif NaijaVerif.Lex NaijaVerif.Parse NaijaVerif.Props.C10Lex NaijaVerif.C10Parse
open NaijaVerif.SpanErase

/-- C10, lexer + parser: two texts that are valid layouts of the same token sequence — any
separators (spaces, tabs, LF, CR, CRLF, FF, `#` comments), any spelling of the multi-word keywords —
produce the same AST up to spans, no lexical diagnostics, and the same syntax diagnostics up to spans. -/
theorem layout_insignificant {lead₁ tr₁ lead₂ tr₂ : Bytes} (l₁ l₂ : Layout)
    (h₁ : Sep lead₁) (t₁ : Trail tr₁) (v₁ : Valid tr₁ l₁)
    (h₂ : Sep lead₂) (t₂ : Trail tr₂) (v₂ : Valid tr₂ l₂) (same : l₁.toks = l₂.toks) :
    let s₁ := lead₁ ++ render tr₁ l₁
    let s₂ := lead₂ ++ render tr₂ l₂
    eraseSpans (parseProgram (lex s₁).1).1 = eraseSpans (parseProgram (lex s₂).1).1 ∧
      (lex s₁).2 = [] ∧ (lex s₂).2 = [] ∧
      (parseProgram (lex s₁).1).2.map eraseDiag = (parseProgram (lex s₂).1).2.map eraseDiag ∧
      ((parseProgram (lex s₁).1).2 = [] ↔ (parseProgram (lex s₂).1).2 = []) := by
  intro s₁ s₂
  obtain ⟨htoks, hd1, hd2⟩ := c10_lex_layout_insensitive l₁ l₂ h₁ t₁ v₁ h₂ t₂ v₂ same
  obtain ⟨hast, _, hdiag⟩ := layout_insensitive (lex s₁).1 (lex s₂).1 htoks
  exact ⟨hast, hd1, hd2, hdiag, acceptance_layout_insensitive _ _ htoks⟩

/-- Resolver: the facts are equal outright — `Facts` holds ids, names, classes and id ranges, no
source span. -/
theorem span_independent_resolver {p q : Block} (h : eraseSpans p = eraseSpans q) :
    (Resolve.resolve p).diags.map eraseDiag = (Resolve.resolve q).diags.map eraseDiag ∧
    eraseSpans (Resolve.resolve p).root = eraseSpans (Resolve.resolve q).root ∧
    (Resolve.resolve p).facts = (Resolve.resolve q).facts ∧
    (hasErrors (Resolve.resolve p).diags = hasErrors (Resolve.resolve q).diags) := by
  obtain ⟨r1, d1, f1, _⟩ := resolveWith_erase true p
  obtain ⟨r2, d2, f2, _⟩ := resolveWith_erase true q
  rw [h] at r1 d1 f1
  have hd : (Resolve.resolve p).diags.map eraseDiag = (Resolve.resolve q).diags.map eraseDiag :=
    d1.symm.trans d2
  refine ⟨hd, r1.symm.trans r2, f1.symm.trans f2, ?_⟩
  rw [← hasErrors_eraseDiag (Resolve.resolve p).diags, hd, hasErrors_eraseDiag]

/-- Limit preflight and analyses: the same counts (hence the same limit decision), verdicts and plan.
The last conjunct is a fact about `Limits.emitAnalysis` alone: it mentions neither `r₁`, `r₂`, `facts` nor `h`. -/
theorem span_independent_analyses {r₁ r₂ : Block} (facts : Facts) (h : eraseSpans r₁ = eraseSpans r₂) :
    CfgCount.countProgram r₁ facts = CfgCount.countProgram r₂ facts ∧
    (Analysis.analyse r₁ facts).plan = (Analysis.analyse r₂ facts).plan ∧
    (Analysis.analyse r₁ facts).unreach = (Analysis.analyse r₂ facts).unreach ∧
    (Analysis.analyse r₁ facts).unusedAsg = (Analysis.analyse r₂ facts).unusedAsg ∧
    (Analysis.analyse r₁ facts).unusedVar = (Analysis.analyse r₂ facts).unusedVar ∧
    (Analysis.analyse r₁ facts).unusedFn = (Analysis.analyse r₂ facts).unusedFn ∧
    (Analysis.analyse r₁ facts).warns.map eraseWarn = (Analysis.analyse r₂ facts).warns.map eraseWarn ∧
    ∀ (caps : Limits.Caps) (c : Limits.Counts) (sp₁ sp₂ : Span) (planOf : Eval.Plan) (w₁ w₂ : List Diag),
      w₁.map eraseDiag = w₂.map eraseDiag →
      (Limits.emitAnalysis caps c sp₁ planOf w₁).plan = (Limits.emitAnalysis caps c sp₂ planOf w₂).plan ∧
      (Limits.emitAnalysis caps c sp₁ planOf w₁).warnings.map eraseDiag
        = (Limits.emitAnalysis caps c sp₂ planOf w₂).warnings.map eraseDiag := by
  have hc := countProgram_erase r₁ facts
  have ha := analyse_erase r₁ facts
  rw [show eraseBlock r₁ = eraseBlock r₂ from h, countProgram_erase] at hc
  rw [show eraseBlock r₁ = eraseBlock r₂ from h, analyse_erase r₂ facts] at ha
  generalize Analysis.analyse r₁ facts = A₁ at ha ⊢
  generalize Analysis.analyse r₂ facts = A₂ at ha ⊢
  injection ha with hunreach hasg hvar hfn hplan hwarns
  refine ⟨hc.symm, hplan.symm, hunreach.symm, hasg.symm, hvar.symm, hfn.symm, hwarns.symm, ?_⟩
  intro caps c sp₁ sp₂ planOf w₁ w₂ hw
  have e := emitAnalysis_erase caps c sp₁ planOf w₁
  rw [hw, emitAnalysis_erase caps c sp₂] at e
  injection e with e1 e2
  exact ⟨e1.symm, e2.symm⟩

/-- Evaluator: `eraseOutcome` drops only the span of the runtime error. -/
theorem span_independent_eval {N : Type} [NumOps N] (cfg : Eval.RunCfg) (fuel : Nat) {p q : Block}
    (h : eraseSpans p = eraseSpans q) :
    eraseOutcome (Eval.run cfg fuel p : Eval.Outcome N) = eraseOutcome (Eval.run cfg fuel q) := by
  rw [← run_erase cfg fuel p, ← run_erase cfg fuel q]
  exact congrArg (fun b => (Eval.run cfg fuel b : Eval.Outcome N)) h

/-- The back end as the shipped pipeline composes it (`runParsed`). The three theorems above state the commutations
stage by stage for two programs and are read by no proof. -/
theorem span_independent_back_end {N : Type} [NumOps N] (caps : Limits.Caps) (cfg : Eval.RunCfg)
    (fuel : Nat) {p q : Block} (h : eraseSpans p = eraseSpans q) :
    (obs (runParsed caps cfg fuel p) : Pipeline.Result N) = obs (runParsed caps cfg fuel q) := by
  rw [← runParsed_erase caps cfg fuel p, ← runParsed_erase caps cfg fuel q, h]

theorem exitOk_obs {N : Type} (r : Pipeline.Result N) : Pipeline.exitOk (obs r) = Pipeline.exitOk r := by
  cases r with
  | ran ws o => cases o <;> rfl
  | _ => rfl

theorem exitOk_of_obs {N : Type} {r₁ r₂ : Pipeline.Result N} (h : obs r₁ = obs r₂) :
    Pipeline.exitOk r₁ = Pipeline.exitOk r₂ := by
  rw [← exitOk_obs r₁, h, exitOk_obs]

theorem obs_of_parse {N : Type} [NumOps N] {s₁ s₂ : Bytes} (h₁ : (lex s₁).2 = []) (h₂ : (lex s₂).2 = [])
    (hast : eraseSpans (parseProgram (lex s₁).1).1 = eraseSpans (parseProgram (lex s₂).1).1)
    (hdiag : (parseProgram (lex s₁).1).2.map eraseDiag = (parseProgram (lex s₂).1).2.map eraseDiag)
    (caps : Limits.Caps) (cfg : Eval.RunCfg) (fuel : Nat) :
    (obs (Pipeline.runSource caps cfg fuel s₁) : Pipeline.Result N)
      = obs (Pipeline.runSource caps cfg fuel s₂) := by
  rw [Pipeline.runSource_eq caps cfg fuel s₁ rfl rfl, Pipeline.runSource_eq caps cfg fuel s₂ rfl rfl, ← runParsed_eq,
    ← runParsed_eq, h₁, h₂, List.nil_append, List.nil_append]
  revert hdiag
  cases (parseProgram (lex s₁).1).2 <;> cases (parseProgram (lex s₂).1).2 <;> intro hdiag
  · rw [if_neg nofun, if_neg nofun]
    exact span_independent_back_end caps cfg fuel hast
  · cases hdiag
  · cases hdiag
  · rw [if_pos (by rfl), if_pos (by rfl)]
    exact congrArg Pipeline.Result.syntax hdiag

/-- C10 from the tokens on; its hypotheses are decidable for two given texts. -/
theorem c10_pipeline_tokens {N : Type} [NumOps N] (s₁ s₂ : Bytes)
    (h₁ : (lex s₁).2 = []) (h₂ : (lex s₂).2 = [])
    (htoks : (lex s₁).1.map (·.tok) = (lex s₂).1.map (·.tok))
    (caps : Limits.Caps) (cfg : Eval.RunCfg) (fuel : Nat) :
    (obs (Pipeline.runSource caps cfg fuel s₁) : Pipeline.Result N)
      = obs (Pipeline.runSource caps cfg fuel s₂) :=
  have ⟨hast, _, hdiag⟩ := layout_insensitive (lex s₁).1 (lex s₂).1 htoks
  obs_of_parse h₁ h₂ hast hdiag caps cfg fuel

/-- C10, end to end: two source texts that are valid layouts of the same token sequence — differing
only in spaces, tabs, line breaks (LF, CR, CRLF), form feeds, `#` comments between tokens and the
whitespace inside multi-word keywords — are accepted or rejected alike and behave identically when
run: the shipped pipeline stops at the same stage with the same diagnostics up to positions, or runs
with the same warnings up to positions, prints the same values and ends in the same way (normally /
same kind of runtime error / same panic site / out of fuel). -/
theorem c10_pipeline {N : Type} [NumOps N] {lead₁ tr₁ lead₂ tr₂ : Bytes} (l₁ l₂ : Layout)
    (h₁ : Sep lead₁) (t₁ : Trail tr₁) (v₁ : Valid tr₁ l₁)
    (h₂ : Sep lead₂) (t₂ : Trail tr₂) (v₂ : Valid tr₂ l₂) (same : l₁.toks = l₂.toks)
    (caps : Limits.Caps) (cfg : Eval.RunCfg) (fuel : Nat) :
    (obs (Pipeline.runSource caps cfg fuel (lead₁ ++ render tr₁ l₁)) : Pipeline.Result N)
      = obs (Pipeline.runSource caps cfg fuel (lead₂ ++ render tr₂ l₂)) := by
  obtain ⟨hast, hd1, hd2, hdiag, _⟩ := layout_insignificant l₁ l₂ h₁ t₁ v₁ h₂ t₂ v₂ same
  exact obs_of_parse hd1 hd2 hast hdiag caps cfg fuel

theorem c10_exit_status {N : Type} [NumOps N] {lead₁ tr₁ lead₂ tr₂ : Bytes} (l₁ l₂ : Layout)
    (h₁ : Sep lead₁) (t₁ : Trail tr₁) (v₁ : Valid tr₁ l₁)
    (h₂ : Sep lead₂) (t₂ : Trail tr₂) (v₂ : Valid tr₂ l₂) (same : l₁.toks = l₂.toks)
    (caps : Limits.Caps) (cfg : Eval.RunCfg) (fuel : Nat) :
    Pipeline.exitOk (Pipeline.runSource caps cfg fuel (lead₁ ++ render tr₁ l₁) : Pipeline.Result N)
      = Pipeline.exitOk (Pipeline.runSource caps cfg fuel (lead₂ ++ render tr₂ l₂) : Pipeline.Result N) :=
  exitOk_of_obs (c10_pipeline l₁ l₂ h₁ t₁ v₁ h₂ t₂ v₂ same caps cfg fuel)

theorem printed_parses_anyflag (r : Expr → Nat) (b : Block) (hr : CanonBlock r b) (s : Bytes)
    (ht : (lex s).1.map (fun t => flagErase t.tok) = (programToks r b).map (fun t => flagErase t.tok)) :
    (parseProgram (lex s).1).2 = [] ∧ eraseSpans (parseProgram (lex s).1).1 = eraseSpans b := by
  obtain ⟨hast, _, hdiag⟩ := layout_insensitive_anyflag (lex s).1 (programToks r b) ht
  rw [C01Parse.program_round_trip r b hr] at hast hdiag
  exact ⟨by simpa using hdiag, hast⟩

/-- Redundant parentheses, end to end: `b` is a canonical program and `p`, `q` two choices of
redundant parentheses (any number of pairs around any sub-expressions).  Two texts that lex without a
diagnostic to the tokens of `b` printed with `p` resp. `q` parse to `b` up to spans and have the same
observation.  The tokens are compared up to the `escaped` flag of the string tokens without `{`
(`Parse.flagErase`): the printer prints a static string as the escaped token, a literal without an
escape sequence lexes to the unescaped one, and the parser does not tell them apart
(`C10Parse.parse_ignores_str_flag`). -/
theorem c10_redundant_parentheses_run_anyflag {N : Type} [NumOps N] (p q : Expr → Nat) (b : Block)
    (hp : CanonBlock p b) (hq : CanonBlock q b) (s₁ s₂ : Bytes)
    (h₁ : (lex s₁).2 = []) (h₂ : (lex s₂).2 = [])
    (t₁ : (lex s₁).1.map (fun t => flagErase t.tok) = (programToks p b).map (fun t => flagErase t.tok))
    (t₂ : (lex s₂).1.map (fun t => flagErase t.tok) = (programToks q b).map (fun t => flagErase t.tok))
    (caps : Limits.Caps) (cfg : Eval.RunCfg) (fuel : Nat) :
    (parseProgram (lex s₁).1).2 = [] ∧ (parseProgram (lex s₂).1).2 = [] ∧
    eraseSpans (parseProgram (lex s₁).1).1 = eraseSpans b ∧
    eraseSpans (parseProgram (lex s₂).1).1 = eraseSpans b ∧
    (obs (Pipeline.runSource caps cfg fuel s₁) : Pipeline.Result N)
      = obs (Pipeline.runSource caps cfg fuel s₂) := by
  obtain ⟨d1, a1⟩ := printed_parses_anyflag p b hp s₁ t₁
  obtain ⟨d2, a2⟩ := printed_parses_anyflag q b hq s₂ t₂
  exact ⟨d1, d2, a1, a2, obs_of_parse h₁ h₂ (a1.trans a2.symm) (by rw [d1, d2]) caps cfg fuel⟩

theorem c10_redundant_parentheses_run {N : Type} [NumOps N] (p q : Expr → Nat) (b : Block)
    (hp : CanonBlock p b) (hq : CanonBlock q b) (s₁ s₂ : Bytes)
    (h₁ : (lex s₁).2 = []) (h₂ : (lex s₂).2 = [])
    (t₁ : (lex s₁).1.map (·.tok) = (programToks p b).map (·.tok))
    (t₂ : (lex s₂).1.map (·.tok) = (programToks q b).map (·.tok))
    (caps : Limits.Caps) (cfg : Eval.RunCfg) (fuel : Nat) :
    (parseProgram (lex s₁).1).2 = [] ∧ (parseProgram (lex s₂).1).2 = [] ∧
    eraseSpans (parseProgram (lex s₁).1).1 = eraseSpans b ∧
    eraseSpans (parseProgram (lex s₂).1).1 = eraseSpans b ∧
    (obs (Pipeline.runSource caps cfg fuel s₁) : Pipeline.Result N)
      = obs (Pipeline.runSource caps cfg fuel s₂) :=
  c10_redundant_parentheses_run_anyflag p q b hp hq s₁ s₂ h₁ h₂ (toks_anyflag t₁) (toks_anyflag t₂) caps cfg fuel

theorem programToks_toks (p : Expr → Nat) (b : Block) :
    (programToks p b).map (·.tok) = printBlock p b ++ [.eof] := by
  simp [programToks, mkTok, List.map_map, Function.comp_def]

theorem layout_toks_anyflag {toks : List SpTok} {ltoks : List Tok} (p : Expr → Nat) (b : Block)
    (a : toks.map (·.tok) = ltoks ++ [.eof]) (k : ltoks.map flagErase = (printBlock p b).map flagErase) :
    toks.map (fun t => flagErase t.tok) = (programToks p b).map (fun t => flagErase t.tok) := by
  have h : (toks.map (·.tok)).map flagErase = ((programToks p b).map (·.tok)).map flagErase := by
    rw [a, programToks_toks, List.map_append, List.map_append, k]
  rw [List.map_map, List.map_map] at h
  exact h

/-- For texts given as valid layouts of the two printed token sequences; a static string may be spelled
with or without escape sequences. -/
theorem c10_redundant_parentheses_layouts_anyflag {N : Type} [NumOps N] (p q : Expr → Nat) (b : Block)
    (hp : CanonBlock p b) (hq : CanonBlock q b) {lead₁ tr₁ lead₂ tr₂ : Bytes} (l₁ l₂ : Layout)
    (h₁ : Sep lead₁) (t₁ : Trail tr₁) (v₁ : Valid tr₁ l₁)
    (h₂ : Sep lead₂) (t₂ : Trail tr₂) (v₂ : Valid tr₂ l₂)
    (k₁ : l₁.toks.map flagErase = (printBlock p b).map flagErase)
    (k₂ : l₂.toks.map flagErase = (printBlock q b).map flagErase)
    (caps : Limits.Caps) (cfg : Eval.RunCfg) (fuel : Nat) :
    (obs (Pipeline.runSource caps cfg fuel (lead₁ ++ render tr₁ l₁)) : Pipeline.Result N)
      = obs (Pipeline.runSource caps cfg fuel (lead₂ ++ render tr₂ l₂)) := by
  obtain ⟨a1, a2⟩ := c10_lex_roundtrip h₁ t₁ l₁ v₁
  obtain ⟨b1, b2⟩ := c10_lex_roundtrip h₂ t₂ l₂ v₂
  exact (c10_redundant_parentheses_run_anyflag p q b hp hq _ _ a2 b2 (layout_toks_anyflag p b a1 k₁)
    (layout_toks_anyflag q b b1 k₂) caps cfg fuel).2.2.2.2

theorem c10_redundant_parentheses_layouts {N : Type} [NumOps N] (p q : Expr → Nat) (b : Block)
    (hp : CanonBlock p b) (hq : CanonBlock q b) {lead₁ tr₁ lead₂ tr₂ : Bytes} (l₁ l₂ : Layout)
    (h₁ : Sep lead₁) (t₁ : Trail tr₁) (v₁ : Valid tr₁ l₁)
    (h₂ : Sep lead₂) (t₂ : Trail tr₂) (v₂ : Valid tr₂ l₂)
    (k₁ : l₁.toks = printBlock p b) (k₂ : l₂.toks = printBlock q b)
    (caps : Limits.Caps) (cfg : Eval.RunCfg) (fuel : Nat) :
    (obs (Pipeline.runSource caps cfg fuel (lead₁ ++ render tr₁ l₁)) : Pipeline.Result N)
      = obs (Pipeline.runSource caps cfg fuel (lead₂ ++ render tr₂ l₂)) :=
  c10_redundant_parentheses_layouts_anyflag p q b hp hq l₁ l₂ h₁ t₁ v₁ h₂ t₂ v₂ (by rw [k₁]) (by rw [k₂])
    caps cfg fuel


/-! Non-vacuity, with the toy `Int` numbers of `Lemmas/EvalToy.lean` and limits nothing trips on. A fact that a later
proof uses is a theorem; the `example` after it, with the same statement (or a part of it), audits that it is stated
in exactly that form. -/

section Examples
open NaijaVerif.Eval

/-- The same eleven numbers as `Props.C06Accepted.roomyCaps`, which this file does not import. -/
def roomyCaps : Limits.Caps :=
  { maxFunctions := 1000, maxLocals := 1000, maxScopes := 1000, maxStatements := 1000, maxTotalOps := 100000,
    maxOpsPerFunction := 100000, maxTotalBlocks := 100000, maxBlocksPerFunction := 100000,
    maxDirectUserCalls := 1000, maxSummaryEvents := 100000, maxLivenessEvents := 100000 }

/-- Stage (0 syntax, 1 semantic, 2 ran), the diagnostic / warning kinds, the printed texts, the ending
(0 normal, 1 runtime error, 2 panic, 3 out of fuel), the runtime-error kind. -/
def shown : Pipeline.Result Int → Nat × List DiagKind × List Bytes × Nat × Option RtKind
  | .syntax ds => (0, ds.map (·.kind), [], 0, none)
  | .semantic ds => (1, ds.map (·.kind), [], 0, none)
  | .ran ws o => (2, ws.map (·.kind), (Toy.summary o).1, (Toy.summary o).2, Toy.rtKind o)

def positions : Pipeline.Result Int → List Span
  | .syntax ds => ds.map (·.span)
  | .semantic ds => ds.map (·.span)
  | .ran ws (.rt _ sp _) => ws.map (·.span) ++ [sp]
  | .ran ws _ => ws.map (·.span)

theorem shown_obs (r : Pipeline.Result Int) : shown (obs r) = shown r := by
  have hk (ds : List Diag) : (ds.map eraseDiag).map (·.kind) = ds.map (·.kind) := by
    rw [List.map_map]; rfl
  cases r with
  | ran ws o => cases o <;> simp only [obs, shown, hk] <;> rfl
  | _ => simp only [obs, shown, hk]

/-- Of two runs with one observation only one has to be evaluated. -/
theorem shown_both {r₁ r₂ : Pipeline.Result Int} (h : obs r₁ = obs r₂) {x} (h₁ : shown r₁ = x) :
    shown r₁ = x ∧ shown r₂ = x :=
  ⟨h₁, by rw [← shown_obs, ← h, shown_obs, h₁]⟩

def printsA : Bytes := b!"make x get 1 add 2 shout(x) shout(x times x)"
def printsB : Bytes :=
  b!"\n# sum\nmake x get 1 add 2   # three\r\nshout ( x )\n\tshout(x\ttimes\n x)\n# end"

/-- Everything that is evaluated about the two texts as ONE evaluation (so too `fails_checks`, `rejected_checks`,
`par_checks`): the kernel then lexes each text once. -/
theorem prints_checks : ((lex printsA).2 = [] ∧ (lex printsB).2 = [] ∧
    (lex printsA).1.map (·.tok) = (lex printsB).1.map (·.tok) ∧
    (lex printsA).1.map (·.span) ≠ (lex printsB).1.map (·.span)) ∧
    shown (Pipeline.runSource roomyCaps Toy.cfg 30 printsA) = (2, [], [b!"3", b!"9"], 0, none) := by decide +kernel

example : (lex printsA).2 = [] ∧ (lex printsB).2 = [] ∧
    (lex printsA).1.map (·.tok) = (lex printsB).1.map (·.tok) ∧
    (lex printsA).1.map (·.span) ≠ (lex printsB).1.map (·.span) := prints_checks.1

theorem prints_obs (caps : Limits.Caps) (cfg : RunCfg) (fuel : Nat) :
    (obs (Pipeline.runSource caps cfg fuel printsA) : Pipeline.Result Int)
      = obs (Pipeline.runSource caps cfg fuel printsB) :=
  have ⟨hA, hB, htoks, _⟩ := prints_checks.1
  c10_pipeline_tokens printsA printsB hA hB htoks caps cfg fuel

example (caps : Limits.Caps) (cfg : RunCfg) (fuel : Nat) :
    (obs (Pipeline.runSource caps cfg fuel printsA) : Pipeline.Result Int)
      = obs (Pipeline.runSource caps cfg fuel printsB) :=
  prints_obs caps cfg fuel

example : shown (Pipeline.runSource roomyCaps Toy.cfg 30 printsA) = (2, [], [b!"3", b!"9"], 0, none) ∧
    shown (Pipeline.runSource roomyCaps Toy.cfg 30 printsB) = (2, [], [b!"3", b!"9"], 0, none) :=
  shown_both (prints_obs _ _ _) prints_checks.2

def failsA : Bytes := b!"make u get 5 shout(7) shout(1 divide 0) shout(8)"
def failsB : Bytes := b!"make u get 5 # unused\nshout(7)\n\nshout( 1\n  divide 0 )\nshout(8)\n"

theorem fails_checks : ((lex failsA).2 = [] ∧ (lex failsB).2 = [] ∧
    (lex failsA).1.map (·.tok) = (lex failsB).1.map (·.tok)) ∧
    shown (Pipeline.runSource roomyCaps Toy.cfg 30 failsA)
      = (2, [.unusedAssignment, .unusedVariable], [b!"7"], 1, some .divisionByZero) ∧
    positions (Pipeline.runSource roomyCaps Toy.cfg 30 failsA)
      ≠ positions (Pipeline.runSource roomyCaps Toy.cfg 30 failsB) := by
  decide +kernel

example : (lex failsA).2 = [] ∧ (lex failsB).2 = [] ∧
    (lex failsA).1.map (·.tok) = (lex failsB).1.map (·.tok) := fails_checks.1

theorem fails_obs (caps : Limits.Caps) (cfg : RunCfg) (fuel : Nat) :
    (obs (Pipeline.runSource caps cfg fuel failsA) : Pipeline.Result Int)
      = obs (Pipeline.runSource caps cfg fuel failsB) :=
  have ⟨hA, hB, htoks⟩ := fails_checks.1
  c10_pipeline_tokens failsA failsB hA hB htoks caps cfg fuel

example (caps : Limits.Caps) (cfg : RunCfg) (fuel : Nat) :
    (obs (Pipeline.runSource caps cfg fuel failsA) : Pipeline.Result Int)
      = obs (Pipeline.runSource caps cfg fuel failsB) :=
  fails_obs caps cfg fuel

example :
    shown (Pipeline.runSource roomyCaps Toy.cfg 30 failsA)
      = (2, [.unusedAssignment, .unusedVariable], [b!"7"], 1, some .divisionByZero) ∧
    shown (Pipeline.runSource roomyCaps Toy.cfg 30 failsB)
      = (2, [.unusedAssignment, .unusedVariable], [b!"7"], 1, some .divisionByZero) :=
  shown_both (fails_obs _ _ _) fails_checks.2.1

example : positions (Pipeline.runSource roomyCaps Toy.cfg 30 failsA)
    ≠ positions (Pipeline.runSource roomyCaps Toy.cfg 30 failsB) :=
  fails_checks.2.2

def rejectedA : Bytes := b!"shout(y)"
def rejectedB : Bytes := b!"shout # what?\n(\ty )"

theorem rejected_checks : ((lex rejectedA).2 = [] ∧ (lex rejectedB).2 = [] ∧
    (lex rejectedA).1.map (·.tok) = (lex rejectedB).1.map (·.tok)) ∧
    shown (Pipeline.runSource roomyCaps Toy.cfg 30 rejectedA) = (1, [.undeclaredIdentifier], [], 0, none) := by
  decide +kernel

theorem rejected_obs (caps : Limits.Caps) (cfg : RunCfg) (fuel : Nat) :
    (obs (Pipeline.runSource caps cfg fuel rejectedA) : Pipeline.Result Int)
      = obs (Pipeline.runSource caps cfg fuel rejectedB) :=
  have ⟨hA, hB, htoks⟩ := rejected_checks.1
  c10_pipeline_tokens rejectedA rejectedB hA hB htoks caps cfg fuel

example (caps : Limits.Caps) (cfg : RunCfg) (fuel : Nat) :
    (obs (Pipeline.runSource caps cfg fuel rejectedA) : Pipeline.Result Int)
      = obs (Pipeline.runSource caps cfg fuel rejectedB) :=
  rejected_obs caps cfg fuel

example : shown (Pipeline.runSource roomyCaps Toy.cfg 30 rejectedA) = (1, [.undeclaredIdentifier], [], 0, none) ∧
    shown (Pipeline.runSource roomyCaps Toy.cfg 30 rejectedB) = (1, [.undeclaredIdentifier], [], 0, none) :=
  shown_both (rejected_obs _ _ _) rejected_checks.2


def tightL : Layout :=
  [((.ident (b!"shout"), b!"shout"), []), ((.lparen, b!"("), []), ((.num (b!"1"), b!"1"), []),
   ((.rparen, b!")"), [])]

def looseL : Layout :=
  [((.ident (b!"shout"), b!"shout"), b!" # c\n"), ((.lparen, b!"("), b!"\t"), ((.num (b!"1"), b!"1"), b!"\r\n"),
   ((.rparen, b!")"), b!"\n")]

theorem shout_not_multiword : ∀ alts, multiWord.lookup (b!"shout") = some alts →
    ∀ (p : Nat) (rest : Bytes), tryAlts alts ⟨p, rest⟩ = none := by
  intro alts h
  have hn : multiWord.lookup (b!"shout") = none := by decide +kernel
  rw [hn] at h; cases h

theorem tightL_valid : Valid [] tightL := by
  refine ⟨Lexeme.ident _ (by decide +kernel) (by decide +kernel), Sep.nil, ⟨?_, fun alts h p => shout_not_multiword alts h p _⟩,
    Lexeme.punct 40 _ (by decide +kernel), Sep.nil, trivial,
    Lexeme.numInt _ (by decide +kernel) (by decide +kernel), Sep.nil, ⟨?_, ?_, ?_⟩,
    Lexeme.punct 41 _ (by decide +kernel), Sep.nil, trivial, trivial⟩
  -- what is left of `FollowOK`: the byte after `shout` is no word character; the byte after `1` is no digit, no letter
  -- and, `1` holding no `.`, no `.` (40 and 41 are the parentheses)
  · intro b r h; cases h; decide +kernel
  · intro b r h; cases h; decide +kernel
  · intro b r h; cases h; decide +kernel
  · exact Or.inr (by intro b r h; cases h; decide +kernel)

theorem looseL_valid : Valid (b!"# end") looseL := by
  refine ⟨Lexeme.ident _ (by decide +kernel) (by decide +kernel),
    Sep.ws 32 _ (by decide +kernel) (Sep.comment (b!" c") 10 [] (by decide +kernel) (by decide +kernel) Sep.nil),
    ⟨?_, fun alts h p => shout_not_multiword alts h p _⟩,
    Lexeme.punct 40 _ (by decide +kernel), Sep.ws 9 [] (by decide +kernel) Sep.nil, trivial,
    Lexeme.numInt _ (by decide +kernel) (by decide +kernel), Sep.ws 13 _ (by decide +kernel) (Sep.ws 10 [] (by decide +kernel) Sep.nil),
    ⟨?_, ?_, ?_⟩,
    Lexeme.punct 41 _ (by decide +kernel), Sep.ws 10 [] (by decide +kernel) Sep.nil, trivial, trivial⟩
  -- the same four `FollowOK` goals as in `tightL_valid`; the separators are built byte by byte (32 space, 9 TAB, 13 CR,
  -- 10 LF, a comment up to its LF)
  · intro b r h; cases h; decide +kernel
  · intro b r h; cases h; decide +kernel
  · intro b r h; cases h; decide +kernel
  · exact Or.inr (by intro b r h; cases h; decide +kernel)

example : render [] tightL = b!"shout(1)" ∧
    b!"\n" ++ render (b!"# end") looseL = b!"\nshout # c\n(\t1\r\n)\n# end" := by decide +kernel

/-- `c10_pipeline` on two explicit layouts, every hypothesis discharged. -/
theorem tight_loose_obs (caps : Limits.Caps) (cfg : RunCfg) (fuel : Nat) :
    (obs (Pipeline.runSource caps cfg fuel ([] ++ render [] tightL)) : Pipeline.Result Int)
      = obs (Pipeline.runSource caps cfg fuel (b!"\n" ++ render (b!"# end") looseL)) :=
  c10_pipeline tightL looseL Sep.nil (Or.inl rfl) tightL_valid
    (Sep.ws 10 [] (by decide +kernel) Sep.nil) (Or.inr ⟨b!" end", rfl, by decide +kernel⟩) looseL_valid rfl caps cfg fuel

example (caps : Limits.Caps) (cfg : RunCfg) (fuel : Nat) :
    (obs (Pipeline.runSource caps cfg fuel ([] ++ render [] tightL)) : Pipeline.Result Int)
      = obs (Pipeline.runSource caps cfg fuel (b!"\n" ++ render (b!"# end") looseL)) :=
  tight_loose_obs caps cfg fuel

example : shown (Pipeline.runSource roomyCaps Toy.cfg 30 ([] ++ render [] tightL)) = (2, [], [b!"1"], 0, none) ∧
    shown (Pipeline.runSource roomyCaps Toy.cfg 30 (b!"\n" ++ render (b!"# end") looseL))
      = (2, [], [b!"1"], 0, none) :=
  shown_both (tight_loose_obs _ _ _) (by decide +kernel)

/-- `make x get 1 add 2 times 3  shout(x)` as a canonical tree -/
def parProg : Block :=
  .mk [.assign (b!"x") zspan
          (.binary .add (.num (b!"1") zspan)
            (.binary .times (.num (b!"2") zspan) (.num (b!"3") zspan) zspan) zspan) none none zspan,
       .expr (.call (.var (b!"shout") none zspan) [.var (b!"x") none zspan] none zspan) none zspan] zspan

/-- `[120]` are the bytes of `x`. -/
def parQ : Expr → Nat
  | .num _ _ => 1
  | .binary .times _ _ _ => 2
  | .var [120] _ _ => 1
  | _ => 0

def parA : Bytes := b!"make x get 1 add 2 times 3 shout(x)"
def parB : Bytes := b!"make x get (1) add (((2) times (3)))\nshout((x)) # same"

theorem parProg_canon (r : Expr → Nat) (hr : r (.call (.var (b!"shout") none zspan) [.var (b!"x") none zspan] none zspan) = 0)
    (hv : r (.var (b!"shout") none zspan) = 0) : CanonBlock r parProg := by
  simp only [parProg, CanonBlock, CanonStmts, CanonStmt, WF, WFs, isBareRet, and_self, true_and]
  refine ⟨b!"shout", ?_⟩
  have n1 : needs 0 (.call (.var (b!"shout") none zspan) [.var (b!"x") none zspan] none zspan) = false := by
    decide
  have n2 : needs postfixLevel (.var (b!"shout") none zspan) = false := by decide +kernel
  simp only [printAt, wrap, wrapN, hr, hv, n1, n2, Bool.false_eq_true, if_false]
  exact ⟨_, rfl⟩

theorem par_checks : (((lex parA).2 = [] ∧ (lex parB).2 = []) ∧
    (lex parA).1.map (·.tok) = (programToks (fun _ => 0) parProg).map (·.tok) ∧
    (lex parB).1.map (·.tok) = (programToks parQ parProg).map (·.tok) ∧
    (lex parA).1.map (·.tok) ≠ (lex parB).1.map (·.tok)) ∧
    shown (Pipeline.runSource roomyCaps Toy.cfg 30 parA) = (2, [], [b!"7"], 0, none) := by decide +kernel

example : (lex parA).1.map (·.tok) = (programToks (fun _ => 0) parProg).map (·.tok) ∧
    (lex parB).1.map (·.tok) = (programToks parQ parProg).map (·.tok) ∧
    (lex parA).1.map (·.tok) ≠ (lex parB).1.map (·.tok) := par_checks.1.2

theorem par_obs (caps : Limits.Caps) (cfg : RunCfg) (fuel : Nat) :
    (obs (Pipeline.runSource caps cfg fuel parA) : Pipeline.Result Int)
      = obs (Pipeline.runSource caps cfg fuel parB) :=
  have ⟨⟨hA, hB⟩, htoksA, htoksB, _⟩ := par_checks.1
  (c10_redundant_parentheses_run (fun _ => 0) parQ parProg (parProg_canon _ rfl rfl) (parProg_canon _ rfl rfl)
    parA parB hA hB htoksA htoksB caps cfg fuel).2.2.2.2

example (caps : Limits.Caps) (cfg : RunCfg) (fuel : Nat) :
    (obs (Pipeline.runSource caps cfg fuel parA) : Pipeline.Result Int)
      = obs (Pipeline.runSource caps cfg fuel parB) :=
  par_obs caps cfg fuel

example : shown (Pipeline.runSource roomyCaps Toy.cfg 30 parA) = (2, [], [b!"7"], 0, none) ∧
    shown (Pipeline.runSource roomyCaps Toy.cfg 30 parB) = (2, [], [b!"7"], 0, none) :=
  shown_both (par_obs _ _ _) par_checks.2

end Examples

end NaijaVerif.C10
