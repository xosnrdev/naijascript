import NaijaVerif.Props.C10
import NaijaVerif.Props.C09
import NaijaVerif.Props.C03
import NaijaVerif.Lemmas.SpanEraseSource
/-
C01, last sentence: "a program that is valid by the documented rules and uses each variable at the type it
was declared with is never rejected".  Every valid layout (separators, comments, line ends, redundant
parentheses) of a canonical program satisfying `Spec.WF` is accepted by `Pipeline.frontEnd` under every
limit configuration, and conversely what is accepted is `Spec.WF`; composed with C03, `runSource` on the
text observes what `Eval.run` WITHOUT a plan observes on the tree `(resolve b).root`.
Hypotheses besides validity: `lookup = dynamic`, `panics = false`, no input, `NumLitsParse`, and the
decidable `structRest2B` of the tree (the part of `structOkB` not proved of the resolver model).
`printBlock` prints a static string as the `escaped` token, so statements are up to `Parse.flagErase`
(`…_anyflag`); section `Exact` is the special case of texts that lex to exactly the printed tokens.
-/
namespace NaijaVerif.C01Accept
open NaijaVerif NaijaVerif.Lex NaijaVerif.Parse NaijaVerif.Props.C10Lex NaijaVerif.C10Parse
open NaijaVerif.SpanErase NaijaVerif.Pipeline

theorem wf_iff_accepted (b : Block) : Spec.WF b ↔ (Resolve.resolve b).diags = [] := by
  rw [← C09.c09_full_holds b, C09.diags_all_errors]

theorem wf_eraseSpans (b : Block) : Spec.WF (eraseSpans b) ↔ Spec.WF b := by
  rw [wf_iff_accepted, wf_iff_accepted,
    show (Resolve.resolve (eraseSpans b)).diags = (Resolve.resolve b).diags.map eraseDiag from
      (resolveWith_erase true b).2.1, List.map_eq_nil_iff]

theorem wf_congr {b b' : Block} (h : eraseSpans b = eraseSpans b') : Spec.WF b ↔ Spec.WF b' := by
  rw [← wf_eraseSpans b, ← wf_eraseSpans b', h]

theorem resolve_diags_nil_congr {b b' : Block} (h : eraseSpans b = eraseSpans b') :
    (Resolve.resolve b).diags = [] ↔ (Resolve.resolve b').diags = [] := by
  rw [← wf_iff_accepted, ← wf_iff_accepted, wf_congr h]

theorem canon_eraseSpans (p : Expr → Nat) (b : Block) (hc : CanonBlock p b) : eraseSpans b = b := by
  have h := parse_commutes_with_erasure (programToks p b)
  have ht : (programToks p b).map eraseTok = programToks p b := by
    unfold programToks
    rw [List.map_append, List.map_map]
    rfl
  rw [ht, C01Parse.program_round_trip p b hc] at h
  exact (congrArg Prod.fst h).symm

/-- `C10.programToks_toks` under a name of this namespace. -/
theorem programToks_toks (p : Expr → Nat) (b : Block) :
    (programToks p b).map (·.tok) = printBlock p b ++ [.eof] :=
  C10.programToks_toks p b

/-- `ht` is up to the `escaped` flag of the string tokens without `{` (`flagErase`), which the parser does
not read. -/
theorem text_parses_to_tree_anyflag (p : Expr → Nat) (b : Block) (hc : CanonBlock p b) (s : Bytes)
    (ht : (lex s).1.map (fun t => flagErase t.tok) = (programToks p b).map (fun t => flagErase t.tok)) :
    (parseProgram (lex s).1).2 = [] ∧ eraseSpans (parseProgram (lex s).1).1 = b := by
  obtain ⟨hdiag, hast⟩ := C10.printed_parses_anyflag p b hc s ht
  exact ⟨hdiag, hast.trans (canon_eraseSpans p b hc)⟩

/-- The plan of the analyses as the runtime takes it: `C03.toEvalPlan (Analysis.planModel root facts)` (`analysisPlan_eq`),
the record `Pipeline.handOver` holds.  `PipelinePrune.passPlan root facts` is the same record and `Bridge.modelPlan root facts`
(C06's spelling) is `some` of it, each by `rfl`. -/
def analysisPlan (root : Block) (facts : Facts) : Eval.Plan :=
  { stmts := (Analysis.analyse root facts).plan.stmts, fns := (Analysis.analyse root facts).plan.fns }

theorem wf_iff_no_errors (q : Block) : Spec.WF q ↔ hasErrors (Resolve.resolve q).diags = false := by
  rw [← C09.c09_full_holds q, C09.rdiags_nil_iff, Props.C04Bridge.no_errors_iff]

/-- The plan is `none` when a limit tripped. -/
theorem afterParse_of_wf (caps : Limits.Caps) (q : Block) (h : Spec.WF q) :
    ∃ a, afterParse caps q = .ok a ∧ a.root = (Resolve.resolve q).root ∧ a.facts = (Resolve.resolve q).facts ∧
      (a.plan = none ∨ a.plan = some (analysisPlan a.root a.facts)) := by
  refine ⟨handOver caps q, ?_, rfl, rfl, ?_⟩
  · rw [afterParse_eq, (wf_iff_no_errors q).1 h]; rfl
  · rcases handOver_cases caps q with ⟨_, hplan, _⟩ | ⟨_, hplan, _⟩
    · exact Or.inr hplan
    · exact Or.inl hplan

theorem wf_of_afterParse {caps : Limits.Caps} {q : Block} {a : Accepted} (h : afterParse caps q = .ok a) :
    Spec.WF q := by
  rw [afterParse_eq] at h
  refine (wf_iff_no_errors q).2 (Bool.eq_false_iff.2 fun he => ?_)
  rw [if_pos he] at h; cases h

theorem frontEnd_of_clean (caps : Limits.Caps) (s : Bytes) (hl : (lex s).2 = [])
    (hp : (parseProgram (lex s).1).2 = []) :
    frontEnd caps s = (match afterParse caps (parseProgram (lex s).1).1 with
      | .error ds => .error (false, ds)
      | .ok a => .ok a) := by
  rw [Pipeline.frontEnd_eq caps s rfl rfl, hl, hp, afterParse_eq]
  cases hasErrors (Resolve.resolve (parseProgram (lex s).1).1).diags <;> rfl

/-- `PipelinePrune.runSource_ok` under a name of this namespace. -/
theorem runSource_of_ok {N : Type} [NumOps N] {caps : Limits.Caps} (cfg : Eval.RunCfg) (fuel : Nat) {s : Bytes}
    {a : Accepted} (h : frontEnd caps s = .ok a) :
    (runSource caps cfg fuel s : Pipeline.Result N) = .ran a.warnings (Eval.run { cfg with plan := a.plan } fuel a.root) :=
  PipelinePrune.runSource_ok cfg fuel h

/-- C01 (acceptance), from the tokens on: `p` is the choice of redundant parentheses; the annotated program
handed to the runtime is, up to spans, the resolver's annotation of the TREE `b`, with the same facts. -/
theorem c01_valid_never_rejected_tokens_anyflag (p : Expr → Nat) (b : Block) (hc : CanonBlock p b) (hwf : Spec.WF b)
    (s : Bytes) (hl : (lex s).2 = [])
    (ht : (lex s).1.map (fun t => flagErase t.tok) = (programToks p b).map (fun t => flagErase t.tok))
    (caps : Limits.Caps) :
    ∃ a, frontEnd caps s = .ok a ∧ eraseSpans a.root = eraseSpans (Resolve.resolve b).root ∧
      a.facts = (Resolve.resolve b).facts := by
  obtain ⟨hp, hast'⟩ := C10.printed_parses_anyflag p b hc s ht
  exact ⟨_, frontEnd_ok_iff.2 ⟨hl, hp, (wf_iff_no_errors _).1 ((wf_congr hast').mpr hwf), rfl⟩,
    (C10.span_independent_resolver hast').2.1, (C10.span_independent_resolver hast').2.2.1⟩

/-- C01: a valid program is never rejected.  `Spec.WF b`: every name is declared before it is used, calls
have the declared number of arguments, `comot` / `next` / `return` stand where they may, no duplicate or
reserved names, and every variable, operator, condition, index, method and argument is used at the type it
was declared with.  The layout `l` covers any leading separator, any separators between the tokens
(spaces, tabs, line ends, comments), any spelling of the multi-word keywords and of a static string, any
unfinished comment at the end. -/
theorem c01_valid_never_rejected_anyflag (p : Expr → Nat) (b : Block) (hc : CanonBlock p b) (hwf : Spec.WF b)
    {lead tr : Bytes} (l : Layout) (hlead : Sep lead) (htr : Trail tr) (hv : Valid tr l)
    (hk : l.toks.map flagErase = (printBlock p b).map flagErase) (caps : Limits.Caps) :
    ∃ a, frontEnd caps (lead ++ render tr l) = .ok a := by
  obtain ⟨a1, a2⟩ := c10_lex_roundtrip hlead htr l hv
  obtain ⟨a, ha, _⟩ := c01_valid_never_rejected_tokens_anyflag p b hc hwf _ a2
    (C10.layout_toks_anyflag p b a1 hk) caps
  exact ⟨a, ha⟩

theorem c01_valid_runs_anyflag {N : Type} [NumOps N] (p : Expr → Nat) (b : Block) (hc : CanonBlock p b) (hwf : Spec.WF b)
    {lead tr : Bytes} (l : Layout) (hlead : Sep lead) (htr : Trail tr) (hv : Valid tr l)
    (hk : l.toks.map flagErase = (printBlock p b).map flagErase)
    (caps : Limits.Caps) (cfg : Eval.RunCfg) (fuel : Nat) :
    ∃ ws o, (runSource caps cfg fuel (lead ++ render tr l) : Pipeline.Result N) = .ran ws o := by
  obtain ⟨a, ha⟩ := c01_valid_never_rejected_anyflag p b hc hwf l hlead htr hv hk caps
  exact ⟨_, _, runSource_of_ok cfg fuel ha⟩

/-- C01, converse: whatever the front end accepts is valid by the documented rules. -/
theorem c01_accepted_is_valid {caps : Limits.Caps} {s : Bytes} {a : Accepted} (h : frontEnd caps s = .ok a) :
    (lex s).2 = [] ∧ (parseProgram (lex s).1).2 = [] ∧ Spec.WF (parseProgram (lex s).1).1 ∧
      ∀ b, eraseSpans (parseProgram (lex s).1).1 = eraseSpans b → Spec.WF b := by
  obtain ⟨h1, h2, h3, _⟩ := frontEnd_ok_iff.1 h
  have hw := (wf_iff_no_errors _).2 h3
  exact ⟨h1, h2, hw, fun b hb => (wf_congr hb).mp hw⟩

/-- No printer in this statement: it covers every text, also those outside the image of `printBlock`
(e.g. `plainText` below). -/
theorem c01_accepted_iff_clean_and_valid (caps : Limits.Caps) (s : Bytes) :
    (∃ a, frontEnd caps s = .ok a) ↔
      ((lex s).2 = [] ∧ (parseProgram (lex s).1).2 = [] ∧ Spec.WF (parseProgram (lex s).1).1) := by
  constructor
  · rintro ⟨a, ha⟩
    obtain ⟨h1, h2, h3, _⟩ := c01_accepted_is_valid ha
    exact ⟨h1, h2, h3⟩
  · rintro ⟨h1, h2, h3⟩
    exact ⟨_, frontEnd_ok_iff.2 ⟨h1, h2, (wf_iff_no_errors _).1 h3, rfl⟩⟩

theorem c01_accepted_iff_valid_anyflag (p : Expr → Nat) (b : Block) (hc : CanonBlock p b)
    {lead tr : Bytes} (l : Layout) (hlead : Sep lead) (htr : Trail tr) (hv : Valid tr l)
    (hk : l.toks.map flagErase = (printBlock p b).map flagErase) (caps : Limits.Caps) :
    (∃ a, frontEnd caps (lead ++ render tr l) = .ok a) ↔ Spec.WF b := by
  constructor
  · rintro ⟨a, ha⟩
    obtain ⟨a1, _⟩ := c10_lex_roundtrip hlead htr l hv
    exact (c01_accepted_is_valid ha).2.2.2 b
      (C10.printed_parses_anyflag p b hc _ (C10.layout_toks_anyflag p b a1 hk)).2
  · intro hwf
    exact c01_valid_never_rejected_anyflag p b hc hwf l hlead htr hv hk caps

/-- The text runs like the tree: `a₀` is what resolver, limit preflight and analyses make of the TREE `b`
(its plan a function of `b` and the caps only); warnings and outcome of the run of the text are those of
`Eval.run` on the annotated tree with `a₀.plan`, up to positions. -/
theorem c01_accepted_runs_like_the_tree_tokens_anyflag {N : Type} [NumOps N] (p : Expr → Nat) (b : Block)
    (hc : CanonBlock p b) (hwf : Spec.WF b)
    (s : Bytes) (hl : (lex s).2 = [])
    (ht : (lex s).1.map (fun t => flagErase t.tok) = (programToks p b).map (fun t => flagErase t.tok))
    (caps : Limits.Caps) (cfg : Eval.RunCfg) (fuel : Nat) :
    ∃ a₀ ws o, afterParse caps b = .ok a₀ ∧ a₀.root = (Resolve.resolve b).root ∧
      (a₀.plan = none ∨ a₀.plan = some (analysisPlan (Resolve.resolve b).root (Resolve.resolve b).facts)) ∧
      (runSource caps cfg fuel s : Pipeline.Result N) = .ran ws o ∧
      ws.map eraseDiag = a₀.warnings.map eraseDiag ∧
      eraseOutcome o = eraseOutcome (Eval.run { cfg with plan := a₀.plan } fuel (Resolve.resolve b).root) := by
  obtain ⟨hp, hast'⟩ := C10.printed_parses_anyflag p b hc s ht
  obtain ⟨a₀, ha₀, hroot₀, hfacts₀, hplan₀⟩ := afterParse_of_wf caps b hwf
  have hobs : (obs (runSource caps cfg fuel s) : Pipeline.Result N) = obs (runParsed caps cfg fuel b) := by
    rw [Pipeline.runSource_eq caps cfg fuel s rfl rfl, ← runParsed_eq, hl, hp]
    simp only [List.append_nil, List.isEmpty_nil, Bool.not_true, Bool.false_eq_true, if_false]
    exact C10.span_independent_back_end caps cfg fuel hast'
  obtain ⟨a, ha, _⟩ := c01_valid_never_rejected_tokens_anyflag p b hc hwf s hl ht caps
  have hrun := runSource_of_ok (N := N) cfg fuel ha
  refine ⟨a₀, _, _, ha₀, hroot₀, by rw [← hroot₀, ← hfacts₀]; exact hplan₀, hrun, ?_⟩
  rw [hrun] at hobs
  simp only [runParsed, ha₀, obs, Pipeline.Result.ran.injEq] at hobs
  rw [← hroot₀]
  exact hobs

theorem c01_accepted_runs_like_the_tree_anyflag {N : Type} [NumOps N] (p : Expr → Nat) (b : Block)
    (hc : CanonBlock p b) (hwf : Spec.WF b)
    {lead tr : Bytes} (l : Layout) (hlead : Sep lead) (htr : Trail tr) (hv : Valid tr l)
    (hk : l.toks.map flagErase = (printBlock p b).map flagErase)
    (caps : Limits.Caps) (cfg : Eval.RunCfg) (fuel : Nat) :
    ∃ a₀ ws o, afterParse caps b = .ok a₀ ∧ a₀.root = (Resolve.resolve b).root ∧
      (a₀.plan = none ∨ a₀.plan = some (analysisPlan (Resolve.resolve b).root (Resolve.resolve b).facts)) ∧
      (runSource caps cfg fuel (lead ++ render tr l) : Pipeline.Result N) = .ran ws o ∧
      ws.map eraseDiag = a₀.warnings.map eraseDiag ∧
      eraseOutcome o = eraseOutcome (Eval.run { cfg with plan := a₀.plan } fuel (Resolve.resolve b).root) := by
  obtain ⟨a1, a2⟩ := c10_lex_roundtrip hlead htr l hv
  exact c01_accepted_runs_like_the_tree_tokens_anyflag p b hc hwf _ a2 (C10.layout_toks_anyflag p b a1 hk) caps cfg fuel

/-- `htrip`: a limit trips, the analyses hand over no plan. -/
theorem c01_accepted_runs_like_the_tree_no_plan_anyflag {N : Type} [NumOps N] (p : Expr → Nat) (b : Block)
    (hc : CanonBlock p b) (hwf : Spec.WF b)
    {lead tr : Bytes} (l : Layout) (hlead : Sep lead) (htr : Trail tr) (hv : Valid tr l)
    (hk : l.toks.map flagErase = (printBlock p b).map flagErase)
    (caps : Limits.Caps) (cfg : Eval.RunCfg) (fuel : Nat)
    (htrip : ∀ a₀, afterParse caps b = .ok a₀ → a₀.plan = none) :
    ∃ ws o, (runSource caps cfg fuel (lead ++ render tr l) : Pipeline.Result N) = .ran ws o ∧
      eraseOutcome o = eraseOutcome (Eval.run { cfg with plan := none } fuel (Resolve.resolve b).root) := by
  obtain ⟨a₀, ws, o, ha₀, _, _, hrun, _, ho⟩ :=
    c01_accepted_runs_like_the_tree_anyflag (N := N) p b hc hwf l hlead htr hv hk caps cfg fuel
  rw [htrip a₀ ha₀] at ho
  exact ⟨ws, o, hrun, ho⟩

section Means
open NaijaVerif.C03 (evalObs rtCode toEvalPlan)
open NaijaVerif.Props.C06Accepted (NumLitsParse)
open NaijaVerif.Bridge (isNumLexeme)
open NaijaVerif.ResolveStruct (structRest2B)

/-- The scanner / parser guarantees hold of the parse of the text (`Bridge.parse_source_ok`), which is the TREE up
to spans. -/
theorem canon_source_ok_anyflag (p : Expr → Nat) (b : Block) (hc : CanonBlock p b) (s : Bytes)
    (ht : (lex s).1.map (fun t => flagErase t.tok) = (programToks p b).map (fun t => flagErase t.tok)) (strict : Bool) :
    Bridge.srcBlock ⟨[], isNumLexeme, strict, none⟩ b = true := by
  rw [← srcBlock_congr_erase _ (C10.printed_parses_anyflag p b hc s ht).2]
  exact Bridge.parse_source_ok ⟨[], isNumLexeme, strict, none⟩ Bridge.isNumLexeme_zero _ (Bridge.lex_numbers s)

theorem analysisPlan_eq (root : Block) (facts : Facts) :
    analysisPlan root facts = toEvalPlan (Analysis.planModel root facts) := rfl

/-- C01 ∘ C03, from the tokens on: if `Eval.run` WITHOUT a plan on the annotated tree ends within its fuel
with the observation `o` — the printed values, and a normal ending or the kind of a runtime error other
than `Undefined variable` — then for every limit configuration and all sufficiently large fuel the shipped
pipeline on the TEXT, with whatever plan the analyses computed under those caps, is a run with the same `o`.
`hlk`, `hpn`: the shipped interpreter's settings; `hnum`: `ofLit` accepts the scanner's lexemes; `hrest`:
C03's decidable side condition on the annotated tree (no plan, no caps, no text in it).  The second component of `o` is
the ending as `C03.evalObs` encodes it: `0` normal, `2` a crash of the interpreter, `10 + rtCode k` the runtime error `k`. -/
theorem c01_text_means_tree_anyflag {N : Type} [NumOps N] (hnum : NumLitsParse N isNumLexeme)
    (p : Expr → Nat) (b : Block) (hc : CanonBlock p b) (hwf : Spec.WF b)
    (s : Bytes) (hl : (lex s).2 = [])
    (ht : (lex s).1.map (fun t => flagErase t.tok) = (programToks p b).map (fun t => flagErase t.tok))
    (caps : Limits.Caps) (cfg : Eval.RunCfg)
    (hlk : cfg.lookup = .dynamic) (hpn : cfg.panics = false) (hin : cfg.input = [])
    (hrest : structRest2B (Resolve.resolve b).root (Resolve.resolve b).facts = true)
    (f : Nat) (o : List (Eval.Value N) × Nat)
    (hrun : evalObs (Eval.run (N := N) { cfg with plan := none } f (Resolve.resolve b).root) = some o)
    (hund : o.2 ≠ 10 + rtCode .undefinedVariable) :
    ∃ f', ∀ g, f' ≤ g → ∃ ws out, (runSource caps cfg g s : Pipeline.Result N) = .ran ws out ∧
      evalObs out = some o := by
  have hacc : Props.C06Eval.Accepted b := C09.c09_well_formed_accepted b hwf
  have hrd : (Resolve.resolve b).rdiags = [] := Props.C06Accepted.accepted_rdiags hacc
  have hok := C03.resolve_okBlock isNumLexeme b (canon_source_ok_anyflag p b hc s ht false) hrd
  have hs := C03.resolve_structOk2 b hrd hrest
  -- C06: the plain run of the tree does not crash the interpreter
  have hpan : o.2 ≠ 2 :=
    PipelinePrune.evalObs_ne_panic
      (Props.C06Accepted.c06_accepted isNumLexeme hnum { cfg with plan := none } hpn (Or.inl hlk) b hacc
        (Props.C06Accepted.planReach_none _ rfl _) (canon_source_ok_anyflag p b hc s ht true) f) hrun
  -- C03 is applied to the tree, so no span-independence of `structRest2B` is needed
  obtain ⟨f', h⟩ := C03.c03_eval_either hnum cfg hlk hpn hin _ _ hok hs f o hrun hund hpan
  refine ⟨f', fun g hg => ?_⟩
  obtain ⟨a₀, ws, out, _, _, hplan, hran, _, hout⟩ :=
    c01_accepted_runs_like_the_tree_tokens_anyflag (N := N) p b hc hwf s hl ht caps cfg g
  exact ⟨ws, out, hran, (evalObs_congr hout).trans (h g hg _ hplan)⟩

theorem c01_layout_means_tree_anyflag {N : Type} [NumOps N] (hnum : NumLitsParse N isNumLexeme)
    (p : Expr → Nat) (b : Block) (hc : CanonBlock p b) (hwf : Spec.WF b)
    {lead tr : Bytes} (l : Layout) (hlead : Sep lead) (htr : Trail tr) (hv : Valid tr l)
    (hk : l.toks.map flagErase = (printBlock p b).map flagErase)
    (caps : Limits.Caps) (cfg : Eval.RunCfg)
    (hlk : cfg.lookup = .dynamic) (hpn : cfg.panics = false) (hin : cfg.input = [])
    (hrest : structRest2B (Resolve.resolve b).root (Resolve.resolve b).facts = true)
    (f : Nat) (o : List (Eval.Value N) × Nat)
    (hrun : evalObs (Eval.run (N := N) { cfg with plan := none } f (Resolve.resolve b).root) = some o)
    (hund : o.2 ≠ 10 + rtCode .undefinedVariable) :
    ∃ f', ∀ g, f' ≤ g → ∃ ws out, (runSource caps cfg g (lead ++ render tr l) : Pipeline.Result N) = .ran ws out ∧
      evalObs out = some o := by
  obtain ⟨a1, a2⟩ := c10_lex_roundtrip hlead htr l hv
  exact c01_text_means_tree_anyflag hnum p b hc hwf _ a2 (C10.layout_toks_anyflag p b a1 hk) caps cfg hlk hpn hin hrest
    f o hrun hund

end Means

/-! The special case of a text that lexes to exactly the printed tokens (`ht : … map (·.tok) = …`, `hk : l.toks = printBlock p b`):
each statement of the sections above under its plain name, as an instance (`toks_anyflag ht`, `by rw [hk]`).  These are
the statements DESIGN §5 C01 cites; nothing else in the development goes through them. -/

section Exact
open NaijaVerif.C03 (evalObs rtCode toEvalPlan)
open NaijaVerif.Props.C06Accepted (NumLitsParse)
open NaijaVerif.Bridge (isNumLexeme)
open NaijaVerif.ResolveStruct (structRest2B)

theorem text_parses_to_tree (p : Expr → Nat) (b : Block) (hc : CanonBlock p b) (s : Bytes)
    (ht : (lex s).1.map (·.tok) = (programToks p b).map (·.tok)) :
    (parseProgram (lex s).1).2 = [] ∧ eraseSpans (parseProgram (lex s).1).1 = b :=
  text_parses_to_tree_anyflag p b hc s (toks_anyflag ht)

theorem c01_valid_never_rejected_tokens (p : Expr → Nat) (b : Block) (hc : CanonBlock p b) (hwf : Spec.WF b)
    (s : Bytes) (hl : (lex s).2 = []) (ht : (lex s).1.map (·.tok) = (programToks p b).map (·.tok))
    (caps : Limits.Caps) :
    ∃ a, frontEnd caps s = .ok a ∧ eraseSpans a.root = eraseSpans (Resolve.resolve b).root ∧
      a.facts = (Resolve.resolve b).facts :=
  c01_valid_never_rejected_tokens_anyflag p b hc hwf s hl (toks_anyflag ht) caps

theorem c01_valid_never_rejected (p : Expr → Nat) (b : Block) (hc : CanonBlock p b) (hwf : Spec.WF b)
    {lead tr : Bytes} (l : Layout) (hlead : Sep lead) (htr : Trail tr) (hv : Valid tr l)
    (hk : l.toks = printBlock p b) (caps : Limits.Caps) :
    ∃ a, frontEnd caps (lead ++ render tr l) = .ok a :=
  c01_valid_never_rejected_anyflag p b hc hwf l hlead htr hv (by rw [hk]) caps

theorem c01_valid_runs {N : Type} [NumOps N] (p : Expr → Nat) (b : Block) (hc : CanonBlock p b) (hwf : Spec.WF b)
    {lead tr : Bytes} (l : Layout) (hlead : Sep lead) (htr : Trail tr) (hv : Valid tr l)
    (hk : l.toks = printBlock p b) (caps : Limits.Caps) (cfg : Eval.RunCfg) (fuel : Nat) :
    ∃ ws o, (runSource caps cfg fuel (lead ++ render tr l) : Pipeline.Result N) = .ran ws o :=
  c01_valid_runs_anyflag p b hc hwf l hlead htr hv (by rw [hk]) caps cfg fuel

theorem c01_accepted_iff_valid (p : Expr → Nat) (b : Block) (hc : CanonBlock p b)
    {lead tr : Bytes} (l : Layout) (hlead : Sep lead) (htr : Trail tr) (hv : Valid tr l)
    (hk : l.toks = printBlock p b) (caps : Limits.Caps) :
    (∃ a, frontEnd caps (lead ++ render tr l) = .ok a) ↔ Spec.WF b :=
  c01_accepted_iff_valid_anyflag p b hc l hlead htr hv (by rw [hk]) caps

theorem c01_accepted_runs_like_the_tree_tokens {N : Type} [NumOps N] (p : Expr → Nat) (b : Block)
    (hc : CanonBlock p b) (hwf : Spec.WF b)
    (s : Bytes) (hl : (lex s).2 = []) (ht : (lex s).1.map (·.tok) = (programToks p b).map (·.tok))
    (caps : Limits.Caps) (cfg : Eval.RunCfg) (fuel : Nat) :
    ∃ a₀ ws o, afterParse caps b = .ok a₀ ∧ a₀.root = (Resolve.resolve b).root ∧
      (a₀.plan = none ∨ a₀.plan = some (analysisPlan (Resolve.resolve b).root (Resolve.resolve b).facts)) ∧
      (runSource caps cfg fuel s : Pipeline.Result N) = .ran ws o ∧
      ws.map eraseDiag = a₀.warnings.map eraseDiag ∧
      eraseOutcome o = eraseOutcome (Eval.run { cfg with plan := a₀.plan } fuel (Resolve.resolve b).root) :=
  c01_accepted_runs_like_the_tree_tokens_anyflag p b hc hwf s hl (toks_anyflag ht) caps cfg fuel

theorem c01_accepted_runs_like_the_tree {N : Type} [NumOps N] (p : Expr → Nat) (b : Block)
    (hc : CanonBlock p b) (hwf : Spec.WF b)
    {lead tr : Bytes} (l : Layout) (hlead : Sep lead) (htr : Trail tr) (hv : Valid tr l)
    (hk : l.toks = printBlock p b) (caps : Limits.Caps) (cfg : Eval.RunCfg) (fuel : Nat) :
    ∃ a₀ ws o, afterParse caps b = .ok a₀ ∧ a₀.root = (Resolve.resolve b).root ∧
      (a₀.plan = none ∨ a₀.plan = some (analysisPlan (Resolve.resolve b).root (Resolve.resolve b).facts)) ∧
      (runSource caps cfg fuel (lead ++ render tr l) : Pipeline.Result N) = .ran ws o ∧
      ws.map eraseDiag = a₀.warnings.map eraseDiag ∧
      eraseOutcome o = eraseOutcome (Eval.run { cfg with plan := a₀.plan } fuel (Resolve.resolve b).root) :=
  c01_accepted_runs_like_the_tree_anyflag p b hc hwf l hlead htr hv (by rw [hk]) caps cfg fuel

theorem c01_accepted_runs_like_the_tree_no_plan {N : Type} [NumOps N] (p : Expr → Nat) (b : Block)
    (hc : CanonBlock p b) (hwf : Spec.WF b)
    {lead tr : Bytes} (l : Layout) (hlead : Sep lead) (htr : Trail tr) (hv : Valid tr l)
    (hk : l.toks = printBlock p b) (caps : Limits.Caps) (cfg : Eval.RunCfg) (fuel : Nat)
    (htrip : ∀ a₀, afterParse caps b = .ok a₀ → a₀.plan = none) :
    ∃ ws o, (runSource caps cfg fuel (lead ++ render tr l) : Pipeline.Result N) = .ran ws o ∧
      eraseOutcome o = eraseOutcome (Eval.run { cfg with plan := none } fuel (Resolve.resolve b).root) :=
  c01_accepted_runs_like_the_tree_no_plan_anyflag p b hc hwf l hlead htr hv (by rw [hk]) caps cfg fuel htrip

theorem canon_source_ok (p : Expr → Nat) (b : Block) (hc : CanonBlock p b) (s : Bytes)
    (ht : (lex s).1.map (·.tok) = (programToks p b).map (·.tok)) (strict : Bool) :
    Bridge.srcBlock ⟨[], isNumLexeme, strict, none⟩ b = true :=
  canon_source_ok_anyflag p b hc s (toks_anyflag ht) strict

theorem c01_text_means_tree {N : Type} [NumOps N] (hnum : NumLitsParse N isNumLexeme)
    (p : Expr → Nat) (b : Block) (hc : CanonBlock p b) (hwf : Spec.WF b)
    (s : Bytes) (hl : (lex s).2 = []) (ht : (lex s).1.map (·.tok) = (programToks p b).map (·.tok))
    (caps : Limits.Caps) (cfg : Eval.RunCfg)
    (hlk : cfg.lookup = .dynamic) (hpn : cfg.panics = false) (hin : cfg.input = [])
    (hrest : structRest2B (Resolve.resolve b).root (Resolve.resolve b).facts = true)
    (f : Nat) (o : List (Eval.Value N) × Nat)
    (hrun : evalObs (Eval.run (N := N) { cfg with plan := none } f (Resolve.resolve b).root) = some o)
    (hund : o.2 ≠ 10 + rtCode .undefinedVariable) :
    ∃ f', ∀ g, f' ≤ g → ∃ ws out, (runSource caps cfg g s : Pipeline.Result N) = .ran ws out ∧
      evalObs out = some o :=
  c01_text_means_tree_anyflag hnum p b hc hwf s hl (toks_anyflag ht) caps cfg hlk hpn hin hrest f o hrun hund

theorem c01_layout_means_tree {N : Type} [NumOps N] (hnum : NumLitsParse N isNumLexeme)
    (p : Expr → Nat) (b : Block) (hc : CanonBlock p b) (hwf : Spec.WF b)
    {lead tr : Bytes} (l : Layout) (hlead : Sep lead) (htr : Trail tr) (hv : Valid tr l)
    (hk : l.toks = printBlock p b)
    (caps : Limits.Caps) (cfg : Eval.RunCfg)
    (hlk : cfg.lookup = .dynamic) (hpn : cfg.panics = false) (hin : cfg.input = [])
    (hrest : structRest2B (Resolve.resolve b).root (Resolve.resolve b).facts = true)
    (f : Nat) (o : List (Eval.Value N) × Nat)
    (hrun : evalObs (Eval.run (N := N) { cfg with plan := none } f (Resolve.resolve b).root) = some o)
    (hund : o.2 ≠ 10 + rtCode .undefinedVariable) :
    ∃ f', ∀ g, f' ≤ g → ∃ ws out, (runSource caps cfg g (lead ++ render tr l) : Pipeline.Result N) = .ran ws out ∧
      evalObs out = some o :=
  c01_layout_means_tree_anyflag hnum p b hc hwf l hlead htr hv (by rw [hk]) caps cfg hlk hpn hin hrest f o hrun hund

end Exact

section Examples
open NaijaVerif.Eval

private def v (x : Bytes) : Expr := .var x none zspan

/--
```
do f(a) start return a add 1 end
make i get 0       make s get "x{i}y"
jasi (i small pass s.len()) start i get f(i) end
shout(i)
``` -/
def demoProg : Block :=
  .mk [.fnDef (b!"f") zspan [{ name := b!"a", span := zspan }]
         (.mk [.ret (some (.binary .add (v (b!"a")) (.num (b!"1") zspan) zspan)) none zspan] zspan) none none zspan,
       .assign (b!"i") zspan (.num (b!"0") zspan) none none zspan,
       .assign (b!"s") zspan (.str (.interp [.lit (b!"x"), .var (b!"i") none, .lit (b!"y")]) zspan) none none zspan,
       .loop (.binary .lt (v (b!"i")) (.call (.member (v (b!"s")) (b!"len") zspan zspan) [] none zspan) zspan)
         (.mk [.assignExisting (b!"i") zspan (.call (v (b!"f")) [v (b!"i")] none zspan) none none zspan] zspan)
         none zspan,
       .expr (.call (v (b!"shout")) [v (b!"i")] none zspan) none zspan] zspan

/-- one redundant pair around the method call, two around the literal `1` -/
def demoQ : Expr → Nat
  | .call (.member _ _ _ _) _ _ _ => 1
  | .num [49] _ => 2
  | _ => 0

/-- `demoProg` with comments, blank lines, CRLF, tabs, `small pass` split over two lines, redundant
parentheses, an unfinished comment at the end -/
def demoText : Bytes :=
  b!"# count up to the length\ndo f(a) start\r\n\treturn a add ((1)) # next\nend\n\nmake i get 0\nmake s get \"x{i}y\"\njasi (i small\n pass (s.len())) start i get f(i) end\nshout(i) # done"

theorem demoProg_canon : CanonBlock demoQ demoProg := by
  simp only [demoProg, v, CanonBlock, CanonStmts, CanonStmt, CanonParam, Parse.WF, WFs, isBareRet,
    List.mem_singleton, forall_eq, and_self, true_and]
  -- what is left: `strOk` of the one string literal, and `startsWithIdent` of the expression statement `shout(i)`, whose
  -- print is the identifier `shout` followed by `( i )` (the two witnesses); the other `…_canon` below end the same way
  exact ⟨by unfold strOk; decide +kernel, b!"shout", [.lparen, .ident (b!"i"), .rparen], by decide +kernel⟩

theorem demoProg_valid : Spec.WF demoProg := by decide +kernel

/-- Everything that is evaluated about the text `demoText`, as ONE evaluation: the kernel then lexes it
once, for its tokens against those of `demoProg` and for the run. -/
theorem demoText_run : ((lex demoText).2 = [] ∧
      (lex demoText).1.map (·.tok) = (programToks demoQ demoProg).map (·.tok)) ∧
    C10.shown (runSource C10.roomyCaps Toy.cfg 200 demoText) = (2, [], [b!"3"], 0, none) := by decide +kernel

theorem demoText_tokens : (lex demoText).2 = [] ∧
    (lex demoText).1.map (·.tok) = (programToks demoQ demoProg).map (·.tok) := demoText_run.1

example (caps : Limits.Caps) : ∃ a, frontEnd caps demoText = .ok a :=
  (c01_valid_never_rejected_tokens demoQ demoProg demoProg_canon demoProg_valid demoText
    demoText_tokens.1 demoText_tokens.2 caps).imp fun _ h => h.1

example (caps : Limits.Caps) (cfg : RunCfg) (fuel : Nat) :
    ∃ a₀ ws o, afterParse caps demoProg = .ok a₀ ∧ a₀.root = (Resolve.resolve demoProg).root ∧
      (a₀.plan = none ∨
        a₀.plan = some (analysisPlan (Resolve.resolve demoProg).root (Resolve.resolve demoProg).facts)) ∧
      (runSource caps cfg fuel demoText : Pipeline.Result Int) = .ran ws o ∧
      ws.map eraseDiag = a₀.warnings.map eraseDiag ∧
      eraseOutcome o = eraseOutcome (Eval.run { cfg with plan := a₀.plan } fuel (Resolve.resolve demoProg).root) :=
  c01_accepted_runs_like_the_tree_tokens demoQ demoProg demoProg_canon demoProg_valid demoText
    demoText_tokens.1 demoText_tokens.2 caps cfg fuel

example : C10.shown (runSource C10.roomyCaps Toy.cfg 200 demoText) = (2, [], [b!"3"], 0, none) :=
  demoText_run.2
example : (Toy.summary (Eval.run (N := Int) Toy.cfg 200 (Resolve.resolve demoProg).root)) = ([b!"3"], 0) := by
  decide +kernel

/-- `s` used at another type than it was declared with (`s minus 1` for a string `s`) -/
def badProg : Block :=
  .mk [.assign (b!"s") zspan (.str (.static (b!"abc")) zspan) none none zspan,
       .expr (.call (v (b!"shout")) [.binary .minus (v (b!"s")) (.num (b!"1") zspan) zspan] none zspan) none zspan] zspan

example : ¬ Spec.WF badProg := by decide +kernel
example : C10.shown (runSource C10.roomyCaps Toy.cfg 50 (b!"make s get \"abc\"\nshout(s minus 1)"))
    = (1, [.typeMismatch], [], 0, none) := by decide +kernel

/-! A static string is printed as the `escaped` string token (`strTok`), which only a literal that contains
an escape sequence lexes to; the plain literal `"abc"` lexes to the unescaped token, so `plainText` does
NOT lex to the printed tokens of its tree `plainProg` and is outside section `Exact`.  The parser does not
read the flag of a string without `{` (`C10Parse.parse_ignores_str_flag`), so the `…_anyflag` statements
apply. -/

def plainText : Bytes := b!"make s get \"abc\"\nshout(s.len())"

def plainProg : Block :=
  .mk [.assign (b!"s") zspan (.str (.static (b!"abc")) zspan) none none zspan,
       .expr (.call (v (b!"shout")) [.call (.member (v (b!"s")) (b!"len") zspan zspan) [] none zspan] none zspan)
         none zspan] zspan

theorem plainProg_canon : CanonBlock (fun _ => 0) plainProg := by
  simp only [plainProg, v, CanonBlock, CanonStmts, CanonStmt, Parse.WF, WFs, isBareRet, and_self, true_and]
  exact ⟨by unfold strOk; decide +kernel, b!"shout",
    [.lparen, .ident (b!"s"), .dot, .ident (b!"len"), .lparen, .rparen, .rparen], by decide +kernel⟩

theorem plainProg_valid : Spec.WF plainProg := by decide +kernel

/-- One evaluation, like `demoText_run`. -/
theorem plainText_checks : ((lex plainText).2 = [] ∧
    (lex plainText).1.map (·.tok) ≠ (programToks (fun _ => 0) plainProg).map (·.tok) ∧
    (lex plainText).1.map (fun t => flagErase t.tok)
      = (programToks (fun _ => 0) plainProg).map (fun t => flagErase t.tok)) ∧
    ((lex plainText).2 = [] ∧ (parseProgram (lex plainText).1).2 = [] ∧ Spec.WF (parseProgram (lex plainText).1).1) ∧
    C10.shown (runSource C10.roomyCaps Toy.cfg 50 plainText) = (2, [], [b!"3"], 0, none) := by
  decide +kernel

theorem plainText_tokens : (lex plainText).2 = [] ∧
    (lex plainText).1.map (·.tok) ≠ (programToks (fun _ => 0) plainProg).map (·.tok) ∧
    (lex plainText).1.map (fun t => flagErase t.tok)
      = (programToks (fun _ => 0) plainProg).map (fun t => flagErase t.tok) := plainText_checks.1

example (caps : Limits.Caps) : ∃ a, frontEnd caps plainText = .ok a :=
  (c01_valid_never_rejected_tokens_anyflag _ plainProg plainProg_canon plainProg_valid plainText
    plainText_tokens.1 plainText_tokens.2.2 caps).imp fun _ h => h.1

example (caps : Limits.Caps) (cfg : RunCfg) (fuel : Nat) :
    ∃ a₀ ws o, afterParse caps plainProg = .ok a₀ ∧ a₀.root = (Resolve.resolve plainProg).root ∧
      (a₀.plan = none ∨
        a₀.plan = some (analysisPlan (Resolve.resolve plainProg).root (Resolve.resolve plainProg).facts)) ∧
      (runSource caps cfg fuel plainText : Pipeline.Result Int) = .ran ws o ∧
      ws.map eraseDiag = a₀.warnings.map eraseDiag ∧
      eraseOutcome o = eraseOutcome (Eval.run { cfg with plan := a₀.plan } fuel (Resolve.resolve plainProg).root) :=
  c01_accepted_runs_like_the_tree_tokens_anyflag _ plainProg plainProg_canon plainProg_valid plainText
    plainText_tokens.1 plainText_tokens.2.2 caps cfg fuel

example : C10.shown (runSource C10.roomyCaps Toy.cfg 50 plainText) = (2, [], [b!"3"], 0, none) :=
  plainText_checks.2.2
example : (Toy.summary (Eval.run (N := Int) Toy.cfg 50 (Resolve.resolve plainProg).root)) = ([b!"3"], 0) := by
  decide +kernel

example (caps : Limits.Caps) : ∃ a, frontEnd caps plainText = .ok a :=
  (c01_accepted_iff_clean_and_valid caps plainText).mpr plainText_checks.2.1

/-- the tree of the layouts `C10.tightL`, `C10.looseL` -/
def shoutProg : Block :=
  .mk [.expr (.call (v (b!"shout")) [.num (b!"1") zspan] none zspan) none zspan] zspan

theorem shoutProg_canon : CanonBlock (fun _ => 0) shoutProg := by
  simp only [shoutProg, v, CanonBlock, CanonStmts, CanonStmt, Parse.WF, WFs, and_self, true_and]
  exact ⟨b!"shout", [.lparen, .num (b!"1"), .rparen], by decide +kernel⟩

theorem shoutProg_valid : Spec.WF shoutProg := by decide +kernel

example (caps : Limits.Caps) : ∃ a, frontEnd caps ([] ++ render [] C10.tightL) = .ok a :=
  c01_valid_never_rejected _ shoutProg shoutProg_canon shoutProg_valid C10.tightL Sep.nil (Or.inl rfl)
    C10.tightL_valid (by decide +kernel) caps

example (caps : Limits.Caps) (cfg : RunCfg) (fuel : Nat) :
    ∃ ws o, (runSource caps cfg fuel (b!"\n" ++ render (b!"# end") C10.looseL) : Pipeline.Result Int) = .ran ws o :=
  c01_valid_runs _ shoutProg shoutProg_canon shoutProg_valid C10.looseL (Sep.ws 10 [] (by decide +kernel) Sep.nil)
    (Or.inr ⟨b!" end", rfl, by decide +kernel⟩) C10.looseL_valid (by decide +kernel) caps cfg fuel

example (caps : Limits.Caps) :
    (∃ a, frontEnd caps (b!"\n" ++ render (b!"# end") C10.looseL) = .ok a) ↔ Spec.WF shoutProg :=
  c01_accepted_iff_valid _ shoutProg shoutProg_canon C10.looseL (Sep.ws 10 [] (by decide +kernel) Sep.nil)
    (Or.inr ⟨b!" end", rfl, by decide +kernel⟩) C10.looseL_valid (by decide +kernel) caps

/-- caps under which the single statement of `shout(1)` is one too many: no plan -/
def tightCaps : Limits.Caps := { C10.roomyCaps with maxStatements := 0 }

example (cfg : RunCfg) (fuel : Nat) :
    ∃ ws o, (runSource tightCaps cfg fuel (b!"\n" ++ render (b!"# end") C10.looseL) : Pipeline.Result Int) = .ran ws o ∧
      eraseOutcome o = eraseOutcome (Eval.run { cfg with plan := none } fuel (Resolve.resolve shoutProg).root) :=
  c01_accepted_runs_like_the_tree_no_plan _ shoutProg shoutProg_canon shoutProg_valid C10.looseL
    (Sep.ws 10 [] (by decide +kernel) Sep.nil) (Or.inr ⟨b!" end", rfl, by decide +kernel⟩) C10.looseL_valid (by decide +kernel)
    tightCaps cfg fuel (by
      have h : (match afterParse tightCaps shoutProg with
          | .ok a => a.plan.isNone
          | .error _ => false) = true := by decide +kernel
      intro a₀ h₀
      rw [h₀] at h
      exact Option.isNone_iff_eq_none.mp h)

section MeansExamples
open NaijaVerif.C03 (evalObs)
open NaijaVerif.Props.C06Accepted (trivialNum)
open NaijaVerif.ResolveStruct (structRest2B)

/-- `c01_text_means_tree_anyflag` at `trivialNum`, a number type for which `NumLitsParse _ isNumLexeme`
holds, and `Toy.cfg`. -/
theorem text_ends_like_tree (p : Expr → Nat) (b : Block) (hc : CanonBlock p b) (hwf : Spec.WF b) (s : Bytes)
    (hl : (lex s).2 = [])
    (ht : (lex s).1.map (fun t => flagErase t.tok) = (programToks p b).map (fun t => flagErase t.tok))
    (hrest : structRest2B (Resolve.resolve b).root (Resolve.resolve b).facts = true) (fuel : Nat)
    (hrun : PipelinePrune.endsOk
      (@Eval.run Unit trivialNum { Toy.cfg with plan := none } fuel (Resolve.resolve b).root) = true)
    (caps : Limits.Caps) : ∃ o f', o.2 = 0 ∧ ∀ g, f' ≤ g → ∃ ws out,
      (@runSource Unit trivialNum caps Toy.cfg g s) = .ran ws out ∧ evalObs out = some o := by
  obtain ⟨o, ho, ho2⟩ := PipelinePrune.evalObs_endsOk hrun
  obtain ⟨f', hf'⟩ := @c01_text_means_tree_anyflag Unit trivialNum (fun _ _ => rfl) p b hc hwf s hl ht caps
    Toy.cfg rfl rfl rfl hrest fuel o ho (by rw [ho2]; decide +kernel)
  exact ⟨o, f', ho2, hf'⟩

theorem demoProg_rest :
    structRest2B (Resolve.resolve demoProg).root (Resolve.resolve demoProg).facts = true := by decide +kernel

example (caps : Limits.Caps) : ∃ o f', o.2 = 0 ∧ ∀ g, f' ≤ g → ∃ ws out,
    (@runSource Unit trivialNum caps Toy.cfg g demoText) = .ran ws out ∧ evalObs out = some o :=
  text_ends_like_tree demoQ demoProg demoProg_canon demoProg_valid demoText demoText_tokens.1
    (toks_anyflag demoText_tokens.2) demoProg_rest 200 (by decide +kernel) caps

theorem plainProg_rest :
    structRest2B (Resolve.resolve plainProg).root (Resolve.resolve plainProg).facts = true := by decide +kernel

example (caps : Limits.Caps) : ∃ o f', o.2 = 0 ∧ ∀ g, f' ≤ g → ∃ ws out,
    (@runSource Unit trivialNum caps Toy.cfg g plainText) = .ran ws out ∧ evalObs out = some o :=
  text_ends_like_tree _ plainProg plainProg_canon plainProg_valid plainText plainText_tokens.1
    plainText_tokens.2.2 plainProg_rest 50 (by decide +kernel) caps

/-- A program the analyses really prune: the value stored by `x get 2` is never read. -/
def pruneProg : Block :=
  .mk [.assign (b!"x") zspan (.num (b!"1") zspan) none none zspan,
       .assignExisting (b!"x") zspan (.num (b!"2") zspan) none none zspan,
       .assignExisting (b!"x") zspan (.num (b!"3") zspan) none none zspan,
       .expr (.call (v (b!"shout")) [v (b!"x")] none zspan) none zspan] zspan

/-- one redundant pair around the literal `2` -/
def pruneQ : Expr → Nat
  | .num [50] _ => 1
  | _ => 0

def pruneText : Bytes := b!"make x get 1 # never read\nx get (2)\r\n\tx get 3\nshout(x) # 3"

theorem pruneProg_canon : CanonBlock pruneQ pruneProg := by
  simp only [pruneProg, v, CanonBlock, CanonStmts, CanonStmt, Parse.WF, WFs, isBareRet, and_self, true_and]
  exact ⟨b!"shout", [.lparen, .ident (b!"x"), .rparen], by decide +kernel⟩

theorem pruneProg_valid : Spec.WF pruneProg := by decide +kernel

/-- One evaluation, like `demoText_run`; under `tightCaps` a limit trips: no plan.  The two runs are `pruneText_runs`:
with them here the `Decidable` instance of the conjunction is beyond the default size of instance problems. -/
theorem pruneText_checks : ((lex pruneText).2 = [] ∧
      (lex pruneText).1.map (·.tok) = (programToks pruneQ pruneProg).map (·.tok)) ∧
    (frontEnd C10.roomyCaps pruneText).toOption.map (fun a => a.plan.map (·.stmts)) = some (some [1]) ∧
    (frontEnd tightCaps pruneText).toOption.map (fun a => a.plan.map (·.stmts)) = some none := by
  decide +kernel

theorem pruneText_tokens : (lex pruneText).2 = [] ∧
    (lex pruneText).1.map (·.tok) = (programToks pruneQ pruneProg).map (·.tok) := pruneText_checks.1

theorem pruneProg_rest :
    structRest2B (Resolve.resolve pruneProg).root (Resolve.resolve pruneProg).facts = true := by decide +kernel

example : Analysis.planModel (Resolve.resolve pruneProg).root (Resolve.resolve pruneProg).facts = ⟨[1], []⟩ := by
  decide +kernel
example : (frontEnd C10.roomyCaps pruneText).toOption.map (fun a => a.plan.map (·.stmts)) = some (some [1]) ∧
    (frontEnd tightCaps pruneText).toOption.map (fun a => a.plan.map (·.stmts)) = some none :=
  pruneText_checks.2

-- the run of the text skips a statement the plain run of the tree executes
example (caps : Limits.Caps) : ∃ o f', o.2 = 0 ∧ ∀ g, f' ≤ g → ∃ ws out,
    (@runSource Unit trivialNum caps Toy.cfg g pruneText) = .ran ws out ∧ evalObs out = some o :=
  text_ends_like_tree pruneQ pruneProg pruneProg_canon pruneProg_valid pruneText pruneText_tokens.1
    (toks_anyflag pruneText_tokens.2) pruneProg_rest 50 (by decide +kernel) caps

theorem pruneText_runs :
    C10.shown (runSource C10.roomyCaps Toy.cfg 50 pruneText) =
      (2, [.unusedAssignment, .unusedAssignment], [b!"3"], 0, none) ∧
    C10.shown (runSource tightCaps Toy.cfg 50 pruneText) = (2, [.analysisLimit], [b!"3"], 0, none) := by
  decide +kernel

example : C10.shown (runSource C10.roomyCaps Toy.cfg 50 pruneText) =
    (2, [.unusedAssignment, .unusedAssignment], [b!"3"], 0, none) := pruneText_runs.1
example : C10.shown (runSource tightCaps Toy.cfg 50 pruneText) = (2, [.analysisLimit], [b!"3"], 0, none) :=
  pruneText_runs.2
example : (Toy.summary (Eval.run (N := Int) Toy.cfg 50 (Resolve.resolve pruneProg).root)) = ([b!"3"], 0) := by
  decide +kernel

end MeansExamples

end Examples

end NaijaVerif.C01Accept
