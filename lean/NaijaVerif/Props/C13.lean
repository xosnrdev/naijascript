/-
C13 — string built-ins agree with their specification on every input: `Model/Strs.lean` (tw.rs /
replace.rs / string.rs / array.rs, tw.rs as repaired by `proposed-fixes/D-13.diff`) against
`Spec/Strs.lean`, for all byte strings and all integers.
Assumed (validated by the correspondence stream `strs` only): the external `memchr` satisfies
`MemchrSpec` (the `find` theorems are stated for every function that does; the driver's `memchrRef`
is proved to); std's `str::split`/`chars`/`from_utf8` behave as `splitOn`/`chars`/`validUtf8`; `trim`,
case mapping, `parse::<f64>` and the `f64 → isize` cast are only modelled (`Model/StrsStd.lean`).
-/
import NaijaVerif.Gen.Strs
import NaijaVerif.Lemmas.StrsOps

namespace NaijaVerif.Strs
open NaijaVerif NaijaVerif.Bytes

theorem gen_simdThreshold : Gen.Strs.simdThreshold = simdThreshold := by decide

theorem gen_tierTests : Gen.Strs.tierTests = tierTests := by decide

theorem firstOcc_spec (h n : Bytes) : IsFirstOcc h n (firstOcc h n) := firstOcc_isFirst h n

theorem firstOcc_eq_iff (h n : Bytes) (r : Option Nat) : firstOcc h n = r ↔ IsFirstOcc h n r :=
  ⟨fun e => e ▸ firstOcc_isFirst h n, fun hr => (isFirstOcc_eq hr).symm⟩

theorem firstOcc_some_iff (h n : Bytes) (i : Nat) :
    firstOcc h n = some i ↔ (n <+: h.drop i) ∧ ∀ j, j < i → ¬ (n <+: h.drop j) :=
  firstOcc_eq_iff h n (some i)

theorem firstOcc_none_iff (h n : Bytes) : firstOcc h n = none ↔ ∀ j, ¬ (n <+: h.drop j) :=
  firstOcc_eq_iff h n none

example : firstOcc (b!"abcabc") (b!"ca") = some 2 := by decide +kernel
example : firstOcc (b!"abcabc") (b!"cc") = none := by decide +kernel

theorem memchrRef_meets_spec : MemchrSpec memchrRef := by
  constructor
  · intro b h o
    rcases memchrRef_cases b h o with ⟨k, e, hlt, _⟩ | ⟨e, _⟩ <;> omega
  · intro b h o ho
    rcases memchrRef_cases b h o with ⟨k, e, _⟩ | ⟨e, _⟩ <;> omega
  · intro b h o hlt
    rcases memchrRef_cases b h o with ⟨k, e, _, hit, _⟩ | ⟨e, _⟩
    · rw [e]; exact hit
    · omega
  · intro b h o i hoi hlt
    rcases memchrRef_cases b h o with ⟨k, e, _, _, least⟩ | ⟨_, none⟩
    · exact least i hoi (e ▸ hlt)
    · exact none i hoi

/-- The loop of the `2` and `3‥T` tiers, from any offset before which there is no occurrence. -/
theorem scanLoop_first (mc : Nat → Bytes → Nat → Nat) (hmc : MemchrSpec mc) (h n : Bytes)
    (first : Nat) (hfirst : n[0]? = some first) (fuel offset : Nat) (hoff : offset ≤ h.length)
    (inv : ∀ s, s < offset → ¬ OccAt h n s) (hfuel : h.length + 1 ≤ fuel + offset) :
    scanLoop mc h n first fuel offset = .ok (firstOcc h n) := by
  have hnl : 0 < n.length := (List.getElem?_eq_some_iff.mp hfirst).1
  induction fuel generalizing offset with
  | zero => omega
  | succ fuel ih =>
    -- the hypothesis under its name: it is `NoneBefore` (`Lemmas/StrsFind`) unfolded
    have inv : NoneBefore h n 0 offset := inv
    rw [scanLoop]
    by_cases hlt : offset < h.length
    · rw [if_pos hlt]
      exact inv.round hmc hfirst hoff fun off' _ hoff' inv' => ih off' hoff' inv' (by omega)
    · rw [if_neg hlt, inv.firstOcc_none hnl (by omega)]

/-- The long-needle loop for ANY anchor position `crit < |n|`: correctness does not depend on `crit`
being a critical position.  Invariant: no occurrence has its anchor before `offset`. -/
theorem longLoop_first (mc : Nat → Bytes → Nat → Nat) (hmc : MemchrSpec mc) (h n : Bytes)
    (crit anchor : Nat) (hanchor : n[crit]? = some anchor) (fuel offset : Nat)
    (hoff : offset ≤ h.length) (inv : ∀ s, s + crit < offset → ¬ OccAt h n s)
    (hfuel : h.length + 1 ≤ fuel + offset) :
    longLoop mc h n crit anchor fuel offset = .ok (firstOcc h n) := by
  have hcrit : crit < n.length := (List.getElem?_eq_some_iff.mp hanchor).1
  induction fuel generalizing offset with
  | zero => omega
  | succ fuel ih =>
    -- as in `scanLoop_first`: the hypothesis is `NoneBefore` unfolded
    have inv : NoneBefore h n crit offset := inv
    rw [longLoop, if_neg (by omega)]
    by_cases hcond : offset + (n.length - crit) ≤ h.length
    · rw [if_pos hcond]
      exact inv.round hmc hanchor hoff fun off' _ hoff' inv' => ih off' hoff' inv' (by omega)
    · rw [if_neg hcond, inv.firstOcc_none hcrit (by omega)]

/-- `maximal_suffix` on non-empty input: no read out of range, no underflow, the loop ends within
`3|x| + 3` iterations; the position lies inside `x`, so `n[crit]` in `find` is in range. -/
theorem maximalSuffix_total (x : Bytes) (rev : Bool) (hx : x ≠ []) :
    ∃ c q, maximalSuffix x rev = .ok (c, q) ∧ c < x.length ∧ 1 ≤ q := by
  have hl : 0 < x.length := List.length_pos_iff.mpr hx
  exact maxSufLoop_ok x rev _ 0 1 1 1 ⟨by omega, by unfold maxSufFuel; omega⟩

theorem critPeriod_total (x : Bytes) (hx : x ≠ []) :
    ∃ c q, critPeriod x = .ok (c, q) ∧ c < x.length ∧ 1 ≤ q := by
  obtain ⟨c1, q1, e1, hc1, hq1⟩ := maximalSuffix_total x false hx
  obtain ⟨c2, q2, e2, hc2, hq2⟩ := maximalSuffix_total x true hx
  unfold critPeriod
  rw [e1, e2]
  simp only
  split
  · exact ⟨c1, q1, rfl, hc1, hq1⟩
  · exact ⟨c2, q2, rfl, hc2, hq2⟩

example : critPeriod (b!"abaaaaaaaaaaaaaaaab") = .ok (2, 17) := by decide +kernel
example : critPeriod (b!"ababababababababc") = .ok (16, 1) := by decide +kernel

/-- C13, `find`: the first occurrence, for every `memchr` with the assumed specification and every
tier threshold.  `.ok` says: no index or slice out of range (`Fail.oob`), no underflow
(`Fail.underflow`), no loop runs out of its fuel `|h| + 1` resp. `3|n| + 3` (`Fail.fuel`). -/
theorem findWith_eq_firstOcc (mc : Nat → Bytes → Nat → Nat) (hmc : MemchrSpec mc) (T : Nat)
    (h n : Bytes) : findWith mc T h n = .ok (firstOcc h n) := by
  unfold findWith
  simp only
  cases n with
  | nil =>
    exact congrArg _ (isFirstOcc_eq (r := some 0) ⟨occ_zero_nil h, fun _ hj => nomatch hj⟩)
  | cons first rest =>
    generalize hn : first :: rest = n
    have hfirst : n[0]? = some first := by rw [← hn]; rfl
    have hnl : 0 < n.length := (List.getElem?_eq_some_iff.mp hfirst).1
    have start (crit : Nat) := NoneBefore.zero h n crit
    rw [if_neg (mt beq_iff_eq.mp (Nat.ne_of_gt hnl))]
    by_cases hgt : n.length > h.length
    · rw [if_pos hgt, (start 0).firstOcc_none hnl (by omega)]
    · rw [if_neg hgt]
      have hidx0 : idx? n 0 = .ok first := by rw [idx?, hfirst]
      have scan := scanLoop_first mc hmc h n first hfirst (h.length + 1) 0 (Nat.zero_le _) (start 0)
        (Nat.le_refl _)
      by_cases h1 : n.length = 1
      · rw [if_pos (beq_iff_eq.mpr h1), hidx0]
        simp only
        have before := (start 0).memchr hmc hfirst
        by_cases hlt : mc first h 0 < h.length
        · have hr : rest = [] := List.eq_nil_of_length_eq_zero (by rw [← hn] at h1; simpa using h1)
          have ho : OccAt h n (mc first h 0) := by
            rw [← hn, hr]; exact occ_singleton (hmc.hit first h 0 hlt)
          rw [if_pos hlt]
          exact congrArg _ (before.firstOcc_some (Nat.zero_le _) ho).symm
        · rw [if_neg hlt, before.firstOcc_none hnl (by omega)]
      · rw [if_neg (mt beq_iff_eq.mp h1)]
        by_cases h2 : n.length = 2
        · rw [if_pos (beq_iff_eq.mpr h2), hidx0]
          exact scan
        · rw [if_neg (mt beq_iff_eq.mp h2)]
          by_cases hT : n.length ≤ T
          · rw [if_pos hT, hidx0]
            exact scan
          · obtain ⟨crit, q, hcp, hcrit, _⟩ := critPeriod_total n (List.length_pos_iff.mp hnl)
            have hanchor : n[crit]? = some n[crit] := List.getElem?_eq_getElem hcrit
            have hidx : idx? n crit = .ok n[crit] := by rw [idx?, hanchor]
            rw [if_neg hT, hcp]
            simp only
            rw [hidx]
            exact longLoop_first mc hmc h n crit n[crit] hanchor (h.length + 1) 0 (Nat.zero_le _)
              (start crit) (Nat.le_refl _)

theorem find_eq_firstOcc (h n : Bytes) : find h n = .ok (firstOcc h n) :=
  findWith_eq_firstOcc memchrRef memchrRef_meets_spec simdThreshold h n

/-- Non-vacuity: one case per tier (`|n|` = 0, 1, 2, 3‥16, > 16), the long ones being the shapes
that defeat the unrepaired code (D-13a: any needle ≥ 17; D-13b: restart at `start + period`;
early loop exit when the anchor byte also starts the needle). -/
example : find (b!"abc") (b!"") = .ok (some 0) := by decide +kernel
example : find (b!"abc") (b!"c") = .ok (some 2) := by decide +kernel
example : find (b!"abcabd") (b!"bd") = .ok (some 4) := by decide +kernel
example : find (b!"aaaaab") (b!"aab") = .ok (some 3) := by decide +kernel
example : find (b!"xxabababababababababc") (b!"ababababababababc") = .ok (some 4) := by decide +kernel
example : find (b!"aaaaaaaaaaaaaaaaaaaaaaaa") (b!"aaaaaaaaaaaaaaaab") = .ok none := by decide +kernel
example : find (b!"ccabaaaaaaaaaaaaaaaab") (b!"abaaaaaaaaaaaaaaaab") = .ok (some 2) := by decide +kernel

/-- C13, `replace`: greedy left-to-right non-overlapping replacement (empty pattern: the replacement
in front of every character and at the end), for every search routine that returns the first
occurrence.  `.ok` says that `get_unchecked` stays in range and the loop terminates. -/
theorem replaceWith_eq_spec (fnd : Bytes → Bytes → Except Fail (Option Nat))
    (hf : ∀ a b, fnd a b = .ok (firstOcc a b)) (h f t : Bytes) :
    replaceWith fnd h f t = .ok (replaceSpec h f t) := by
  unfold replaceWith replaceSpec
  by_cases hfe : f = []
  · subst hfe
    simp [replaceEmpty_eq]
  · have : f.isEmpty = false := by simpa using hfe
    simp only [this, Bool.false_eq_true, if_false, hfe]
    rw [replaceLoop_eq hf h f t hfe (h.length + 1) 0 [] (Nat.zero_le _) (Nat.le_refl _)]
    simp

theorem replace_eq_spec (h f t : Bytes) : replace h f t = .ok (replaceSpec h f t) :=
  replaceWith_eq_spec find find_eq_firstOcc h f t

theorem replaceSpec_none (h f t : Bytes) (hf : f ≠ []) (hno : firstOcc h f = none) :
    replaceSpec h f t = h := by
  simp [replaceSpec, hf, replaceSpecAux, hno]

theorem replaceSpec_some (h f t : Bytes) (i : Nat) (hf : f ≠ []) (hi : firstOcc h f = some i) :
    replaceSpec h f t = h.take i ++ t ++ replaceSpec (h.drop (i + f.length)) f t := by
  have hb := firstOcc_bound hf hi
  have hfl : 0 < f.length := List.length_pos_iff.mpr hf
  simp only [replaceSpec, hf, if_false]
  rw [replaceSpecAux, hi]
  simp only
  rw [replaceSpecAux_fuel f t hf h.length ((h.drop (i + f.length)).length + 1) _
    (by simp; omega) (by omega)]

theorem replaceSpec_empty (h t : Bytes) :
    replaceSpec h [] t = ((chars h).map (t ++ ·)).flatten ++ t := by
  simp [replaceSpec]

example : replace (b!"aaaa") (b!"aa") (b!"b") = .ok (b!"bb") := by decide +kernel
example : replace (b!"ab") (b!"") (b!"-") = .ok (b!"-a-b-") := by decide +kernel
example : replace (b!"") (b!"") (b!"-") = .ok (b!"-") := by decide +kernel
example : replace (b!"mañana") (b!"ña") (b!"NYA") = .ok (b!"maNYAna") := by decide +kernel
example : replace (b!"xababababababababcy") (b!"ababababababababc") (b!"Z") = .ok (b!"xZy") := by decide +kernel

theorem join_eq_spec (xs : List Bytes) (sep : Bytes) : join xs sep = joinSpec sep xs := by
  unfold join; rw [joinLoop_eq]; simp

/-- C13, `split` / `join`: round trip for every string and separator, the empty one included. -/
theorem join_split_roundtrip (s p : Bytes) : join (split s p) p = s := by
  rw [join_eq_spec]
  unfold split splitOn
  by_cases hp : p = []
  · subst hp
    simp [joinSpec_nil_sep, chars_flatten]
  · have : p.isEmpty = false := by simpa using hp
    simp only [this, Bool.false_eq_true, if_false]
    exact join_splitAux p _ s

example : split (b!"a,b,,c") (b!",") = [(b!"a"), (b!"b"), (b!""), (b!"c")] := by decide +kernel
example : split (b!"aaaa") (b!"aa") = [(b!""), (b!""), (b!"")] := by decide +kernel
example : split (b!"aé") (b!"") = [(b!""), (b!"a"), (b!"é"), (b!"")] := by decide +kernel
example : split (b!"") (b!"") = [(b!""), (b!"")] := by decide +kernel

theorem normIdx_spec (len : Nat) (x : Int) :
    (normIdx len x : Int) = max 0 (min (if x < 0 then x + len else x) len) := by
  unfold normIdx; omega

/-- C13, `slice`: the characters at positions `[norm a, norm b)`; `norm` counts negative bounds from
the end and clamps into `[0, len]`. -/
theorem slice_eq_spec (s : Bytes) (a b : Int) : slice s a b = (sliceSpec (chars s) a b).flatten := by
  rw [slice, sliceSpec]
  -- the clamped `isize` bounds are the natural numbers `normIdx`
  simp only [← normIdx_spec]
  generalize normIdx (chars s).length a = A
  generalize normIdx (chars s).length b = B
  by_cases hge : B ≤ A
  · rw [if_pos (Int.ofNat_le.mpr hge), Nat.sub_eq_zero_of_le hge, List.take_zero]; rfl
  · rw [if_neg (mt Int.ofNat_le.mp hge)]
    by_cases hw : A = 0 ∧ B = (chars s).length
    · obtain ⟨rfl, rfl⟩ := hw
      rw [if_pos (by simp), List.drop_zero, Nat.sub_zero, List.take_length, chars_flatten]
    · rw [if_neg (by rw [Bool.and_eq_true, beq_iff_eq, beq_iff_eq, Int.natCast_eq_zero, Int.natCast_inj]; exact hw),
        Int.toNat_natCast, Int.toNat_sub]

theorem slice_of_chars (cs : List Bytes) (hcs : ∀ c ∈ cs, validChar c = true) (a b : Int) :
    slice cs.flatten a b = (sliceSpec cs a b).flatten := by
  rw [slice_eq_spec, chars_of_valid hcs]

theorem sliceSpec_getElem? {α : Type} (cs : List α) (a b : Int) (k : Nat) :
    (sliceSpec cs a b)[k]? =
      if normIdx cs.length a + k < normIdx cs.length b then cs[normIdx cs.length a + k]? else none := by
  unfold sliceSpec
  rw [List.getElem?_take]
  split
  · next hk =>
    rw [List.getElem?_drop]
    have : normIdx cs.length a + k < normIdx cs.length b := by omega
    simp [this]
  · next hk =>
    have : ¬ normIdx cs.length a + k < normIdx cs.length b := by omega
    simp [this]

/-- The only arithmetic the Rust performs before clamping (`start += len` for a negative `start`)
stays inside `isize`: the `Int` model is the machine arithmetic. -/
theorem slice_no_overflow (a : Int) (len : Nat) (ha : isizeMin ≤ a ∧ a ≤ isizeMax)
    (hl : (len : Int) ≤ isizeMax) (hneg : a < 0) : isizeMin ≤ a + len ∧ a + len ≤ isizeMax := by
  unfold isizeMin isizeMax at *; omega

/-- The modelled cast `x.floor() as isize` (saturating, NaN ↦ 0) always lands in `isize`, so
`slice_eq_spec` (all integers) covers every pair of `f64` arguments: `sliceBits s a b` is `slice` at two
`isize` values.  (That the cast *is* floor-and-saturate is std behaviour, validated by the stream.) -/
theorem sliceBits_in_isize (bits : Nat) :
    isizeMin ≤ f64FloorToIsize bits ∧ f64FloorToIsize bits ≤ isizeMax := by
  have hlo : isizeMin ≤ isizeMin ∧ isizeMin ≤ isizeMax := by decide
  have hhi : isizeMin ≤ isizeMax ∧ isizeMax ≤ isizeMax := by decide
  have h0 : isizeMin ≤ 0 ∧ 0 ≤ isizeMax := by decide
  have h1 : isizeMin ≤ -1 ∧ -1 ≤ isizeMax := by decide
  unfold f64FloorToIsize
  simp only
  refine range_ite (range_ite h0 (range_ite hlo hhi)) ?_        -- infinities and NaN
  refine range_ite (range_ite h0 (range_ite h1 h0)) ?_          -- zeros and subnormals
  refine range_ite (range_ite hlo hhi) ?_                       -- 2^64 and above
  refine range_ite (saturate_range _) ?_
  refine range_ite (range_ite h1 h0) ?_                         -- below 1 in magnitude
  -- the floor of a 53-bit mantissa shifted right
  have hm : 2 ^ 52 + bits % 2 ^ 52 < 2 ^ 53 := Nat.add_lt_add_left (Nat.mod_lt _ (Nat.two_pow_pos 52)) _
  exact range_of_small _ _ _ (Nat.lt_of_le_of_lt (Nat.div_le_self _ _) hm) (by split <;> omega)

theorem sliceBits_eq_spec (s : Bytes) (a b : Nat) :
    sliceBits s a b = (sliceSpec (chars s) (f64FloorToIsize a) (f64FloorToIsize b)).flatten :=
  slice_eq_spec s _ _

theorem len_eq_codepoints (cs : List Bytes) (hcs : ∀ c ∈ cs, validChar c = true) :
    len cs.flatten = cs.length := by
  unfold len; rw [chars_of_valid hcs]

example : slice (b!"Hello, 世界!") 7 9 = (b!"世界") := by decide +kernel
example : slice (b!"Hello, 世界!") (-3) (-1) = (b!"世界") := by decide +kernel
example : slice (b!"héllo") (-100) 2 = (b!"hé") := by decide +kernel
example : slice (b!"héllo") 3 100 = (b!"lo") := by decide +kernel
example : slice (b!"héllo") 4 2 = (b!"") := by decide +kernel
example : len (b!"Hello, 世界! 🌎") = 12 := by decide +kernel

/-- The executable validity test (tied to `str::from_utf8` by the stream) decides `ValidUtf8`. -/
theorem validUtf8_decides (s : Bytes) : validUtf8 s = true ↔ ValidUtf8 s := by
  constructor
  · intro h
    refine ⟨chars s, ?_, chars_flatten s⟩
    simpa [validUtf8, List.all_eq_true] using h
  · rintro ⟨cs, hcs, rfl⟩
    rw [validUtf8, chars_of_valid hcs]
    simpa [List.all_eq_true] using hcs

theorem chars_unique (cs : List Bytes) (hcs : ∀ c ∈ cs, validChar c = true) :
    chars cs.flatten = cs := chars_of_valid hcs

/-- The semantic boundary is `str::is_char_boundary`. -/
theorem boundary_is_char_boundary (h : Bytes) (hv : ValidUtf8 h) (i : Nat) :
    Boundary h i ↔ isBoundary h i = true := by
  rw [Boundary, valid_iff, valid_iff]
  exact ⟨fun ⟨hle, _, v2⟩ => Utf8.isBoundary_of_valid_drop hle v2,
    fun hb => ⟨Utf8.isBoundary_le_length hb, Utf8.valid_cut (valid_iff.mp hv) hb⟩⟩

/-- Self-synchronisation of UTF-8. -/
theorem occurrence_on_boundary (h n : Bytes) (i : Nat) (hv : ValidUtf8 h) (nv : ValidUtf8 n)
    (hn : n ≠ []) (ho : OccAt h n i) : Boundary h i ∧ Boundary h (i + n.length) :=
  occ_boundary hv nv hn ho

/-- C13: what `find` returns is a character boundary. -/
theorem find_on_boundary (h n : Bytes) (i : Nat) (hv : ValidUtf8 h) (nv : ValidUtf8 n)
    (hf : find h n = .ok (some i)) : Boundary h i := by
  rw [find_eq_firstOcc] at hf
  have hi : firstOcc h n = some i := by simpa using hf
  have hocc := firstOcc_some hi
  by_cases hn : n = []
  · subst hn
    have : i = 0 := by
      by_cases h0 : i = 0
      · exact h0
      · exact absurd (occ_zero_nil h) (hocc.2 0 (Nat.pos_of_ne_zero h0))
    subst this
    exact ⟨Nat.zero_le _, by simpa using valid_nil, by simpa using hv⟩
  · exact (occ_boundary hv nv hn hocc.1).1

/-- C13: `replace`, `split`, `slice`, `join` return well-formed UTF-8 (this and the next three). -/
theorem replace_valid (h f t : Bytes) (hv : ValidUtf8 h) (fv : ValidUtf8 f) (tv : ValidUtf8 t) :
    ∃ r, replace h f t = .ok r ∧ ValidUtf8 r :=
  ⟨_, replace_eq_spec h f t, replaceSpec_valid hv fv tv⟩

theorem split_pieces_valid (s p : Bytes) (sv : ValidUtf8 s) (pv : ValidUtf8 p) :
    ∀ x ∈ split s p, ValidUtf8 x := by
  unfold split splitOn
  split
  · intro x hx
    simp only [List.mem_cons, List.mem_append, List.not_mem_nil, or_false] at hx
    rcases hx with rfl | hx | rfl
    · exact valid_nil
    · exact valid_char (valid_chars sv x hx)
    · exact valid_nil
  · next hp =>
    have : p ≠ [] := by simpa using hp
    exact splitAux_valid pv this _ _ sv

theorem slice_result_valid (s : Bytes) (a b : Int) (sv : ValidUtf8 s) : ValidUtf8 (slice s a b) := by
  rw [slice_eq_spec]
  exact valid_of_groups fun c hc =>
    valid_chars sv c (List.mem_of_mem_drop (List.mem_of_mem_take hc))

theorem join_valid (xs : List Bytes) (sep : Bytes) (hx : ∀ x ∈ xs, ValidUtf8 x) (hs : ValidUtf8 sep) :
    ValidUtf8 (join xs sep) := by
  rw [join_eq_spec]
  induction xs with
  | nil => exact valid_nil
  | cons x xs ih =>
    cases xs with
    | nil => simpa [joinSpec] using hx x (by simp)
    | cons y r =>
      rw [joinSpec]
      exact valid_append (valid_append (hx x (by simp)) hs) (ih (fun z hz => hx z (by simp [hz])))

example : validUtf8 (b!"héllo 世界 🌎") = true := by decide +kernel
example : validUtf8 [0xC0, 0x80] = false := by decide +kernel
example : validUtf8 [0xED, 0xA0, 0x80] = false := by decide +kernel
example : validUtf8 [0xF4, 0x90, 0x80, 0x80] = false := by decide +kernel
example : validUtf8 [0xE4, 0xB8] = false := by decide +kernel

end NaijaVerif.Strs
