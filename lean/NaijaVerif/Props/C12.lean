/-
C12 — the string pool never hands out a slot twice (`Pool.alloc_spec`: the index handed out is not
live), two different slots share no byte (`Pool.live_slots_disjoint`: arithmetic, for any two indices)
and the pool conserves its slots (`Pool.run_conservation`).  The model is `Model/Pool.lean`; the `gen_*`
theorems tie its closed forms to `Gen/Pool.lean`, the tables dumped from the compiled crate.
-/
import NaijaVerif.Lemmas.Pool
import NaijaVerif.Gen.Pool

namespace NaijaVerif.Pool

theorem gen_classCount : Gen.Pool.classCount = classCount := by decide

theorem gen_slotSizes : Gen.Pool.slotSizes = (List.range classCount).map slotSizeOf := by decide

theorem gen_slotCounts : Gen.Pool.slotCounts = (List.range classCount).map slotCountOf := by decide

/-- The table holds the crate's `size_class n` for every `n ≤ 300`. -/
theorem gen_sizeClass :
    Gen.Pool.sizeClassTable = (List.range Gen.Pool.sizeClassTable.length).map sizeClass := by
  decide +kernel

theorem gen_sizeClass_covers : 257 < Gen.Pool.sizeClassTable.length := by decide +kernel

theorem sizeClass_none_iff (n : Nat) : sizeClass n = none ↔ 256 < n := by
  unfold sizeClass
  split
  · simp; omega
  · split <;> simp <;> omega

theorem sizeClass_table : ∀ n, n < 257 →
    ∃ c, sizeClass n = some c ∧ c < classCount ∧ n ≤ slotSizeOf c ∧ (0 < c → slotSizeOf (c - 1) < n) := by
  decide +kernel

theorem sizeClass_some {n c : Nat} (h : sizeClass n = some c) :
    c < classCount ∧ n ≤ slotSizeOf c ∧ (0 < c → slotSizeOf (c - 1) < n) := by
  have hn : n < 257 :=
    Nat.lt_succ_of_le (Nat.le_of_not_lt fun hlt => nomatch ((sizeClass_none_iff n).2 hlt).symm.trans h)
  obtain ⟨c', hc', hr⟩ := sizeClass_table n hn
  cases hc'.symm.trans h
  exact hr

theorem sizeClass_lt (n c : Nat) (h : sizeClass n = some c) : c < classCount := (sizeClass_some h).1

theorem sizeClass_fits (n c : Nat) (h : sizeClass n = some c) : n ≤ slotSizeOf c := (sizeClass_some h).2.1

theorem sizeClass_least (n c : Nat) (h : sizeClass n = some c) (hc : 0 < c) :
    slotSizeOf (c - 1) < n := (sizeClass_some h).2.2 hc

/-- A size has one class (`sizeClass` is a function).  That a release with the requested size reaches
the pool the slot came from is `PoolSet.dealloc_pooled` (`Props/C12Set.lean`). -/
theorem sizeClass_deterministic (n c₁ c₂ : Nat) (h₁ : sizeClass n = some c₁)
    (h₂ : sizeClass n = some c₂) : c₁ = c₂ := by simp_all

theorem slotSizeOf_pos (c : Nat) : 0 < slotSizeOf c := by unfold slotSizeOf; split <;> omega

theorem Pool.inv_new (b sz cnt : Nat) : (Pool.new b sz cnt).Inv := by
  constructor <;> simp [Pool.new]

theorem Pool.conservation (p : Pool) (h : p.Inv) :
    p.liveCount + p.free.length + (p.slotCount - p.bump) = p.slotCount := by
  have := h.count; have := h.bumpLe; have := h.liveLen; omega

theorem Pool.alloc_spec (p p' : Pool) (i : Nat) (h : p.Inv) (ha : p.alloc = some (i, p')) :
    p'.Inv ∧ i ∉ p.live ∧ p'.live = i :: p.live ∧ i < p.slotCount ∧
      p'.base = p.base ∧ p'.slotSize = p.slotSize ∧ p'.slotCount = p.slotCount := by
  unfold Pool.alloc at ha
  split at ha
  · next j rest hf =>
    cases ha
    have hif : i ∈ p.free := hf ▸ List.mem_cons_self
    exact ⟨(h.tidy.pop hf).inv, h.disjoint i hif, rfl,
      Nat.lt_of_lt_of_le ((h.below i).1 (.inl hif)) h.bumpLe, rfl, rfl, rfl⟩
  · next hf =>
    split at ha
    · next hb =>
      cases ha
      exact ⟨(h.tidy.fresh hf hb).inv, fun hm => Nat.lt_irrefl _ ((h.below _).1 (.inr hm)), rfl, hb,
        rfl, rfl, rfl⟩
    · cases ha

theorem Pool.alloc_none_iff (p : Pool) (h : p.Inv) : p.alloc = none ↔ p.liveCount = p.slotCount := by
  have hc := h.count; have hb := h.bumpLe; have hl := h.liveLen
  unfold Pool.alloc
  split
  · next j rest hf =>
    have : p.free.length = rest.length + 1 := by rw [hf]; rfl
    constructor
    · intro h'; cases h'
    · intro h'; omega
  · next hf =>
    have : p.free.length = 0 := by rw [hf]; rfl
    split
    · constructor
      · intro h'; cases h'
      · intro h'; omega
    · constructor
      · intro _; omega
      · intro _; rfl

theorem Pool.dealloc_spec (p : Pool) (i : Nat) (h : p.Inv) (hi : i ∈ p.live) :
    (p.dealloc i).Inv ∧ i ∉ (p.dealloc i).live ∧
      (∀ k, k ≠ i → (k ∈ (p.dealloc i).live ↔ k ∈ p.live)) ∧
      (p.dealloc i).free = i :: p.free :=
  have hmem : ∀ k, k ∈ p.live.erase i ↔ k ≠ i ∧ k ∈ p.live := fun _ => h.liveNodup.mem_erase_iff
  ⟨(h.tidy.push hi).inv, fun hm => ((hmem i).1 hm).1 rfl, fun k hk => (hmem k).trans (and_iff_right hk), rfl⟩

inductive Op where
  | alloc
  | free (i : Nat)
deriving Repr, DecidableEq

/-- A `free` of a slot that is not live breaks the caller's obligation in the code's `# Safety`
contract; such a history is outside the claim and the run stops (`none`). -/
def Pool.run (p : Pool) : List Op → Option Pool
  | [] => some p
  | .alloc :: ops =>
      match p.alloc with
      | some (_, p') => p'.run ops
      | none => p.run ops
  | .free i :: ops => if i ∈ p.live then (p.dealloc i).run ops else none

theorem Pool.run_inv (p q : Pool) (ops : List Op) (h : p.Inv) (hr : p.run ops = some q) : q.Inv := by
  induction ops generalizing p with
  | nil => simp [Pool.run] at hr; exact hr ▸ h
  | cons op ops ih =>
    cases op with
    | alloc =>
      simp only [Pool.run] at hr
      split at hr
      · next i p' ha => exact ih p' (Pool.alloc_spec p p' i h ha).1 hr
      · exact ih p h hr
    | free i =>
      simp only [Pool.run] at hr
      split at hr
      · next hi => exact ih _ (Pool.dealloc_spec p i h hi).1 hr
      · cases hr

theorem Pool.run_conservation (sz cnt b : Nat) (ops : List Op) (q : Pool)
    (hr : (Pool.new b sz cnt).run ops = some q) :
    q.liveCount + q.free.length + (q.slotCount - q.bump) = q.slotCount :=
  Pool.conservation q (Pool.run_inv _ q ops (Pool.inv_new b sz cnt) hr)

theorem slots_disjoint (base sz i j : Nat) (hij : i < j) :
    base + i * sz + sz ≤ base + j * sz := by
  have : (i + 1) * sz ≤ j * sz := Nat.mul_le_mul_right sz hij
  rw [Nat.add_mul] at this; omega

/-- For ANY two different indices, live or not; with `Pool.alloc_spec` (live indices are pairwise
different: `Pool.Inv.liveNodup`) it gives that live slots do not overlap. -/
theorem Pool.live_slots_disjoint (p : Pool) (i j : Nat) (hne : i ≠ j) :
    p.slotAddr i + p.slotSize ≤ p.slotAddr j ∨ p.slotAddr j + p.slotSize ≤ p.slotAddr i := by
  unfold Pool.slotAddr
  rcases Nat.lt_or_gt_of_ne hne with h | h
  · exact Or.inl (slots_disjoint _ _ _ _ h)
  · exact Or.inr (slots_disjoint _ _ _ _ h)

/-- `a.wrapping_sub(base)` on words below `w`, for `a` at or above `base`. -/
theorem wrapSub_of_le {w base a : Nat} (hle : base ≤ a) (ha : a < w) : (a + w - base) % w = a - base := by
  rw [show a + w - base = (a - base) + w by omega, Nat.add_mod_right, Nat.mod_eq_of_lt (by omega)]

/-- The `wrapping_sub` ownership test is exact whenever the block does not wrap the address space:
below `base` the difference wraps to at least `w - base ≥ total`. -/
theorem wrapSub_lt_iff {w base total a : Nat} (ha : a < w) (hb : base + total ≤ w) :
    (a + w - base) % w < total ↔ base ≤ a ∧ a < base + total := by
  by_cases hle : base ≤ a
  · rw [wrapSub_of_le hle ha]; omega
  · rw [Nat.mod_eq_of_lt (by omega)]; omega

theorem containsWrap_iff (base total a : Nat) (ha : a < 2 ^ 64) (hb : base + total ≤ 2 ^ 64) :
    containsWrap base total a = true ↔ base ≤ a ∧ a < base + total :=
  decide_eq_true_iff.trans (wrapSub_lt_iff ha hb)

theorem Pool.slot_within (p : Pool) {i : Nat} (hi : i < p.slotCount) :
    i * p.slotSize + p.slotSize ≤ p.total := by
  have : (i + 1) * p.slotSize ≤ p.slotCount * p.slotSize := Nat.mul_le_mul_right _ hi
  rwa [Nat.add_mul, Nat.one_mul, Nat.mul_comm p.slotCount] at this

/-- `contains` and `index_of` on a handed-out address: a release reaches the slot it came from. -/
theorem Pool.indexOf_slotAddr (p : Pool) (i : Nat) (hi : i < p.slotCount) (hsz : 0 < p.slotSize)
    (hfit : p.base + p.total ≤ 2 ^ 64) :
    p.contains (p.slotAddr i) = true ∧ p.indexOf (p.slotAddr i) = some i := by
  have hlt := p.slot_within hi
  have hle : p.base ≤ p.slotAddr i := Nat.le_add_right _ _
  have hoff : p.slotAddr i - p.base = i * p.slotSize := Nat.add_sub_cancel_left _ _
  have hin : p.slotAddr i < p.base + p.total :=
    Nat.lt_of_lt_of_le (Nat.add_lt_add_left (Nat.lt_add_of_pos_right hsz) _) (Nat.add_le_add_left hlt _)
  have ha : p.slotAddr i < 2 ^ 64 := Nat.lt_of_lt_of_le hin hfit
  constructor
  · exact (containsWrap_iff _ _ _ ha hfit).mpr ⟨hle, hin⟩
  · unfold Pool.indexOf
    simp only [wrapSub_of_le hle ha, hoff]
    rw [if_neg (by rw [Nat.mul_mod_left]; omega), Nat.mul_div_cancel _ hsz]

example :
    ((Pool.new 0 8 2).run [.alloc, .alloc, .alloc, .free 0, .alloc, .free 1, .free 0]).map
      (fun q => (q.liveCount, q.free, q.bump)) = some (0, [0, 1], 2) := by decide

example : (Pool.new 0 8 2).Inv := Pool.inv_new 0 8 2

end NaijaVerif.Pool
