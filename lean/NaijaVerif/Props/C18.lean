/-
C18 — exceeding an analysis budget only disables optimisation, never correctness.  Theorems about
`Model/Limits.lean` (the staged preflight `first_exceeded_limit`, the two derived event bounds, the
decision of `emit_analysis_warnings`, the summary fixpoint of `src/analysis/summary.rs` with its
event budget) and `Model/CfgCount.lean` (the block / op counting pass).  `Gen/Caps.lean`, extracted
from the crate, is related to `Spec/DocCaps.lean` by `decide`.  Abstract: the plan and the warnings
of the passes that run below the limits (C03 / C09), and the evaluator: `run_same_across_limits` is
stated for an abstract `run` with its two hypotheses spelled out.
-/
import NaijaVerif.Gen.Caps
import NaijaVerif.Spec.DocCaps
import NaijaVerif.Lemmas.LimitsSummaryFix

namespace NaijaVerif.Limits
open NaijaVerif NaijaVerif.CfgCount

theorem gen_caps_eq_doc : Gen.Caps.defaults = Doc.caps := by decide +kernel

/-- The `metric: "…"` literals of `first_exceeded_limit`, in source order, are the model's stages. -/
theorem gen_stage_order : Gen.Caps.stageNames = stages.map Doc.metricText := by decide +kernel

theorem gen_stage_caps : Gen.Caps.stageCaps = stages.map Doc.capField := by decide +kernel

theorem gen_stage_ops : Gen.Caps.stageOps = stages.map (fun _ => b!">") := by decide +kernel

theorem gen_widths : Gen.Caps.widths = stages.map Doc.capWidth := by decide +kernel

theorem doc_caps_in_range : ∀ m ∈ stages, Doc.caps.get m < 2 ^ Doc.capWidth m := by decide +kernel

theorem stages_complete (m : Metric) : m ∈ stages := by cases m <;> decide +kernel

theorem stages_nodup : stages.Nodup := by decide +kernel

/-- `hl` keeps the one non-saturating addition of the code (`l.saturating_mul(2) + 2`) from overflowing; the code
overflows only from `l = 2^63 - 1` on, so `hl` is sufficient, not sharp. -/
theorem summaryBound_exact (f l : Nat) (hl : l < 2 ^ 62) :
    summaryBound f l = min (f * (f + 2 * l + 2)) u64Max := by
  unfold summaryBound satAdd
  rw [satMul_min, satMul_two (by omega), ← Nat.add_assoc]
  rfl

/-- For `u32` block and op counts the two inner saturating operations never clamp. -/
theorem fnEvents_exact (f : FnCount) (hb : f.blocks < 2 ^ 32) (ho : f.ops < 2 ^ 32) :
    fnEvents f = min ((2 * f.blocks + f.ops) * f.locals) u64Max := by
  unfold fnEvents satAdd
  rw [satMul_two (by omega), Nat.min_eq_left (by unfold u64Max; omega)]
  rfl

theorem livenessBound_eq (fs : List FnCount) :
    livenessBound fs = min ((fs.map fnEvents).sum) u64Max := by
  unfold livenessBound
  rw [foldl_satAdd fs 0 (Nat.zero_le _)]
  simp

theorem firstExceeded_eq_find (caps : Caps) (c : Counts) :
    firstExceeded caps c =
      (stages.find? (fun m => decide (observed c m > caps.get m))).map
        (fun m => ⟨m, observed c m, caps.get m⟩) := by
  rw [firstExceeded_eq_firstOf, firstOf_eq_find]

theorem firstExceeded_none_iff (caps : Caps) (c : Counts) :
    firstExceeded caps c = none ↔ ∀ m, observed c m ≤ caps.get m := by
  rw [firstExceeded_eq_find]
  simp only [Option.map_eq_none_iff, List.find?_eq_none, decide_eq_true_eq, Nat.not_lt]
  exact ⟨fun h m => h m (stages_complete m), fun h m _ => h m⟩

theorem firstExceeded_none_iff_fields (caps : Caps) (c : Counts) :
    firstExceeded caps c = none ↔
      c.functions ≤ caps.maxFunctions ∧ c.locals ≤ caps.maxLocals ∧ c.scopes ≤ caps.maxScopes ∧
      c.statements ≤ caps.maxStatements ∧ c.totalOps ≤ caps.maxTotalOps ∧
      (∀ f ∈ c.perFn, f.ops ≤ caps.maxOpsPerFunction) ∧ c.totalBlocks ≤ caps.maxTotalBlocks ∧
      (∀ f ∈ c.perFn, f.blocks ≤ caps.maxBlocksPerFunction) ∧
      c.directUserCalls ≤ caps.maxDirectUserCalls ∧
      summaryBound c.functions c.locals ≤ caps.maxSummaryEvents ∧
      livenessBound c.perFn ≤ caps.maxLivenessEvents := by
  rw [firstExceeded_none_iff, Metric.forall_iff]
  simp only [observed, Caps.get, maxList_map_getD_le_iff]

/-- `hf`, `hl` make the saturating bound the exact product; the default caps are `2^14` and `2^17`. -/
theorem summaryBound_covers (caps : Caps) (c : Counts) (hf : caps.maxFunctions < 2 ^ 31)
    (hl : caps.maxLocals < 2 ^ 31) (h : firstExceeded caps c = none) :
    c.functions * (c.functions + 2 * c.locals + 2) ≤ caps.maxSummaryEvents := by
  have hall := (firstExceeded_none_iff caps c).mp h
  have h1 : c.functions ≤ caps.maxFunctions := hall .functions
  have h2 : c.locals ≤ caps.maxLocals := hall .locals
  have h3 : summaryBound c.functions c.locals ≤ caps.maxSummaryEvents := hall .summaryEvents
  rw [summaryBound_exact _ _ (by omega)] at h3
  have hprod : c.functions * (c.functions + 2 * c.locals + 2) ≤ (2 ^ 31 - 1) * 2 ^ 33 :=
    Nat.mul_le_mul (by omega) (by omega)
  rwa [Nat.min_eq_left (Nat.le_trans hprod (by decide))] at h3

theorem firstExceeded_some_iff (caps : Caps) (c : Counts) (l : Limit) :
    firstExceeded caps c = some l ↔
      ∃ pre post, stages = pre ++ l.metric :: post ∧
        (∀ m ∈ pre, observed c m ≤ caps.get m) ∧
        caps.get l.metric < observed c l.metric ∧
        l.observed = observed c l.metric ∧ l.limit = caps.get l.metric := by
  rw [firstExceeded_eq_find]
  simp only [Option.map_eq_some_iff, List.find?_eq_some_iff_append, decide_eq_true_eq]
  constructor
  · rintro ⟨m, ⟨hm, pre, post, hst, hpre⟩, rfl⟩
    exact ⟨pre, post, hst, fun m' hm' => by simpa using hpre m' hm', hm, rfl, rfl⟩
  · rintro ⟨pre, post, hst, hpre, hm, ho, hl⟩
    refine ⟨l.metric, ⟨hm, pre, post, hst, fun m' hm' => by simpa using hpre m' hm'⟩, ?_⟩
    obtain ⟨m, o, lim⟩ := l
    change o = observed c m at ho
    change lim = caps.get m at hl
    rw [ho, hl]

theorem firstExceeded_exceeds (caps : Caps) (c : Counts) (l : Limit)
    (h : firstExceeded caps c = some l) : l.limit < l.observed := by
  obtain ⟨_, _, _, _, hm, ho, hl⟩ := (firstExceeded_some_iff caps c l).mp h
  omega

theorem firstExceeded_metric_mem (caps : Caps) (c : Counts) (l : Limit) (pre post : List Metric)
    (hst : stages = pre ++ post) (m : Metric) (hm : m ∈ pre) (hex : caps.get m < observed c m)
    (h : firstExceeded caps c = some l) : l.metric ∈ pre := by
  rw [firstExceeded_eq_find, hst, List.find?_append] at h
  obtain ⟨m', hfind, rfl⟩ := Option.map_eq_some_iff.mp h
  have hsome : (pre.find? fun m => decide (observed c m > caps.get m)).isSome :=
    List.find?_isSome.mpr ⟨m, hm, decide_eq_true hex⟩
  rw [Option.or_of_isSome hsome] at hfind
  exact List.mem_of_find?_eq_some hfind

theorem boundary_at (caps : Caps) (c : Counts) (h : ∀ m, observed c m = caps.get m) :
    firstExceeded caps c = none :=
  (firstExceeded_none_iff caps c).mpr fun m => Nat.le_of_eq (h m)

theorem boundary_above (caps : Caps) (c : Counts) (m : Metric) (pre post : List Metric)
    (hst : stages = pre ++ m :: post) (hpre : ∀ m' ∈ pre, observed c m' ≤ caps.get m')
    (hm : observed c m = caps.get m + 1) :
    firstExceeded caps c = some ⟨m, caps.get m + 1, caps.get m⟩ :=
  (firstExceeded_some_iff caps c _).mpr ⟨pre, post, hst, hpre, by simp [hm], by simp [hm], rfl⟩

theorem firstExceeded_mono (caps caps' : Caps) (c : Counts) (hle : caps.le caps')
    (h : firstExceeded caps c = none) : firstExceeded caps' c = none := by
  rw [firstExceeded_none_iff] at h ⊢
  exact fun m => Nat.le_trans (h m) (hle m)

theorem firstExceeded_mono_counts (caps : Caps) (c c' : Counts)
    (hle : ∀ m, observed c' m ≤ observed c m) (h : firstExceeded caps c = none) :
    firstExceeded caps c' = none := by
  rw [firstExceeded_none_iff] at h ⊢
  exact fun m => Nat.le_trans (hle m) (h m)

section Pipeline
variable {Plan : Type}

theorem emitAnalysis_tripped (caps : Caps) (c : Counts) (sp : Span) (p : Plan) (ws : List Diag)
    (h : firstExceeded caps c ≠ none) :
    (emitAnalysis caps c sp p ws).plan = none ∧
      (emitAnalysis caps c sp p ws).warnings = [limitWarning sp] := by
  rw [emitAnalysis_eq, if_pos (Option.isSome_iff_ne_none.mpr h)]
  exact ⟨rfl, rfl⟩

theorem emitAnalysis_tripped_only (caps : Caps) (c : Counts) (sp : Span) (p : Plan) (ws : List Diag)
    (h : firstExceeded caps c ≠ none) :
    ((emitAnalysis caps c sp p ws).warnings.filter (·.kind == .analysisLimit)).length = 1 ∧
      ∀ d ∈ (emitAnalysis caps c sp p ws).warnings,
        d.kind = .analysisLimit ∧ d.sev = .warning ∧ d.span = sp ∧ d.labels = [sp] := by
  rw [(emitAnalysis_tripped caps c sp p ws h).2]
  simp [limitWarning]

/-- "Just below a limit the analyses run as usual". -/
theorem emitAnalysis_within (caps : Caps) (c : Counts) (sp : Span) (p : Plan) (ws : List Diag)
    (h : firstExceeded caps c = none) :
    (emitAnalysis caps c sp p ws).plan = some p ∧ (emitAnalysis caps c sp p ws).warnings = ws := by
  rw [emitAnalysis_eq, h]
  exact ⟨rfl, rfl⟩

theorem emitAnalysis_plan_none_iff (caps : Caps) (c : Counts) (sp : Span) (p : Plan)
    (ws : List Diag) :
    (emitAnalysis caps c sp p ws).plan = none ↔ ∃ m, caps.get m < observed c m := by
  by_cases h : firstExceeded caps c = none
  · rw [(emitAnalysis_within caps c sp p ws h).1]
    have := (firstExceeded_none_iff caps c).mp h
    constructor
    · intro h'; cases h'
    · rintro ⟨m, hm⟩; exact absurd (this m) (Nat.not_le.mpr hm)
  · rw [(emitAnalysis_tripped caps c sp p ws h).1]
    refine ⟨fun _ => ?_, fun _ => rfl⟩
    rw [firstExceeded_none_iff] at h
    have ⟨m, hm⟩ := Classical.not_forall.mp h
    exact ⟨m, Nat.lt_of_not_le hm⟩

/-- `hws`: the passes themselves never produce a warning of that kind. -/
theorem emitAnalysis_limit_warning_iff (caps : Caps) (c : Counts) (sp : Span) (p : Plan)
    (ws : List Diag) (hws : ∀ d ∈ ws, d.kind ≠ .analysisLimit) :
    (∃ d ∈ (emitAnalysis caps c sp p ws).warnings, d.kind = .analysisLimit) ↔
      firstExceeded caps c ≠ none := by
  by_cases h : firstExceeded caps c = none
  · rw [(emitAnalysis_within caps c sp p ws h).2]
    constructor
    · rintro ⟨d, hd, hk⟩; exact absurd hk (hws d hd)
    · intro h'; exact absurd h h'
  · rw [(emitAnalysis_tripped caps c sp p ws h).2]
    exact ⟨fun _ => h, fun _ => ⟨limitWarning sp, by simp, rfl⟩⟩

/-- C18 against an abstract evaluator: `run plan prog` is the observable outcome of running `prog`
with `plan`.  Two hypotheses about the evaluator and the analyses: `hEmpty` — running without a plan
is running with a plan that prunes nothing (`stmt_is_pruned` / `function_is_pruned` are
`is_some_and(..)`: `None` skips nothing); `hSound` — C03: the plan the passes build does not change
the outcome. -/
theorem run_same_across_limits {Prog Out : Type} (run : Option Plan → Prog → Out) (empty : Plan)
    (prog : Prog) (p : Plan)
    (hEmpty : run none prog = run (some empty) prog)
    (hSound : run (some p) prog = run (some empty) prog)
    (caps caps' : Caps) (c : Counts) (sp : Span) (ws : List Diag) :
    run (emitAnalysis caps c sp p ws).plan prog = run (emitAnalysis caps' c sp p ws).plan prog := by
  have key : ∀ k : Caps, run (emitAnalysis k c sp p ws).plan prog = run (some empty) prog := by
    intro k
    by_cases h : firstExceeded k c = none
    · rw [(emitAnalysis_within k c sp p ws h).1]; exact hSound
    · rw [(emitAnalysis_tripped k c sp p ws h).1]; exact hEmpty
  rw [key caps, key caps']

end Pipeline

/-- At the default caps the function cap (16 384) is never the binding one: the summary-event bound
`f·(f+2l+2) ≤ 2^24` lets at most 4 095 functions through.  (With no earlier stage over its cap, 4 096 to 16 384
functions are reported as `summary events`: the examples with `locals := 0` below.)  An observation, not a defect. -/
theorem default_functions_cap_shadowed (c : Counts) (h : firstExceeded Doc.caps c = none) :
    c.functions ≤ 4095 := by
  have hs : c.functions * (c.functions + 2 * c.locals + 2) ≤ 16777216 :=
    summaryBound_covers Doc.caps c (by decide +kernel) (by decide +kernel) h
  apply Nat.le_of_not_lt
  intro hf
  have h1 : 4096 * (4096 + 2) ≤ c.functions * (c.functions + 2 * c.locals + 2) :=
    Nat.mul_le_mul (by omega) (by omega)
  omega

/-- With `totalOps ≤ statements` (the counting pass makes them equal) and the caps ordered as the
default ones are, the statement stage shadows the two op stages. -/
theorem ops_stages_shadowed (caps : Caps) (c : Counts) (l : Limit)
    (hcap1 : caps.maxStatements ≤ caps.maxTotalOps) (hcap2 : caps.maxTotalOps ≤ caps.maxOpsPerFunction)
    (hops : c.totalOps ≤ c.statements) (hfn : ∀ f ∈ c.perFn, f.ops ≤ c.totalOps)
    (h : firstExceeded caps c = some l) :
    l.metric ≠ .cfgOps ∧ l.metric ≠ .opsInOneFunction := by
  have hmax : observed c .opsInOneFunction ≤ c.totalOps :=
    (maxList_map_getD_le_iff _ _ _).mpr hfn
  have hex := firstExceeded_exceeds caps c l h
  obtain ⟨_, _, _, _, _, ho, hl⟩ := (firstExceeded_some_iff caps c l).mp h
  rw [ho, hl] at hex
  -- an op stage above its cap puts the statement stage above its cap, and that stage is earlier
  have hearly : caps.get .statements < observed c .statements → l.metric ∈
      [Metric.functions, .locals, .scopes, .statements] := fun hs =>
    firstExceeded_metric_mem caps c l _ _ rfl .statements (by decide +kernel) hs h
  constructor <;> intro heq <;> rw [heq] at hex hearly
  · exact absurd (hearly (by simp only [observed, Caps.get] at hex ⊢; omega)) (by decide +kernel)
  · exact absurd (hearly (by simp only [observed, Caps.get] at hex hmax ⊢; omega)) (by decide +kernel)

/-- Statements that count one op and open no block: what the boundary programs for the caps on
statements and blocks are built from. -/
def Simple : Stmt → Prop
  | .assign .. | .assignExisting .. | .assignIndex .. | .expr .. | .fnDef .. => True
  | _ => False

theorem countStmt_simple (s : Stmt) (fb : FB) (cur : Bool) (h : Simple s) :
    countStmt s fb cur = (ensure { fb with ops := fb.ops + 1 } cur, true) := by
  cases s <;> first | rfl | exact h.elim

theorem countStmts_simple (ss : List Stmt) (fb : FB) (h : ∀ s ∈ ss, Simple s) :
    countStmts ss fb true = ({ fb with ops := fb.ops + ss.length }, true) := by
  induction ss generalizing fb with
  | nil => rfl
  | cons s ss ih =>
    rw [countStmts_cons, countStmt_simple s fb true (h s List.mem_cons_self),
      ih _ fun s' hs' => h s' (List.mem_cons_of_mem _ hs')]
    simp only [ensure_live, List.length_cons, Nat.add_assoc, Nat.add_comm 1]

/-- An `if` without `else` over simple statements, `thenLen` of them: three blocks each, the unit of the
per-function block-cap boundary programs (`countBody_plainIfs`). -/
def PlainIf : Stmt → Prop
  | .ifS _ (.mk ts _) none _ _ => ∀ s ∈ ts, Simple s
  | _ => False

def thenLen : Stmt → Nat
  | .ifS _ (.mk ts _) _ _ _ => ts.length
  | _ => 0

/-- Then entry, else entry and join; the `if` itself is one op. -/
theorem countStmt_plainIf (s : Stmt) (fb : FB) (h : PlainIf s) :
    countStmt s fb true = ({ blocks := fb.blocks + 3, ops := fb.ops + 1 + thenLen s }, true) := by
  cases s with
  | ifS _ t e _ _ =>
    obtain ⟨ts, _⟩ := t
    cases e with
    | some _ => exact h.elim
    | none =>
      simp only [countStmt, ensure_live, countBlock, countElse, countStmts_simple ts _ h, thenLen]
      rfl
  | _ => exact h.elim

theorem countStmts_plainIfs (ss : List Stmt) (fb : FB) (h : ∀ s ∈ ss, PlainIf s) :
    countStmts ss fb true =
      ({ blocks := fb.blocks + 3 * ss.length,
         ops := fb.ops + ss.length + (ss.map thenLen).sum }, true) := by
  induction ss generalizing fb with
  | nil => rfl
  | cons s ss ih =>
    rw [countStmts_cons, countStmt_plainIf s fb (h s List.mem_cons_self),
      ih _ fun s' hs' => h s' (List.mem_cons_of_mem _ hs')]
    simp only [List.length_cons, List.map_cons, List.sum_cons, Nat.mul_add]
    congr 2 <;> omega

/-- The dead-tail rule on its smallest instance: a simple statement after a `return` opens one more block. -/
theorem countStmts_dead_tail (s : Stmt) (fb : FB) (hs : Simple s) :
    countStmts [.ret none none default, s] fb true =
      ({ blocks := fb.blocks + 1, ops := fb.ops + 2 }, true) := by
  rw [countStmts_cons, countStmts_cons, countStmt_simple s _ _ hs]
  rfl

/-- The shape of the statement-cap boundary programs. -/
theorem countBody_simple (ss : List Stmt) (sp : Span) (h : ∀ s ∈ ss, Simple s) :
    countBody (.mk ss sp) = (2, ss.length) := by
  simp only [countBody, countBlock, countStmts_simple ss _ h, Nat.zero_add]

/-- The shape of the per-function block-cap boundary programs. -/
theorem countBody_plainIfs (ss : List Stmt) (sp : Span) (h : ∀ s ∈ ss, PlainIf s) :
    countBody (.mk ss sp) = (2 + 3 * ss.length, ss.length + (ss.map thenLen).sum) := by
  simp only [countBody, countBlock, countStmts_plainIfs ss _ h, Nat.zero_add]

/-- Entry and exit. -/
theorem countBody_blocks_ge_two (body : Block) : 2 ≤ (countBody body).1 := by
  unfold countBody
  exact countBlock_blocks_mono body { blocks := 2, ops := 0 } true

def small : Counts :=
  { functions := 2, locals := 3, scopes := 5, statements := 7, totalOps := 7, totalBlocks := 9,
    directUserCalls := 1, perFn := [⟨6, 5, 2⟩, ⟨3, 2, 1⟩] }

example : firstExceeded Doc.caps small = none := by decide +kernel
example : summaryBound 2 3 = 20 ∧ livenessBound small.perFn = 42 := by decide +kernel

example : firstExceeded Doc.caps { small with functions := 63, locals := 131072 } = none := by decide +kernel
example : firstExceeded Doc.caps { small with functions := 63, locals := 131073 } =
    some ⟨.locals, 131073, 131072⟩ := by decide +kernel
example : firstExceeded Doc.caps { small with scopes := 131072 } = none := by decide +kernel
example : firstExceeded Doc.caps { small with scopes := 131073 } =
    some ⟨.scopes, 131073, 131072⟩ := by decide +kernel
example : firstExceeded Doc.caps { small with statements := 262144, totalOps := 262144 } = none := by
  decide +kernel
example : firstExceeded Doc.caps { small with statements := 262145, totalOps := 262145 } =
    some ⟨.statements, 262145, 262144⟩ := by decide +kernel
example : firstExceeded Doc.caps { small with totalOps := 262145 } =
    some ⟨.cfgOps, 262145, 262144⟩ := by decide +kernel
example : firstExceeded Doc.caps { small with perFn := [⟨2, 262144, 0⟩] } = none := by decide +kernel
example : firstExceeded Doc.caps { small with perFn := [⟨2, 1, 0⟩, ⟨2, 262145, 0⟩] } =
    some ⟨.opsInOneFunction, 262145, 262144⟩ := by decide +kernel
example : firstExceeded Doc.caps { small with totalBlocks := 524288 } = none := by decide +kernel
example : firstExceeded Doc.caps { small with totalBlocks := 524289 } =
    some ⟨.cfgBlocks, 524289, 524288⟩ := by decide +kernel
example : firstExceeded Doc.caps { small with perFn := [⟨65536, 1, 0⟩] } = none := by decide +kernel
example : firstExceeded Doc.caps { small with perFn := [⟨65537, 1, 0⟩] } =
    some ⟨.blocksInOneFunction, 65537, 65536⟩ := by decide +kernel
example : firstExceeded Doc.caps { small with directUserCalls := 262144 } = none := by decide +kernel
example : firstExceeded Doc.caps { small with directUserCalls := 262145 } =
    some ⟨.directUserCalls, 262145, 262144⟩ := by decide +kernel
-- the function cap: 16 384 functions pass the `functions` stage and trip `summary events`;
-- 16 385 trip `functions` (stage order)
example : firstExceeded Doc.caps { small with functions := 16384, locals := 0 } =
    some ⟨.summaryEvents, 268468224, 16777216⟩ := by decide +kernel
example : firstExceeded Doc.caps { small with functions := 16385, locals := 0 } =
    some ⟨.functions, 16385, 16384⟩ := by decide +kernel
-- summary events: 64 · (64 + 2·131039 + 2) = 2^24 exactly (at), one more local is above;
-- 4095 · 4097 = 2^24 − 1 (below), 4096 · 4098 above
example : firstExceeded Doc.caps { small with functions := 64, locals := 131039 } = none := by decide +kernel
example : firstExceeded Doc.caps { small with functions := 64, locals := 131040 } =
    some ⟨.summaryEvents, 16777344, 16777216⟩ := by decide +kernel
example : firstExceeded Doc.caps { small with functions := 4095, locals := 0 } = none := by decide +kernel
example : firstExceeded Doc.caps { small with functions := 4096, locals := 0 } =
    some ⟨.summaryEvents, 16785408, 16777216⟩ := by decide +kernel
-- liveness events: (2·2 + 8188) · 4096 = 2^25 exactly (at); one more op is above
def liveAt (ops : Nat) : Counts :=
  { small with functions := 1, locals := 4096, statements := ops, totalOps := ops,
               perFn := [⟨2, ops, 4096⟩] }
example : firstExceeded Doc.caps (liveAt 8188) = none := by decide +kernel
example : firstExceeded Doc.caps (liveAt 8189) =
    some ⟨.livenessEvents, 33558528, 33554432⟩ := by decide +kernel
def several : Counts := { small with scopes := 200000, statements := 300000, directUserCalls := 300000 }
example : firstExceeded Doc.caps several = some ⟨.scopes, 200000, 131072⟩ := by decide +kernel
example : livenessBound [⟨4294967295, 4294967295, 4294967295⟩, ⟨4294967295, 4294967295, 4294967295⟩] =
    u64Max := by decide +kernel
example : summaryBound (2 ^ 40) 0 = u64Max := by decide +kernel

example : (emitAnalysis Doc.caps { small with scopes := 131072 } ⟨0, 10⟩ "plan" []).plan =
    some "plan" := by decide +kernel
example : (emitAnalysis Doc.caps { small with scopes := 131073 } ⟨0, 10⟩ "plan"
    [⟨.warning, .unusedVariable, ⟨3, 4⟩, []⟩]).plan = none := by decide +kernel
example : (emitAnalysis Doc.caps { small with scopes := 131073 } ⟨0, 10⟩ "plan"
    [⟨.warning, .unusedVariable, ⟨3, 4⟩, []⟩]).warnings = [limitWarning ⟨0, 10⟩] := by decide +kernel

section CountExamples
private def sp0 : Span := ⟨0, 0⟩
private def num1 : Expr := .num (b!"1") sp0
private def asg : Stmt := .assignExisting (b!"x") sp0 num1 none none sp0
private def blk (ss : List Stmt) : Block := .mk ss sp0

example : countBody (blk [asg, asg, asg]) = (2, 3) := by decide +kernel
-- `if` without else: +3 blocks; with both branches returning: +2 and a dead cursor, so the next
-- statement opens a block
example : countBody (blk [.ifS num1 (blk [asg]) none none sp0, asg]) = (5, 3) := by decide +kernel
example : countBody (blk [.ifS num1 (blk [.ret none none sp0]) (some (blk [.ret none none sp0])) none sp0,
    asg]) = (5, 4) := by decide +kernel
-- loop: +3 blocks whatever the body does; `comot` then a dead statement: +1
example : countBody (blk [.loop num1 (blk [asg]) none sp0]) = (5, 2) := by decide +kernel
example : countBody (blk [.loop num1 (blk [.brk none sp0, asg]) none sp0, asg]) = (6, 4) := by decide +kernel
example : countBody (blk [.block (blk [asg, asg]) none sp0, asg]) = (2, 4) := by decide +kernel
-- a function definition is one op of the enclosing function and a function of its own; a second
-- definition the resolver did not bind (`fn = none`) is not counted at all
example : (countFunctions (blk [.fnDef (b!"f") sp0 [] (blk [asg, .ret none none sp0, asg]) (some 1) none sp0,
    .fnDef (b!"f") sp0 [] (blk [asg]) none none sp0, asg]) 2).map (fun pb => (pb.fnBlocks, pb.fnOps)) =
    some ([2, 3], [3, 3]) := by decide +kernel
-- a function id outside the vectors is the code's index panic
example : countFunctions (blk [.fnDef (b!"f") sp0 [] (blk []) (some 5) none sp0]) 2 = none := by decide +kernel
end CountExamples

/-! Summary events.  `compute_summaries_with_max_events` runs with the event budget
`max_summary_events`; when it runs out, summaries silently become unavailable (no resource-limit
warning).  The preflight stage `summary events` compares `f·(f + 2l + 2)` with that budget.
`Summary.DirectsOK nl ds` is what the resolver records; `Summary.GraphOK` holds of any graph over the
functions, and the code uses `Summary.graph ds`.  Every event is
paid for by a push onto a duplicate-free list of bounded ids or by a strict increase of a class level
`≤ 2`; the latter needs an invariant of the whole state, because the code charges an event whenever
the recomputed class differs from the stored one (`Lemmas/LimitsSummaryFix.lean`). -/
section SummaryEvents
open Summary

-- for the examples below that compare an `Except` by `decide`; `Spec/Strs.lean` derives the same instance for C13
-- (in the root namespace; this one is `NaijaVerif.Limits.instDecidableEqExcept`)
deriving instance DecidableEq for Except

/-- A budget of `f·(f + 2l + 2)` never runs out.  The only failure left is the index panic of a "component" that names something that is not a
function. -/
theorem summary_budget_never_runs_out (ds : List Direct) (nl : Nat) (g comps : List (List Nat))
    (fuel budget : Nat) (hd : DirectsOK nl ds) (hg : GraphOK ds.length g)
    (hb : ds.length * (ds.length + 2 * nl + 2) ≤ budget) :
    firstFailure g fuel comps (initial ds) budget ≠ some .budget ∧
      firstFailure g fuel comps (initial ds) budget ≠ some .unavailable := by
  rcases firstFailure_initial hd hg fuel comps hb with h | ⟨h, _⟩ <;> rw [h] <;> simp

/-- The same as a statement about the run.  No hypothesis on the order of the components: a summary becomes unavailable only after a
failure. -/
theorem summary_budget_suffices (ds : List Direct) (nl : Nat) (g comps : List (List Nat))
    (fuel budget : Nat) (hd : DirectsOK nl ds) (hg : GraphOK ds.length g)
    (hc : ∀ comp ∈ comps, ∀ i ∈ comp, i < ds.length)
    (hb : ds.length * (ds.length + 2 * nl + 2) ≤ budget) :
    firstFailure g fuel comps (initial ds) budget = none ∧
      ∃ st, runGlobal g fuel comps (initial ds) budget = .ok st ∧ st.length = ds.length ∧
        ∀ s ∈ st, s.available = true := by
  rcases firstFailure_initial hd hg fuel comps hb with h | ⟨_, c, hcm, i, hi, hle⟩
  · obtain ⟨st, h1, h2, h3⟩ := runGlobal_of_noFailure fuel comps (initial ds) budget
      (initial_ok hd g) (initial_available ds) h
    exact ⟨h, st, h1, h2.len, h3⟩
  · exact absurd (hc c hcm i hi) (Nat.not_lt.mpr hle)

/-- `summary_budget_suffices` for `compute`, the model of `compute_summaries_with_max_events` including its scheduling
(`schedule`, tied to the code by correspondence only); `none` is a panic of the code. -/
theorem summary_compute_all_available (ds : List Direct) (nl fuel budget : Nat) (st : List Summ)
    (hd : DirectsOK nl ds) (hb : ds.length * (ds.length + 2 * nl + 2) ≤ budget)
    (h : compute ds budget fuel = some st) : ∀ s ∈ st, s.available = true := by
  unfold compute at h
  cases hs : schedule (graph ds) with
  | none => simp [hs] at h
  | some comps =>
    simp only [hs] at h
    rcases firstFailure_initial hd (graph_ok hd) fuel comps hb with hf | ⟨hf, _⟩
    · obtain ⟨st', h1, _, h3⟩ := runGlobal_of_noFailure fuel comps (initial ds) budget
        (initial_ok hd (graph ds)) (initial_available ds) hf
      rw [h1] at h
      cases h
      exact h3
    · rw [runGlobal_of_index fuel comps _ _ hf] at h
      cases h

/-- `summary_budget_suffices` in terms of the preflight, `c.functions` / `c.locals` being the sizes of the direct facts. -/
theorem summary_budget_suffices_below_limits (caps : Caps) (c : Counts) (ds : List Direct)
    (g comps : List (List Nat)) (fuel : Nat) (hf : caps.maxFunctions < 2 ^ 31)
    (hl : caps.maxLocals < 2 ^ 31) (hcf : c.functions = ds.length) (hd : DirectsOK c.locals ds)
    (hg : GraphOK ds.length g) (hc : ∀ comp ∈ comps, ∀ i ∈ comp, i < ds.length)
    (h : firstExceeded caps c = none) :
    firstFailure g fuel comps (initial ds) caps.maxSummaryEvents = none ∧
      ∃ st, runGlobal g fuel comps (initial ds) caps.maxSummaryEvents = .ok st ∧
        st.length = ds.length ∧ ∀ s ∈ st, s.available = true := by
  have := summaryBound_covers caps c hf hl h
  rw [hcf] at this
  exact summary_budget_suffices ds c.locals g comps fuel _ hd hg hc this

/-- `summary_budget_suffices_below_limits` at `DEFAULT_CAPS`, the budget being the one `compute_summaries` passes. -/
theorem summary_budget_suffices_default (c : Counts) (ds : List Direct) (g comps : List (List Nat))
    (fuel : Nat) (hcf : c.functions = ds.length) (hd : DirectsOK c.locals ds)
    (hg : GraphOK ds.length g) (hc : ∀ comp ∈ comps, ∀ i ∈ comp, i < ds.length)
    (h : firstExceeded Gen.Caps.defaults c = none) :
    firstFailure g fuel comps (initial ds) Gen.Caps.defaults.maxSummaryEvents = none ∧
      ∃ st, runGlobal g fuel comps (initial ds) Gen.Caps.defaults.maxSummaryEvents = .ok st ∧
        st.length = ds.length ∧ ∀ s ∈ st, s.available = true :=
  summary_budget_suffices_below_limits Gen.Caps.defaults c ds g comps fuel (by decide +kernel) (by decide +kernel)
    hcf hd hg hc h

/-- Above the room the fuel of `summarize_component`'s `while changed` loop never decides the
result, also when the budget runs out. -/
theorem summary_fuel_irrelevant (ds : List Direct) (nl : Nat) (g comps : List (List Nat))
    (budget fuel₁ fuel₂ : Nat) (hd : DirectsOK nl ds)
    (h1 : ds.length * (ds.length + 2 * nl + 2) < fuel₁)
    (h2 : ds.length * (ds.length + 2 * nl + 2) < fuel₂) :
    runGlobal g fuel₁ comps (initial ds) budget = runGlobal g fuel₂ comps (initial ds) budget := by
  have hroom := roomAll_initial_le nl ds
  exact runGlobal_fuel comps (initial ds) budget (initial_ok hd g) (Nat.lt_of_le_of_lt hroom h1)
    (Nat.lt_of_le_of_lt hroom h2)

/-- `fl = true` is "the loop ended by itself".  Every sweep that changes something pays an event
out of the room of the state, at most `f·(f + 2l + 2)` under `StOK`. -/
theorem summarize_component_terminates (nf nl : Nat) (g : List (List Nat)) (comp : List Nat)
    (fuel : Nat) (st : List Summ) (b : Nat) (hok : StOK nf nl g st)
    (hfuel : nf * (nf + 2 * nl + 2) < fuel) (st' : List Summ) (b' : Nat) (fl : Bool)
    (h : summarizeComponent g comp fuel st b = .ok (st', b', fl)) : fl = true := by
  have hroom := roomAll_le nf nl st
  rw [hok.len] at hroom
  have hspec := summarizeComponent_spec (comp := comp) fuel st b hok
  rw [h] at hspec
  exact hspec.2.2.2 (Nat.lt_of_le_of_lt hroom hfuel)

/-! Non-vacuity: `0` (the root, impure) calls `1` and `4`; `1 → 2 → 3 → 1` is a cycle whose members
read and write captured locals; `4` calls itself; `5` is never called.  6 functions, 3 locals: the
preflight bound is `6·(6 + 6 + 2) = 84`, the run needs 19 events. -/

def exDirects : List Direct :=
  [⟨[1, 4], [], [], [2]⟩, ⟨[2], [0], [], [0]⟩, ⟨[3], [], [1], [0]⟩, ⟨[1], [2], [], [1]⟩,
   ⟨[4], [], [], []⟩, ⟨[], [0, 1], [2], []⟩]

theorem exDirects_ok : DirectsOK 3 exDirects :=
  ⟨by decide +kernel, by decide +kernel, by decide +kernel, by decide +kernel, by decide +kernel, by decide +kernel, by decide +kernel⟩

/-- the code's own schedule: callee components first -/
theorem exDirects_schedule : schedule (graph exDirects) = some [[5], [4], [1, 2, 3], [0]] := by decide +kernel

example : schedule (graph exDirects) = some [[5], [4], [1, 2, 3], [0]] := exDirects_schedule

theorem compute_of_schedule {ds : List Direct} {comps : List (List Nat)}
    (h : schedule (graph ds) = some comps) (b fuel : Nat) :
    compute ds b fuel = (runGlobal (graph ds) fuel comps (initial ds) b).toOption := by
  unfold compute
  rw [h]
  dsimp only
  cases runGlobal (graph ds) fuel comps (initial ds) b <;> rfl

/-- the cycle's members know each other and each other's captures; the class of the cycle is the join -/
example : compute exDirects 84 85 = some
    [⟨true, [1, 4, 2, 3], [0, 2], [1], 2, 2⟩, ⟨true, [2, 3, 1], [0, 2], [1], 0, 2⟩,
     ⟨true, [3, 1, 2], [2, 0], [1], 2, 2⟩, ⟨true, [1, 2, 3], [2, 0], [1], 1, 2⟩,
     ⟨true, [4], [], [], 0, 0⟩, ⟨true, [], [0, 1], [2], 2, 2⟩] := by
  rw [compute_of_schedule exDirects_schedule]; decide +kernel

/-- a component order that is not callee-first -/
example : firstFailure (graph exDirects) 85 [[0], [1, 2, 3], [4], [5]] (initial exDirects) 84 = none :=
  (summary_budget_suffices exDirects 3 _ _ 85 84 exDirects_ok (graph_ok exDirects_ok) (by decide +kernel) (by decide +kernel)).1

/-- the run needs 19 events (14 for the cycle, 5 for the root): with 18 the root is lost, with 13
the cycle and the root (scheduled after it) — the fallback the theorems exclude is real -/
example : eventsPerComponent (graph exDirects) 85 [[5], [4], [1, 2, 3], [0]] (initial exDirects) 84 =
    [0, 0, 14, 5] := by decide +kernel
example : (compute exDirects 19 85).map (·.map (·.available)) =
    some [true, true, true, true, true, true] := by rw [compute_of_schedule exDirects_schedule]; decide +kernel
example : (compute exDirects 18 85).map (·.map (·.available)) =
    some [false, true, true, true, true, true] := by rw [compute_of_schedule exDirects_schedule]; decide +kernel
example : (compute exDirects 13 85).map (·.map (·.available)) =
    some [false, false, false, false, true, true] := by rw [compute_of_schedule exDirects_schedule]; decide +kernel
example : firstFailure (graph exDirects) 85 [[5], [4], [1, 2, 3], [0]] (initial exDirects) 12 =
    some .budget := by decide +kernel

example : firstExceeded Gen.Caps.defaults { small with functions := 6, locals := 3 } = none := by decide +kernel

/-- fuel: one sweep too few is visible (the flag), more than the room never is -/
example : (summarizeComponent (graph exDirects) [1, 2, 3] 2 (initial exDirects) 84).map (·.2.2) =
    .ok false := by decide +kernel
example : (summarizeComponent (graph exDirects) [1, 2, 3] 85 (initial exDirects) 84).map (·.2.2) =
    .ok true := by decide +kernel
example : runGlobal (graph exDirects) 85 [[5], [4], [1, 2, 3], [0]] (initial exDirects) 16 =
    runGlobal (graph exDirects) 1000 [[5], [4], [1, 2, 3], [0]] (initial exDirects) 16 :=
  summary_fuel_irrelevant exDirects 3 _ _ 16 85 1000 exDirects_ok (by decide +kernel) (by decide +kernel)

/-! `runSplit` is the fixpoint with the budget divided evenly between the components (and
continuing after a failure).  A ring of five functions, one of them impure, next to five leaves: ten
functions, no locals, preflight bound `10·12 = 120`.  Six components, so a share is 20 events; the
ring needs 24 (each member learns four more callees, four members change class). -/

def splitWitness : List Direct :=
  [⟨[1], [], [], [2]⟩, ⟨[2], [], [], []⟩, ⟨[3], [], [], []⟩, ⟨[4], [], [], []⟩, ⟨[0], [], [], []⟩,
   ⟨[], [], [], []⟩, ⟨[], [], [], []⟩, ⟨[], [], [], []⟩, ⟨[], [], [], []⟩, ⟨[], [], [], []⟩]

theorem splitWitness_ok : DirectsOK 0 splitWitness :=
  ⟨by decide +kernel, by decide +kernel, by decide +kernel, by decide +kernel, by decide +kernel, by decide +kernel, by decide +kernel⟩

/-- Below every limit, an equal share per component leaves summaries unavailable where the single
budget of the code does not. -/
theorem split_budget_is_unsound :
    ∃ (ds : List Direct) (nl budget : Nat) (comps : List (List Nat)),
      DirectsOK nl ds ∧ schedule (graph ds) = some comps ∧
      budget = ds.length * (ds.length + 2 * nl + 2) ∧
      firstExceeded { Gen.Caps.defaults with maxSummaryEvents := budget }
        { small with functions := ds.length, locals := nl } = none ∧
      (∃ st, runGlobal (graph ds) (budget + 1) comps (initial ds) budget = .ok st ∧
        ∀ s ∈ st, s.available = true) ∧
      (∃ st, runSplit (graph ds) (budget + 1) (budget / comps.length) comps (initial ds) = .ok st ∧
        ∃ s ∈ st, s.available = false) := by
  refine ⟨splitWitness, 0, 120, [[9], [8], [7], [6], [5], [0, 1, 2, 3, 4]], splitWitness_ok,
    by decide +kernel, by decide +kernel, by decide +kernel, ?_, ?_⟩
  · obtain ⟨_, st, h1, _, h3⟩ := summary_budget_suffices splitWitness 0 (graph splitWitness)
      [[9], [8], [7], [6], [5], [0, 1, 2, 3, 4]] 121 120 splitWitness_ok (graph_ok splitWitness_ok)
      (by decide +kernel) (by decide +kernel)
    exact ⟨st, h1, h3⟩
  · exact ⟨markUnavailable [0, 1, 2, 3, 4] (initial splitWitness), by decide +kernel, by decide +kernel⟩

example : eventsPerComponent (graph splitWitness) 121 [[9], [8], [7], [6], [5], [0, 1, 2, 3, 4]]
    (initial splitWitness) 120 = [0, 0, 0, 0, 0, 24] := by decide +kernel

end SummaryEvents

end NaijaVerif.Limits
