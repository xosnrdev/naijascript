/-
C11 — bump arena: live blocks are disjoint, aligned, in bounds; reset and grow behave.  About
`Model/Bump.lean`: the arena of `src/arena/bump.rs` with the D-11 fix (the absolute address is
aligned) and `ArenaString` of `src/arena/string.rs` over std's `RawVec`.  Arenas, requests and
histories are arbitrary (`c11_history`); the constants come from `Gen/Arena.lean`.  The `str::find` of
`replace_once_in_place` is the reference search of C13 (`findSub_eq`, hence `Lemmas/StrsFind.lean`).
-/
import NaijaVerif.Lemmas.BumpString
import NaijaVerif.Lemmas.StrsFind
import NaijaVerif.Gen.Arena

namespace NaijaVerif.Bump

theorem gen_chunk : Gen.Arena.allocChunkSize = chunk := by decide

theorem gen_fills :
    Gen.Arena.allocFill = allocFill ∧ Gen.Arena.freeFill = freeFill ∧
    Gen.Arena.guardBytes = guardBytes := by decide

/-- What makes the mask formula a rounding. -/
theorem gen_chunk_pow2 : Gen.Arena.allocChunkSize = 2 ^ 16 := by decide

/-! No `usize` operation wraps under the guard: the alignment is `2^k` with `bytes + 2^k ≤ 2^63` (what
`Layout` guarantees: `size` rounded up to `align` does not exceed `isize::MAX`) and `base`, `cap`
are below `2^48` (user-space addresses). -/

theorem alignUpW_eq (x k : Nat) (h : x + 2 ^ k ≤ 2 ^ 64) : alignUpW x (2 ^ k) = alignUp x (2 ^ k) := by
  have hp : 0 < 2 ^ k := Nat.pow_pos (by decide)
  have hk : k ≤ 64 := (Nat.pow_le_pow_iff_right (by decide)).1 (Nat.le_trans (Nat.le_add_left _ _) h)
  have hx : 0 < x + 2 ^ k := Nat.add_pos_right _ hp
  unfold alignUpW alignUp word
  rw [wrap_pred _ (x + 2 ^ k) hx h, wrap_pred _ (2 ^ k) hp (Nat.le_trans (Nat.le_add_left _ _) h),
    Nat.sub_sub_sub_cancel_right hp,
    and_hiMask 64 _ k hk (Nat.lt_of_lt_of_le (Nat.sub_lt hx Nat.one_pos) h)]

/-- Every intermediate value of `alloc_raw` / `alloc_raw_bump` fits a 64-bit word and the one
subtraction does not go below zero: the `Nat` model computes what the `usize` code computes. -/
theorem alloc_no_wrap (a : Arena) (bytes k : Nat) (hI : a.Inv)
    (hb : a.base < 2 ^ 48) (hc : a.cap < 2 ^ 48) (hl : bytes + 2 ^ k ≤ 2 ^ 63) :
    a.base + a.offset + 2 ^ k ≤ 2 ^ 64 ∧
    alignUpW (a.base + a.offset) (2 ^ k) = alignUp (a.base + a.offset) (2 ^ k) ∧
    a.base ≤ alignUp (a.base + a.offset) (2 ^ k) ∧
    a.absBeg (2 ^ k) + bytes + guardBytes < 2 ^ 64 ∧
    a.absBeg (2 ^ k) + bytes + chunk - 1 < 2 ^ 64 ∧
    alignUpW (a.absBeg (2 ^ k) + bytes) chunk = alignUp (a.absBeg (2 ^ k) + bytes) chunk := by
  have ho : a.offset ≤ a.cap := Nat.le_trans hI.offLe hI.commitLe
  obtain ⟨h1, h2⟩ := alignUp_bounds (a.base + a.offset) (2 ^ k) (Nat.pow_pos (by decide))
  have hs : a.base + a.offset + 2 ^ k ≤ 2 ^ 64 := by omega
  -- one chunk of room above the end of the block covers the guard bytes and the commit rounding
  have hbeg : a.absBeg (2 ^ k) + bytes + 2 ^ 16 ≤ 2 ^ 64 := by unfold Arena.absBeg; omega
  exact ⟨hs, alignUpW_eq _ _ hs, Nat.le_trans (Nat.le_add_right _ _) h1,
    Nat.lt_of_lt_of_le (Nat.add_lt_add_left (by decide : guardBytes < 2 ^ 16) _) hbeg,
    Nat.lt_of_lt_of_le (Nat.sub_lt (Nat.add_pos_right _ (by decide)) Nat.one_pos) hbeg,
    alignUpW_eq _ 16 hbeg⟩

example : alignUpW (4096 + 5) 8192 = 8192 ∧ alignUpW 65537 65536 = 131072 := by decide +kernel

example : (Arena.new 4096 1).cap = 65536 ∧ (Arena.new 4096 65537).cap = 131072 := by decide +kernel

theorem absBeg_closed (a : Arena) (align : Nat) (ha : 0 < align) :
    a.absBeg align = a.offset + (align - (a.base + a.offset) % align) % align := by
  unfold Arena.absBeg
  rw [alignUp_eq_add_mod _ _ ha, Nat.add_assoc, Nat.add_sub_cancel_left]

theorem absBeg_least (a : Arena) (align o : Nat) (ha : 0 < align) (ho : a.offset ≤ o)
    (hd : align ∣ a.base + o) : a.absBeg align ≤ o := by
  unfold Arena.absBeg
  exact Nat.sub_le_of_le_add (Nat.add_comm o a.base ▸
    (alignUp_le_iff (a.base + a.offset) align (a.base + o) ha hd).2 (Nat.add_le_add_left ho _))

/-- D-11: the unfixed formula (`relBeg` aligns the offset, not the address) agrees with the fixed one
when the base itself is aligned, i.e. for alignments up to the page size. -/
theorem absBeg_eq_relBeg (a : Arena) (align : Nat) (ha : 0 < align) (hd : align ∣ a.base) :
    a.absBeg align = a.relBeg align := by
  unfold Arena.absBeg Arena.relBeg
  rw [alignUp_add_of_dvd _ _ _ ha hd, Nat.add_sub_cancel_left]

/-- D-11: the alignment claim for the unfixed formula. -/
def c11_relBeg_aligned_full : Prop :=
  ∀ (a : Arena) (align : Nat), a.Inv → 0 < align → 4096 ∣ a.base → align ∣ a.base + a.relBeg align

/-- False: a page-aligned base and `align = 8192` (the D-11 witness
`Arena::new(1 MiB)`, `allocate(Layout{size 16, align 8192})` with `base ≡ 4096 (mod 8192)`). -/
theorem c11_relBeg_aligned_full_is_false : ¬ c11_relBeg_aligned_full := by
  intro h
  have := h (Arena.new 4096 1048576) 8192 (new_spec _ _).1 (by decide) (by decide)
  revert this
  decide

theorem alloc_in_reservation (a : Arena) (bytes align beg : Nat) (a' : Arena) (hI : a.Inv)
    (ha : 0 < align) (h : a.alloc bytes align = some (beg, a')) : beg + bytes ≤ a.cap := by
  have hA := alloc_ok a bytes align beg a' hI h
  exact hA.start ▸ Nat.le_of_not_lt (mt (alloc_err_iff a bytes align hI).2 fun hn => nomatch hn.symm.trans h)

example : ((Arena.new 4096 65536).alloc 16 8192).map (fun r => (r.1, r.2.offset, r.2.commit)) =
    some (4096, 4112, 65536) := by decide +kernel

example : (Arena.new 4096 65536).alloc 65537 1 = none ∧
    ((Arena.new 4096 65536).alloc 65536 1).isSome = true ∧
    (Arena.new 4096 65536).alloc 61441 8192 = none := by decide +kernel

theorem allocZeroed_err_iff (a : Arena) (bytes align : Nat) (hI : a.Inv) :
    a.allocZeroed bytes align = none ↔ a.cap < a.absBeg align + bytes := by
  rw [← alloc_err_iff a bytes align hI, allocZeroed_eq, Option.map_eq_none_iff]

theorem grow_err_iff (a : Arena) (beg oldSize newSize align : Nat) (hI : a.Inv) :
    a.grow beg oldSize newSize align = none ↔
      (if beg + oldSize = a.offset then a.cap < a.offset + (newSize - oldSize)
       else a.cap < a.absBeg align + newSize) := by
  rw [grow_eq]
  by_cases htail : beg + oldSize = a.offset
  · rw [if_pos htail, if_pos htail, Option.map_eq_none_iff, ← absBeg_one a, alloc_err_iff a _ 1 hI]
  · rw [if_neg htail, if_neg htail, Option.map_eq_none_iff, alloc_err_iff a _ align hI]

theorem shrink_nontail (a : Arena) (beg oldSize newSize : Nat) (ht : beg + oldSize ≠ a.offset) :
    a.shrink beg oldSize newSize = (oldSize, a) := by
  unfold Arena.shrink; simp [ht]

/-- C11, reset: the next allocation begins at the first aligned address at or above the mark `m`;
nothing below `m` is touched. -/
theorem reset_then_alloc (a : Arena) (m bytes align beg : Nat) (a' : Arena) (hI : a.Inv)
    (hm : m ≤ a.offset) (ha : 0 < align) (h : (a.reset m).alloc bytes align = some (beg, a')) :
    beg = alignUp (a.base + m) align - a.base ∧ m ≤ beg ∧ beg < m + align ∧ align ∣ a.base + beg ∧
    a'.offset = beg + bytes ∧ (∀ i, i < m → a'.mem i = a.mem i) := by
  obtain ⟨rK, ro, _⟩ := reset_ok a m hI hm
  have hA := alloc_ok (a.reset m) bytes align beg a' rK.inv h
  obtain ⟨s1, s2, s3⟩ := absBeg_spec (a.reset m) align ha
  rw [← hA.start, ro] at s1 s2
  rw [← hA.start, rK.base] at s3
  refine ⟨?_, s1, s2, s3, hA.off, fun i hi => (hA.mem i (ro.symm ▸ hi)).trans (rK.mem i hi)⟩
  rw [hA.start]; unfold Arena.absBeg; rw [ro, rK.base]

theorem release_ok (a : Arena) (saved : Nat) (hI : a.Inv) (h : saved ≤ a.offset) :
    a.Keeps (a.release saved) saved ∧ (a.release saved).offset = saved ∧
    (a.release saved).commit ≤ a.commit := by
  obtain ⟨rK, ro, rc⟩ := reset_ok a saved hI h
  obtain ⟨dK, do_, dc⟩ := decommit_ok (a.reset saved) rK.inv
  rw [ro] at dK
  exact ⟨rK.trans dK (Nat.le_refl _), do_.trans ro, dc ▸ rc ▸ Nat.min_le_left _ _⟩

/-! `ArenaString` (second half of `Model/Bump.lean`).  The string whose buffer is block `id` has capacity
`b.len`, length `b.used` and bytes `b.data 0 … b.data (b.used - 1)`; its operations reserve through
`strEnsure` and then write through the buffer pointer (`strWrite`), which no definition confines to the block. -/

/-- std's growth policy as observed on the compiled crate (`nvh dump-tables` drives
`Vec::<u8,&Arena>::reserve` / `reserve_exact` over a grid of capacities, lengths and requests). -/
theorem gen_reserve_policy :
    Gen.Arena.reserveProbe.all (fun r =>
      reserveCap r.1 r.2.1 r.2.2.1 == r.2.2.2.1 && reserveExactCap r.1 r.2.1 r.2.2.1 == r.2.2.2.2) = true ∧
    200 ≤ Gen.Arena.reserveProbe.length := by decide +kernel

theorem reserveExactCap_spec (cap len additional : Nat) (h : len ≤ cap) :
    cap ≤ reserveExactCap cap len additional ∧ len + additional ≤ reserveExactCap cap len additional ∧
    (additional ≤ cap - len → reserveExactCap cap len additional = cap) ∧
    (cap - len < additional → reserveExactCap cap len additional = len + additional) := by
  unfold reserveExactCap
  split <;> omega

/-- `vec_replace_impl` asks for `src_len - del_len` more bytes behind the length: enough. -/
theorem pinnedRule_fits : RuleFits pinnedRule := by
  intro cap len del srcLen h1 h2
  have := (reserveCap_spec cap len (srcLen - del)).2.1 h1
  unfold pinnedRule
  omega

/-- Seeded change C11-c2 (`reserve(new_len - capacity)`): NOT enough — capacity 16, length 10, one
byte replaced by nine: the result has 18 bytes, `reserve(2)` finds 6 spare bytes and does nothing. -/
theorem seededRule_does_not_fit : ¬ RuleFits seededRule := by
  intro h
  have := h 16 10 1 9 (by decide) (by decide)
  revert this
  decide

example : reserveCap 16 10 (seededRule 16 10 1 9) = 16 ∧ reserveCap 16 10 (pinnedRule 16 10 1 9) = 32 ∧
    reserveCap 16 15 (seededRule 16 15 0 45) = 59 ∧ reserveCap 0 0 5 = 8 ∧ reserveExactCap 16 10 7 = 17 := by
  decide +kernel

theorem strEnsure_none_iff (s : St) (hG : Good s) (id newCap : Nat) :
    strEnsure s id newCap = none ↔
      (match findBlk s.live id with
       | none => newCap ≠ 0 ∧ s.a.cap < s.a.offset + newCap
       | some b => b.len < newCap ∧
           (if b.beg + b.len = s.a.offset then s.a.cap < s.a.offset + (newCap - b.len)
            else s.a.cap < s.a.absBeg b.align + newCap)) := by
  have h1 := alloc_err_iff s.a newCap 1 hG.inv
  rw [absBeg_one s.a] at h1
  -- each refusal is `alloc_err_iff` (`h1`) or `grow_err_iff` read from right to left.  The branches of
  -- `strEnsure`: no buffer — 1 nothing asked, 2 allocated, 3 refused; a buffer — 4 large enough, 5 grown, 6 refused
  fun_cases strEnsure s id newCap
  case case1 hf h0 => simp [hf, h0]
  case case2 hf h0 hs => simp [hf, h0, ← h1, Option.isSome_iff_ne_none.mp hs]
  case case3 hf h0 hs => simp [hf, h0, ← h1, Option.not_isSome_iff_eq_none.mp hs]
  case case4 b hf h0 => simp [hf, h0]; omega
  case case5 b hf _ hs =>
    simp [hf, ← grow_err_iff s.a b.beg b.len newCap b.align hG.inv, Option.isSome_iff_ne_none.mp hs]
  case case6 b hf h0 hs =>
    simp [hf, ← grow_err_iff s.a b.beg b.len newCap b.align hG.inv, Option.not_isSome_iff_eq_none.mp hs]
    omega

/-- `reserve` / `reserve_exact`; the first disjunct is the allocator refusing (the process aborts). -/
theorem str_reserve_spec (s : St) (hG : Good s) (id additional : Nat) (exact : Bool) :
    let cap := (strDims s id).1
    let len := (strDims s id).2
    let want := if exact then reserveExactCap cap len additional else reserveCap cap len additional
    let s' := step s (.sReserve id additional exact)
    (strEnsure s id want = none ∧ s' = s) ∨
    (strDims s' id = (want, len) ∧ len + additional ≤ want ∧ strContent s' id = strContent s id) := by
  intro cap len want s'
  have hle : len ≤ cap := good_dims s hG id
  have hw : cap ≤ want ∧ len + additional ≤ want := by
    cases exact
    · exact ⟨(reserveCap_spec cap len additional).1, (reserveCap_spec cap len additional).2.1 hle⟩
    · exact ⟨(reserveExactCap_spec cap len additional hle).1, (reserveExactCap_spec cap len additional hle).2.1⟩
  have hs' : s' = match strEnsure s id want with
      | none => s
      | some s1 => s1 := rfl
  cases h : strEnsure s id want with
  | none => left; rw [hs', h]; exact ⟨rfl, rfl⟩
  | some s1 =>
    right
    obtain ⟨_, hd, hc, _⟩ := strEnsure_spec s hG id want s1 h
    rw [hs', h]
    exact ⟨by rw [hd, Nat.max_eq_right hw.1], hw.2, hc⟩

theorem str_push_spec (s : St) (hG : Good s) (id : Nat) (src : List Nat) :
    let cap := (strDims s id).1
    let len := (strDims s id).2
    let want := reserveCap cap len src.length
    let s' := step s (.sPush id src)
    (strEnsure s id want = none ∧ s' = s) ∨
    (strContent s' id = strContent s id ++ src ∧ strDims s' id = (want, len + src.length) ∧
     len + src.length ≤ want) :=
  (strPush_spec s hG id src).2

/-- The safety half: `vec_replace_impl` with ANY reserve request that satisfies `RuleFits` keeps the
invariant (with `seededRule` it does not: `c11_seeded_replace_safe_is_false`). -/
theorem good_strReplaceWith (rule : Nat → Nat → Nat → Nat → Nat) (hr : RuleFits rule) (s : St) (hG : Good s)
    (id lo hi : Nat) (src : List Nat) : Good (s.strReplaceWith rule id lo hi src) :=
  (strReplaceWith_spec rule hr s hG id lo hi src).1

/-- `replace_range(lo..hi, src)` = `vec_replace_impl`: the range is clamped to the string; the length
within the capacity says that every byte the raw copies wrote lies inside the buffer. -/
theorem str_replace_spec (s : St) (hG : Good s) (id lo hi : Nat) (src : List Nat) :
    let c := strContent s id
    let cap := (strDims s id).1
    let off := min lo c.length
    let del := min (hi - off) (c.length - off)
    let want := reserveCap cap c.length (src.length - del)
    let s' := step s (.sReplace id lo hi src)
    (strEnsure s id want = none ∧ s' = s) ∨
    (strContent s' id = replaceBytes c off del src ∧
     strDims s' id = (want, c.length - del + src.length) ∧ c.length - del + src.length ≤ want) := by
  intro c cap off del want s'
  have h := (strReplaceWith_spec pinnedRule pinnedRule_fits s hG id lo hi src).2
  by_cases h0 : del = 0 ∧ src.length = 0
  · -- nothing to do: `reserve(0)`, and nothing replaced by nothing
    have hs : s' = s := (if_pos h0 ▸ h :)
    have hwant : want = cap := (reserveCap_spec cap c.length (src.length - del)).2.2 (by omega)
    have hsrc : src = [] := List.eq_nil_of_length_eq_zero h0.2
    right
    rw [hs, hwant, h0.1, hsrc]
    refine ⟨?_, Prod.ext rfl (strContent_length s id).symm, ?_⟩
    · show c = c.take off ++ [] ++ c.drop (off + 0)
      rw [List.append_nil, Nat.add_zero, List.take_append_drop]
    · exact (strContent_length s id ▸ good_dims s hG id : c.length ≤ cap)
  · exact (if_neg h0 ▸ h :)

theorem findSubFrom_eq (needle : List Nat) : ∀ (hay : List Nat) (i : Nat),
    findSubFrom needle hay i = (Strs.firstOcc hay needle).map (· + i)
  | [], i => by
    unfold findSubFrom Strs.firstOcc
    split
    · exact congrArg some (Nat.zero_add i).symm
    · rfl
  | h :: t, i => by
    unfold findSubFrom Strs.firstOcc
    split
    · exact congrArg some (Nat.zero_add i).symm
    · rw [findSubFrom_eq needle t (i + 1), Option.map_map]
      exact congrArg (Option.map · _) (funext fun k => Nat.add_right_comm k i 1 ▸ rfl)

theorem findSub_eq (hay needle : List Nat) : findSub hay needle = Strs.firstOcc hay needle := by
  unfold findSub
  rw [findSubFrom_eq]
  cases Strs.firstOcc hay needle <;> rfl

/-- `findSub` is `str::find`. -/
theorem findSub_spec (hay needle : List Nat) :
    (∀ r, findSub hay needle = some r →
      needle <+: hay.drop r ∧ r + needle.length ≤ hay.length ∧ ∀ j, j < r → ¬ needle <+: hay.drop j) ∧
    (findSub hay needle = none → ∀ j, ¬ needle <+: hay.drop j) := by
  rw [findSub_eq]
  refine ⟨fun r h => ?_, fun h => (h ▸ Strs.firstOcc_isFirst hay needle : Strs.IsFirstOcc hay needle none)⟩
  obtain ⟨h2, h3⟩ := Strs.firstOcc_some h
  refine ⟨h2, ?_, h3⟩
  by_cases hn : needle = []
  · subst hn
    rw [Nat.eq_zero_of_not_pos fun hp => h3 0 hp (Strs.occ_zero_nil hay)]
    exact Nat.zero_le _
  · exact Strs.occ_len h2 hn

example : findSub [1, 2, 3, 2, 3] [2, 3] = some 1 ∧ findSub [1, 2] [] = some 0 ∧ findSub [] [] = some 0 ∧
    findSub [1, 2, 3] [3, 4] = none ∧ findSub [1, 2, 3] [3] = some 2 := by decide +kernel

/-- `replace_once_in_place(old, new)` is by definition `find` followed by `replace_range` at the
index found (the form the driver executes). -/
theorem step_sOnce (s : St) (id : Nat) (old new : List Nat) :
    step s (.sOnce id old new) =
      match findSub (strContent s id) old with
      | none => s
      | some i => step s (.sReplace id i (i + old.length) new) := by
  simp only [step]
  rfl

theorem str_once_spec (s : St) (hG : Good s) (id : Nat) (old new : List Nat) :
    let c := strContent s id
    let s' := step s (.sOnce id old new)
    (findSub c old = none → s' = s) ∧
    (∀ r, findSub c old = some r →
      let want := reserveCap (strDims s id).1 c.length (new.length - old.length)
      (strEnsure s id want = none ∧ s' = s) ∨
      (strContent s' id = c.take r ++ new ++ c.drop (r + old.length) ∧
       strDims s' id = (want, c.length - old.length + new.length) ∧
       c.length - old.length + new.length ≤ want)) := by
  intro c s'
  constructor
  · intro h
    show step s (.sOnce id old new) = s
    rw [step_sOnce, h]
  · intro r h
    have hr := ((findSub_spec c old).1 r h).2.1
    have e : s' = step s (.sReplace id r (r + old.length) new) := by
      show step s (.sOnce id old new) = _
      rw [step_sOnce, h]
    have := str_replace_spec s hG id r (r + old.length) new
    -- put the `let`s of that statement in, so that `off` and `del` can be computed
    dsimp only at this
    have e1 : min r c.length = r := Nat.min_eq_left (by omega)
    have e2 : min (r + old.length - r) (c.length - r) = old.length := by
      rw [Nat.add_sub_cancel_left]; exact Nat.min_eq_left (by omega)
    rw [e1, e2] at this
    rw [e]
    exact this

/-- An operation that ends in `handle_alloc_error` has changed nothing. -/
theorem step_abort_clean (s : St) (op : Op) (h : aborts s op = true) : step s op = s := by
  cases op with
  | sReserve id additional exact =>
    simp only [aborts, Option.isNone_iff_eq_none] at h
    simp only [step, St.strReserve, h]
  | sPush id src =>
    simp only [aborts, Option.isNone_iff_eq_none] at h
    simp only [step, St.strPush, h]
  | sReplace id lo hi src =>
    simp only [aborts, Bool.and_eq_true, Option.isNone_iff_eq_none] at h
    simp only [step, St.strReplaceWith, h.2, ite_self]
  | sOnce id old new =>
    simp only [aborts] at h
    simp only [step]
    split
    · rfl
    · rename_i r hr
      rw [hr] at h
      simp only [Bool.and_eq_true, Option.isNone_iff_eq_none] at h
      simp only [St.strReplaceWith, h.2, ite_self]
  | _ => simp [aborts] at h

theorem str_clear_spec (s : St) (id : Nat) :
    strContent (step s (.sClear id)) id = [] ∧
    strDims (step s (.sClear id)) id = ((strDims s id).1, 0) := by
  simp only [step]
  cases hf : findBlk s.live id with
  | none => rw [strWrite_none s id _ _ hf]; simp [strContent, strDims, hf]
  | some b =>
    have := strWrite_blk s id (fun _ m => m) 0 b hf
    rw [strContent_of _ id _ this, strDims_of _ id _ this, strDims_of s id b hf]
    simp [Block.content]

/-- `shrink_to_fit()`.  A buffer that is not the tail is left alone (in a debug build the arena
asserts; the protocol does not make that call). -/
theorem str_shrink_spec (s : St) (hG : Good s) (id : Nat) :
    let s' := step s (.sShrink id)
    strContent s' id = strContent s id ∧ (strDims s' id).2 = (strDims s id).2 ∧
    (∀ b, findBlk s.live id = some b → b.used = 0 ∨ b.beg + b.len = s.a.offset →
      (strDims s' id).1 = b.used ∧ (0 < b.used → s'.a.offset = b.beg + b.used)) := by
  intro s'
  have hs : s' = s.strShrink id := rfl
  clear_value s'
  subst hs
  cases hf : findBlk s.live id with
  | none =>
    have : s.strShrink id = s := by unfold St.strShrink; rw [hf]
    rw [this]
    exact ⟨rfl, rfl, fun b hb => nomatch hb⟩
  | some b =>
    have hb := hG.blocks b (findBlk_mem hf)
    have hu := hb.usedLe
    have hd := strDims_of s id b hf
    have e := strShrink_of s id b hf hu
    by_cases h1 : b.len ≤ b.used
    · rw [if_pos h1] at e
      rw [e, hd]
      refine ⟨rfl, rfl, fun b' hb' hor => ?_⟩
      cases hb'
      exact ⟨Nat.le_antisymm h1 hu, fun _ => by have := hb.inb; omega⟩
    · by_cases h2 : b.used = 0
      · rw [if_neg h1, if_pos h2] at e
        obtain ⟨e1, e2⟩ := resized_blk s id b hf s.a 0 (dropBlk s.live id)
        rw [e, e2, hd]
        refine ⟨e1, rfl, fun b' hb' _ => ?_⟩
        cases hb'
        exact ⟨h2.symm, fun h => by omega⟩
      · by_cases ht : b.beg + b.len = s.a.offset
        · rw [if_neg h1, if_neg h2, if_pos ht] at e
          obtain ⟨e1, e2⟩ := resized_blk s id b hf (s.a.shrink b.beg b.len b.used).2 b.used
            (below (dropBlk s.live id) (s.a.shrink b.beg b.len b.used).2.offset)
          rw [e, e2, hd]
          refine ⟨e1, rfl, fun b' hb' _ => ?_⟩
          cases hb'
          exact ⟨rfl, fun _ => by rw [shrink_tail s.a b.beg b.len b.used ht]⟩
        · rw [if_neg h1, if_neg h2, if_neg ht] at e
          rw [e]
          exact ⟨rfl, rfl, fun b' hb' hor => by cases hb'; exact (hor.elim h2 ht).elim⟩

theorem good_alloc (s : St) (hG : Good s) (id bytes align beg : Nat) (a' : Arena)
    (ha : 0 < align) (hbase : a'.base = s.a.base) (hI : a'.Inv) (habove : s.a.offset ≤ beg)
    (haligned : align ∣ s.a.base + beg) (hoff : a'.offset = beg + bytes)
    (hkept : ∀ i, i < s.a.offset → a'.mem i = s.a.mem i) :
    Good { s with a := a'
                  live := { id := id, beg := beg, len := bytes, align := align,
                            data := fun k => a'.mem (beg + k) } :: s.live } :=
  hG.cons hI hbase hkept ⟨ha, Nat.le_of_eq hoff.symm, hbase ▸ haligned, fun _ _ => rfl, Nat.zero_le _⟩ habove

theorem good_store (s : St) (hG : Good s) (id : Nat) (f : Nat → Nat) : Good (step s (.store id f)) := by
  simp only [step]
  split
  · exact hG
  · rename_i b hf
    exact hG.rewrite hf (hG.blocks b (findBlk_mem hf)).usedLe (fun k hk => Mem.store_inside _ _ _ _ k hk)
      (fun i hi => Mem.store_outside _ _ _ _ i hi)

theorem good_reset (s : St) (hG : Good s) (to : Nat) : Good (step s (.reset to)) := by
  simp only [step]
  split
  · rename_i hle
    obtain ⟨rK, ro, _⟩ := reset_ok s.a to hG.inv hle
    exact hG.sub _ List.filter_sublist rK (Nat.le_of_eq ro.symm) (fun c hc _ => (mem_below.1 hc).2)
  · exact hG

theorem good_decommit (s : St) (hG : Good s) : Good (step s .decommit) := by
  obtain ⟨dK, do_, _⟩ := decommit_ok s.a hG.inv
  exact hG.sub _ (.refl _) dK (Nat.le_of_eq do_.symm) (fun c _ hc => hc.inb)

theorem good_release (s : St) (hG : Good s) : Good (step s .release) := by
  simp only [step]
  split
  · exact hG
  · rename_i saved rest hbor
    split
    · rename_i hle
      obtain ⟨rK, ro, _⟩ := release_ok s.a saved hG.inv hle
      exact hG.sub _ List.filter_sublist rK (Nat.le_of_eq ro.symm) (fun c hc _ => (mem_below.1 hc).2)
    · exact ⟨hG.inv, hG.blocks, hG.disj⟩

theorem good_strReserve (s : St) (hG : Good s) (id additional : Nat) (exact : Bool) :
    Good (s.strReserve id additional exact) := by
  unfold St.strReserve
  dsimp only
  split
  · exact hG
  · rename_i s1 h; exact (strEnsure_spec s hG id _ s1 h).1

theorem good_strPush (s : St) (hG : Good s) (id : Nat) (src : List Nat) : Good (s.strPush id src) :=
  (strPush_spec s hG id src).1

theorem good_strShrink (s : St) (hG : Good s) (id : Nat) : Good (s.strShrink id) := by
  unfold St.strShrink
  split
  · exact hG
  · rename_i b hf
    split
    · exact hG
    · split
      · -- the empty vector forgets its buffer: an empty block is disjoint from everything
        have hb := hG.blocks b (findBlk_mem hf)
        exact hG.replace hf (.refl _) hG.inv
          ⟨hb.apos, Nat.le_trans (Nat.le_add_right _ _) hb.inb, hb.aligned,
            fun k hk => absurd hk (Nat.not_lt_zero _), Nat.le_of_eq ‹b.used = 0›⟩
          (fun c _ hc _ => ⟨hc, Or.inl rfl⟩)
      · exact good_shrinkBlk s hG id b.used

theorem step_good (s : St) (op : Op) (hG : Good s) : Good (step s op) := by
  cases op with
  | alloc id bytes align zeroed => exact good_allocBlk s hG id bytes align zeroed
  | grow id newSize => exact good_growBlk s hG id newSize
  | shrink id newSize => exact good_shrinkBlk s hG id newSize
  | store id f => exact good_store s hG id f
  | reset to => exact good_reset s hG to
  | decommit => exact good_decommit s hG
  | borrow => exact ⟨hG.inv, hG.blocks, hG.disj⟩
  | release => exact good_release s hG
  | sReserve id additional exact => exact good_strReserve s hG id additional exact
  | sPush id src => exact good_strPush s hG id src
  | sShrink id => exact good_strShrink s hG id
  | sClear id => exact good_strWrite s hG id (fun _ m => m) 0 (fun b _ => ⟨Nat.zero_le _, fun _ _ => rfl⟩)
  | sReplace id lo hi src => exact good_strReplaceWith pinnedRule pinnedRule_fits s hG id lo hi src
  | sOnce id old new =>
    rw [step_sOnce]
    split
    · exact hG
    · exact good_strReplaceWith pinnedRule pinnedRule_fits s hG id _ _ new

theorem run_good (ops : List Op) : ∀ s, Good s → Good (run s ops) := by
  induction ops with
  | nil => exact fun s h => h
  | cons op ops ih => exact fun s h => ih _ (step_good s op h)

theorem strEnsure_content (s : St) (hG : Good s) (id newCap : Nat) (s1 : St)
    (h : strEnsure s id newCap = some s1) : strContent s1 id = strContent s id :=
  (strEnsure_spec s hG id newCap s1 h).2.2.1

/-! The reservation never moves or changes size: no operation writes `base` or `cap`.  This needs
no invariant: a pair of equations for each arena call, carried through the client calls, `step` and
`run`. -/

theorem base_cap_trans {a b c : Arena} (h : b.base = a.base ∧ b.cap = a.cap)
    (h' : c.base = b.base ∧ c.cap = b.cap) : c.base = a.base ∧ c.cap = a.cap :=
  ⟨h'.1.trans h.1, h'.2.trans h.2⟩

theorem alloc_base_cap {a : Arena} {bytes align beg : Nat} {a' : Arena}
    (h : a.alloc bytes align = some (beg, a')) : a'.base = a.base ∧ a'.cap = a.cap := by
  unfold Arena.alloc at h
  dsimp only at h
  split at h
  · split at h
    · cases h
    · cases h; exact ⟨rfl, rfl⟩
  · cases h; exact ⟨rfl, rfl⟩

theorem allocZeroed_base_cap {a : Arena} {bytes align beg : Nat} {a' : Arena}
    (h : a.allocZeroed bytes align = some (beg, a')) : a'.base = a.base ∧ a'.cap = a.cap := by
  rw [allocZeroed_eq] at h
  obtain ⟨r, h0, he⟩ := Option.map_eq_some_iff.1 h
  cases he
  exact alloc_base_cap (beg := r.1) (a' := r.2) h0

theorem grow_base_cap {a : Arena} {beg o n align nb : Nat} {a' : Arena}
    (h : a.grow beg o n align = some (nb, a')) : a'.base = a.base ∧ a'.cap = a.cap := by
  rw [grow_eq] at h
  -- in place or moved, the new arena is the one `alloc` returned, with some bytes copied in the second case
  split at h
  · obtain ⟨r, h0, he⟩ := Option.map_eq_some_iff.1 h
    cases he
    exact alloc_base_cap (beg := r.1) (a' := r.2) h0
  · obtain ⟨r, h0, he⟩ := Option.map_eq_some_iff.1 h
    cases he
    exact alloc_base_cap (beg := r.1) (a' := r.2) h0

theorem reset_base_cap (a : Arena) (to : Nat) : (a.reset to).base = a.base ∧ (a.reset to).cap = a.cap := by
  unfold Arena.reset; split <;> exact ⟨rfl, rfl⟩

-- field by field and through `apply_ite`: the obvious ways (a case split on the test, or both fields
-- under one `unfold`) are slow for the kernel to check
theorem decommit_base_cap (a : Arena) : a.decommit.base = a.base ∧ a.decommit.cap = a.cap := by
  constructor <;> unfold Arena.decommit
  · exact (apply_ite Arena.base _ _ _).trans (ite_self _)
  · exact (apply_ite Arena.cap _ _ _).trans (ite_self _)

theorem allocBlk_base_cap (s : St) (id bytes align : Nat) (zeroed : Bool) :
    (s.allocBlk id bytes align zeroed).a.base = s.a.base ∧ (s.allocBlk id bytes align zeroed).a.cap = s.a.cap := by
  unfold St.allocBlk
  split
  · exact ⟨rfl, rfl⟩
  · split
    · exact ⟨rfl, rfl⟩
    · next h =>
      cases zeroed
      · exact alloc_base_cap h
      · exact allocZeroed_base_cap h

theorem growBlk_base_cap (s : St) (id newSize : Nat) :
    (s.growBlk id newSize).a.base = s.a.base ∧ (s.growBlk id newSize).a.cap = s.a.cap := by
  unfold St.growBlk
  split
  · exact ⟨rfl, rfl⟩
  · split
    · exact ⟨rfl, rfl⟩
    · split
      · exact ⟨rfl, rfl⟩
      · next h => exact grow_base_cap h

theorem shrinkBlk_base_cap (s : St) (id newSize : Nat) :
    (s.shrinkBlk id newSize).a.base = s.a.base ∧ (s.shrinkBlk id newSize).a.cap = s.a.cap := by
  unfold St.shrinkBlk
  split
  · exact ⟨rfl, rfl⟩
  · split
    · unfold Arena.shrink; dsimp only; split <;> exact ⟨rfl, rfl⟩
    · exact ⟨rfl, rfl⟩

theorem strEnsure_base_cap (s : St) (id newCap : Nat) (s1 : St) (h : strEnsure s id newCap = some s1) :
    s1.a.base = s.a.base ∧ s1.a.cap = s.a.cap := by
  revert h
  -- the refusals (branches 3 and 6 of `strEnsure`) go with `rintro ⟨⟩`
  fun_cases strEnsure s id newCap <;> rintro ⟨⟩
  case case1 => exact ⟨rfl, rfl⟩
  case case2 => exact allocBlk_base_cap s id newCap 1 false
  case case4 => exact ⟨rfl, rfl⟩
  case case5 => exact growBlk_base_cap s id newCap

theorem strWrite_base_cap (s : St) (id : Nat) (w : Nat → Mem → Mem) (used' : Nat) :
    (strWrite s id w used').a.base = s.a.base ∧ (strWrite s id w used').a.cap = s.a.cap := by
  unfold strWrite; split <;> exact ⟨rfl, rfl⟩

theorem strReplaceWith_base_cap (rule : Nat → Nat → Nat → Nat → Nat) (s : St) (id lo hi : Nat) (src : List Nat) :
    (s.strReplaceWith rule id lo hi src).a.base = s.a.base ∧ (s.strReplaceWith rule id lo hi src).a.cap = s.a.cap := by
  unfold St.strReplaceWith
  dsimp only
  split
  · exact ⟨rfl, rfl⟩
  · split
    · exact ⟨rfl, rfl⟩
    · next s1 h => exact base_cap_trans (strEnsure_base_cap s id _ s1 h) (strWrite_base_cap s1 id _ _)

theorem step_base_cap (s : St) (op : Op) :
    (step s op).a.base = s.a.base ∧ (step s op).a.cap = s.a.cap := by
  cases op with
  | alloc id bytes align zeroed => exact allocBlk_base_cap s id bytes align zeroed
  | grow id newSize => exact growBlk_base_cap s id newSize
  | shrink id newSize => exact shrinkBlk_base_cap s id newSize
  | store id f => simp only [step]; split <;> exact ⟨rfl, rfl⟩
  | reset to =>
    simp only [step]
    split
    · exact reset_base_cap _ _
    · exact ⟨rfl, rfl⟩
  | decommit => exact decommit_base_cap _
  | borrow => exact ⟨rfl, rfl⟩
  | release =>
    simp only [step]
    split
    · exact ⟨rfl, rfl⟩
    · split
      · exact base_cap_trans (reset_base_cap _ _) (decommit_base_cap _)
      · exact ⟨rfl, rfl⟩
  | sReserve id additional exact =>
    simp only [step, St.strReserve]
    split
    · exact ⟨rfl, rfl⟩
    · next s1 h => exact strEnsure_base_cap s id _ s1 h
  | sPush id src =>
    simp only [step, St.strPush]
    split
    · exact ⟨rfl, rfl⟩
    · next s1 h => exact base_cap_trans (strEnsure_base_cap s id _ s1 h) (strWrite_base_cap s1 id _ _)
  | sShrink id =>
    simp only [step, St.strShrink]
    split
    · exact ⟨rfl, rfl⟩
    · split
      · exact ⟨rfl, rfl⟩
      · split
        · exact ⟨rfl, rfl⟩
        · exact shrinkBlk_base_cap s id _
  | sClear id => exact strWrite_base_cap s id _ 0
  | sReplace id lo hi src => exact strReplaceWith_base_cap pinnedRule s id lo hi src
  | sOnce id old new =>
    simp only [step]
    split
    · exact ⟨rfl, rfl⟩
    · exact strReplaceWith_base_cap pinnedRule s id _ _ new

theorem run_base_cap (ops : List Op) : ∀ s, (run s ops).a.base = s.a.base ∧ (run s ops).a.cap = s.a.cap := by
  induction ops with
  | nil => exact fun s => ⟨rfl, rfl⟩
  | cons op ops ih => exact fun s => base_cap_trans (step_base_cap s op) (ih (step s op))

theorem disj_no_common_byte (b c : Block) (h : Disj b c) (i : Nat) :
    ¬ (b.beg ≤ i ∧ i < b.beg + b.len ∧ c.beg ≤ i ∧ i < c.beg + c.len) := by
  unfold Disj at h; omega

/-- C11 for all histories of `Op` on a fresh arena (arena calls, client writes, scratch
borrow/release, and the `ArenaString` operations, whose raw writes the model does not confine to the
buffer): the arena invariant holds; every live block (handed out and not given back by a
reset/release below its end) lies inside the committed prefix of the reservation, is aligned
absolutely as requested and holds what its owner last wrote (a grown block: its old contents in the
old prefix); a string's length never exceeds its capacity (the size of its block); live blocks are
pairwise disjoint. -/
theorem c11_history (base capacity : Nat) (ops : List Op) :
    (run (St.init base capacity) ops).a.Inv ∧
    (run (St.init base capacity) ops).a.base = base ∧
    (run (St.init base capacity) ops).a.cap = alignUp (max capacity 1) chunk ∧
    (∀ b, b ∈ (run (St.init base capacity) ops).live →
        b.beg + b.len ≤ (run (St.init base capacity) ops).a.offset ∧
        (run (St.init base capacity) ops).a.offset ≤ (run (St.init base capacity) ops).a.commit ∧
        (run (St.init base capacity) ops).a.commit ≤ (run (St.init base capacity) ops).a.cap ∧
        0 < b.align ∧ b.align ∣ base + b.beg ∧
        (∀ k, k < b.len → (run (St.init base capacity) ops).a.mem (b.beg + k) = b.data k) ∧
        b.used ≤ b.len) ∧
    (run (St.init base capacity) ops).live.Pairwise Disj := by
  have hG := run_good ops _ (init_good base capacity)
  obtain ⟨hb, hc⟩ := run_base_cap ops (St.init base capacity)
  replace hb : (run (St.init base capacity) ops).a.base = base := hb
  refine ⟨hG.inv, hb, hc, fun b hbm => ?_, hG.disj⟩
  have h := hG.blocks b hbm
  exact ⟨h.inb, hG.inv.offLe, hG.inv.commitLe, h.apos, hb ▸ h.aligned, h.content, h.usedLe⟩

theorem step_alloc_fail (s : St) (id bytes align : Nat) (zeroed : Bool)
    (h : (if zeroed then s.a.allocZeroed bytes align else s.a.alloc bytes align) = none) :
    step s (.alloc id bytes align zeroed) = s := by
  simp only [step, St.allocBlk, h, ite_self]

theorem step_grow_fail (s : St) (id newSize : Nat) (b : Block) (hf : findBlk s.live id = some b)
    (h : s.a.grow b.beg b.len newSize b.align = none) : step s (.grow id newSize) = s := by
  simp only [step, St.growBlk, hf, h, ite_self]

/-- What `grow` records for the client (ghost): the old data in the old prefix. -/
theorem step_grow_data (s : St) (id newSize nb : Nat) (b : Block) (a' : Arena)
    (hf : findBlk s.live id = some b) (hsz : b.len ≤ newSize)
    (h : s.a.grow b.beg b.len newSize b.align = some (nb, a')) :
    ∃ nbk rest, (step s (.grow id newSize)).live = nbk :: rest ∧ nbk.id = id ∧ nbk.beg = nb ∧
      nbk.len = newSize ∧ ∀ k, k < b.len → nbk.data k = b.data k := by
  simp only [step, St.growBlk, hf, h, if_neg (Nat.not_lt.2 hsz)]
  exact ⟨_, _, rfl, rfl, rfl, rfl, fun k hk => if_pos hk⟩

/-! Non-vacuity: a one-chunk arena whose base is page- but not 8 KiB-aligned; a block aligned to 8192,
a grow that has to move, a grow in place, a reset below a block, an allocation that reuses the
space, and one that does not fit. -/

def demoOps : List Op :=
  [ .alloc 0 100 8 false, .alloc 1 16 8192 false, .store 0 (fun k => k % 251), .grow 0 300,
    .grow 0 400, .borrow, .alloc 2 1000 64 true, .release, .shrink 0 350, .alloc 3 70000 1 false,
    .reset 104, .alloc 4 8 8 false, .decommit ]

example :
    (run (St.init 4096 65536) demoOps).live.map (fun b => (b.id, b.beg, b.len, b.align)) =
      [(4, 104, 8, 8)] ∧
    (run (St.init 4096 65536) (demoOps.take 10)).live.map (fun b => (b.id, b.beg, b.len, b.align)) =
      [(0, 4112, 350, 8), (1, 4096, 16, 8192)] ∧
    (run (St.init 4096 65536) (demoOps.take 10)).a.offset = 4462 ∧
    (run (St.init 4096 65536) demoOps).a.commit = 65536 := by decide +kernel

/-! Seeded change C11-c2 (`strReplaceWith seededRule`): a string of capacity 16 and length 10 followed
by a 32-byte block, one byte replaced by nine.  The result has 18 bytes in a 16-byte buffer; bytes 16
and 17 (the end of the shifted tail) are written into the neighbouring block. -/

def seededDemo : St :=
  (run (St.init 0 65536)
    [.alloc 0 16 1 false, .sPush 0 [48, 49, 50, 51, 52, 53, 54, 55, 56, 57], .alloc 1 32 1 false,
     .store 1 (fun _ => 0xB2)]).strReplaceWith seededRule 0 0 1 [65, 66, 67, 68, 69, 70, 71, 72, 73]

/-- Seeded change C11-c2: the claim that `vec_replace_impl` with `seededRule` keeps the invariant. -/
def c11_seeded_replace_safe : Prop :=
  ∀ (s : St) (id lo hi : Nat) (src : List Nat), Good s → Good (s.strReplaceWith seededRule id lo hi src)

/-- False, by `seededDemo`. -/
theorem c11_seeded_replace_safe_is_false : ¬ c11_seeded_replace_safe := by
  intro h
  have hG : Good seededDemo := h _ 0 0 1 _ (run_good _ _ (init_good 0 65536))
  have h1 : seededDemo.live.all (fun b => decide (b.used ≤ b.len)) = true :=
    List.all_eq_true.2 (fun b hb => decide_eq_true (hG.blocks b hb).usedLe)
  have h2 : seededDemo.live.all (fun b => decide (b.used ≤ b.len)) = false := by decide
  rw [h1] at h2
  cases h2

example :
    seededDemo.live.map (fun b => (b.id, b.beg, b.len, b.used)) = [(0, 0, 16, 18), (1, 16, 32, 0)] ∧
    -- the neighbour's first two bytes are now '8' '9' (the end of the shifted tail)
    seededDemo.a.mem 16 = 56 ∧ seededDemo.a.mem 17 = 57 ∧ seededDemo.a.mem 18 = 0xB2 := by decide +kernel

/-! Non-vacuity for the strings: the same situation under `pinnedRule` (`step`): the string moves to a
fresh 32-byte buffer behind the neighbour, which keeps its bytes; then a replacement that shrinks,
one at the end, `replace_once_in_place`, a reservation that does not fit (clean abort) and
`shrink_to_fit` of the tail. -/

def strDemoOps : List Op :=
  [ .alloc 0 16 1 false, .sPush 0 [48, 49, 50, 51, 52, 53, 54, 55, 56, 57], .alloc 1 32 1 false,
    .store 1 (fun _ => 0xB2), .sReplace 0 0 1 [65, 66, 67, 68, 69, 70, 71, 72, 73],
    .sReplace 0 1 9 [], .sReplace 0 10 (2 ^ 64 - 1) [33], .sOnce 0 [50, 51] [120, 121, 122],
    .sReserve 0 70000 true, .sShrink 0 ]

example :
    let s := run (St.init 0 65536) strDemoOps
    let s5 := run (St.init 0 65536) (strDemoOps.take 5)
    s5.live.map (fun b => (b.id, b.beg, b.len, b.used)) = [(0, 48, 32, 18), (1, 16, 32, 0)] ∧
    strContent s5 0 = [65, 66, 67, 68, 69, 70, 71, 72, 73, 49, 50, 51, 52, 53, 54, 55, 56, 57] ∧
    s5.a.mem 16 = 0xB2 ∧ s5.a.mem 47 = 0xB2 ∧
    strContent (run (St.init 0 65536) (strDemoOps.take 6)) 0 = [65, 49, 50, 51, 52, 53, 54, 55, 56, 57] ∧
    strContent (run (St.init 0 65536) (strDemoOps.take 7)) 0 = [65, 49, 50, 51, 52, 53, 54, 55, 56, 57, 33] ∧
    strContent (run (St.init 0 65536) (strDemoOps.take 8)) 0 = [65, 49, 120, 121, 122, 52, 53, 54, 55, 56, 57, 33] ∧
    aborts (run (St.init 0 65536) (strDemoOps.take 8)) (.sReserve 0 70000 true) = true ∧
    s.live.map (fun b => (b.id, b.beg, b.len, b.used)) = [(0, 48, 12, 12), (1, 16, 32, 0)] ∧
    s.a.offset = 60 := by decide +kernel

end NaijaVerif.Bump
