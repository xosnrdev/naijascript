import NaijaVerif.Lemmas.BridgeSafe
import NaijaVerif.Lemmas.BridgeReachPlan
import NaijaVerif.Lemmas.BridgeReachNum
import NaijaVerif.Lemmas.BridgeReachClosed
import NaijaVerif.Lemmas.ResolveFactsOwn
import NaijaVerif.Lemmas.ResolveFactsRange
import NaijaVerif.Lemmas.BridgeSource
import NaijaVerif.Lemmas.PipelineEq
import NaijaVerif.Props.C06Eval
import NaijaVerif.Props.C04Bridge
import NaijaVerif.Props.C13
/-
C06 — an accepted program never crashes the interpreter.  `Props/C06Eval.lean` reduces C06 to the
unreachability of nine residual panic sites; here that is proved from the resolver model, ending in
`c06_pipeline_unconditional`: a text `Pipeline.runSource` gets as far as running never panics.
Assumed: `NumLitsParse N isNumLexeme` (`parse::<f64>` accepts `digits` / `digits.digits`),
`cfg.panics = false` and `CurrentLookup cfg` (the current code: `dynamic`, or `lexical`, equal runs by
C04; the whole-stack lookup of D-04 is not covered).  For an arbitrary AST or plan the hypotheses are `SourceOK`
(scanner / parser guarantees, decidable) and `PlanReach` (the plan keeps SOME call-closed set of functions; decidable
for a given finite set, `planReach_of_keptReach`); both are proved of what the front end models produce.
-/
namespace NaijaVerif.Props.C06Accepted
open NaijaVerif NaijaVerif.Eval NaijaVerif.Bridge
open NaijaVerif.Props.C06Eval (Accepted)

/-- Every kept function calls kept functions only (`Bridge.keptBlock`).  Stronger than `PlanReach`
and false for the plan of the real analyses on some programs (`keptBlock_too_strong`). -/
def PlanKeepsCalls (cfg : RunCfg) (p : Block) : Prop := keptBlock cfg.plan p = true

instance (cfg : RunCfg) (p : Block) : Decidable (PlanKeepsCalls cfg p) := inferInstanceAs (Decidable (_ = true))

theorem planKeepsCalls_none (cfg : RunCfg) (h : cfg.plan = none) (p : Block) : PlanKeepsCalls cfg p := by
  unfold PlanKeepsCalls; rw [h]; exact kept_none p

/-- The hypothesis on the plan: some set `K` of function ids is kept by the plan and closed under the
calls of the code that can run (`Bridge.KeptReach`, `Lemmas/BridgeReach.lean`).  The bodies of definitions outside `K`
are exempt: a definition in dead code is hoisted whatever the plan says about its statement, and what only it calls
may be removed. -/
def PlanReach (cfg : RunCfg) (p : Block) : Prop := ∃ K : Nat → Bool, KeptReach K cfg.plan p

theorem planReach_of_keptReach {cfg : RunCfg} {p : Block} (K : List Nat) (h : keptReach K cfg.plan p = true) :
    PlanReach cfg p := ⟨_, keptReach_spec h⟩

/-- The canonical `K` computed from the call annotations (`Bridge.reachK`) is what the driver
evaluates on the real plan and the real resolver's output of every accepted program. -/
theorem planReach_of_planReaches {cfg : RunCfg} {p : Block} (h : planReaches cfg.plan p = true) : PlanReach cfg p :=
  planReach_of_keptReach _ h

theorem PlanKeepsCalls.reach {cfg : RunCfg} {p : Block} (h : PlanKeepsCalls cfg p) : PlanReach cfg p :=
  ⟨_, keptReach_of_keptBlock h⟩

theorem planReach_none (cfg : RunCfg) (h : cfg.plan = none) (p : Block) : PlanReach cfg p :=
  (planKeepsCalls_none cfg h p).reach

/-- The idea of the proofs below: the static check runs against the plan `planK`, which removes
every function outside `K` as well; the evaluator side accepts it for the plan of the run since it
skips the same statements and removes more functions. -/
theorem planExt_planK (n : Nat) (K : Nat → Bool) (plan : Option Plan) : PlanExt (some (planK n K plan)) plan :=
  ⟨planK_stmt n K plan, planK_fn_of_pruned n K plan⟩

/-- The lookup of the current code, or the lexical reference lookup (equal runs by C04). -/
def CurrentLookup (cfg : RunCfg) : Prop := cfg.lookup = .dynamic ∨ cfg.lookup = .lexical

instance (cfg : RunCfg) : Decidable (CurrentLookup cfg) := by unfold CurrentLookup; exact inferInstance

/-- C13: the string search never reaches the out-of-range read of `maximal_suffix`. -/
theorem strTotal : StrTotal := by
  refine ⟨fun h n => ?_, fun h f t => ?_⟩
  · simp [StrOps.find, StrOps.twPanics, StrOps.pinnedD13, Strs.find_eq_firstOcc]
  · simp [StrOps.replace, StrOps.twPanics, StrOps.pinnedD13, Strs.replace_eq_spec]

/-- `Accepted q` says `diags = []`, the pipeline `hasErrors diags = false` (`C04Bridge.no_errors_iff`); both are
`rdiags = []`, the form the bridge lemmas take. -/
theorem accepted_rdiags {q : Block} (h : Accepted q) : (Resolve.resolve q).rdiags = [] := by
  have hd : (Resolve.resolve q).diags = (Resolve.resolve q).rdiags.map Resolve.RDiag.toDiag := rfl
  unfold Accepted at h
  rw [hd] at h
  exact List.map_eq_nil_iff.1 h

theorem accepted_wellScoped {q : Block} (h : Accepted q) : WellScoped (Resolve.resolve q).root :=
  Resolve.resolve_wellScoped true q (accepted_rdiags h)

variable {N : Type} [NumOps N]

theorem cfg_dyn_eq {cfg : RunCfg} (h : cfg.lookup = .dynamic) : cfg.dyn = cfg := by
  cases cfg; simp only [RunCfg.dyn] at *; subst h; rfl

theorem cfg_lex_eq {cfg : RunCfg} (h : cfg.lookup = .lexical) : cfg.lex = cfg := by
  cases cfg; simp only [RunCfg.lex] at *; subst h; rfl

theorem run_eq_dyn {cfg : RunCfg} (hl : CurrentLookup cfg) (fuel : Nat) (p : Block) (hws : WellScoped p) :
    (run cfg fuel p : Outcome N) = run cfg.dyn fuel p := by
  rcases hl with h | h
  · rw [cfg_dyn_eq h]
  · have := C04.c04_dynamic (N := N) cfg fuel p hws
    have e : cfg.lex = cfg := cfg_lex_eq h
    show run cfg fuel p = run { cfg with lookup := .dynamic } fuel p
    rw [this]
    show run cfg fuel p = run cfg.lex fuel p
    rw [e]

theorem run_safe {A : Allowed} {C : SCfg} {cfg : RunCfg} (H : Hyp N A C cfg) (hl : CurrentLookup cfg)
    (p : Block) (hws : WellScoped p) (hok : okBlock C false p = true) (fuel : Nat) (site : PanicSite)
    (out : List (Value N)) (h : (run cfg fuel p : Outcome N) = .panic site out) : A site := by
  rw [run_eq_dyn hl fuel p hws] at h
  have hF : FInv C (State.init cfg : State N).env := by
    intro S hS fd hfd
    simp only [State.init, List.mem_singleton] at hS
    subst hS; cases hfd
  have hs := (safeLogic_J ((safe_all H fuel).block ([Binder.root], false) p (State.init cfg) ⟨MR.init cfg cfg, hF⟩
    ⟨hws, hok⟩))
  unfold run at h
  have hi : (State.init cfg.dyn : State N) = State.init cfg := rfl
  rw [hi] at h
  cases hr : execBlock cfg.dyn fuel p (State.init cfg : State N) with
  | panic s st =>
    rw [hr] at h
    have e : s = site := by cases h; rfl
    rw [← e]
    exact hs s st hr
  | ok a st => rw [hr] at h; cases h
  | err k sp st => rw [hr] at h; cases h
  | fuel => rw [hr] at h; cases h

/-- Resolver side (`resolve_ok`, `ok_reach_block`) and evaluator side (`run_safe`) joined.  The two guarantees the
resolver does not give are parameters: `numOk` / `strict` say what the source is known to satisfy (`srcBlock`); what
it is not known to satisfy has to be allowed by `A`. -/
theorem accepted_safe {A : Allowed} (numOk : Bytes → Bool) (strict : Bool) (cfg : RunCfg) (hp : cfg.panics = false)
    (hl : CurrentLookup cfg) (q : Block) (hacc : Accepted q) (hk : PlanReach cfg (Resolve.resolve q).root)
    (hsrc : srcBlock ⟨[], numOk, strict, none⟩ q = true)
    (hnum : A .numLit ∨ ∀ lex, numOk lex = true → (NumOps.ofLit (N := N) lex).isSome = true)
    (hidx : A .assignIndexEmpty ∨ strict = true) (fuel : Nat) (site : PanicSite) (out : List (Value N))
    (h : (run cfg fuel (Resolve.resolve q).root : Outcome N) = .panic site out) : A site := by
  obtain ⟨K, hK, hr⟩ := hk
  exact run_safe
    (C := SCfg.withPlan ⟨arityTable (Resolve.resolve q), numOk, strict, none⟩
      (some (planK (arityTable (Resolve.resolve q)).length K cfg.plan)))
    ⟨hp, planExt_planK _ K cfg.plan, hnum, Or.inr strTotal, hidx⟩ hl _ (accepted_wellScoped hacc)
    (ok_reach_block ⟨arityTable (Resolve.resolve q), numOk, strict, none⟩ K cfg.plan hK _ false
      (resolve_ok true numOk strict q hsrc (accepted_rdiags hacc)) hr) fuel site out h

/-- The two sites that are guarantees of the scanner / the parser, not of the resolver. -/
def ScannerParserSite (s : PanicSite) : Prop := s = .numLit ∨ s = .assignIndexEmpty

/-- For any AST the resolver model accepts, wherever it comes from: the current code can panic at
most at `numLit` (a number lexeme that does not parse) or `assignIndexEmpty` (an index assignment
without index).  Seven of the nine residual sites are closed with no assumption on the source. -/
theorem accepted_panics_only_at_scanner_parser_sites (cfg : RunCfg) (hp : cfg.panics = false)
    (hl : CurrentLookup cfg) (q : Block) (hacc : Accepted q) (hk : PlanReach cfg (Resolve.resolve q).root) (fuel : Nat)
    (site : PanicSite) (out : List (Value N))
    (h : (run cfg fuel (Resolve.resolve q).root : Outcome N) = .panic site out) : ScannerParserSite site :=
  accepted_safe (fun _ => true) false cfg hp hl q hacc hk ((src_lax []).2 q) (Or.inl (Or.inl rfl))
    (Or.inl (Or.inr rfl)) fuel site out h

/-! Seven instances of `accepted_panics_only_at_scanner_parser_sites`, one per site.  Each doc string says what of the
resolver's checks excludes the site; in the proof that is the field of `Bridge.safeLogic_laws` (`Lemmas/BridgeSafe.lean`)
that meets the site's `trap`. -/

section sites
variable (cfg : RunCfg) (hp : cfg.panics = false) (hl : CurrentLookup cfg)
  (q : Block) (hacc : Accepted q) (hk : PlanReach cfg (Resolve.resolve q).root) (fuel : Nat)
  (out : List (Value N))
include hp hl hk hacc

/-- `callArity` (`assert_eq!(arg_values.len(), params.len())`): the resolver reports
`FunctionCallArity` unless the call has as many arguments as the signature it is bound to has
parameters, and that signature is the one pushed for the definition the run finds. -/
theorem callArity_unreachable : (run cfg fuel (Resolve.resolve q).root : Outcome N) ≠ .panic .callArity out := by
  intro h
  rcases accepted_panics_only_at_scanner_parser_sites cfg hp hl q hacc hk fuel _ out h with e | e <;> cases e

/-- `builtinArity` (`assert_eq!(arg_values.len(), 1)`): the resolver's arity rule for the global
builtins, all of arity one. -/
theorem builtinArity_unreachable :
    (run cfg fuel (Resolve.resolve q).root : Outcome N) ≠ .panic .builtinArity out := by
  intro h
  rcases accepted_panics_only_at_scanner_parser_sites cfg hp hl q hacc hk fuel _ out h with e | e <;> cases e

/-- `flowEscape` (`unreachable!` after a function body ends with `Break` / `Continue`): the resolver
accepts `comot` / `next` only inside a loop of the same function body, and such a flow never leaves
the loop. -/
theorem flowEscape_unreachable :
    (run cfg fuel (Resolve.resolve q).root : Outcome N) ≠ .panic .flowEscape out := by
  intro h
  rcases accepted_panics_only_at_scanner_parser_sites cfg hp hl q hacc hk fuel _ out h with e | e <;> cases e

/-- `fnById` (`lookup_func_by_id(..).expect`): a call bound to a `FunctionId` finds the function —
the defining block's instance on the static chain hoisted it (`MR`, I1/I2). -/
theorem fnById_unreachable : (run cfg fuel (Resolve.resolve q).root : Outcome N) ≠ .panic .fnById out := by
  intro h
  rcases accepted_panics_only_at_scanner_parser_sites cfg hp hl q hacc hk fuel _ out h with e | e <;> cases e

/-- `fnByName` (`lookup_func_by_name(..).expect`): every call of an accepted program is bound, so the
lookup by name is never used. -/
theorem fnByName_unreachable : (run cfg fuel (Resolve.resolve q).root : Outcome N) ≠ .panic .fnByName out := by
  intro h
  rcases accepted_panics_only_at_scanner_parser_sites cfg hp hl q hacc hk fuel _ out h with e | e <;> cases e

/-- `paramRange` (`assert!` in `bound_param_ids`): every parameter of a definition the resolver
binds carries its `LocalId`. -/
theorem paramRange_unreachable :
    (run cfg fuel (Resolve.resolve q).root : Outcome N) ≠ .panic .paramRange out := by
  intro h
  rcases accepted_panics_only_at_scanner_parser_sites cfg hp hl q hacc hk fuel _ out h with e | e <;> cases e

/-- `twMaximalSuffix` (`x[j + k - 1]` in `maximal_suffix`): in range, by C13. -/
theorem twMaximalSuffix_unreachable :
    (run cfg fuel (Resolve.resolve q).root : Outcome N) ≠ .panic .twMaximalSuffix out := by
  intro h
  rcases accepted_panics_only_at_scanner_parser_sites cfg hp hl q hacc hk fuel _ out h with e | e <;> cases e

end sites

/-- What the scanner and the parser guarantee of the program handed to the resolver, as a decidable
check of that program: every number lexeme satisfies `numOk`, and the target of every index
assignment is an index expression. -/
def SourceOK (numOk : Bytes → Bool) (q : Block) : Prop := srcBlock ⟨[], numOk, true, none⟩ q = true

instance (numOk : Bytes → Bool) (q : Block) : Decidable (SourceOK numOk q) := inferInstanceAs (Decidable (_ = true))

/-- The assumption on the number type: `NumOps.ofLit` (`lexeme.parse::<f64>()`) accepts every lexeme
`numOk` accepts. -/
def NumLitsParse (N : Type) [NumOps N] (numOk : Bytes → Bool) : Prop :=
  ∀ lex, numOk lex = true → (NumOps.ofLit (N := N) lex).isSome = true

/-- C06 for accepted programs: if the program's number lexemes parse and its index assignments have
an index, an accepted program never panics under a plan with `PlanReach`. -/
theorem c06_accepted (numOk : Bytes → Bool) (hnum : NumLitsParse N numOk) (cfg : RunCfg)
    (hp : cfg.panics = false) (hl : CurrentLookup cfg) (q : Block) (hacc : Accepted q) (hk : PlanReach cfg (Resolve.resolve q).root)
    (hsrc : SourceOK numOk q) (fuel : Nat) :
    (run cfg fuel (Resolve.resolve q).root : Outcome N).isPanic = false := by
  cases hr : (run cfg fuel (Resolve.resolve q).root : Outcome N) with
  | panic site out =>
    exact (accepted_safe (A := fun _ => False) numOk true cfg hp hl q hacc hk hsrc (Or.inr hnum) (Or.inr rfl)
      fuel site out hr).elim
  | _ => rfl

theorem numLit_unreachable (numOk : Bytes → Bool) (hnum : NumLitsParse N numOk) (cfg : RunCfg)
    (hp : cfg.panics = false) (hl : CurrentLookup cfg) (q : Block) (hacc : Accepted q) (hk : PlanReach cfg (Resolve.resolve q).root)
    (hsrc : srcBlock ⟨[], numOk, false, none⟩ q = true) (fuel : Nat) (out : List (Value N)) :
    (run cfg fuel (Resolve.resolve q).root : Outcome N) ≠ .panic .numLit out := by
  intro h
  cases accepted_safe (A := fun s => s = .assignIndexEmpty) numOk false cfg hp hl q hacc hk hsrc (Or.inr hnum)
    (Or.inl rfl) fuel _ out h

theorem assignIndexEmpty_unreachable (cfg : RunCfg) (hp : cfg.panics = false) (hl : CurrentLookup cfg)
    (q : Block) (hacc : Accepted q) (hk : PlanReach cfg (Resolve.resolve q).root) (hsrc : srcBlock ⟨[], fun _ => true, true, none⟩ q = true)
    (fuel : Nat) (out : List (Value N)) :
    (run cfg fuel (Resolve.resolve q).root : Outcome N) ≠ .panic .assignIndexEmpty out := by
  intro h
  cases accepted_safe (A := fun s => s = .numLit) (fun _ => true) true cfg hp hl q hacc hk hsrc (Or.inl rfl)
    (Or.inr rfl) fuel _ out h

/-- `C06Eval.ResidualUnreachable` with the assumptions it needs (it is false as stated there:
`residualUnreachable_is_false_for_arbitrary_plans`). -/
theorem residual_unreachable (numOk : Bytes → Bool) (hnum : NumLitsParse N numOk) (cfg : RunCfg)
    (hp : cfg.panics = false) (hl : CurrentLookup cfg) (q : Block) (hacc : Accepted q) (hk : PlanReach cfg (Resolve.resolve q).root)
    (hsrc : SourceOK numOk q) (fuel : Nat) (site : PanicSite) (out : List (Value N))
    (h : (run cfg fuel (Resolve.resolve q).root : Outcome N) = .panic site out) : site.fixed = true := by
  have := c06_accepted numOk hnum cfg hp hl q hacc hk hsrc fuel
  rw [h] at this; cases this

def parsed (src : Bytes) : Block := (Parse.parseProgram (Lex.lex src).1).1

/-- For every source text the parsed program has number lexemes of the shape `digits[.digits]` (or
the recovery placeholder `0`), and every index assignment has an index — proved from the lexer and
parser models (`Lemmas/BridgeSource.lean`). -/
theorem source_ok (src : Bytes) : SourceOK isNumLexeme (parsed src) := frontEnd_source_ok src [] none

theorem assignIndexEmpty_unreachable_parsed (cfg : RunCfg) (hp : cfg.panics = false) (hl : CurrentLookup cfg)
    (src : Bytes) (hacc : Accepted (parsed src)) (hk : PlanReach cfg (Resolve.resolve (parsed src)).root)
    (fuel : Nat) (out : List (Value N)) :
    (run cfg fuel (Resolve.resolve (parsed src)).root : Outcome N) ≠ .panic .assignIndexEmpty out :=
  assignIndexEmpty_unreachable cfg hp hl _ hacc hk
    (parse_source_ok ⟨[], fun _ => true, true, none⟩ rfl _ (fun t _ => by unfold Bridge.TokOk; split <;> trivial)) fuel out

/-- C06 from the source text: if the resolver accepts the parsed program, its run never panics.  The
one assumption on the `NumOps` instance is that `ofLit` (`str::parse::<f64>`) accepts the lexemes
`digits` and `digits.digits`. -/
theorem c06_source (hnum : NumLitsParse N isNumLexeme) (cfg : RunCfg) (hp : cfg.panics = false)
    (hl : CurrentLookup cfg) (src : Bytes) (hacc : Accepted (parsed src))
    (hk : PlanReach cfg (Resolve.resolve (parsed src)).root) (fuel : Nat) :
    (run cfg fuel (Resolve.resolve (parsed src)).root : Outcome N).isPanic = false :=
  c06_accepted isNumLexeme hnum cfg hp hl _ hacc hk (source_ok src) fuel

/-- What `Pipeline.frontEnd` hands to the runtime, in the terms of this file (`Accepted`, `parsed`, `modelPlan`); the plan
is none when a limit tripped.  `C01Accept.afterParse_of_wf` is the same for `afterParse` on a tree. -/
theorem frontEnd_inv {caps : Limits.Caps} {src : Bytes} {a : Pipeline.Accepted}
    (h : Pipeline.frontEnd caps src = .ok a) :
    Accepted (parsed src) ∧ a.root = (Resolve.resolve (parsed src)).root ∧
      a.facts = (Resolve.resolve (parsed src)).facts ∧ (a.plan = none ∨ a.plan = modelPlan a.root a.facts) := by
  obtain ⟨_, _, herr, rfl⟩ := Pipeline.frontEnd_ok_iff.1 h
  refine ⟨?_, rfl, rfl, ?_⟩
  · exact (congrArg (List.map Resolve.RDiag.toDiag) ((C04Bridge.no_errors_iff (parsed src)).1 herr)).trans rfl
  · rcases Pipeline.handOver_cases caps (parsed src) with ⟨_, hplan, _⟩ | ⟨_, hplan, _⟩
    · exact Or.inr hplan
    · exact Or.inl hplan

/-! Conjuncts of `frontEnd_inv` as `c06_pipeline`, `C03.c03_pipeline`, `Limits.c18_pipeline` take them; `frontEnd_facts`
is read by no proof. -/

theorem frontEnd_ok {caps : Limits.Caps} {src : Bytes} {a : Pipeline.Accepted}
    (h : Pipeline.frontEnd caps src = .ok a) : a.root = (Resolve.resolve (parsed src)).root ∧ Accepted (parsed src) :=
  ⟨(frontEnd_inv h).2.1, (frontEnd_inv h).1⟩

theorem frontEnd_plan {caps : Limits.Caps} {src : Bytes} {a : Pipeline.Accepted}
    (h : Pipeline.frontEnd caps src = .ok a) : a.plan = none ∨ a.plan = modelPlan a.root a.facts :=
  (frontEnd_inv h).2.2.2

theorem frontEnd_facts {caps : Limits.Caps} {src : Bytes} {a : Pipeline.Accepted}
    (h : Pipeline.frontEnd caps src = .ok a) :
    a.root = (Resolve.resolve (parsed src)).root ∧ a.facts = (Resolve.resolve (parsed src)).facts :=
  ⟨(frontEnd_inv h).2.1, (frontEnd_inv h).2.2.1⟩

/-- C06 for `Pipeline.runSource` (lex → parse → resolve → analyses → run with the analyses' plan),
with `KeptReach` of the analyses' plan as a hypothesis on the front end's result. -/
theorem c06_pipeline (hnum : NumLitsParse N isNumLexeme) (caps : Limits.Caps) (cfg : RunCfg)
    (hp : cfg.panics = false) (hl : CurrentLookup cfg) (fuel : Nat) (src : Bytes)
    (hplan : ∀ a, Pipeline.frontEnd caps src = .ok a → ∃ K : Nat → Bool, KeptReach K a.plan a.root)
    (w : List Diag) (o : Outcome N) (h : Pipeline.runSource caps cfg fuel src = .ran w o) : o.isPanic = false := by
  unfold Pipeline.runSource at h
  split at h
  · cases h
  · cases h
  · next a ha =>
    cases h
    obtain ⟨hroot, hacc⟩ := frontEnd_ok ha
    have hk := hplan a ha
    rw [hroot] at hk ⊢
    exact c06_source hnum { cfg with plan := a.plan } hp hl src hacc hk fuel

/-- `c06_pipeline` under the stronger `keptBlock` (`PlanKeepsCalls`), which the plan of the analyses does not always
satisfy (`keptBlock_too_strong`). -/
theorem c06_pipeline_kept (hnum : NumLitsParse N isNumLexeme) (caps : Limits.Caps) (cfg : RunCfg)
    (hp : cfg.panics = false) (hl : CurrentLookup cfg) (fuel : Nat) (src : Bytes)
    (hplan : ∀ a, Pipeline.frontEnd caps src = .ok a → keptBlock a.plan a.root = true)
    (w : List Diag) (o : Outcome N) (h : Pipeline.runSource caps cfg fuel src = .ran w o) : o.isPanic = false :=
  c06_pipeline hnum caps cfg hp hl fuel src (fun a ha => ⟨_, keptReach_of_keptBlock (hplan a ha)⟩) w o h

/-- The conditions on the resolver's facts (no plan) under which the plan of the analyses satisfies
`PlanReach` (`analysis_plan_reach`): per statement, the facts name its function and cover the callees
of its own expressions (`C03.ownOkB`, hypothesis of C03's T3); the fixpoint iteration of
`bodyReachable` (diagnostics.rs `compute_function_reachability`) has converged (`Ctx.brClosed`).
Decidable; the `plan` driver evaluates both on the real resolver's output (`Driver/Plan.lean`: `malformed "own"`,
`malformed "brclosed"` when one fails). -/
def FactsCoverCalls (root : Block) (facts : Facts) : Prop :=
  C03.ownOkB root facts = true ∧ (Analysis.mkCtx root facts).brClosed = true

instance (root : Block) (facts : Facts) : Decidable (FactsCoverCalls root facts) := by
  unfold FactsCoverCalls; exact inferInstance

/-- `structOkB` is the decidable hypothesis of C03's `c03_full_holds`. -/
theorem factsCoverCalls_of_struct {root : Block} {facts : Facts} (h : C03.structOkB root facts = true) :
    FactsCoverCalls root facts := own_of_struct root facts h

/-- An accepted program comes out of the resolver model with a `StmtId` on every statement and a
`FunctionId` on every definition: the third condition of `analysis_plan_reach`. -/
theorem accepted_numbered {q : Block} (h : Accepted q) : numBlock (Resolve.resolve q).root = true :=
  resolve_num true q (accepted_rdiags h)

/-- The witness is `K := bodyReachable`. -/
theorem analysis_plan_planReach (cfg : RunCfg) (root : Block) (facts : Facts) (hnum : numBlock root = true)
    (h : FactsCoverCalls root facts) : PlanReach { cfg with plan := modelPlan root facts } root :=
  ⟨_, analysis_plan_reach root facts hnum h.1 h.2⟩

theorem c06_accepted_analysis (numOk : Bytes → Bool) (hnum : NumLitsParse N numOk) (cfg : RunCfg)
    (hp : cfg.panics = false) (hl : CurrentLookup cfg) (q : Block) (hacc : Accepted q)
    (hfacts : FactsCoverCalls (Resolve.resolve q).root (Resolve.resolve q).facts)
    (hsrc : SourceOK numOk q) (fuel : Nat) :
    (run { cfg with plan := modelPlan (Resolve.resolve q).root (Resolve.resolve q).facts } fuel
      (Resolve.resolve q).root : Outcome N).isPanic = false :=
  c06_accepted numOk hnum { cfg with plan := modelPlan (Resolve.resolve q).root (Resolve.resolve q).facts } hp hl q hacc
    (analysis_plan_planReach cfg _ _ (accepted_numbered hacc) hfacts) hsrc fuel

theorem c06_pipeline_reach (hnum : NumLitsParse N isNumLexeme) (caps : Limits.Caps) (cfg : RunCfg)
    (hp : cfg.panics = false) (hl : CurrentLookup cfg) (fuel : Nat) (src : Bytes)
    (hfacts : ∀ a, Pipeline.frontEnd caps src = .ok a → FactsCoverCalls a.root a.facts)
    (w : List Diag) (o : Outcome N) (h : Pipeline.runSource caps cfg fuel src = .ran w o) : o.isPanic = false := by
  refine c06_pipeline hnum caps cfg hp hl fuel src (fun a ha => ?_) w o h
  obtain ⟨h1, h2⟩ := hfacts a ha
  obtain ⟨hacc, hroot, _, hplan⟩ := frontEnd_inv ha
  have hn : numBlock a.root = true := by rw [hroot]; exact accepted_numbered hacc
  rcases hplan with e | e
  · rw [e]; exact ⟨_, keptReach_of_keptBlock (kept_none _)⟩
  · rw [e]; exact ⟨_, analysis_plan_reach _ _ hn h1 h2⟩

/-- `Bridge.bodyReachable_closed_of_range` under a name of this file. -/
theorem brClosed_of_calleesInRange (root : Block) (facts : Facts) (h : calleesInRange facts = true) :
    (Analysis.mkCtx root facts).brClosed = true := bodyReachable_closed_of_range root facts h

/-- `Bridge.bodyReachable_closed` under a name of this file.  `Analysis.wf` is what the `plan` driver checks first;
`resolve_brClosed` does not go through it. -/
theorem brClosed_of_wf (root : Block) (facts : Facts) (h : Analysis.wf root facts = true) :
    (Analysis.mkCtx root facts).brClosed = true := bodyReachable_closed root facts h

/-- For every input program, accepted or not: `check_stmt` pushes the statement's entry with
`current_owner` first, `check_expr` records the callee for the statement being checked where it writes
the binding on the call, and no entry ever loses a callee or changes its owner. -/
theorem resolve_ownOk (q : Block) : C03.ownOkB (Resolve.resolve q).root (Resolve.resolve q).facts = true :=
  ResolveFacts.resolveWith_ownOk true q

/-- Callees come from signatures in scope, signatures from `predeclare`, so every recorded callee
is below `functions.length`. -/
theorem resolve_calleesInRange (q : Block) : calleesInRange (Resolve.resolve q).facts = true :=
  ResolveFacts.resolveWith_calleesInRange true q

theorem resolve_brClosed (q : Block) :
    (Analysis.mkCtx (Resolve.resolve q).root (Resolve.resolve q).facts).brClosed = true :=
  brClosed_of_calleesInRange _ _ (resolve_calleesInRange q)

theorem resolve_factsCoverCalls (q : Block) :
    FactsCoverCalls (Resolve.resolve q).root (Resolve.resolve q).facts := ⟨resolve_ownOk q, resolve_brClosed q⟩

/-- `c06_accepted_analysis` with its hypothesis on the facts discharged; `c06_pipeline_unconditional` is the same for a text. -/
theorem c06_accepted_model_plan (numOk : Bytes → Bool) (hnum : NumLitsParse N numOk) (cfg : RunCfg)
    (hp : cfg.panics = false) (hl : CurrentLookup cfg) (q : Block) (hacc : Accepted q)
    (hsrc : SourceOK numOk q) (fuel : Nat) :
    (run { cfg with plan := modelPlan (Resolve.resolve q).root (Resolve.resolve q).facts } fuel
      (Resolve.resolve q).root : Outcome N).isPanic = false :=
  c06_accepted_analysis numOk hnum cfg hp hl q hacc (resolve_factsCoverCalls q) hsrc fuel

/-- C06 for the shipped pipeline, no hypothesis on the text: if `Pipeline.runSource` gets as far as
running it, the run does not panic — for every limit configuration, fuel, host configuration of the
current code (`cfg.panics = false`: the evaluator sites repaired in the source; `CurrentLookup`: the
lookup with D-04 fixed) and every number type with `NumLitsParse` (what `str::parse::<f64>`
does). -/
theorem c06_pipeline_unconditional (hnum : NumLitsParse N isNumLexeme) (caps : Limits.Caps) (cfg : RunCfg)
    (hp : cfg.panics = false) (hl : CurrentLookup cfg) (fuel : Nat) (src : Bytes)
    (w : List Diag) (o : Outcome N) (h : Pipeline.runSource caps cfg fuel src = .ran w o) : o.isPanic = false := by
  refine c06_pipeline_reach hnum caps cfg hp hl fuel src (fun a ha => ?_) w o h
  obtain ⟨_, hroot, hfacts, _⟩ := frontEnd_inv ha
  rw [hroot, hfacts]
  exact resolve_factsCoverCalls _

private def sp : Span := ⟨0, 0⟩

/-- `make x get 1` followed by an "index assignment" whose target is the bare variable `x` — an AST
the parser never builds (`x get 2` is an `assignExisting`), but which the resolver model accepts
(`is_variable_rooted` holds of a variable): the run panics at `assignIndexEmpty`.  The site is a
guarantee of the PARSER. -/
def indexAssignmentWithoutIndex : Block :=
  .mk [.assign (b!"x") sp (.num (b!"1") sp) none none sp,
       .assignIndex (.var (b!"x") none sp) (.num (b!"2") sp) none sp] sp

theorem resolver_accepts_index_assignment_without_index :
    Accepted indexAssignmentWithoutIndex ∧ ¬ SourceOK (fun _ => true) indexAssignmentWithoutIndex ∧
    Toy.panicSite (run Toy.cfg 10 (Resolve.resolve indexAssignmentWithoutIndex).root) = some .assignIndexEmpty := by
  decide +kernel

/-- A number node whose lexeme is no number (`1x`): accepted by the resolver model (it never looks at
lexemes), panics at `numLit`.  The site is a guarantee of the SCANNER. -/
def badLexeme : Block := .mk [.expr (.call (.var (b!"shout") none sp) [.num (b!"1x") sp] none sp) none sp] sp

theorem resolver_accepts_any_lexeme :
    Accepted badLexeme ∧ Toy.panicSite (run Toy.cfg 10 (Resolve.resolve badLexeme).root) = some .numLit := by
  decide +kernel

/-- `do f() start end  f()` -/
def callsF : Block :=
  .mk [.fnDef (b!"f") sp [] (.mk [] sp) none none sp, .expr (.call (.var (b!"f") none sp) [] none sp) none sp] sp

/-- `C06Eval.c06_full` is false as stated: it quantifies over arbitrary optimisation plans, and a
plan that removes a function the program calls makes the call panic at `fnById`.  Hence the
hypothesis `PlanReach` in the theorems of this file. -/
theorem c06_full_is_false_for_arbitrary_plans : ¬ C06Eval.c06_full := by
  intro h
  have h1 := h Int { Toy.cfg with plan := some ⟨[], [1]⟩ } rfl callsF (by decide +kernel) 10
  have h2 : Toy.panicSite (run { Toy.cfg with plan := some ⟨[], [1]⟩ } 10 (Resolve.resolve callsF).root)
      = some .fnById := by decide +kernel
  cases hr : (run { Toy.cfg with plan := some ⟨[], [1]⟩ } 10 (Resolve.resolve callsF).root : Outcome Int) with
  | panic s o => rw [hr] at h1; cases h1
  | ok o => rw [hr] at h2; cases h2
  | rt k s o => rw [hr] at h2; cases h2
  | fuelOut => rw [hr] at h2; cases h2

theorem residualUnreachable_is_false_for_arbitrary_plans : ¬ C06Eval.ResidualUnreachable :=
  fun h => c06_full_is_false_for_arbitrary_plans (C06Eval.c06_of_static_guarantees h)

/-! Non-vacuity: the hypotheses of the theorems above are satisfiable, and the runs are real ones. -/

def toyNumOk (lex : Bytes) : Bool := (Toy.ofLit lex).isSome

theorem toy_numLitsParse : NumLitsParse Int toyNumOk := fun _ h => h

/-- A loop with `comot` inside a function, an index assignment, string search. -/
def sample : Block :=
  .mk [.assign (b!"a") sp (.array [.num (b!"1") sp, .num (b!"2") sp] sp) none none sp,
       .assign (b!"n") sp (.num (b!"0") sp) none none sp,
       .fnDef (b!"bump") sp [⟨b!"k", sp, none⟩]
         (.mk [.loop (.bool true sp)
                 (.mk [.assignExisting (b!"n") sp (.binary .add (.var (b!"n") none sp) (.var (b!"k") none sp) sp) none none sp,
                       .ifS (.binary .gt (.var (b!"n") none sp) (.num (b!"2") sp) sp) (.mk [.brk none sp] sp) none none sp] sp)
                 none sp,
               .ret (some (.var (b!"n") none sp)) none sp] sp) none none sp,
       .assignIndex (.index (.var (b!"a") none sp) (.num (b!"0") sp) sp sp)
         (.call (.var (b!"bump") none sp) [.num (b!"2") sp] none sp) none sp,
       .expr (.call (.var (b!"shout") none sp) [.var (b!"a") none sp] none sp) none sp,
       .expr (.call (.var (b!"shout") none sp)
         [.call (.member (.str (.static (b!"hello")) sp) (b!"find") sp sp) [.str (.static (b!"l")) sp] none sp] none sp)
         none sp] sp

theorem sample_checks : Accepted sample ∧ SourceOK toyNumOk sample ∧ CurrentLookup Toy.cfg ∧ Toy.cfg.panics = false := by
  decide +kernel

example : Accepted sample ∧ SourceOK toyNumOk sample ∧ CurrentLookup Toy.cfg ∧ Toy.cfg.panics = false :=
  sample_checks

example : PlanKeepsCalls Toy.cfg (Resolve.resolve sample).root := planKeepsCalls_none _ rfl _

example : PlanReach Toy.cfg (Resolve.resolve sample).root := planReach_none _ rfl _

/-- `callsF` with an unused function `g` that calls another unused function `h`; the plan removes both
(ids 2 and 3) and the first statement.  The call of `h` inside the removed `g` is exempt. -/
def withUnused : Block :=
  .mk [.expr (.call (.var (b!"shout") none sp) [.num (b!"1") sp] none sp) none sp,
       .fnDef (b!"f") sp [] (.mk [] sp) none none sp,
       .fnDef (b!"g") sp [] (.mk [.expr (.call (.var (b!"h") none sp) [] none sp) none sp] sp) none none sp,
       .fnDef (b!"h") sp [] (.mk [] sp) none none sp,
       .expr (.call (.var (b!"f") none sp) [] none sp) none sp] sp

example : Accepted withUnused ∧
    PlanKeepsCalls { Toy.cfg with plan := some ⟨[0], [2, 3]⟩ } (Resolve.resolve withUnused).root ∧
    ¬ PlanKeepsCalls { Toy.cfg with plan := some ⟨[], [3]⟩ } (Resolve.resolve withUnused).root ∧
    ¬ PlanKeepsCalls { Toy.cfg with plan := some ⟨[], [1]⟩ } (Resolve.resolve withUnused).root := by
  decide +kernel

example : Toy.summary (run Toy.cfg 40 (Resolve.resolve sample).root) = ([b!"[4, 2]", b!"2"], 0) := by
  decide +kernel

example (fuel : Nat) : (run Toy.cfg fuel (Resolve.resolve sample).root : Outcome Int).isPanic = false :=
  c06_accepted toyNumOk toy_numLitsParse Toy.cfg rfl (Or.inl rfl) sample sample_checks.1
    (planReach_none _ rfl _) sample_checks.2.1 fuel

/-- A dead call bound to a removed function inside a KEPT function:
```
do u() start return 1 end
do k() start return 2 shout(u()) end
shout(k())
```
`u` (function 1) is unused and removed; `k` is kept and its body holds `shout(u())` (statement 4)
after the `return` — unreachable, and itself removed by the plan, so the evaluator skips it. -/
def deadCallText : Bytes := b!"do u() start return 1 end\ndo k() start return 2 shout(u()) end\nshout(k())"

/-- The plan of the analysis model passes `PlanKeepsCalls` only because the removed statement is
exempt; a plan that removes the called `k` fails.  Everything that is evaluated about `deadCallText` is ONE
evaluation: the kernel then lexes, parses and resolves the text once. -/
theorem deadCall_checks : SourceOK toyNumOk (parsed deadCallText) ∧ Accepted (parsed deadCallText) ∧
    (let r := Resolve.resolve (parsed deadCallText)
     let p := Analysis.planModel r.root r.facts
     (p.stmts, p.fns) = ([4], [1])) ∧
    PlanKeepsCalls { Toy.cfg with plan := some ⟨[4], [1]⟩ } (Resolve.resolve (parsed deadCallText)).root ∧
    ¬ PlanKeepsCalls { Toy.cfg with plan := some ⟨[], [1]⟩ } (Resolve.resolve (parsed deadCallText)).root ∧
    ¬ PlanKeepsCalls { Toy.cfg with plan := some ⟨[4], [2]⟩ } (Resolve.resolve (parsed deadCallText)).root ∧
    Toy.summary (run { Toy.cfg with plan := some ⟨[4], [1]⟩ } 20 (Resolve.resolve (parsed deadCallText)).root)
      = ([b!"2"], 0) := by
  decide +kernel

example : Accepted (parsed deadCallText) ∧
    (let r := Resolve.resolve (parsed deadCallText)
     let p := Analysis.planModel r.root r.facts
     (p.stmts, p.fns) = ([4], [1])) ∧
    PlanKeepsCalls { Toy.cfg with plan := some ⟨[4], [1]⟩ } (Resolve.resolve (parsed deadCallText)).root ∧
    ¬ PlanKeepsCalls { Toy.cfg with plan := some ⟨[], [1]⟩ } (Resolve.resolve (parsed deadCallText)).root ∧
    ¬ PlanKeepsCalls { Toy.cfg with plan := some ⟨[4], [2]⟩ } (Resolve.resolve (parsed deadCallText)).root ∧
    Toy.summary (run { Toy.cfg with plan := some ⟨[4], [1]⟩ } 20 (Resolve.resolve (parsed deadCallText)).root)
      = ([b!"2"], 0) := deadCall_checks.2

example (fuel : Nat) : (run { Toy.cfg with plan := some ⟨[4], [1]⟩ } fuel
    (Resolve.resolve (parsed deadCallText)).root : Outcome Int).isPanic = false :=
  have ⟨hsrc, hacc, _, hkeeps, _⟩ := deadCall_checks
  c06_accepted toyNumOk toy_numLitsParse { Toy.cfg with plan := some ⟨[4], [1]⟩ } rfl (Or.inl rfl)
    (parsed deadCallText) hacc (PlanKeepsCalls.reach (cfg := { Toy.cfg with plan := some ⟨[4], [1]⟩ }) hkeeps) hsrc fuel

def roomyCaps : Limits.Caps :=
  { maxFunctions := 1000, maxLocals := 1000, maxScopes := 1000, maxStatements := 1000, maxTotalOps := 100000,
    maxOpsPerFunction := 100000, maxTotalBlocks := 100000, maxBlocksPerFunction := 100000,
    maxDirectUserCalls := 1000, maxSummaryEvents := 100000, maxLivenessEvents := 100000 }

/-- Number of warnings, printed texts, ending. -/
def ranSummary : Pipeline.Result Int → Option (Nat × List Bytes × Nat)
  | .ran w o => some (w.length, Toy.summary o)
  | _ => none

/-- `keptBlock` is false for the real analyses' plan of programs like this one:
```
do step(n) start
  do leaf(m) start return m end
  return n
  do mk() start return leaf(1) end
end
shout(step(2))
```
(functions step = 1, leaf = 2, mk = 3).  The definition of `mk` comes after the `return`: its
definition statement is unreachable, so the analysis neither reports `mk` unused nor removes it, and
`hoist` registers it whatever the plan says about the statement.  Nobody calls `mk`; `leaf` is called
by `mk` only, so it is unused and removed.  `keptBlock` fails (the kept `mk` calls the removed
`leaf`); `KeptReach` holds with `K = {0, 1}` = `bodyReachable` = the canonical `reachK`: the body of
`mk` ∉ K is exempt, and nothing of it can run. -/
def hoistedDeadDefText : Bytes :=
  b!"do step(n) start\n do leaf(m) start return m end\n return n\n do mk() start return leaf(1) end\nend\nshout(step(2))"

/-- One evaluation, like `deadCall_checks`; `keptBlock_too_strong` and `pipeline_prunes` are conjuncts of it. -/
theorem hoisted_checks :
    SourceOK toyNumOk (parsed hoistedDeadDefText) ∧
    (let r := Resolve.resolve (parsed hoistedDeadDefText)
     Accepted (parsed hoistedDeadDefText) ∧
     (Analysis.planModel r.root r.facts).fns = [2] ∧
     keptBlock (modelPlan r.root r.facts) r.root = false ∧
     (Analysis.mkCtx r.root r.facts).bodyReachable = [1, 0] ∧
     keptReach (Analysis.mkCtx r.root r.facts).bodyReachable (modelPlan r.root r.facts) r.root = true ∧
     planReaches (modelPlan r.root r.facts) r.root = true ∧
     numBlock r.root = true ∧ FactsCoverCalls r.root r.facts ∧
     Toy.summary (run { Toy.cfg with plan := modelPlan r.root r.facts } 30 r.root) = ([b!"2"], 0)) ∧
    (planReaches (some ⟨[], [1]⟩) (Resolve.resolve (parsed hoistedDeadDefText)).root = false ∧
     planReaches (some ⟨[], [2]⟩) (Resolve.resolve (parsed hoistedDeadDefText)).root = true ∧
     planReaches (some ⟨[], [2, 3]⟩) (Resolve.resolve (parsed hoistedDeadDefText)).root = true ∧
     Toy.panicSite (run { Toy.cfg with plan := some ⟨[], [1]⟩ } 30 (Resolve.resolve (parsed hoistedDeadDefText)).root)
       = some .fnById) ∧
    (Pipeline.frontEnd roomyCaps hoistedDeadDefText).toOption.map
        (fun a => (a.plan.map (·.fns), decide (FactsCoverCalls a.root a.facts))) = some (some [2], true) ∧
    ranSummary (Pipeline.runSource roomyCaps Toy.cfg 30 hoistedDeadDefText) = some (2, [b!"2"], 0) := by
  decide +kernel

theorem keptBlock_too_strong :
    let r := Resolve.resolve (parsed hoistedDeadDefText)
    Accepted (parsed hoistedDeadDefText) ∧
    (Analysis.planModel r.root r.facts).fns = [2] ∧
    keptBlock (modelPlan r.root r.facts) r.root = false ∧
    (Analysis.mkCtx r.root r.facts).bodyReachable = [1, 0] ∧
    keptReach (Analysis.mkCtx r.root r.facts).bodyReachable (modelPlan r.root r.facts) r.root = true ∧
    planReaches (modelPlan r.root r.facts) r.root = true ∧
    numBlock r.root = true ∧ FactsCoverCalls r.root r.facts ∧
    Toy.summary (run { Toy.cfg with plan := modelPlan r.root r.facts } 30 r.root) = ([b!"2"], 0) :=
  hoisted_checks.2.1

example (fuel : Nat) :
    let r := Resolve.resolve (parsed hoistedDeadDefText)
    (run { Toy.cfg with plan := modelPlan r.root r.facts } fuel r.root : Outcome Int).isPanic = false :=
  c06_accepted toyNumOk toy_numLitsParse _ rfl (Or.inl rfl) (parsed hoistedDeadDefText) keptBlock_too_strong.1
    (analysis_plan_planReach Toy.cfg _ _ (accepted_numbered keptBlock_too_strong.1) (resolve_factsCoverCalls _))
    (hoisted_checks.1 : SourceOK toyNumOk (parsed hoistedDeadDefText)) fuel

/-- A plan that removes a function reachable code calls fails `KeptReach` for the canonical `K`
(`step` = 1 is called at top level; `leaf` = 2 would be fine). -/
example : planReaches (some ⟨[], [1]⟩) (Resolve.resolve (parsed hoistedDeadDefText)).root = false ∧
    planReaches (some ⟨[], [2]⟩) (Resolve.resolve (parsed hoistedDeadDefText)).root = true ∧
    planReaches (some ⟨[], [2, 3]⟩) (Resolve.resolve (parsed hoistedDeadDefText)).root = true ∧
    Toy.panicSite (run { Toy.cfg with plan := some ⟨[], [1]⟩ } 30 (Resolve.resolve (parsed hoistedDeadDefText)).root)
      = some .fnById :=
  hoisted_checks.2.2.1

/-- `NumLitsParse _ isNumLexeme` is satisfiable (the toy `Int` numbers reject `1.5`). -/
@[instance_reducible] def trivialNum : NumOps Unit :=
  { ofLit := fun _ => some (), add := fun _ _ => (), sub := fun _ _ => (), mul := fun _ _ => (),
    div := fun _ _ => (), fmod := fun _ _ => (), neg := fun _ => (), lt := fun _ _ => false,
    gt := fun _ _ => false, approxEq := fun _ _ => true, isZero := fun _ => false, isFinite := fun _ => true,
    fractIsZero := fun _ => true, toIsize := fun _ => 0, toUsize := fun _ => 0, toU32 := fun _ => 0,
    ofInt := fun _ => (), fmt := fun _ => [], abs := fun _ => (), sqrt := fun _ => (), floor := fun _ => (),
    ceil := fun _ => (), round := fun _ => (), parseNumber := fun _ => () }

def sampleText : Bytes := b!"make a get [1.5, 2]\na[0] get 10\nshout(a)"

/-- One evaluation, like `deadCall_checks`. -/
theorem sampleText_checks : Accepted (parsed sampleText) ∧ (Lex.lex sampleText).2 = [] ∧
    (Parse.parseProgram (Lex.lex sampleText).1).2 = [] := by decide +kernel

example : Accepted (parsed sampleText) ∧ (Lex.lex sampleText).2 = [] ∧
    (Parse.parseProgram (Lex.lex sampleText).1).2 = [] := sampleText_checks

example (fuel : Nat) :
    (@run Unit trivialNum Toy.cfg fuel (Resolve.resolve (parsed sampleText)).root).isPanic = false :=
  @c06_source Unit trivialNum (fun _ _ => rfl) Toy.cfg rfl (Or.inl rfl) sampleText sampleText_checks.1
    (planReach_none _ rfl _) fuel

/-- `c06_pipeline_unconditional` covers runs that really prune: on `hoistedDeadDefText` (`leaf` unused,
the definition of `mk` unreachable: two warnings) the pipeline hands the runtime a plan that removes
function 2. -/
theorem pipeline_prunes :
    (Pipeline.frontEnd roomyCaps hoistedDeadDefText).toOption.map
        (fun a => (a.plan.map (·.fns), decide (FactsCoverCalls a.root a.facts))) = some (some [2], true) ∧
    ranSummary (Pipeline.runSource roomyCaps Toy.cfg 30 hoistedDeadDefText) = some (2, [b!"2"], 0) :=
  hoisted_checks.2.2.2

example :
    (Pipeline.frontEnd roomyCaps hoistedDeadDefText).toOption.map
        (fun a => (a.plan.map (·.fns), decide (FactsCoverCalls a.root a.facts))) = some (some [2], true) ∧
    ranSummary (Pipeline.runSource roomyCaps Toy.cfg 30 hoistedDeadDefText) = some (2, [b!"2"], 0) := pipeline_prunes

example (fuel : Nat) (w : List Diag) (o : Outcome Unit)
    (h : @Pipeline.runSource Unit trivialNum roomyCaps Toy.cfg fuel hoistedDeadDefText = .ran w o) :
    o.isPanic = false :=
  @c06_pipeline_unconditional Unit trivialNum (fun _ _ => rfl) roomyCaps Toy.cfg rfl (Or.inl rfl) fuel
    hoistedDeadDefText w o h

/-- Anything observed of an accepted text shows that the pipeline runs it.  `s` is a variable: with a
concrete text in its place the `match` of `runSource` on `frontEnd caps s` is evaluated whenever the
kernel compares two forms of the goal. -/
theorem frontEnd_ran_of_observed {N : Type} [NumOps N] {α : Type} {caps : Limits.Caps} {s : Bytes}
    {f : Pipeline.Accepted → α} {v : α} (cfg : RunCfg) (fuel : Nat)
    (h : (Pipeline.frontEnd caps s).toOption.map f = some v) :
    ∃ w o, (Pipeline.runSource caps cfg fuel s : Pipeline.Result N) = .ran w o := by
  unfold Pipeline.runSource
  cases hx : Pipeline.frontEnd caps s with
  | ok a => exact ⟨_, _, rfl⟩
  | error e => rw [hx] at h; cases h

/-- The hypothesis `h` above is satisfiable. -/
example : ∃ w o, @Pipeline.runSource Unit trivialNum roomyCaps Toy.cfg 30 hoistedDeadDefText = .ran w o :=
  @frontEnd_ran_of_observed Unit trivialNum _ _ _ _ _ _ _ pipeline_prunes.1

/-- A rejected program: a call with the wrong number of arguments is still recorded in the facts. -/
example : ¬ Accepted (parsed (b!"do f(a) start return a end\nshout(f())")) ∧
    FactsCoverCalls (Resolve.resolve (parsed (b!"do f(a) start return a end\nshout(f())"))).root
      (Resolve.resolve (parsed (b!"do f(a) start return a end\nshout(f())"))).facts :=
  ⟨by decide +kernel, resolve_factsCoverCalls _⟩

/-- Acceptance matters: `comot` outside a loop is rejected; run nevertheless it leaves a function
body and panics at `flowEscape`. -/
example : ¬ Accepted (.mk [.fnDef (b!"f") sp [] (.mk [.brk none sp] sp) none none sp,
      .expr (.call (.var (b!"f") none sp) [] none sp) none sp] sp) ∧
    Toy.panicSite (run Toy.cfg 10 (Resolve.resolve (.mk [.fnDef (b!"f") sp [] (.mk [.brk none sp] sp) none none sp,
      .expr (.call (.var (b!"f") none sp) [] none sp) none sp] sp)).root) = some .flowEscape := by
  decide +kernel

end NaijaVerif.Props.C06Accepted
