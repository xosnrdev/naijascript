/-
C09 — Static rules enforced exactly: ill-formed rejected, well-formed accepted.

`c09_full_holds`: for every program, `Resolve.resolve` (the model of `src/resolver.rs` without the
analysis passes) reports an error iff the program breaks a documented static rule, scoping or typing
(`Spec.WF`, `Spec/WF.lean` + `Spec/DocTypes.lean`).  For the scoping rules the diagnostics are
exactly the specification's violations (`c09_partial`: rule, span, order); for the typing rules that
equation is false (`c09_typing_eq_is_false`: the checker adds follow-up errors of enclosing
operators; the specification in turn lists the argument type of a method call whose argument count the
checker has already rejected), and checker and specification are only in step (`c09_in_step`).
Trusted: `Gen/TypeRules.lean`, `Gen/Builtins.lean` are the tables probed / dumped from the real
checker on every run; the `gen_*` theorems equate them with the model's closed forms and the documents.
-/
import NaijaVerif.Lemmas.ResolveTypesStmt
import NaijaVerif.Gen.TypeRules
import NaijaVerif.Gen.Builtins

namespace NaijaVerif.C09
open NaijaVerif NaijaVerif.Resolve NaijaVerif.Spec

/-- In the order of the probed table.  `Resolve.allBinOps` (`Lemmas/ResolveTypes.lean`) is the same list, declared where
`forall_binary` needs it. -/
def binOps : List BinOp := [.add, .minus, .times, .divide, .mod, .and, .or, .eq, .gt, .lt]
def unOps : List UnOp := [.not, .neg]

/-- `check_expr` / `infer_expr_type` of the real resolver on `a OP b`, for all 10 × 8 × 8 static
operand types (probed with tiny programs), equal the model's `binaryOk` / `inferBinary`
(`inferBinaryPinned`, the table with the recovery types of D-09f, does not: `pinned_recovery_types`). -/
theorem gen_binary_matches_model :
    Gen.TypeRules.binary =
      binOps.flatMap fun op => VType.all.flatMap fun l => VType.all.map fun r =>
        (op, l, r, binaryOk op (some l) (some r), inferBinary op l r) :=
  -- `==` on the rows is cheaper for the kernel than the `DecidableEq` instance of the list
  eq_of_beq (by decide +kernel)

/-- Lets the theorems below about the 640 rows follow from lemmas on `binaryOk` / `inferBinary` instead
of a `decide` over the table. -/
theorem binary_all (f : BinOp × VType × VType × Bool × Option VType → Bool)
    (h : ∀ op l r, f (op, l, r, binaryOk op (some l) (some r), inferBinary op l r) = true) :
    Gen.TypeRules.binary.all f = true := by
  rw [gen_binary_matches_model]
  simp only [List.all_flatMap, List.all_map, List.all_eq_true, Function.comp_apply]
  exact fun op _ l _ r _ => h op l r

theorem gen_unary_matches_model :
    Gen.TypeRules.unary =
      unOps.flatMap fun op => VType.all.map fun t => (op, t, unaryOk op (some t), inferUnary op t) := by
  decide +kernel

theorem gen_contexts_match_model :
    Gen.TypeRules.cond = VType.all.map (fun t => (t, condOk (some t))) ∧
    Gen.TypeRules.loopCond = VType.all.map (fun t => (t, condOk (some t))) ∧
    Gen.TypeRules.indexBase = VType.all.map (fun t => (t, indexBaseOk (some t))) ∧
    Gen.TypeRules.indexIdx = VType.all.map (fun t => (t, indexIdxOk (some t))) ∧
    Gen.TypeRules.commandArg = VType.all.map (fun t => (t, stringArgOk (some t))) ∧
    Gen.TypeRules.joinArg = VType.all.map (fun t => (t, stringArgOk (some t))) ∧
    Gen.TypeRules.cwdArg = VType.all.map (fun t => (t, stringArgOk (some t))) ∧
    Gen.TypeRules.envArg = VType.all.map (fun t => (t, stringArgOk (some t))) ∧
    Gen.TypeRules.timeoutArg = VType.all.map (fun t => (t, numberArgOk (some t))) ∧
    Gen.TypeRules.literalTypes.all (fun p => p.1 == p.2) = true := by
  decide +kernel

/-- Names, arities, static return types, `requires_mut_receiver` and effect classes of all builtins,
the priority of `MemberBuiltin::from_name`, and `ExprClass::join`. -/
theorem gen_builtins_match_model :
    Gen.Builtins.members = memberTable ∧
    Gen.Builtins.globals = GlobalB.all.map (fun g => (g.nameOf, g.arity, g.retType, g.cls)) ∧
    Gen.Builtins.memberAny.all (fun p => (memberAny p.1).map (·.kind) == some p.2) = true ∧
    memberTable.all (fun m => Gen.Builtins.memberAny.any (fun p => p.1 == m.name)) = true ∧
    Gen.Builtins.classJoin =
      [ExprClass.pureNoTrap, .pureMayTrap, .impure].flatMap (fun a =>
        [ExprClass.pureNoTrap, .pureMayTrap, .impure].map fun b => (a, b, a.join b)) := by
  decide +kernel

/-- Probed on the real checker: `in_loop` does not leak into function bodies (D-09a), `locals_len` is a
span (D-18). -/
theorem gen_behaviour_probes :
    Gen.Builtins.inLoopLeaksIntoFunctions = false ∧ Gen.Builtins.localsLenIsSpan = true := by
  decide

/-- D-09b: probed on the real checker, the result type of a function is NOT taken from a same-named
variable / function of the enclosing code where the function or its defining block binds the name — and it IS where only
the enclosing code binds it (a nested function's bindings are not the function's own). -/
theorem gen_return_type_probes :
    Gen.Builtins.returnTypeProbes =
      [(b!"own-make", false), (b!"parameter", false), (b!"nested-block-make", false),
       (b!"make-after-return", false), (b!"block-make-before", false), (b!"block-make-after", false),
       (b!"own-function", false), (b!"nested-block-function", false),
       (b!"enclosing-variable", true), (b!"enclosing-function", true), (b!"inner-function-make", true),
       (b!"inner-function-parameter", true), (b!"inner-function-function", true)] := by
  decide

/-- Acceptance of every operator application by the real checker is the documented one: some
run-time instance of the operand types has a meaning (D-09d: no deviating entry). -/
theorem gen_matches_doc :
    Gen.TypeRules.binary.all (fun (op, l, r, ok, _) => ok == Doc.binaryOk op l r) = true ∧
    Gen.TypeRules.unary.all (fun (op, t, ok, _) => ok == Doc.unaryOk op t) = true ∧
    Gen.TypeRules.cond.all (fun (t, ok) => ok == Doc.condOk t) = true ∧
    Gen.TypeRules.indexBase.all (fun (t, ok) => ok == Doc.indexBaseOk t) = true ∧
    Gen.TypeRules.indexIdx.all (fun (t, ok) => ok == Doc.indexIdxOk t) = true ∧
    Gen.TypeRules.commandArg.all (fun (t, ok) => ok == Doc.stringArgOk t) = true ∧
    Gen.TypeRules.joinArg.all (fun (t, ok) => ok == Doc.stringArgOk t) = true ∧
    Gen.TypeRules.timeoutArg.all (fun (t, ok) => ok == Doc.numberArgOk t) = true :=
  ⟨binary_all _ fun op l r => beq_iff_eq.2 (binaryOk_doc op l r), by decide +kernel⟩

/-- Result types: wherever the documents give the application a meaning, the checker infers the
documented result type. -/
theorem gen_result_types_match_doc :
    Gen.TypeRules.binary.all (fun (op, l, r, _, res) =>
      !(Doc.binaryOk op l r) || res == some (resultType op l r)) = true ∧
    Gen.TypeRules.unary.all (fun (op, t, _, res) =>
      !(Doc.unaryOk op t) || res == some (match op with | .not => VType.bool | .neg => VType.number)) = true := by
  refine ⟨binary_all _ fun op l r => ?_, by decide +kernel⟩
  rw [inferBinary_eq_doc]
  cases h : Doc.binaryOk op l r <;> simp [h]

/-- No recovery types (D-09f): probed on the real checker, an operator application has a static type
exactly when the checker accepts its operand types — a rejected one has none, so that no made-up
type can reach a variable or a function's result type. -/
theorem gen_no_recovery_types :
    Gen.TypeRules.binary.all (fun (_, _, _, ok, res) => res.isSome == ok) = true ∧
    Gen.TypeRules.unary.all (fun (_, _, ok, res) => res.isSome == ok) = true := by
  refine ⟨binary_all _ fun op l r => ?_, by decide +kernel⟩
  rw [inferBinary_eq_doc, binaryOk_doc]
  cases Doc.binaryOk op l r <;> rfl

/-- `inferBinaryPinned` is `infer_expr_type` with the recovery types of D-09f. -/
theorem pinned_recovery_types :
    (binOps.all fun op => VType.all.all fun l => VType.all.all fun r =>
      !(binaryOk op (some l) (some r)) || inferBinaryPinned op l r == inferBinary op l r) = true ∧
    ((binOps.flatMap fun op => VType.all.flatMap fun l => VType.all.filter fun r =>
      !(binaryOk op (some l) (some r)) && (inferBinaryPinned op l r).isSome).length = 108) ∧
    inferBinaryPinned .add .string .bool = some .string ∧ inferBinary .add .string .bool = none := by
  refine ⟨?_, by decide +kernel⟩
  simp only [List.all_eq_true]
  intro op _ l _ r _
  cases h : binaryOk op (some l) (some r)
  · rfl
  · exact beq_iff_eq.2 (inferBinaryPinned_of_ok op l r h)

/-- D-09e: every operator applied to a `dynamic` operand — with any other operand the documents
allow — is accepted, and the inferred result type is the documented one (`dynamic` for `add` unless
an operand is a string). -/
theorem dynamic_operands_accepted :
    Gen.TypeRules.binary.all (fun (op, l, r, ok, res) =>
      !((l == .dynamic || r == .dynamic) && Doc.binaryOk op l r)
        || (ok && res == some (resultType op l r))) = true ∧
    Gen.TypeRules.unary.all (fun (_, t, ok, res) =>
      !(t == .dynamic) || (ok && res.isSome)) = true ∧
    -- a dynamic result is accepted as operand of every operator, as condition, index and indexed value
    (Gen.TypeRules.unary.all (fun (_, t, ok, _) => !(t == .dynamic) || ok)
      && Gen.TypeRules.cond.all (fun (t, ok) => !(t == .dynamic) || ok)
      && Gen.TypeRules.indexBase.all (fun (t, ok) => !(t == .dynamic) || ok)
      && Gen.TypeRules.indexIdx.all (fun (t, ok) => !(t == .dynamic) || ok)) = true := by
  refine ⟨binary_all _ fun op l r => ?_, by decide +kernel⟩
  rw [inferBinary_eq_doc, binaryOk_doc]
  cases h : Doc.binaryOk op l r <;> simp [h]

/-- `literalMeaning` / `literalUnary` model the operator table of `literal_expr_type`. -/
theorem literalMeaning_eq_doc :
    (binOps.all fun op => VType.all.all fun l => VType.all.all fun r =>
      literalMeaning op l r == Doc.meaning op l r) = true ∧
    (unOps.all fun op => VType.all.all fun t => literalUnary op t == Doc.unaryMeaning op t) = true := by
  -- the two pairs of tables are the same definitions, written once in the model and once in the specification
  have h1 : literalMeaning = Doc.meaning := rfl
  have h2 : literalUnary = Doc.unaryMeaning := rfl
  simp only [h1, h2, beq_self_eq_true, List.all_eq_true, implies_true, and_self]

def isError (d : Diag) : Bool := d.sev == .error

/-- C09 at full strength: a program is rejected before anything runs iff it breaks a documented
static rule. -/
def c09_full : Prop := ∀ p : Block, (resolve p).diags.filter isError = [] ↔ WF p

private def sp : Span := ⟨0, 0⟩

/-- D-09b: `make x get "s"  start  do f() start make x get 1 return x end  shout(f() minus 1)  end` —
the resolver with D-09b (`resolvePinnedRet`) infers the return type of `f` at block entry with the plain
scopes of the enclosing code, where `x` is a string, and rejects a valid program. -/
def witnessReturnScope : Block :=
  .mk [.assign (b!"x") sp (.str (.static (b!"s")) sp) none none sp,
       .block (.mk [
         .fnDef (b!"f") sp [] (.mk [.assign (b!"x") sp (.num (b!"1") sp) none none sp,
                                  .ret (some (.var (b!"x") none sp)) none sp] sp) none none sp,
         .expr (.call (.var (b!"shout") none sp)
           [.binary .minus (.call (.var (b!"f") none sp) [] none sp) (.num (b!"1") sp) sp] none sp) none sp] sp)
         none sp] sp

/-- Everything that is evaluated about `witnessReturnScope`, as ONE evaluation: the kernel then works out
the documented judgement of the tree once. -/
theorem witnessReturnScope_checks :
    (WF witnessReturnScope ∧ (resolve witnessReturnScope).diags = []) ∧
    (resolvePinnedRet witnessReturnScope).diags.map (·.kind) = [.typeMismatch] := by
  decide +kernel

theorem witnessReturnScope_accepted :
    WF witnessReturnScope ∧ (resolve witnessReturnScope).diags = [] :=
  witnessReturnScope_checks.1

theorem witnessReturnScope_pinned_rejected :
    WF witnessReturnScope ∧ (resolvePinnedRet witnessReturnScope).diags.map (·.kind) = [.typeMismatch] :=
  ⟨witnessReturnScope_checks.1.1, witnessReturnScope_checks.2⟩

/-- D-09f: `do f() start return "s" add h() end  do h() start return h() na 1 end  shout(f() minus 1)` —
the result type of `h` alternates between boolean and dynamic from round to round, and the (two)
rounds end with `h` dynamic; in the last round `"s" add h()` is typed with `h` boolean, which the
operator table rejects — yet `infer_expr_type` with recovery types (`resolvePinnedRecovery`) still answers
*string* for it (a string operand makes `add` a string), so the checker holds `f` to be a string and
rejects `f() minus 1`, while by the documented rules an expression without a static type is dynamic
and the program breaks no rule. -/
def witnessRecoveryType : Block :=
  .mk [.fnDef (b!"f") sp [] (.mk [.ret (some (.binary .add (.str (.static (b!"s")) sp)
          (.call (.var (b!"h") none sp) [] none sp) sp)) none sp] sp) none none sp,
       .fnDef (b!"h") sp [] (.mk [.ret (some (.binary .eq (.call (.var (b!"h") none sp) [] none sp)
          (.num (b!"1") sp) sp)) none sp] sp) none none sp,
       .expr (.call (.var (b!"shout") none sp)
         [.binary .minus (.call (.var (b!"f") none sp) [] none sp) (.num (b!"1") sp) ⟨7, 19⟩] none sp) none sp] sp

/-- One evaluation, as `witnessReturnScope_checks`. -/
theorem witnessRecoveryType_checks :
    (WF witnessRecoveryType ∧ (resolve witnessRecoveryType).diags = []) ∧
    (resolvePinnedRecovery witnessRecoveryType).rdiags.map (fun d => (d.rule, d.span)) = [(.tyBinary, ⟨7, 19⟩)] ∧
    ¬ ReturnsTyped witnessRecoveryType := by
  decide +kernel

theorem witnessRecoveryType_accepted :
    WF witnessRecoveryType ∧ (resolve witnessRecoveryType).diags = [] :=
  witnessRecoveryType_checks.1

theorem witnessRecoveryType_pinned_rejected :
    WF witnessRecoveryType ∧
      (resolvePinnedRecovery witnessRecoveryType).rdiags.map (fun d => (d.rule, d.span)) = [(.tyBinary, ⟨7, 19⟩)] :=
  ⟨witnessRecoveryType_checks.1.1, witnessRecoveryType_checks.2.1⟩

/-- D-09f, the other direction: `do osc(v) start return ra(v) pass osc(v) end
do ra(v) start return "s" add osc(1) end  if to say (osc(1)) start shout(1) end` — by the documented
rounds `osc` is boolean at the end (`ra` has no type in either round) and `ra`'s own `return`, string
`add` boolean, breaks the operator rule; with the made-up string for `ra` the rounds of
`resolvePinnedRecovery` end with `osc` dynamic (string `pass` boolean has no type) and the program is
accepted. -/
def witnessRecoveryAccept : Block :=
  .mk [.fnDef (b!"osc") sp [⟨b!"v", sp, none⟩] (.mk [.ret (some (.binary .gt
          (.call (.var (b!"ra") none sp) [.var (b!"v") none sp] none sp)
          (.call (.var (b!"osc") none sp) [.var (b!"v") none sp] none sp) sp)) none sp] sp) none none sp,
       .fnDef (b!"ra") sp [⟨b!"v", sp, none⟩] (.mk [.ret (some (.binary .add (.str (.static (b!"s")) sp)
          (.call (.var (b!"osc") none sp) [.num (b!"1") sp] none sp) ⟨5, 9⟩)) none sp] sp) none none sp,
       .ifS (.call (.var (b!"osc") none sp) [.num (b!"1") sp] none sp)
         (.mk [.expr (.call (.var (b!"shout") none sp) [.num (b!"1") sp] none sp) none sp] sp) none none sp] sp

theorem witnessRecoveryAccept_rejected :
    typeViolations witnessRecoveryAccept = [(.tyBinary, ⟨5, 9⟩)] ∧
    (resolve witnessRecoveryAccept).rdiags.map (fun d => (d.rule, d.span)) = [(.tyBinary, ⟨5, 9⟩)] ∧
    (resolvePinnedRecovery witnessRecoveryAccept).diags = [] := by
  decide +kernel

theorem diags_eq (p : Block) : (resolve p).diags = (resolve p).rdiags.map RDiag.toDiag := rfl

/-- Every diagnostic of `check_*` is an error, whichever variant of the resolver emitted it. -/
theorem toDiag_all_errors (ds : List RDiag) : (ds.map RDiag.toDiag).filter isError = ds.map RDiag.toDiag := by
  rw [List.filter_eq_self]
  intro d hd
  simp only [List.mem_map] at hd
  obtain ⟨r, _, rfl⟩ := hd
  rfl

theorem diags_all_errors (p : Block) : (resolve p).diags.filter isError = (resolve p).diags :=
  toDiag_all_errors _

theorem toDiag_nil_iff (ds : List RDiag) : (ds.map RDiag.toDiag).filter isError = [] ↔ ds = [] := by
  rw [toDiag_all_errors, List.map_eq_nil_iff]

theorem rdiags_nil_iff (p : Block) : (resolve p).diags.filter isError = [] ↔ (resolve p).rdiags = [] :=
  toDiag_nil_iff _

def c09_full_pinned_recovery : Prop :=
  ∀ p : Block, (resolvePinnedRecovery p).diags.filter isError = [] ↔ WF p

theorem pinnedRecovery_nil_iff {p : Block} :
    (resolvePinnedRecovery p).diags.filter isError = [] ↔ (resolvePinnedRecovery p).rdiags = [] :=
  toDiag_nil_iff _

/-- D-09f: with recovery types the checker rejects a program that breaks no rule. -/
theorem c09_full_pinned_recovery_is_false : ¬ c09_full_pinned_recovery := by
  intro h
  have h1 := (h witnessRecoveryType).mpr witnessRecoveryType_pinned_rejected.1
  have h2 := witnessRecoveryType_pinned_rejected.2
  rw [pinnedRecovery_nil_iff.mp h1] at h2
  exact absurd h2 (by decide +kernel)

def c09_full_pinned : Prop := ∀ p : Block, (resolvePinnedRet p).diags.filter isError = [] ↔ WF p

theorem pinnedRet_all_errors (p : Block) : (resolvePinnedRet p).diags.filter isError = (resolvePinnedRet p).diags :=
  toDiag_all_errors _

/-- D-09b: the return-type inference with the enclosing scopes rejects a program that breaks no rule. -/
theorem c09_full_pinned_is_false : ¬ c09_full_pinned := by
  intro h
  have h1 := (h witnessReturnScope).mpr witnessReturnScope_pinned_rejected.1
  have h2 := witnessReturnScope_pinned_rejected.2
  rw [← pinnedRet_all_errors, h1] at h2
  exact absurd h2 (by decide +kernel)

/-- C09, scoping rules (undeclared variable / placeholder / assignment target / function, arity of
user and global builtin functions, `comot`/`next` outside a loop of the same function body, `return`
outside a function, duplicate function or parameter, builtin name declared): the checker's
diagnostics are exactly the specification's violations — same rule, same span, same order. -/
theorem c09_partial (p : Block) : scopeDs (resolve p).rdiags = scopeViolations p :=
  resolve_scope true p

theorem c09_rule_iff (p : Block) (k : Rule) (hk : k.isScoping = true) (s : Span) :
    (∃ d ∈ (resolve p).rdiags, d.rule = k ∧ d.span = s) ↔ (k, s) ∈ scopeViolations p := by
  rw [← c09_partial]
  exact mem_scopeDs hk _ s

/-- For a SCOPING rule the rejecting diagnostic names the broken rule's category.  (For the typing rules only
`c09_typing_category` holds: see `c09_typing_eq_is_false`.) -/
theorem c09_category (p : Block) (k : Rule) (s : Span) (h : (k, s) ∈ scopeViolations p) :
    ∃ d ∈ (resolve p).diags, d.sev = .error ∧ d.kind = k.kind ∧ d.span = s := by
  rw [← c09_partial, scopeDs, List.mem_map] at h
  obtain ⟨d, hd, he⟩ := h
  cases he
  replace hd := (List.mem_filter.mp hd).1
  exact ⟨d.toDiag, List.mem_map_of_mem hd, rfl, rfl, rfl⟩

theorem c09_accepted_scoping_wf (p : Block) (h : (resolve p).diags.filter isError = []) :
    scopeViolations p = [] := by
  rw [rdiags_nil_iff] at h
  rw [← c09_partial, h]; rfl

theorem c09_violation_rejected (p : Block) (h : scopeViolations p ≠ []) :
    (resolve p).diags.filter isError ≠ [] :=
  fun hacc => h (c09_accepted_scoping_wf p hacc)

/-- The typing half as an equation (rule, span, order), like `c09_partial` for the scoping half. -/
def c09_typing_eq : Prop := ∀ p : Block, typeDs (resolve p).rdiags = typeViolations p

/-- `shout((true add 1) add 2)`: the specification lists the inner application (its operands are typed
and the table rejects them); the checker also reports the outer one, whose left operand has no type. -/
def witnessCascade : Block :=
  .mk [.expr (.call (.var (b!"shout") none sp)
    [.binary .add (.binary .add (.bool true sp) (.num (b!"1") sp) ⟨7, 17⟩) (.num (b!"2") sp) ⟨6, 24⟩] none sp) none sp] sp

theorem witnessCascade_diags :
    typeDs (resolve witnessCascade).rdiags = [(.tyBinary, ⟨7, 17⟩), (.tyBinary, ⟨6, 24⟩)] ∧
    typeViolations witnessCascade = [(.tyBinary, ⟨7, 17⟩)] := by
  decide +kernel

theorem c09_typing_eq_is_false : ¬ c09_typing_eq := by
  intro h
  have := h witnessCascade
  rw [witnessCascade_diags.1, witnessCascade_diags.2] at this
  exact absurd this (by decide +kernel)

theorem scoping_diag_violation (p : Block) (h : ∃ d ∈ (resolve p).rdiags, d.rule.isScoping = true) :
    scopeViolations p ≠ [] := by
  obtain ⟨d, hd, hs⟩ := h
  exact List.ne_nil_of_mem ((c09_rule_iff p d.rule hs d.span).mp ⟨d, hd, rfl, rfl⟩)

/-- C09, typing rules: checker and specification are in step for every program, whether or not the result types of its
functions settle within the rounds. -/
theorem c09_in_step (p : Block) :
    ((resolve p).rdiags = [] ∧ typeViolations p = []) ∨
    ((resolve p).rdiags ≠ [] ∧ (typeViolations p ≠ [] ∨ scopeViolations p ≠ [])) := by
  rcases resolve_lock p with hc | ⟨hne, hv | hs⟩
  · exact Or.inl hc
  · exact Or.inr ⟨hne, Or.inl hv⟩
  · exact Or.inr ⟨hne, Or.inr (scoping_diag_violation p hs)⟩

/-- Scoping or typing, whether or not the result types of the program's functions settle. -/
theorem c09_full_holds : c09_full := by
  intro p
  -- `c09_in_step` speaks of `rdiags`; `c09_accepted_scoping_wf` is stated of the filtered `diags`, hence the way back
  rw [rdiags_nil_iff]
  constructor
  · intro hacc
    refine ⟨c09_accepted_scoping_wf p ((rdiags_nil_iff p).mpr hacc), ?_⟩
    rcases c09_in_step p with hc | hd
    · exact hc.2
    · exact absurd hacc hd.1
  · rintro ⟨hs, ht⟩
    rcases c09_in_step p with hc | ⟨_, hv | hv⟩
    · exact hc.1
    · exact absurd ht hv
    · exact absurd hs hv

/-- `c09_full_holds` under a hypothesis it does not need: the typing half taken as given. -/
theorem c09_partial_iff (p : Block)
    (hty : (∀ d ∈ (resolve p).rdiags, d.rule.isScoping = true) ↔ typeViolations p = []) :
    (resolve p).diags.filter isError = [] ↔ WF p := by
  exact (fun _ => c09_full_holds p) hty

theorem c09_ill_formed_rejected (p : Block) (h : ¬ WF p) : (resolve p).diags.filter isError ≠ [] :=
  fun hacc => h ((c09_full_holds p).mp hacc)

theorem c09_well_formed_accepted (p : Block) (h : WF p) : (resolve p).diags = [] := by
  rw [← diags_all_errors]; exact (c09_full_holds p).mpr h

theorem c09_typing_rejected (p : Block) (hv : typeViolations p ≠ []) :
    (resolve p).diags.filter isError ≠ [] :=
  fun hacc => hv ((c09_full_holds p).mp hacc).2

theorem c09_typing_accepted (p : Block) (hs : scopeViolations p = [])
    (ht : typeViolations p = []) : (resolve p).diags = [] :=
  c09_well_formed_accepted p ⟨hs, ht⟩

def typingKinds : List DiagKind := [.typeMismatch, .undeclaredIdentifier, .functionCallArity]

theorem typing_rule_kind (r : Rule) (h : r.isScoping = false) : r.kind ∈ typingKinds := by
  -- a typing rule: its kind is evaluated; a scoping rule: `h` is `true = false`
  cases r <;> first | decide +kernel | cases h

/-- A program that breaks typing rules only gets diagnostics of typing rules only, in a typing
category (`Type mismatch`; `Undeclared identifier` for an unknown method, `Invalid parameter count`
for a method's argument count). -/
theorem c09_typing_category (p : Block) (hs : scopeViolations p = [])
    (hv : typeViolations p ≠ []) :
    (resolve p).diags ≠ [] ∧
      ∀ d ∈ (resolve p).rdiags, d.rule.isScoping = false ∧ d.toDiag.sev = .error ∧ d.toDiag.kind ∈ typingKinds := by
  constructor
  · have := c09_typing_rejected p hv
    rwa [diags_all_errors] at this
  · intro d hd
    have hns : d.rule.isScoping = false := by
      cases hsc : d.rule.isScoping
      · rfl
      · exact absurd hs (scoping_diag_violation p ⟨d, hd, hsc⟩)
    exact ⟨hns, rfl, typing_rule_kind d.rule hns⟩

/-- `jasi (true) start do f() start comot end end` — the D-09a shape: rejected, and the specification
lists exactly that violation. -/
def comotInFunctionInLoop : Block :=
  .mk [.loop (.bool true sp) (.mk [.fnDef (b!"f") sp [] (.mk [.brk none ⟨5, 10⟩] sp) none none sp] sp) none sp] sp

example : scopeViolations comotInFunctionInLoop = [(.breakOutside, ⟨5, 10⟩)] := by decide +kernel
example : (resolve comotInFunctionInLoop).diags.map (·.kind) = [.unreachableCode] := by decide +kernel

/-- A forward reference, recursion and a shadowing parameter; satisfies the hypothesis of
`c09_partial_iff`. -/
def wellFormed : Block :=
  .mk [.assign (b!"x") sp (.num (b!"1") sp) none none sp,
       .expr (.call (.var (b!"f") none sp) [.var (b!"x") none sp] none sp) none sp,
       .fnDef (b!"f") sp [⟨(b!"x"), sp, none⟩]
         (.mk [.ifS (.binary .gt (.var (b!"x") none sp) (.num (b!"0") sp) sp)
                 (.mk [.ret (some (.call (.var (b!"f") none sp)
                    [.binary .minus (.var (b!"x") none sp) (.num (b!"1") sp) sp] none sp)) none sp] sp) none none sp,
               .ret (some (.var (b!"x") none sp)) none sp] sp) none none sp] sp

example : (resolve wellFormed).diags = [] ∧ WF wellFormed := by decide +kernel
example : (∀ d ∈ (resolve wellFormed).rdiags, d.rule.isScoping = true) ↔ typeViolations wellFormed = [] := by
  decide +kernel

example : ¬ ReturnsTyped witnessRecoveryType ∧ WF witnessRecoveryType ∧
    (resolve witnessRecoveryType).diags = [] :=
  ⟨witnessRecoveryType_checks.2.2, witnessRecoveryType_accepted⟩

/-- Result types that do not settle, on the rejecting side:
`do f() start return g() na 1 end  do g() start return f() end  do k() start end  shout(g() minus 1)` —
three rounds: `f`, `g` are boolean after the first (`g()` is still dynamic when `f` is typed), dynamic
after the second (boolean `na` number has no type) and boolean again after the third, where the rounds
end; the use `g() minus 1` is rejected on both sides, and so is `f`'s own `return`, typed with the final
`g`.  (`ReturnsTyped` fails in the second round.) -/
def witnessUnsettledRejected : Block :=
  .mk [.fnDef (b!"f") sp [] (.mk [.ret (some (.binary .eq (.call (.var (b!"g") none sp) [] none sp)
          (.num (b!"1") sp) ⟨1, 2⟩)) none sp] sp) none none sp,
       .fnDef (b!"g") sp [] (.mk [.ret (some (.call (.var (b!"f") none sp) [] none sp)) none sp] sp) none none sp,
       .fnDef (b!"k") sp [] (.mk [] sp) none none sp,
       .expr (.call (.var (b!"shout") none sp)
         [.binary .minus (.call (.var (b!"g") none sp) [] none sp) (.num (b!"1") sp) ⟨3, 4⟩] none sp) none sp] sp

example : ¬ ReturnsTyped witnessUnsettledRejected ∧
    typeDs (resolve witnessUnsettledRejected).rdiags = [(.tyBinary, ⟨1, 2⟩), (.tyBinary, ⟨3, 4⟩)] ∧
    typeViolations witnessUnsettledRejected = [(.tyBinary, ⟨1, 2⟩), (.tyBinary, ⟨3, 4⟩)] := by decide +kernel

/-! One program per typing rule: the checker reports exactly the violation the specification lists. -/

private def str (s : Bytes) : Expr := .str (.static s) sp
private def num (s : Bytes) : Expr := .num s sp
private def var (s : Bytes) : Expr := .var s none sp
private def callV (f : Bytes) (args : List Expr) : Expr := .call (.var f none sp) args none sp
private def shout (e : Expr) : Stmt := .expr (callV (b!"shout") [e]) none sp
private def make (x : Bytes) (e : Expr) : Stmt := .assign x sp e none none sp
private def at' : Span := ⟨1, 2⟩
private def fdef (f : Bytes) (ps : List Bytes) (body : List Stmt) : Stmt :=
  .fnDef f sp (ps.map fun p => ⟨p, sp, none⟩) (.mk body sp) none none sp

private def only (k : Rule) (s : Span) (p : Block) : Prop :=
  typeDs (resolve p).rdiags = [(k, s)] ∧ typeViolations p = [(k, s)] ∧ scopeViolations p = []

private instance (k : Rule) (s : Span) (p : Block) : Decidable (only k s p) := by unfold only; infer_instance

-- `shout(1 minus "a")`
example : only .tyBinary at' (.mk [shout (.binary .minus (num (b!"1")) (str (b!"a")) at')] sp) := by decide +kernel
-- `shout(not 1)`
example : only .tyUnary at' (.mk [shout (.unary .not (num (b!"1")) at')] sp) := by decide +kernel
-- `if to say (1) start end`
example : only .tyCond at' (.mk [.ifS (.num (b!"1") at') (.mk [] sp) none none sp] sp) := by decide +kernel
-- `shout(1[0])`
example : only .tyIndexBase at' (.mk [shout (.index (num (b!"1")) (num (b!"0")) sp at')] sp) := by decide +kernel
-- `shout([1][true])`
example : only .tyIndexIdx at' (.mk [shout (.index (.array [num (b!"1")] sp) (.bool true sp) at' sp)] sp) := by
  decide +kernel
-- `make c get command(1)`
example : only .tyCommandArg at' (.mk [make (b!"c") (.call (.var (b!"command") none sp) [num (b!"1")] none at')] sp) := by
  decide +kernel
-- `shout("abc".find(5))`
example : only .tyMethodArg at'
    (.mk [shout (.call (.member (str (b!"abc")) (b!"find") sp at') [num (b!"5")] none sp)] sp) := by decide +kernel
-- `command("echo").arg("hello")`
example : only .tyMutReceiver at'
    (.mk [.expr (.call (.member (callV (b!"command") [str (b!"echo")]) (b!"arg") sp at') [str (b!"hello")] none sp)
            none sp] sp) := by decide +kernel
-- `shout("a".push(1))`
example : only .methodUnknown at'
    (.mk [shout (.call (.member (str (b!"a")) (b!"push") sp at') [num (b!"1")] none sp)] sp) := by decide +kernel
-- `shout("a".len(1))`
example : only .arityMethod at'
    (.mk [shout (.call (.member (str (b!"a")) (b!"len") sp at') [num (b!"1")] none sp)] sp) := by decide +kernel
-- `make x get "s"  shout(x.len)`
example : only .bareMember at'
    (.mk [make (b!"x") (str (b!"s")), shout (.member (var (b!"x")) (b!"len") sp at')] sp) := by decide +kernel
-- `do f() start return 1 end  shout(f()())`
example : only .badCallee at'
    (.mk [fdef (b!"f") [] [.ret (some (num (b!"1"))) none sp],
          shout (.call (callV (b!"f") []) [] none at')] sp) := by decide +kernel
-- `do f() start return [1] end  f()[0] get 2`
example : only .badIndexRoot at'
    (.mk [fdef (b!"f") [] [.ret (some (.array [num (b!"1")] sp)) none sp],
          .assignIndex (.index (callV (b!"f") []) (num (b!"0")) sp sp) (num (b!"2")) none at'] sp) := by decide +kernel
-- the result type of a function from a variable only the enclosing code binds:
-- `make x get "s"  start  do f() start return x end  shout(f() minus 1)  end`
example : only .tyBinary at'
    (.mk [make (b!"x") (str (b!"s")),
          .block (.mk [fdef (b!"f") [] [.ret (some (var (b!"x"))) none sp],
                       shout (.binary .minus (callV (b!"f") []) (num (b!"1")) at')] sp) none sp] sp) := by
  decide +kernel

/-- Every operator class, indexing, methods, conditions, a typed function result, an index assignment:
```
make a get 1   make s get "x"   make b get true   make arr get [1, 2]
do f(p) start return p end      do g() start return a end
shout(((a add 2) minus (a times 3)) divide (2 mod 5))      shout((s add "y") add a)
shout(((a pass 1) and (s na "x")) or (not b))              shout((minus a) small pass g())
shout(arr[0])   shout(s.len())  shout(null na a)           shout(f(1) minus 1)
if to say (b) start shout("{a}") end                       jasi (a small pass 3) start a get a add 1 end
arr[0] get 5    make c get command("echo")   c.arg("hi")
``` -/
def wellTyped : Block :=
  .mk [make (b!"a") (num (b!"1")), make (b!"s") (str (b!"x")), make (b!"b") (.bool true sp),
       make (b!"arr") (.array [num (b!"1"), num (b!"2")] sp),
       fdef (b!"f") [b!"p"] [.ret (some (var (b!"p"))) none sp],
       fdef (b!"g") [] [.ret (some (var (b!"a"))) none sp],
       shout (.binary .divide (.binary .minus (.binary .add (var (b!"a")) (num (b!"2")) sp)
                (.binary .times (var (b!"a")) (num (b!"3")) sp) sp) (.binary .mod (num (b!"2")) (num (b!"5")) sp) sp),
       shout (.binary .add (.binary .add (var (b!"s")) (str (b!"y")) sp) (var (b!"a")) sp),
       shout (.binary .or (.binary .and (.binary .gt (var (b!"a")) (num (b!"1")) sp)
                (.binary .eq (var (b!"s")) (str (b!"x")) sp) sp) (.unary .not (var (b!"b")) sp) sp),
       shout (.binary .lt (.unary .neg (var (b!"a")) sp) (callV (b!"g") []) sp),
       shout (.index (var (b!"arr")) (num (b!"0")) sp sp),
       shout (.call (.member (var (b!"s")) (b!"len") sp sp) [] none sp),
       shout (.binary .eq (.null sp) (var (b!"a")) sp),
       shout (.binary .minus (callV (b!"f") [num (b!"1")]) (num (b!"1")) sp),
       .ifS (var (b!"b")) (.mk [shout (.str (.interp [.var (b!"a") none]) sp)] sp) none none sp,
       .loop (.binary .lt (var (b!"a")) (num (b!"3")) sp)
         (.mk [.assignExisting (b!"a") sp (.binary .add (var (b!"a")) (num (b!"1")) sp) none none sp] sp) none sp,
       .assignIndex (.index (var (b!"arr")) (num (b!"0")) sp sp) (num (b!"5")) none sp,
       make (b!"c") (callV (b!"command") [str (b!"echo")]),
       .expr (.call (.member (var (b!"c")) (b!"arg") sp sp) [str (b!"hi")] none sp) none sp] sp

example : (resolve wellTyped).diags = [] ∧ WF wellTyped := by decide +kernel

end NaijaVerif.C09
