import NaijaVerif.Lemmas.ParseErase
import NaijaVerif.Lemmas.ParseFlag
import NaijaVerif.Lemmas.ParseRoundTrip
/-
C10 (parser part) — layout is insignificant: the parser's decisions depend on the token kinds
only, never on the spans.

`parseProgram` on a token list with every span replaced by `0..0` yields the span-erased AST and the
span-erased diagnostics of the run on the list itself.  Hence the same program laid out differently
(other whitespace, comments, line breaks) parses to ASTs that differ in spans only, with the same
diagnostics up to spans.  The statements are for all token lists, malformed ones included (every recovery
path of the parser is covered by `Lemmas/ParseMap.lean`), and for every amount of fuel.
-/

namespace NaijaVerif.C10Parse
open NaijaVerif NaijaVerif.Parse

theorem parse_commutes_with_erasure (toks : List SpTok) :
    parseProgram (toks.map eraseTok)
      = (eraseSpans (parseProgram toks).1, (parseProgram toks).2.map eraseDiag) :=
  parseProgram_erase toks

/-- Also the failure to finish within the fuel is layout independent. -/
theorem parseFuel_commutes_with_erasure (fuel : Nat) (toks : List SpTok) :
    parseProgramFuel fuel (toks.map eraseTok)
      = (parseProgramFuel fuel toks).map (fun r => (eraseSpans r.1, r.2.map eraseDiag)) :=
  parseProgramFuel_erase fuel toks

/-- C10 (parser part): token lists of the same kinds parse to the same tree and the same diagnostics, up to spans. -/
theorem layout_insensitive (toks₁ toks₂ : List SpTok)
    (h : toks₁.map (·.tok) = toks₂.map (·.tok)) :
    eraseSpans (parseProgram toks₁).1 = eraseSpans (parseProgram toks₂).1 ∧
    (parseProgram toks₁).2.map (·.kind) = (parseProgram toks₂).2.map (·.kind) ∧
    (parseProgram toks₁).2.map eraseDiag = (parseProgram toks₂).2.map eraseDiag := by
  have h1 := parse_commutes_with_erasure toks₁
  have h2 := parse_commutes_with_erasure toks₂
  rw [eraseTok_congr h, h2] at h1
  have ha := congrArg Prod.fst h1
  have hd := congrArg Prod.snd h1
  simp only at ha hd
  refine ⟨ha.symm, ?_, hd.symm⟩
  rw [← eraseDiag_kind (parseProgram toks₁).2, ← eraseDiag_kind (parseProgram toks₂).2, hd]

theorem acceptance_layout_insensitive (toks₁ toks₂ : List SpTok)
    (h : toks₁.map (·.tok) = toks₂.map (·.tok)) :
    (parseProgram toks₁).2 = [] ↔ (parseProgram toks₂).2 = [] := by
  have hd := (layout_insensitive toks₁ toks₂ h).2.2
  constructor
  · intro h1; rw [h1] at hd; simpa using hd.symm
  · intro h2; rw [h2] at hd; simpa using hd

/-! `flagErase` sets the `escaped` flag of every string token whose content holds no `{`, which is where
`parse_string_literal` does not read it (`Lemmas/ParseFlag.lean`). -/

theorem parse_ignores_str_flag (toks : List SpTok) :
    parseProgram (toks.map fun t => ⟨flagErase t.tok, t.span⟩) = parseProgram toks :=
  parseProgram_flag toks

theorem toks_anyflag {toks₁ toks₂ : List SpTok} (h : toks₁.map (·.tok) = toks₂.map (·.tok)) :
    toks₁.map (fun t => flagErase t.tok) = toks₂.map (fun t => flagErase t.tok) := by
  have h' := congrArg (List.map flagErase) h
  simpa [List.map_map, Function.comp_def] using h'

theorem layout_insensitive_anyflag (toks₁ toks₂ : List SpTok)
    (h : toks₁.map (fun t => flagErase t.tok) = toks₂.map (fun t => flagErase t.tok)) :
    eraseSpans (parseProgram toks₁).1 = eraseSpans (parseProgram toks₂).1 ∧
    (parseProgram toks₁).2.map (·.kind) = (parseProgram toks₂).2.map (·.kind) ∧
    (parseProgram toks₁).2.map eraseDiag = (parseProgram toks₂).2.map eraseDiag := by
  have := layout_insensitive (toks₁.map flagTok) (toks₂.map flagTok)
    (by simpa [List.map_map, Function.comp_def, flagTok_tok] using h)
  rwa [parseProgram_flag, parseProgram_flag] at this

-- the flag IS read when the content holds a `{` (`{x}` unescaped is a template, escaped it is not), and
-- `flagErase` keeps it there
example : (match strParts [123, 120, 125] false with | .interp _ => true | .static _ => false) = true ∧
    (match strParts [123, 120, 125] true with | .interp _ => true | .static _ => false) = false := by decide +kernel
example : flagErase (.str [123, 120, 125] false) ≠ flagErase (.str [123, 120, 125] true) ∧
    flagErase (.str [97, 98, 99] false) = flagErase (.str [97, 98, 99] true) := by decide

/-- `make x get 1` -/
def ex₁ : List SpTok :=
  [⟨.make, ⟨0, 4⟩⟩, ⟨.ident [120], ⟨5, 6⟩⟩, ⟨.get, ⟨7, 10⟩⟩, ⟨.num [49], ⟨11, 12⟩⟩]

/-- the same tokens after a comment line and with wider spacing -/
def ex₂ : List SpTok :=
  [⟨.make, ⟨20, 24⟩⟩, ⟨.ident [120], ⟨27, 28⟩⟩, ⟨.get, ⟨31, 34⟩⟩, ⟨.num [49], ⟨40, 41⟩⟩]

/-- a malformed program (`make get )`) in two layouts: recovery paths are covered too -/
def bad₁ : List SpTok := [⟨.make, ⟨0, 4⟩⟩, ⟨.get, ⟨5, 8⟩⟩, ⟨.rparen, ⟨9, 10⟩⟩]
def bad₂ : List SpTok := [⟨.make, ⟨3, 7⟩⟩, ⟨.get, ⟨10, 13⟩⟩, ⟨.rparen, ⟨20, 21⟩⟩]

example : ex₁.map (·.tok) = ex₂.map (·.tok) := by decide
example : bad₁.map (·.tok) = bad₂.map (·.tok) := by decide

example : (parseProgram ex₁).1.span = ⟨0, 12⟩ ∧ (parseProgram ex₂).1.span = ⟨20, 41⟩ := by decide +kernel
example : (parseProgram ex₁).1.span ≠ (parseProgram ex₂).1.span := by decide +kernel
example : (parseProgram ex₁).2 = [] ∧ (parseProgram ex₂).2 = [] := by decide +kernel
example : eraseSpans (parseProgram ex₁).1 = eraseSpans (parseProgram ex₂).1 :=
  (layout_insensitive ex₁ ex₂ (by decide)).1

example : (parseProgram bad₁).2 ≠ [] ∧ (parseProgram bad₂).2 ≠ [] := by decide +kernel
example : (parseProgram bad₁).2 ≠ (parseProgram bad₂).2 := by decide +kernel
example : (parseProgram bad₁).2.map (·.kind) = (parseProgram bad₂).2.map (·.kind) :=
  (layout_insensitive bad₁ bad₂ (by decide)).2.1

/-! `printAt p 0 e` prints `e` with the parentheses the binding-power table requires plus `p e'` redundant
pairs around every sub-expression `e'` (`Lemmas/ParseRoundTrip.lean`; the round trip itself is
`C01Parse.round_trip`). -/

/-- The Pratt loop never continues at `t`: not `.`, `(`, `[`, and not a binary operator.  (`C01Parse.NotContinuation`
is the same definition; the two modules do not import each other.) -/
def NotContinuation (t : Tok) : Prop := isPostfixStart t = false ∧ binInfo t = none

theorem stopsAt_zero_of_notContinuation {t : Tok} (h : NotContinuation t) : StopsAt 0 t :=
  stops_none 0 (fun _ => h.1) h.2

/-- C10: redundant parentheses (`p`, `q`: any number of pairs around any sub-expressions) do not change
the parse. -/
theorem redundant_parentheses (p q : Expr → Nat) (e : Expr) (hwf : WF e) (st : PState)
    (hstop : NotContinuation st.cur.tok) (hsp : st.cur.span = zspan) :
    ∃ f0, ∀ f, f0 ≤ f →
      parseExpr f 0 (pushToks (printAt p 0 e) st) = some (e, st) ∧
      parseExpr f 0 (pushToks (printAt q 0 e) st) = some (e, st) :=
  printAt_round_trip_pair p q e hwf st (stopsAt_zero_of_notContinuation hstop) hsp

/-- `redundant_parentheses` for any layout: `st` is ANY state, with any spans and any diagnostics so far, whose erasure
(`eraseSt`) is the printed tokens in front of `st0`; the parse from `st` is then the one from the printed tokens, up to
spans.  (`ParseErase.expr_erase` carries the parse over.) -/
theorem redundant_parentheses_any_layout (p : Expr → Nat) (e : Expr) (hwf : WF e) (st st0 : PState)
    (hkinds : eraseSt st = pushToks (printAt p 0 e) st0)
    (hstop : NotContinuation st0.cur.tok) (hsp : st0.cur.span = zspan) :
    ∃ f0, ∀ f, f0 ≤ f → ∃ e' st', parseExpr f 0 st = some (e', st') ∧ eraseExpr e' = e ∧
      eraseSt st' = st0 := by
  obtain ⟨f0, h⟩ := redundant_parentheses p p e hwf st0 hstop hsp
  refine ⟨f0, fun f hf => ?_⟩
  have h1 := (h f hf).1
  have h2 := (expr_erase f).1 0 st
  rw [hkinds, h1] at h2
  cases hp : parseExpr f 0 st with
  | none => rw [hp] at h2; simp at h2
  | some r =>
    rw [hp] at h2
    simp only [Option.map_some, Option.some.injEq, Prod.mk.injEq] at h2
    exact ⟨r.1, r.2, rfl, h2.1.symm, h2.2.symm⟩

-- `((1)) add (2)` and `1 add 2`
example : printAt (fun e => match e with | .num [49] _ => 2 | .num _ _ => 1 | _ => 0) 0
      (.binary .add (.num [49] zspan) (.num [50] zspan) zspan)
    = [.lparen, .lparen, .num [49], .rparen, .rparen, .add, .lparen, .num [50], .rparen] := by decide
example : printAt (fun _ => 0) 0 (.binary .add (.num [49] zspan) (.num [50] zspan) zspan)
    = [.num [49], .add, .num [50]] := by decide

end NaijaVerif.C10Parse
